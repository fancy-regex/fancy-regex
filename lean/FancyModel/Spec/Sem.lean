import FancyModel.Model.Basic
/-!
# Reference semantics (DESIGN.md §3.2)

`sem c e st` lists *all* ways `e` can match from state `st`, in priority order (leftmost
alternative first; greedy = more iterations first, lazy = fewer first). It is written from the
property statements (Perl / Oniguruma ordered backtracking), not from the structure of the code.
Positions are code-point indices into `c.text`.
-/
namespace Fancy

/-- Matching state: position and capture slots (`2g` = start of group `g`, `2g+1` = its end). -/
structure St where
  ix : Nat
  slots : List (Option Nat)
deriving DecidableEq, Repr, Inhabited

/-- Search context. The three tables are parameters: no theorem depends on their values. -/
structure Ctx where
  text : List Char
  /-- position the search was started from (for `\G` and the start cap) -/
  pos : Nat
  /-- the iterator skipped past an empty match (then `\G` cannot hold) -/
  skipped : Bool
  isWord : Char → Bool
  /-- `cls inner casei c`: does the one-character class `inner` accept `c` -/
  cls : List Char → Bool → Char → Bool
  /-- `ceq casei a b`: literal character `a` matches text character `b` -/
  ceq : Bool → Char → Char → Bool

namespace Ctx
def len (c : Ctx) : Nat := c.text.length
def at? (c : Ctx) (i : Nat) : Option Char := c.text[i]?

def wordAt (c : Ctx) (i : Nat) : Bool :=
  match c.at? i with | some ch => c.isWord ch | none => false
def wordBefore (c : Ctx) (i : Nat) : Bool := i > 0 && c.wordAt (i - 1)

/-- zero-width assertions (regex-automata `LookMatcher`, unicode word boundaries) -/
def assertion (c : Ctx) (a : Assertion) (ix : Nat) : Bool :=
  match a with
  | .startText => ix == 0
  | .endText => ix == c.len
  | .startLine false => ix == 0 || c.at? (ix - 1) == some '\n'
  | .endLine false => ix == c.len || c.at? ix == some '\n'
  | .startLine true =>
      ix == 0 || c.at? (ix - 1) == some '\n' ||
        (c.at? (ix - 1) == some '\r' && c.at? ix != some '\n')
  | .endLine true =>
      ix == c.len || c.at? ix == some '\r' ||
        (c.at? ix == some '\n' && (ix == 0 || c.at? (ix - 1) != some '\r'))
  | .wordB => c.wordBefore ix != c.wordAt ix
  | .notWordB => c.wordBefore ix == c.wordAt ix
  | .leftWord => !c.wordBefore ix && c.wordAt ix
  | .rightWord => c.wordBefore ix && !c.wordAt ix

/-- does `lit` (with case folding if `casei`) occur at `ix`? -/
def litAt (c : Ctx) (casei : Bool) : List Char → Nat → Bool
  | [], _ => true
  | a :: as, ix => match c.at? ix with
    | some b => c.ceq casei a b && litAt c casei as (ix + 1)
    | none => false

/-- is `text[lo..hi]` equal to `text[ix..ix+(hi-lo)]` (and inside the text)? -/
def sameAt (c : Ctx) (lo hi ix : Nat) : Bool :=
  ix + (hi - lo) ≤ c.len &&
    (List.range (hi - lo)).all fun k => c.at? (lo + k) == c.at? (ix + k)

/-- number of consecutive newlines starting at `ix` -/
def newlinesFrom (c : Ctx) (ix : Nat) : Nat :=
  ((c.text.drop ix).takeWhile (· == '\n')).length
end Ctx

def St.setSlot (st : St) (i : Nat) (v : Option Nat) : St := { st with slots := st.slots.set i v }
def St.slot (st : St) (i : Nat) : Option Nat := (st.slots[i]?).join

/-- The unbounded/bounded repetition loop over an arbitrary body semantics.
    `hi = none`: after `lo` iterations an iteration that consumed nothing *ends the loop*
    (Perl / PCRE / Oniguruma rule). `hi = some h`: plain counted unrolling. -/
def repLoop (body : St → List St) (lo : Nat) (hi : Option Nat) (greedy : Bool) :
    Nat → Nat → St → List St
  | 0, _, _ => []
  | fuel + 1, count, st =>
    if hi = some count then [st] else
    let iters := (body st).flatMap fun r =>
      if hi.isNone && decide (lo ≤ count) && r.ix == st.ix then [r]
      else repLoop body lo hi greedy fuel (count + 1) r
    if count < lo then iters
    else if greedy then iters ++ [st] else st :: iters

/-- look-behind over an arbitrary body: some start `j ≤ ix` has a result ending exactly at `ix`
    (candidates from the nearest start outwards) -/
def behindOne (body : St → List St) (st : St) : List St :=
  (List.range (st.ix + 1)).flatMap fun k =>
    ((body { st with ix := st.ix - k }).filter (fun r => r.ix == st.ix))

def firstOnly (l : List St) : List St := l.head?.toList

/-- the results of a `delegate` node: a one-character class (`size = 1`, decided by `c.cls`) consumes one
    accepted character; `\Z` (`size = 0`, inner text `\n*$`) moves to the end of the text if only newlines remain;
    any other delegate has no result. No slot is written: these nodes contain no group. -/
def delegateSem (c : Ctx) (inner : List Char) (size : Nat) (casei : Bool) (st : St) : List St :=
  if size == 1 then
    match c.at? st.ix with
    | some ch => if c.cls inner casei ch then [{ st with ix := st.ix + 1 }] else []
    | none => []
  else if size == 0 && inner == ['\n', '*', '$'] then
    -- `\Z`: greedy newlines then end of text; only the greedy count can reach the end
    let k := c.newlinesFrom st.ix
    if st.ix + k == c.len then [{ st with ix := st.ix + k }] else []
  else []

mutual
def sem (c : Ctx) : Expr → St → List St
  | .empty, st => [st]
  | .any nl, st =>
    match c.at? st.ix with
    | some ch => if nl || ch != '\n' then [{ st with ix := st.ix + 1 }] else []
    | none => []
  | .assertion a, st => if c.assertion a st.ix then [st] else []
  | .literal val casei, st =>
    if c.litAt casei val st.ix then [{ st with ix := st.ix + val.length }] else []
  | .concat es, st => semConcat c es st
  | .alt es, st => semAlt c es st
  | .group g e, st =>
    (sem c e (st.setSlot (2 * g) (some st.ix))).map fun r => r.setSlot (2 * g + 1) (some r.ix)
  | .look e .ahead, st => (firstOnly (sem c e st)).map fun r => { r with ix := st.ix }
  | .look e .aheadNeg, st => if (sem c e st).isEmpty then [st] else []
  | .look e .behind, st =>
    (firstOnly (semBehind c e st)).map fun r => { r with ix := st.ix }
  | .look e .behindNeg, st => if (semBehind c e st).isEmpty then [st] else []
  | .repeat e lo hi greedy, st =>
    repLoop (sem c e) lo hi greedy (max lo (hi.getD 0) + c.len + 2) 0 st
  | .delegate inner size casei, st => delegateSem c inner size casei st
  | .backref g, st =>
    match st.slot (2 * g), st.slot (2 * g + 1) with
    | some lo, some hi =>
      if lo ≤ hi && c.sameAt lo hi st.ix then [{ st with ix := st.ix + (hi - lo) }] else []
    | _, _ => []
  | .atomic e, st => firstOnly (sem c e st)
  | .keepOut, st => [st.setSlot 0 (some st.ix)]
  | .contPrev, st => if st.ix == c.pos && !c.skipped then [st] else []
  | .backrefExists g, st => if (st.slot (2 * g)).isSome then [st] else []
  | .cond cnd y n, st =>
    match (sem c cnd st).head? with
    | some r => sem c y r
    | none => sem c n st
  | .subroutine _, _ => []
def semConcat (c : Ctx) : List Expr → St → List St
  | [], st => [st]
  | e :: es, st => (sem c e st).flatMap (semConcat c es)
def semAlt (c : Ctx) : List Expr → St → List St
  | [], _ => []
  | e :: es, st => sem c e st ++ semAlt c es st
/-- look-behind body: the top-level alternatives are tried in order -/
def semBehind (c : Ctx) : Expr → St → List St
  | .alt es, st => semBehindAlts c es st
  | e, st => behindOne (sem c e) st
def semBehindAlts (c : Ctx) : List Expr → St → List St
  | [], _ => []
  | e :: es, st => behindOne (sem c e) st ++ semBehindAlts c es st
end

/-- Result of a search: the slots of the winning path with slot 1 := end and the start capped
    into `[pos, end]`. -/
structure Found where
  slots : List (Option Nat)
deriving DecidableEq, Repr

def initSlots (nGroups : Nat) : List (Option Nat) := List.replicate (2 * nGroups) none

/-- finish a successful path that ended in `r` (its slot 0 holds the start, or where `\K` moved it) -/
def finish (c : Ctx) (r : St) : Found :=
  let s0 := (r.slot 0).getD r.ix
  let s0 := if s0 > r.ix then r.ix else s0
  let s0 := if s0 < c.pos then c.pos else s0
  ⟨(r.slots.set 0 (some s0)).set 1 (some r.ix)⟩

/-- try the start positions `start, start+1, …` (`n` of them) -/
def scanFrom (c : Ctx) (e : Expr) (nGroups : Nat) : Nat → Nat → Option Found
  | 0, _ => none
  | n + 1, start =>
    match (sem c e ⟨start, (initSlots nGroups).set 0 (some start)⟩).head? with
    | some r => some (finish c r)
    | none => scanFrom c e nGroups n (start + 1)

/-- The reference search: leftmost start `≥ pos`, first result in priority order. -/
def refSearch (c : Ctx) (e : Expr) (nGroups : Nat) : Option Found :=
  if c.pos ≤ c.len then scanFrom c e nGroups (c.len - c.pos + 1) c.pos else none

end Fancy
