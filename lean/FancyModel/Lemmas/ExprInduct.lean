import FancyModel.Model.Basic
/-!
# Induction over `Expr`

`Expr` is nested through `List Expr`, so its recursor has a second motive for lists.  `Expr.induct` has a single
motive, with `∀ e ∈ es, P e` as the hypothesis for the children of `concat` and `alt`; facts about the list
companions of a function on `Expr` (`semConcat`, `visitAlt`, …) are then ordinary list inductions that carry
`∀ e ∈ es, P e`.  `Expr.induct_look` is the form for functions that look through a look-around into the
alternation under it (the compiler, the look-behind semantics).
-/
namespace Fancy

@[elab_as_elim]
theorem Expr.induct {P : Expr → Prop}
    (empty : P .empty) (any : ∀ nl, P (.any nl)) (assertion : ∀ a, P (.assertion a))
    (literal : ∀ v ci, P (.literal v ci))
    (concat : ∀ es, (∀ e ∈ es, P e) → P (.concat es)) (alt : ∀ es, (∀ e ∈ es, P e) → P (.alt es))
    (group : ∀ g c, P c → P (.group g c)) (look : ∀ c la, P c → P (.look c la))
    («repeat» : ∀ c lo hi greedy, P c → P (.repeat c lo hi greedy))
    (delegate : ∀ inner size ci, P (.delegate inner size ci)) (backref : ∀ g, P (.backref g))
    (atomic : ∀ c, P c → P (.atomic c)) (keepOut : P .keepOut) (contPrev : P .contPrev)
    (backrefExists : ∀ g, P (.backrefExists g)) (cond : ∀ c y n, P c → P y → P n → P (.cond c y n))
    (subroutine : ∀ g, P (.subroutine g)) : ∀ e, P e :=
  Expr.rec (motive_1 := P) (motive_2 := fun es => ∀ e ∈ es, P e)
    empty any assertion literal (fun es ih => concat es ih) (fun es ih => alt es ih)
    (fun g c ih => group g c ih) (fun c la ih => look c la ih)
    (fun c lo hi greedy ih => «repeat» c lo hi greedy ih) delegate backref (fun c ih => atomic c ih)
    keepOut contPrev backrefExists (fun c y n ic iy in_ => cond c y n ic iy in_) subroutine
    (fun _ h => absurd h List.not_mem_nil)
    (fun _ _ ihe ihes x hx => (List.mem_cons.mp hx).elim (fun h => h ▸ ihe) (ihes x))

/-- `Expr.induct` for invariants of the compiler: `visit` looks through a look-behind into the alternation
    under it and compiles the alternatives themselves (`lookBehindAlts`, `lookBehindNegAlts`), so the case
    of `look` also gets the statement for them. -/
@[elab_as_elim]
theorem Expr.induct_look {P : Expr → Prop}
    (empty : P .empty) (any : ∀ nl, P (.any nl)) (assertion : ∀ a, P (.assertion a))
    (literal : ∀ v ci, P (.literal v ci))
    (concat : ∀ es, (∀ e ∈ es, P e) → P (.concat es)) (alt : ∀ es, (∀ e ∈ es, P e) → P (.alt es))
    (group : ∀ g c, P c → P (.group g c))
    (look : ∀ c la, P c → (∀ es, c = .alt es → ∀ e ∈ es, P e) → P (.look c la))
    («repeat» : ∀ c lo hi greedy, P c → P (.repeat c lo hi greedy))
    (delegate : ∀ inner size ci, P (.delegate inner size ci)) (backref : ∀ g, P (.backref g))
    (atomic : ∀ c, P c → P (.atomic c)) (keepOut : P .keepOut) (contPrev : P .contPrev)
    (backrefExists : ∀ g, P (.backrefExists g)) (cond : ∀ c y n, P c → P y → P n → P (.cond c y n))
    (subroutine : ∀ g, P (.subroutine g)) (e : Expr) : P e :=
  (Expr.induct (P := fun e => P e ∧ ∀ es, e = .alt es → ∀ x ∈ es, P x)
    ⟨empty, nofun⟩ (fun nl => ⟨any nl, nofun⟩) (fun a => ⟨assertion a, nofun⟩) (fun v ci => ⟨literal v ci, nofun⟩)
    (fun es ih => ⟨concat es fun x hx => (ih x hx).1, nofun⟩)
    (fun es ih => ⟨alt es fun x hx => (ih x hx).1, fun _ he x hx => (ih x (Expr.alt.inj he ▸ hx)).1⟩)
    (fun g c ih => ⟨group g c ih.1, nofun⟩) (fun c la ih => ⟨look c la ih.1 ih.2, nofun⟩)
    (fun c lo hi greedy ih => ⟨«repeat» c lo hi greedy ih.1, nofun⟩)
    (fun inner size ci => ⟨delegate inner size ci, nofun⟩) (fun g => ⟨backref g, nofun⟩)
    (fun c ih => ⟨atomic c ih.1, nofun⟩) ⟨keepOut, nofun⟩ ⟨contPrev, nofun⟩ (fun g => ⟨backrefExists g, nofun⟩)
    (fun c y n ic iy in_ => ⟨cond c y n ic.1 iy.1 in_.1, nofun⟩) (fun g => ⟨subroutine g, nofun⟩) e).1

end Fancy
