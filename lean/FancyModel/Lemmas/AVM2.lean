import FancyModel.Lemmas.AVM2Defs
/-!
# The structured whole-copy machine follows the interpreter: every instruction

`step_sim2`: one instruction of `Model/VM.step` on the undo-log `State` follows `sstep` on the
structured whole-copy configuration it represents (`Inv2`, Lemmas/AuxStack.lean) — for ALL
instructions (`Delegate` under `DelegOK`). `link2` / `link2_initial`: whenever `Big2` ends with an
answer, `runLoop` returns that answer (`Good2`: up to the cells beyond `nS`) or stops for a resource
reason.
-/
namespace Fancy
open State

inductive StepRel2 (nS : Nat) : StepResult → SCfg → Prop where
  | cont (pc ix : Nat) (s : State) (σ : SState) : Inv2 nS s σ →
      StepRel2 nS (.cont pc ix s) (.run pc ix σ.slots σ.astk σ.stack)
  | fail (s : State) (σ : SState) : Inv2 nS s σ → StepRel2 nS (.fail s) (.fail σ.stack)
  | overflow (cfg : SCfg) : StepRel2 nS (.done .errStack) cfg

/-! ## helpers -/

theorem StepRel2.cont' {nS pc ix : Nat} {s : State} {σ : SState} {sl ak : List Nat} {stk : List SBranch}
    (h : Inv2 nS s σ) (e1 : σ.slots = sl) (e2 : σ.astk = ak) (e3 : σ.stack = stk) :
    StepRel2 nS (.cont pc ix s) (.run pc ix sl ak stk) := by
  subst e1 e2 e3; exact .cont _ _ _ _ h

theorem StepRel2.fail' {nS : Nat} {s : State} {σ : SState} {stk : List SBranch}
    (h : Inv2 nS s σ) (e3 : σ.stack = stk) : StepRel2 nS (.fail s) (.fail stk) := by
  subst e3; exact .fail _ _ h

/-- a `push` followed by a continuation: either the branch-stack cap, or the abstract push -/
theorem sim_pushOr {nS : Nat} {s : State} {σ : SState} (h : Inv2 nS s σ) (pcB ixB pcC ixC : Nat)
    {sl ak : List Nat} {stk : List SBranch} (e1 : σ.slots = sl) (e2 : σ.astk = ak) (e3 : σ.stack = stk) :
    StepRel2 nS (pushOr s pcB ixB fun s' => .cont pcC ixC s')
      (.run pcC ixC sl ak (⟨pcB, ixB, sl, ak⟩ :: stk)) := by
  subst e1 e2 e3
  unfold pushOr
  cases hpush : s.push pcB ixB with
  | overflow => exact .overflow _
  | ok s' =>
    obtain ⟨h2, _⟩ := rep_push h pcB ixB hpush
    exact StepRel2.cont' h2 rfl rfl rfl

/-- `dropUntil` finds the first entry with the pc -/
theorem dropUntil_some (target : Nat) : ∀ (l rest : List SBranch), dropUntil target l = some rest →
    ∃ pre b, pre ++ b :: rest = l ∧ b.pc = target ∧ ∀ x ∈ pre, x.pc ≠ target := by
  intro l
  induction l with
  | nil => intro rest h; simp [dropUntil] at h
  | cons y ys ih =>
    intro rest h
    unfold dropUntil at h
    by_cases hy : y.pc = target
    · simp only [hy, beq_self_eq_true, ↓reduceIte, Option.some.injEq] at h
      subst h
      exact ⟨[], y, rfl, hy, by simp⟩
    · have : (y.pc == target) = false := by simp [hy]
      simp only [this, Bool.false_eq_true, ↓reduceIte] at h
      obtain ⟨pre, b, e, hb, hp⟩ := ih rest h
      refine ⟨y :: pre, b, by simp [e], hb, ?_⟩
      intro z hz
      rcases List.mem_cons.mp hz with rfl | hz
      · exact hy
      · exact hp z hz

/-- `copyGroups` on the undo-log state follows `copyGroupsA` on the ordinary slots, when the two
    oracle results agree on the copied groups -/
theorem copyGroups_sim {nS : Nat} (r r' : St) (sg : Nat) :
    ∀ (n : Nat) (s : State) (σ : SState) (sl' : List Nat), Inv2 nS s σ → (sg + n) * 2 ≤ nS →
      (∀ g, sg ≤ g → g < sg + n →
        r.slot (g * 2) = r'.slot (g * 2) ∧ r.slot (g * 2 + 1) = r'.slot (g * 2 + 1)) →
      copyGroupsA r' sg n σ.slots = some sl' →
      ∃ s', copyGroups r sg n s = some s' ∧ Inv2 nS s' { σ with slots := sl' } := by
  intro n
  induction n with
  | zero =>
    intro s σ sl' h _ _ hc
    simp only [copyGroupsA, Option.some.injEq] at hc
    subst hc
    exact ⟨s, rfl, h⟩
  | succ n ih =>
    intro s σ sl' h hle hag hc
    unfold copyGroupsA at hc
    cases hrec : copyGroupsA r' sg n σ.slots with
    | none => simp [hrec] at hc
    | some sl =>
      obtain ⟨s1, e1, i1⟩ := ih s σ sl h (by omega) (fun g h1 h2 => hag g h1 (by omega)) hrec
      obtain ⟨a1, a2⟩ := hag (sg + n) (by omega) (by omega)
      simp only [hrec] at hc
      unfold copyGroups
      simp only [e1, a1, a2]
      cases hx : r'.slot ((sg + n) * 2) with
      | none =>
        simp only [hx, Option.some.injEq] at hc
        subst hc
        exact ⟨s1, rfl, i1⟩
      | some a =>
        cases hy : r'.slot ((sg + n) * 2 + 1) with
        | none => simp [hx, hy] at hc
        | some b =>
          simp only [hx, hy] at hc
          split at hc
          · cases hc
            obtain ⟨s2, f1, i2, _⟩ := rep_save i1 ((sg + n) * 2) a (by omega)
            obtain ⟨s3, g1, i3, _⟩ := rep_save i2 ((sg + n) * 2 + 1) b (by omega)
            exact ⟨s3, by simp only [f1, Option.bind_some, g1], i3⟩
          · cases hc

/-- capping the start commutes with cutting the vector down to the ordinary slots -/
theorem capSaves_take (flat : List Nat) (pos nS : Nat) (h1 : 1 < nS) (_h2 : nS ≤ flat.length) :
    (capSaves flat pos).take nS = capSaves (flat.take nS) pos := by
  unfold capSaves
  have e1 : (flat.take nS)[1]? = flat[1]? := by rw [List.getElem?_take, if_pos h1]
  have e0 : (flat.take nS)[0]? = flat[0]? := by rw [List.getElem?_take, if_pos (by omega)]
  rw [e1, e0]
  cases flat[1]? with
  | none => rfl
  | some e =>
    cases flat[0]? with
    | none => rfl
    | some s0 => simp only [List.take_set]

/-! ## one instruction -/

theorem step_sim2O (c : Ctx) (prog : List Insn) (nS pc ix : Nat) (s : State) (σ : SState) (h : Inv2 nS s σ)
    (hd : DelegOK c prog nS) :
    OptRel (StepRel2 nS) (step c prog pc ix s) (sstep c prog nS pc ix σ.slots σ.astk σ.stack) := by
  have hcont {pc ix : Nat} : OptRel (StepRel2 nS) (.cont pc ix s) (some (.run pc ix σ.slots σ.astk σ.stack)) :=
    .cont _ _ s σ h
  have hfail : OptRel (StepRel2 nS) (.fail s) (some (.fail σ.stack)) := .fail s σ h
  unfold sstep step
  cases hp : prog[pc]? with
  | none => trivial
  | some insn =>
    cases insn <;> simp only
    case end_ => trivial
    case any =>
      cases c.at? ix with
      | none => exact hfail
      | some _ => exact hcont
    case anyNoNL =>
      cases c.at? ix with
      | none => exact hfail
      | some ch => exact .ite (fun _ => hcont) (fun _ => hfail)
    case lit val => exact .ite (fun _ => hcont) (fun _ => hfail)
    case assertion a => exact .ite (fun _ => hcont) (fun _ => hfail)
    case split x y => exact sim_pushOr h y ix x ix rfl rfl rfl
    case jmp t => exact hcont
    case save slot =>
      refine .guard fun hlt => ?_
      obtain ⟨s', h1, h2, _⟩ := rep_save h slot ix hlt
      simp only [h1]
      exact StepRel2.cont' h2 rfl rfl rfl
    case save0 slot =>
      refine .guard fun hlt => ?_
      obtain ⟨s', h1, h2, _⟩ := rep_save h slot 0 hlt
      simp only [h1]
      exact StepRel2.cont' h2 rfl rfl rfl
    case restore slot =>
      refine .guard fun hlt => ?_
      rw [rep_get h slot hlt]
      cases σ.slots[slot]? with
      | none => trivial
      | some v => exact .guard fun _ => hcont
    case repeatGr lo hi next rep =>
      refine .guard fun hlt => ?_
      rw [rep_get h rep hlt]
      cases σ.slots[rep]? with
      | none => trivial
      | some cnt =>
        refine .ite (fun _ => hcont) fun _ => .guard_not fun _ => ?_
        obtain ⟨s', h1, h2, _⟩ := rep_save h rep (cnt + 1) hlt
        simp only [h1]
        exact .ite (fun _ => sim_pushOr h2 next ix (pc + 1) ix rfl rfl rfl)
          fun _ => StepRel2.cont' h2 rfl rfl rfl
    case repeatNg lo hi next rep =>
      refine .guard fun hlt => ?_
      rw [rep_get h rep hlt]
      cases σ.slots[rep]? with
      | none => trivial
      | some cnt =>
        refine .ite (fun _ => hcont) fun _ => .guard_not fun _ => ?_
        obtain ⟨s', h1, h2, _⟩ := rep_save h rep (cnt + 1) hlt
        simp only [h1]
        exact .ite (fun _ => sim_pushOr h2 (pc + 1) ix next ix rfl rfl rfl)
          fun _ => StepRel2.cont' h2 rfl rfl rfl
    case repeatEpsGr lo next rep check =>
      refine .guard fun hlt => ?_
      rw [rep_get h rep hlt.1, rep_get h check hlt.2]
      cases σ.slots[rep]? with
      | none => trivial
      | some cnt =>
        cases σ.slots[check]? with
        | none => trivial
        | some chk =>
          refine .ite (fun _ => hfail) fun _ => ?_
          obtain ⟨s', h1, h2, _⟩ := rep_save h rep (cnt + 1) hlt.1
          simp only [h1]
          refine .ite (fun _ => ?_) fun _ => StepRel2.cont' h2 rfl rfl rfl
          obtain ⟨s'', g1, g2, _⟩ := rep_save h2 check ix hlt.2
          simp only [g1]
          exact sim_pushOr g2 next ix (pc + 1) ix rfl rfl rfl
    case repeatEpsNg lo next rep check =>
      refine .guard fun hlt => ?_
      rw [rep_get h rep hlt.1, rep_get h check hlt.2]
      cases σ.slots[rep]? with
      | none => trivial
      | some cnt =>
        cases σ.slots[check]? with
        | none => trivial
        | some chk =>
          refine .ite (fun _ => hfail) fun _ => ?_
          obtain ⟨s', h1, h2, _⟩ := rep_save h rep (cnt + 1) hlt.1
          simp only [h1]
          refine .ite (fun _ => ?_) fun _ => StepRel2.cont' h2 rfl rfl rfl
          obtain ⟨s'', g1, g2, _⟩ := rep_save h2 check ix hlt.2
          simp only [g1]
          exact sim_pushOr g2 (pc + 1) ix next ix rfl rfl rfl
    case failNegLook =>
      cases hdu : dropUntil (pc + 1) σ.stack with
      | none => trivial
      | some rest =>
        obtain ⟨pre, b, e, hb, hpre⟩ := dropUntil_some (pc + 1) σ.stack rest hdu
        obtain ⟨s', e1, e2, _⟩ := rep_popUntil h (pc + 1) pre b rest e hb hpre
        simp only [e1]
        exact StepRel2.fail' e2 rfl
    case goBack n =>
      cases goBack ix n with
      | none => exact hfail
      | some ix' => exact hcont
    case backref slot =>
      refine .guard fun hlt => ?_
      rw [rep_get h slot (by omega), rep_get h (slot + 1) hlt]
      cases σ.slots[slot]? with
      | none => trivial
      | some lo =>
        cases σ.slots[slot + 1]? with
        | none => trivial
        | some hi' =>
          exact .ite (fun _ => hfail) fun _ => .ite (fun _ => hfail) fun _ =>
            .ite (fun _ => hcont) fun _ => hfail
    case backrefExists g =>
      refine .guard fun hlt => ?_
      rw [rep_get h (g * 2) hlt]
      cases σ.slots[g * 2]? with
      | none => trivial
      | some lo => exact .ite (fun _ => hfail) fun _ => hcont
    case beginAtomic =>
      obtain ⟨s', e1, e2, _⟩ := rep_stackPush h s.backtrackCount
      simp only [e1]
      exact StepRel2.cont' e2 rfl (by simp [rep_backtrackCount h]) rfl
    case endAtomic =>
      cases hak : σ.astk with
      | nil => trivial
      | cons count rest =>
        refine .guard fun hc => ?_
        obtain ⟨s1, e1, e2, _⟩ := rep_stackPop h count rest hak
        obtain ⟨s2, g1, g2, _⟩ := rep_cut e2 count hc
        simp only [e1, g1]
        exact StepRel2.cont' g2 rfl rfl rfl
    case delegate es sg eg =>
      obtain ⟨d1, d2, d3⟩ := hd pc es sg eg hp
      have htake : s.saves.take nS = σ.slots := h.rep.1.2.1
      obtain ⟨q1, q2⟩ := d3 ix s.saves h.len_ge
      rw [htake] at q1 q2
      cases hr' : delegateOracle c es sg eg ix σ.slots with
      | none =>
        cases hr : delegateOracle c es sg eg ix s.saves with
        | none => exact hfail
        | some r => simp [hr, hr'] at q1
      | some r' =>
        cases hr : delegateOracle c es sg eg ix s.saves with
        | none => simp [hr, hr'] at q1
        | some r =>
          obtain ⟨p1, p2⟩ := q2 r r' hr hr'
          dsimp only
          rw [p1]
          refine .ite (fun _ => hcont) fun _ => ?_
          cases hcg : copyGroupsA r' sg (eg - sg) σ.slots with
          | none => trivial
          | some sl' =>
            obtain ⟨s', e1, e2⟩ := copyGroups_sim r r' sg (eg - sg) s σ sl' h
              (by rw [Nat.add_sub_cancel' d2]; exact d1) (fun g g1 g2 => p2 g g1 (by omega)) hcg
            simp only [e1]
            exact StepRel2.cont' e2 rfl rfl rfl
    case contPrev => exact .ite (fun _ => hfail) fun _ => hcont

theorem step_sim2 (c : Ctx) (prog : List Insn) (nS pc ix : Nat) (s : State) (σ : SState) (h : Inv2 nS s σ)
    (hd : DelegOK c prog nS) (cfg' : SCfg)
    (hs : sstep c prog nS pc ix σ.slots σ.astk σ.stack = some cfg') :
    StepRel2 nS (step c prog pc ix s) cfg' := by
  have := step_sim2O c prog nS pc ix s σ h hd
  rwa [hs] at this

/-! ## the link -/

/-- what "the interpreter follows" means for each kind of configuration -/
def Follows2 (c : Ctx) (prog : List Insn) (nS : Nat) (o : VMOpts) (a : Ans) : SCfg → Prop
  | .run pc ix slots astk stack =>
    ∀ (s : State) (σ : SState), Inv2 nS s σ → σ = ⟨slots, astk, stack⟩ → ∀ (fuel : Nat) (st : Stats),
      Good2 nS (runLoop c prog o fuel pc ix s st).1 a
  | .fail stack =>
    ∀ (s : State) (σ : SState), Inv2 nS s σ → σ.stack = stack → ∀ (fuel : Nat) (st : Stats),
      Good2 nS (afterFail c prog o fuel s st).1 a

theorem link2 (c : Ctx) (prog : List Insn) (nS : Nat) (o : VMOpts) (hd : DelegOK c prog nS)
    (cfg : SCfg) (a : Ans) (h : Big2 c prog nS cfg a) : Follows2 c prog nS o a cfg := by
  induction h with
  | done pc ix slots astk stack k hend hk hkn hlen =>
    intro s σ hi hσ fuel st
    cases fuel with
    | zero => left; rfl
    | succ fuel =>
      rw [runLoop_succ]
      subst hσ
      have hge := hi.len_ge
      obtain ⟨s', h1, h2⟩ := capStart_saves s hi.inv c.pos (by omega)
      simp only [step, hend, h1]
      right; right; right
      refine ⟨s'.saves, rfl, ?_⟩
      have htake : s.saves.take nS = slots := hi.rep.1.2.1
      have hcs : (capSaves slots c.pos).length = nS := by
        rw [← hlen]; unfold capSaves; split <;> simp
      rw [List.length_take, hcs, Nat.min_eq_left hkn, h2, ← htake, ← capSaves_take s.saves c.pos nS (by omega) hge,
        List.take_take, Nat.min_eq_left hkn]
  | step pc ix slots astk stack cfg' a hstep hbig ih =>
    intro s σ hi hσ fuel st
    cases fuel with
    | zero => left; rfl
    | succ fuel =>
      rw [runLoop_succ]
      subst hσ
      have hrel := step_sim2 c prog nS pc ix s _ hi hd cfg' hstep
      generalize hst : step c prog pc ix s = sr at hrel
      cases hrel with
      | cont pc' ix' s' σ' hi' => exact ih s' σ' hi' rfl fuel _
      | fail s' σ' hi' => exact ih s' σ' hi' rfl fuel _
      | overflow _ => right; left; rfl
  | failEmpty =>
    intro s σ hi hσ fuel st
    unfold afterFail
    have hl := hi.stack_length
    rw [hσ] at hl
    have : s.stack = [] := List.eq_nil_of_length_eq_zero (by simpa using hl.symm)
    simp [this, Good2]
  | failPop b rest a hbig ih =>
    intro s σ hi hσ fuel st
    unfold afterFail
    obtain ⟨s'', h1, h2, h3, _⟩ := rep_pop hi b rest hσ
    have hne : s.stack.isEmpty = false := by
      cases hst : s.stack with
      | nil => rw [hst] at h3; simp at h3
      | cons _ _ => rfl
    simp only [hne, Bool.false_eq_true, ↓reduceIte]
    split
    · right; right; left; rfl
    · simp only [h1]
      exact ih s'' _ h2 rfl fuel _

/-- the form used by the property theorems: from the initial state of a run -/
theorem link2_initial (c : Ctx) (p : Prog) (o : VMOpts) (hd : DelegOK c p.body p.nSaves) (a : Ans)
    (h : Big2 c p.body p.nSaves (.run 0 c.pos (List.replicate p.nSaves UNSET) [] []) a) (fuel : Nat) :
    Good2 p.nSaves (run c p o fuel).1 a :=
  link2 c p.body p.nSaves o hd _ a h _ _ (inv2_init p.nSaves o.maxStack) rfl fuel {}

/-! ## a concrete non-trivial instance: the hypotheses of the theorems are satisfiable

`exProg` (2 ordinary slots): save the start, an atomic group around a `split` (pushes a branch that
`EndAtomic` cuts away again, via the auxiliary stack), a `Delegate` of the empty concatenation over
group 0, save the end, `End`. -/

def exProg : List Insn :=
  [.save 0, .beginAtomic, .split 3 3, .endAtomic, .delegate [] 0 1, .save 1, .end_]

/-- `DelegOK` holds of a program with a real `Delegate` -/
theorem exDelegOK (c : Ctx) : DelegOK c exProg 2 := by
  intro pc es sg eg hp
  have hpc : pc = 4 ∧ es = [] ∧ sg = 0 ∧ eg = 1 := by
    match pc, hp with
    | 0, hp => simp [exProg] at hp
    | 1, hp => simp [exProg] at hp
    | 2, hp => simp [exProg] at hp
    | 3, hp => simp [exProg] at hp
    | 4, hp => simp [exProg] at hp; simp [hp]
    | 5, hp => simp [exProg] at hp
    | 6, hp => simp [exProg] at hp
    | n + 7, hp => simp [exProg] at hp
  obtain ⟨rfl, rfl, rfl, rfl⟩ := hpc
  refine ⟨by decide, by decide, ?_⟩
  intro ix flat hl
  refine ⟨by simp [delegateOracle, semKConcat], ?_⟩
  intro r r' hr hr'
  simp only [delegateOracle, semKConcat, Option.some.injEq] at hr hr'
  subst hr hr'
  refine ⟨rfl, ?_⟩
  intro g _ hg
  have : g = 0 := by omega
  subst this
  have h0 : 0 < flat.length := by omega
  have h1 : 1 < flat.length := by omega
  simp [St.slot, clearGroups, viewSlots, Nat.min_eq_left hl, h0, h1]

/-- the hypotheses of `step_sim2` on the state `exS` of Lemmas/AuxStack.lean (one pending
    alternative, one entry on the auxiliary stack), at the `BeginAtomic` of `exProg` -/
example (c : Ctx) : StepRel2 2 (step c exProg 1 7 exS) (.run 2 7 [7, 8] [1, 9] [⟨5, 1, [7, 8], []⟩]) :=
  step_sim2 c exProg 2 1 7 exS exσ exInv2 (exDelegOK c) _ rfl

/-- a complete run of `exProg` on the structured machine -/
theorem exBig2 (c : Ctx) :
    Big2 c exProg 2 (.run 0 c.pos (List.replicate 2 UNSET) [] []) (.matched [c.pos, c.pos]) := by
  refine .step _ _ _ _ _ _ _ (by rfl : sstep c exProg 2 0 _ _ _ _ = some _) ?_
  refine .step _ _ _ _ _ _ _ (by rfl : sstep c exProg 2 1 _ _ _ _ = some _) ?_
  refine .step _ _ _ _ _ _ _ (by rfl : sstep c exProg 2 2 _ _ _ _ = some _) ?_
  refine .step _ _ _ _ _ _ _ (by rfl : sstep c exProg 2 3 _ _ _ _ = some _) ?_
  show Big2 c exProg 2 (.run 4 c.pos [c.pos, UNSET] [] []) _
  have h4 : sstep c exProg 2 4 c.pos [c.pos, UNSET] [] [] = some (.run 5 c.pos [c.pos, UNSET] [] []) := by
    simp [sstep, exProg, delegateOracle, semKConcat, copyGroupsA, St.slot, clearGroups, viewSlots]
  refine .step _ _ _ _ _ _ _ h4 ?_
  refine .step _ _ _ _ _ _ _ (by rfl : sstep c exProg 2 5 _ _ _ _ = some _) ?_
  have := Big2.done (c := c) (prog := exProg) (nS := 2) 6 c.pos [c.pos, c.pos] [] [] 2 rfl (by decide) (by decide) rfl
  simpa [capSaves] using this

example (c : Ctx) (o : VMOpts) : Follows2 c exProg 2 o (.matched [c.pos, c.pos])
    (.run 0 c.pos (List.replicate 2 UNSET) [] []) :=
  link2 c exProg 2 o (exDelegOK c) _ _ (exBig2 c)

example (c : Ctx) (o : VMOpts) (fuel : Nat) :
    Good2 2 (run c ⟨exProg, 2⟩ o fuel).1 (.matched [c.pos, c.pos]) :=
  link2_initial c ⟨exProg, 2⟩ o (exDelegOK c) _ (exBig2 c) fuel

end Fancy
