import FancyModel.Lemmas.Sim2
/-!
# Conditionals against the full machine (engine refinement, stage S2)

Code layout of `.cond cnd y n` (Model/Compile.lean):
```
pc         : BeginAtomic
pc + 1     : Split(pc + 2, falsePc)
pc + 2     : <cond>            [pc+2, e1)
e1         : EndAtomic
e1 + 1     : <yes>             [e1+1, e2)
e2         : Jmp(endPc)
falsePc = e2 + 1 : <no>        [falsePc, endPc)
```
`BeginAtomic` pushes `|X|` on the auxiliary stack; `Split` pushes the marker
`⟨falsePc, ix, slots, |X| :: astk⟩`; the condition runs above it. On its FIRST result `r` (the
condition is balanced, so the top of the auxiliary stack is the `|X|` pushed here) `EndAtomic` pops it
and cuts the branch stack back to `X` — dropping the condition's branches and the marker —, `<yes>`
runs from `r` above `X` and jumps to `endPc`. If the condition has no result the machine fails back
into the marker and resumes at `falsePc` in the original state with auxiliary stack `|X| :: astk`:
the entry is never popped (finding F8), so the `no` path hands back `junk_n ++ [|X|] ++ astk` and the
conditional is not balanced whatever `<yes>` and `<no>` are.

The condition's `Sim2` is used with the continuation "`EndAtomic`, then `<yes>`, then the outer
continuation, with `failA`": constant in what failing back yields, hence `Commit`; with a committing
continuation `Sim2` demands the continuation derivation for the head result only (`Commit.not_pass`),
which is exactly what the outer continuation provides (`sm st = sy r₀`): `Sim2At.cut`.
-/
namespace Fancy

/-- The conditional. The condition must be balanced and is only needed for committing continuations;
    `<yes>` owns `[l1, l2)`, `<no>` owns `[l2, l3)`. The result is not balanced (F8). -/
theorem sim2_cond {c : Ctx} {n nS : Nat} {prog : List Insn} {sc sy sn : St → List St}
    {pc e1 e2 endPc l0 l1 l2 l3 : Nat} {balY balN cm : Bool}
    (hbegin : prog[pc]? = some .beginAtomic) (hsplit : prog[pc + 1]? = some (.split (pc + 2) (e2 + 1)))
    (hend : prog[e1]? = some .endAtomic) (hjmp : prog[e2]? = some (.jmp endPc))
    (hc : Sim2 c n nS prog l0 l1 true true sc (pc + 2) e1)
    (hy : Sim2 c n nS prog l1 l2 balY cm sy (e1 + 1) e2)
    (hn : Sim2 c n nS prog l2 l3 balN cm sn (e2 + 1) endPc)
    (hkc : KeepsGood c n sc)
    (ha1 : pc + 2 ≤ e1) (ha2 : e1 + 1 ≤ e2) (ha3 : e2 + 1 ≤ endPc)
    (hl01 : l0 ≤ l1) (hl12 : l1 ≤ l2) (hl23 : l2 ≤ l3) :
    Sim2 c n nS prog l0 l3 false cm
      (fun st => match (sc st).head? with | some r => sy r | none => sn st) pc endPc := by
  refine Sim2.ofAt fun st aux hg hl => ?_
  intro astk X succ failA hsucc hf hs
  -- BeginAtomic, Split
  have hstep1 : sstep c prog nS pc st.ix (unview st.slots ++ aux) astk X =
      some (.run (pc + 1) st.ix (unview st.slots ++ aux) (X.length :: astk) X) := by
    simp [sstep, hbegin]
  have hstep2 : sstep c prog nS (pc + 1) st.ix (unview st.slots ++ aux) (X.length :: astk) X =
      some (.run (pc + 2) st.ix (unview st.slots ++ aux) (X.length :: astk)
        (⟨e2 + 1, st.ix, unview st.slots ++ aux, X.length :: astk⟩ :: X)) := by
    simp [sstep, hsplit]
  apply Big2.step _ _ _ _ _ _ _ hstep1
  apply Big2.step _ _ _ _ _ _ _ hstep2
  have := (hc.at hg hl).cut hend astk X [⟨e2 + 1, st.ix, unview st.slots ++ aux, X.length :: astk⟩]
    (fun r => (sy r).foldr succ failA) ((sn st).foldr succ failA)
    (fun h0 => by
      -- no result: fail back into the marker, run `<no>` with the entry left on the auxiliary stack
      simp only [h0, List.head?_nil] at hf hs
      apply Big2.failPop
      apply hn st aux (X.length :: astk) X succ failA hg hl hsucc hf
      intro m1 r m2 hsp hpass aux' junk S acc hag hb hS hacc
      have := hs m1 r m2 hsp hpass aux' (junk ++ [X.length]) S acc (hag.mono (by omega) (Nat.le_refl _))
        (fun h => by simp at h) (fun br hbr => by have := hS br hbr; omega) hacc
      simpa [List.append_assoc] using this)
    (fun r0 rest h0 aux1 hag1 => by
      -- first result `r0`: cut back to `X`, then `<yes>`, then the jump
      simp only [h0, List.head?_cons] at hf hs
      apply hy r0 aux1 astk X succ failA (hkc st r0 hg (by rw [h0]; simp)) (hag1.1 ▸ hl) hsucc hf
      intro k1 r2 k2 hsp2 hpass2 aux2 junk2 S2 acc2 hag2 hb2 hS2 hacc2
      have hj : sstep c prog nS e2 r2.ix (unview r2.slots ++ aux2) (junk2 ++ astk) (S2 ++ X) =
          some (.run endPc r2.ix (unview r2.slots ++ aux2) (junk2 ++ astk) (S2 ++ X)) := by
        simp [sstep, hjmp]
      apply Big2.step _ _ _ _ _ _ _ hj
      exact hs k1 r2 k2 hsp2 hpass2 aux2 junk2 S2 acc2
        ((hag1.trans hag2 hl01 hl12).mono (Nat.le_refl _) hl23)
        (fun h => by simp at h) (fun br hbr => by have := hS2 br hbr; omega) hacc2)
  cases hsc : sc st <;> simpa [hsc] using this

/-- the hypotheses are satisfiable: `(?(?=^)|)`-like code — condition `\A`, empty branches -/
example (c : Ctx) :
    Sim2 c 2 2 [.beginAtomic, .split 2 5, .assertion .startText, .endAtomic, .jmp 5, .end_] 2 2 false false
      (fun st => match (if c.assertion .startText st.ix then [st] else []).head? with
        | some r => [r] | none => [st]) 0 5 :=
  sim2_cond (pc := 0) (e1 := 3) (e2 := 4) (endPc := 5) (l0 := 2) (l1 := 2) (l2 := 2) (l3 := 2) (balY := true) (balN := true)
    (sc := fun st => if c.assertion .startText st.ix then [st] else []) (sy := fun st => [st]) (sn := fun st => [st])
    rfl rfl rfl rfl
    (Sim2.test1 (fun st => c.assertion .startText st.ix) id (fun st aux astk X _ _ => by
      have h2 : ([.beginAtomic, .split 2 5, .assertion .startText, .endAtomic, .jmp 5, .end_] : List Insn)[2]? =
          some (.assertion .startText) := rfl
      simp only [sstep, h2, id]
      split <;> rfl))
    (Sim2.nil _ _ _ _ _ _ _ _ _) (Sim2.nil _ _ _ _ _ _ _ _ _)
    (fun st r hg hr => by
      dsimp only at hr
      split at hr
      · simp only [List.mem_singleton] at hr; subst hr; exact hg
      · simp at hr)
    (by omega) (by omega) (by omega) (by omega) (by omega) (by omega)

/-- the conditional of the reference semantics -/
theorem sim2_cond_sem {c : Ctx} {n nS : Nat} {prog : List Insn} {cnd y no : Expr}
    {pc e1 e2 endPc l0 l1 l2 l3 : Nat} {balY balN cm : Bool}
    (hbegin : prog[pc]? = some .beginAtomic) (hsplit : prog[pc + 1]? = some (.split (pc + 2) (e2 + 1)))
    (hend : prog[e1]? = some .endAtomic) (hjmp : prog[e2]? = some (.jmp endPc))
    (hc : Sim2 c n nS prog l0 l1 true true (sem c cnd) (pc + 2) e1)
    (hy : Sim2 c n nS prog l1 l2 balY cm (sem c y) (e1 + 1) e2)
    (hn : Sim2 c n nS prog l2 l3 balN cm (sem c no) (e2 + 1) endPc)
    (ha1 : pc + 2 ≤ e1) (ha2 : e1 + 1 ≤ e2) (ha3 : e2 + 1 ≤ endPc)
    (hl01 : l0 ≤ l1) (hl12 : l1 ≤ l2) (hl23 : l2 ≤ l3) :
    Sim2 c n nS prog l0 l3 false cm (sem c (.cond cnd y no)) pc endPc :=
  (sim2_cond hbegin hsplit hend hjmp hc hy hn (fun st r hg hr => sem_good c n cnd st r hg hr)
    ha1 ha2 ha3 hl01 hl12 hl23).congr (fun st => by
      simp only [sem]
      cases (sem c cnd st).head? <;> rfl)

/-- the hypotheses are satisfiable: `(?()|)` — everything empty -/
example (c : Ctx) :
    Sim2 c 2 2 [.beginAtomic, .split 2 4, .endAtomic, .jmp 4, .end_] 2 2 false false
      (sem c (.cond .empty .empty .empty)) 0 4 :=
  sim2_cond_sem (pc := 0) (e1 := 2) (e2 := 3) (endPc := 4) (l0 := 2) (l1 := 2) (l2 := 2) (l3 := 2)
    (balY := true) (balN := true) rfl rfl rfl rfl
    ((Sim2.nil _ _ _ _ _ _ _ _ _).congr (fun st => by simp [sem]))
    ((Sim2.nil _ _ _ _ _ _ _ _ _).congr (fun st => by simp [sem]))
    ((Sim2.nil _ _ _ _ _ _ _ _ _).congr (fun st => by simp [sem]))
    (by omega) (by omega) (by omega) (by omega) (by omega) (by omega)

end Fancy
