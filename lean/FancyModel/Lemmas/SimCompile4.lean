import FancyModel.Lemmas.SimCompile3
import FancyModel.Proofs.C01b
/-!
# Stage S4, machine half: the delegated runs of the TOP-LEVEL concatenation may own capture groups

Stage S3 (`s3ok`, Spec/Stage.lean) demands of the constant-size easy prefix / suffix run of a
concatenation, which the compiler hands to the automata engine as ONE `Delegate` (first result only),
that it owns no capture group or is linear. Here the demand is dropped for the concatenation at the
top of the pattern (`raw = .concat es`): the compiled code simulates the semantics of the tree in which
such a run is wrapped in an atomic group — `runA`, `concatA` — because `Delegate es` simulates
`firstOnly (semConcat c es ·)` under every continuation (`sim2_delegate_first`). `sim4_wrapped`: the code
of the wrapped pattern `(?s:.)*?(raw)` simulates `sem c (wrapA br es)`.

The semantic half (`Lemmas/Atomize.lean`): the atomized tree has the same first result as the original
one when the groups of the atomized runs are referenced nowhere.
-/
namespace Fancy

/-- a delegated run as the machine sees it: kept when all its results are one state anyway (stage S3),
    wrapped in an atomic group otherwise -/
def runA (es : List Expr) : List Expr :=
  if groupCountList es == 0 || linearAll es then es else [.atomic (.concat es)]

/-- the top-level concatenation with its delegated runs atomized (hard context) -/
def concatA (br : Nat → Bool) (es : List Expr) : Expr :=
  .concat (runA (es.take (concatSplit br es true).1) ++
    ((es.drop (concatSplit br es true).1).take ((concatSplit br es true).2 - (concatSplit br es true).1) ++
      runA (es.drop (concatSplit br es true).2)))

/-- the wrapped pattern `(?s:.)*?(raw)` with the runs of `raw = .concat es` atomized -/
def wrapA (br : Nat → Bool) (es : List Expr) : Expr :=
  .concat [.repeat (.any true) 0 none false, .group 0 (concatA br es)]

theorem semConcat_atomic_run (c : Ctx) (es : List Expr) (st : St) :
    semConcat c [.atomic (.concat es)] st = firstOnly (semConcat c es st) := by
  rw [semConcat_singleton]
  simp only [sem]

mutual
theorem groupCount_of_isLiteral : ∀ (e : Expr), isLiteral e = true → groupCount e = 0
  | .literal _ _, _ => rfl
  | .concat es, h => by
    simp only [isLiteral] at h; simp only [groupCount]; exact groupCountList_of_isLiteralAll es h
  | .empty, h => by simp [isLiteral] at h
  | .any _, h => by simp [isLiteral] at h
  | .assertion _, h => by simp [isLiteral] at h
  | .alt _, h => by simp [isLiteral] at h
  | .group _ _, h => by simp [isLiteral] at h
  | .look _ _, h => by simp [isLiteral] at h
  | .repeat _ _ _ _, h => by simp [isLiteral] at h
  | .delegate _ _ _, h => by simp [isLiteral] at h
  | .backref _, h => by simp [isLiteral] at h
  | .atomic _, h => by simp [isLiteral] at h
  | .keepOut, h => by simp [isLiteral] at h
  | .contPrev, h => by simp [isLiteral] at h
  | .backrefExists _, h => by simp [isLiteral] at h
  | .cond _ _ _, h => by simp [isLiteral] at h
  | .subroutine _, h => by simp [isLiteral] at h
theorem groupCountList_of_isLiteralAll : ∀ (es : List Expr), isLiteralAll es = true → groupCountList es = 0
  | [], _ => rfl
  | e :: es, h => by
    simp only [isLiteralAll, Bool.and_eq_true] at h
    simp only [groupCountList, groupCount_of_isLiteral e h.1, groupCountList_of_isLiteralAll es h.2]
end

/-- a run emitted by `compile_delegates` in a position whose continuation may come back, with NO demand
    on its capture groups: the code simulates the atomized run -/
theorem sim4_run (c : Ctx) (n nS : Nat) (prog : List Insn) (lo hi : Nat) (bal cm : Bool) (br : Nat → Bool)
    (es : List Expr) (gix a : Nat) (hlen : c.len < UNSET) (h : H3L n es gix) (heasy : isHardAny br es = false)
    (hcs : constSizeAll es = true) (hz : noBareEndZAll es = true)
    (hc : CodeAt prog a (compileDelegates es gix)) :
    Sim2 c n nS prog lo hi bal cm (semConcat c (runA es)) a (a + (compileDelegates es gix).length) := by
  by_cases hg0 : (groupCountList es == 0 || linearAll es) = true
  · simp only [runA, hg0, if_true]
    refine sim3_run c n nS prog lo hi bal cm br es gix a hlen h heasy hcs hz ?_ hc
    simpa using hg0
  · simp only [runA, hg0]
    have hgc : groupCountList es ≠ 0 := by
      intro h0; apply hg0; simp [h0]
    unfold compileDelegates at hc ⊢
    by_cases he : es.isEmpty = true
    · have : es = [] := by simpa using he
      subst this; exact absurd rfl hgc
    · by_cases hl : isLiteralAll es = true
      · exact absurd (groupCountList_of_isLiteralAll es hl) hgc
      · simp only [he, hl, Bool.false_eq_true, ↓reduceIte, List.length_cons, List.length_nil, Nat.zero_add] at hc ⊢
        have hp := pureAll_of_not_hard br es heasy
        have := sim2_delegate_first (lo := lo) (hi := hi) (bal := bal) (cm := cm) (nS := nS) hc.head hlen hp
          (numberedList_groupsIn es gix h.num) h.gn
        exact this.congr (fun st => (semConcat_atomic_run c es st).symm)

/-- **the top-level concatenation, hard context**: every child as in stage S3, no demand on the runs -/
theorem sim4_concat (c : Ctx) (n nS : Nat) (br : Nat → Bool) (hlen : c.len < UNSET)
    (es : List Expr) (pc nsv gix : Nat) (code : Code) (nsv' : Nat) (prog : List Insn)
    (hokAll : s3okAll br es = true) (hzAll : noBareEndZAll es = true) (h3 : H3 n (.concat es) gix)
    (hv : visit br (.concat es) true pc nsv gix = .ok (code, nsv')) (hc : CodeAt prog pc code) (hnn : n ≤ nsv) :
    nsv ≤ nsv' ∧ (nsv' ≤ nS → ∀ cm,
      Sim2 c n nS prog nsv nsv' (condFree (.concat es)) cm (sem c (concatA br es)) pc (pc + code.length)) := by
  have hrun : ∀ xs, isHardAny br xs = false → constSizeAll xs = true → noBareEndZAll xs = true → RunAs c n nS xs (runA xs) :=
    fun xs h1 h2 h3 prog lo hi bal cm gix a h hc => sim4_run c n nS prog lo hi bal cm br xs gix a hlen h h1 h2 h3 hc
  have hsuf := hrun _ (concatSplit_suffix_isHardAny br es true) (concatSplit_suffix_constSizeAll br es)
    (noBareEndZAll_drop es _ hzAll)
  have key := SimAs.concat (T := id) (hard := true) hlen (by simp)
    (hrun _ (concatSplit_prefix_isHardAny br es true) (concatSplit_prefix_constSizeAll br es true)
      (noBareEndZAll_take es _ hzAll))
    (by rw [if_pos rfl]; exact hsuf)
    (fun x hx pc nsv gix code nsv' prog => sim3_visit c n nS br hlen x true pc nsv gix code nsv' prog (s3okAll_mem hokAll x hx))
    pc nsv gix code nsv' prog h3 hv hc hnn
  rw [List.map_id] at key
  exact key.all

/-- **the wrapped pattern**: `(?s:.)*?(raw)` with `raw = .concat es` hard — the code `compile` emits
    simulates `sem c (wrapA br es)` under committing continuations -/
theorem sim4_wrapped (c : Ctx) (n nS : Nat) (br : Nat → Bool) (hlen : c.len < UNSET)
    (es : List Expr) (pc nsv : Nat) (code : Code) (nsv' : Nat) (prog : List Insn)
    (hhard : isHard br (.concat es) = true)
    (hokAll : s3okAll br es = true) (hzAll : noBareEndZAll es = true)
    (h3 : H3 n (.concat [.repeat (.any true) 0 none false, .group 0 (.concat es)]) 0)
    (hv : visit br (.concat [.repeat (.any true) 0 none false, .group 0 (.concat es)]) false pc nsv 0 = .ok (code, nsv'))
    (hc : CodeAt prog pc code) (hnn : n ≤ nsv) :
    nsv ≤ nsv' ∧ (nsv' ≤ nS →
      Sim2 c n nS prog nsv nsv' false true (sem c (wrapA br es)) pc (pc + code.length)) := by
  have hany : isHardAny br es = true := by simpa [isHard] using hhard
  have hgh : isHard br (.group 0 (.concat es)) = true := by simp [isHard, hany]
  have hwh : isHard br (.concat [.repeat (.any true) 0 none false, .group 0 (.concat es)]) = true := by
    simp [isHard, isHardAny, hany]
  obtain ⟨mid, hb, rfl⟩ := visit_concat_ok (by simp [hwh]) hv
  have hcd : ∀ g, compileDelegates [] g = [] := fun g => rfl
  simp only [concatSplit_wrapped br (.concat es) 0 hgh, List.take_zero, List.drop_zero, Nat.sub_zero, hcd, List.length_nil,
    Nat.add_zero, groupCountList, List.nil_append,
    show List.drop 2 [Expr.repeat (.any true) 0 none false, Expr.group 0 (.concat es)] = [] from rfl, List.append_nil]
    at hb hc ⊢
  obtain ⟨c1, nsv1, c2', hb1, hb2, rfl⟩ := visitMiddle_cons_ok hb
  obtain ⟨c2, nsv2, c3, hb2, hb3, rfl⟩ := visitMiddle_cons_ok hb2
  rw [visitMiddle_zero] at hb3
  cases hb3
  obtain ⟨code3, hb3, rfl⟩ := visit_group_ok (by simp) hb2
  obtain ⟨h3r, hLs⟩ := h3.concat.cons
  obtain ⟨h3g, _⟩ := hLs.cons
  rw [show groupCount (.repeat (.any true) 0 none false) = 0 by simp [groupCount], Nat.add_zero] at h3g
  -- the lazy `.*?`
  obtain ⟨hle1, s1⟩ := sim3_visit c n nS br hlen _ true pc nsv 0 c1 nsv1 prog (by simp [s3ok, minSize]) h3r hb1 hc.left hnn
  -- the group around the top-level concatenation
  have hcg := hc.right.left
  have hsb := h3g.sb
  simp only [slotsBelow, Bool.and_eq_true, decide_eq_true_eq] at hsb
  obtain ⟨hle3, sg⟩ := SimOf3.group (hard := true) (e := concatA br es) hcg hsb.1
    (let ⟨h, s⟩ := sim4_concat c n nS br hlen es (pc + c1.length + 1) nsv1 (0 + 1) code3 nsv' prog hokAll hzAll h3g.group.2
      hb3 hcg.bracket.2.1 (by omega); ⟨h, fun hnS cm _ => s hnS cm⟩)
  refine ⟨by omega, fun hnS => ?_⟩
  have s1' := (s1 (by omega) false (Or.inl rfl)).balTo (b2 := false) (by intro h; cases h)
  have sg' := (sg hnS true (Or.inl rfl)).balTo (b2 := false) (by intro h; cases h)
  exact ((s1'.seq sg' (keepsGood_sem c n _) hle1 hle3 (by omega) (by omega)).congr
    (g := sem c (wrapA br es)) (fun st => by
      simp only [wrapA, sem, semConcat]
      congr 1; funext r
      exact (semConcat_singleton c _ r).symm)).cast rfl (by addr)

end Fancy
