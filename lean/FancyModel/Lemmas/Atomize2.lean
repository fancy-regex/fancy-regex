import FancyModel.Lemmas.Atomize
/-!
# Stage S5, semantic half: atomizing the delegated runs anywhere in the tree does not change the first
result, when no back-reference / group test reads a slot owned by an atomized run

* `sem_agrR` (Lemmas/Atomize.lean): obliviousness of `sem` for expressions that do not READ `U` (they may write
  it: a run executed again in a loop overwrites its own slots identically on both sides).
* `DomAcc S L L'` / `Dom L L'`: the domination relation on result lists — `L'` keeps some elements of `L`
  (literally the same states, in order), and every dropped element is `Agr U`-related to an element kept
  EARLIER (`S` = the elements kept so far). Closed under `++`, `flatMap` with oblivious continuations,
  `map`, `filter`; a dominated list has the same `head?` (so `firstOnly`, emptiness, the condition of a
  conditional are the same).
* `dom_sem`: `Dom (sem c e st) (sem c (atomizeP br e hard) st)` for every constructor of the semantics —
  loops (greedy and lazy, every bound: `repLoop_dom`), look-aheads, look-behinds (`behindOne_dom`,
  `semBehindAlts_dom_of` for the backward reading of the body), atomic groups, conditionals. The induction
  (`dom_sem_both`) carries the backward reading `semBehind` along with `sem` (`DomBoth`), since a look-behind
  reads the alternatives of its body one by one.
* `atomizeP_head`: the two trees have the same first result.
-/
namespace Fancy

/-! ## domination of result lists -/

/-- `L'` keeps some elements of `L`, in order; every dropped one is `Agr U`-related to one kept earlier
    (`S`: the elements kept so far) -/
inductive DomAcc (U : List Nat) : List St → List St → List St → Prop where
  | nil {S : List St} : DomAcc U S [] []
  | keep {S : List St} {x : St} {L L' : List St} : DomAcc U (x :: S) L L' → DomAcc U S (x :: L) (x :: L')
  | drop {S : List St} {x : St} {L L' : List St} : (∃ z, z ∈ S ∧ Agr U x z) → DomAcc U S L L' →
      DomAcc U S (x :: L) L'

abbrev Dom (U : List Nat) (L L' : List St) : Prop := DomAcc U [] L L'

theorem DomAcc.mono {U : List Nat} {S S' L L' : List St} (h : DomAcc U S L L') (hs : ∀ z, z ∈ S → z ∈ S') :
    DomAcc U S' L L' := by
  induction h generalizing S' with
  | nil => exact .nil
  | keep _ ih => exact .keep (ih (fun z hz => by
      rcases List.mem_cons.mp hz with rfl | hz
      · simp
      · exact List.mem_cons_of_mem _ (hs z hz)))
  | drop hx _ ih =>
    obtain ⟨z, hz, hxz⟩ := hx
    exact .drop ⟨z, hs z hz, hxz⟩ (ih hs)

theorem DomAcc.refl (U : List Nat) (S L : List St) : DomAcc U S L L := by
  induction L generalizing S with
  | nil => exact .nil
  | cons x xs ih => exact .keep (ih _)

theorem DomAcc.append {U : List Nat} {S L1 L1' L2 L2' : List St} (h1 : DomAcc U S L1 L1')
    (h2 : DomAcc U (L1' ++ S) L2 L2') : DomAcc U S (L1 ++ L2) (L1' ++ L2') := by
  induction h1 with
  | nil => simpa using h2
  | keep _ ih =>
    exact .keep (ih (h2.mono (fun z hz => by
      simp only [List.cons_append, List.mem_cons, List.mem_append] at hz ⊢
      rcases hz with rfl | hz | hz
      · exact Or.inr (Or.inl rfl)
      · exact Or.inl hz
      · exact Or.inr (Or.inr hz))))
  | drop hx _ ih => exact .drop hx (ih h2)

theorem Dom.weaken {U : List Nat} {S L L' : List St} (h : Dom U L L') : DomAcc U S L L' := h.mono nofun

theorem Dom.append {U : List Nat} {L1 L1' L2 L2' : List St} (h1 : Dom U L1 L1') (h2 : Dom U L2 L2') :
    Dom U (L1 ++ L2) (L1' ++ L2') :=
  DomAcc.append h1 h2.weaken

/-- a list all of whose elements are related to something already kept is dropped entirely -/
theorem DomAcc.dropAll {U : List Nat} {S A L L' : List St} (hA : ∀ a, a ∈ A → ∃ z, z ∈ S ∧ Agr U a z)
    (h : DomAcc U S L L') : DomAcc U S (A ++ L) L' := by
  induction A with
  | nil => exact h
  | cons a as ih =>
    exact .drop (hA a (by simp)) (ih (fun x hx => hA x (by simp [hx])))

/-- every element of the full list is related to an element of the kept list or of `S` -/
theorem DomAcc.covered {U : List Nat} {S L L' : List St} (h : DomAcc U S L L') :
    ∀ a, a ∈ L → ∃ z, z ∈ L' ++ S ∧ Agr U a z := by
  induction h with
  | nil => intro a ha; cases ha
  | @keep S x L L' _ ih =>
    intro a ha
    rcases List.mem_cons.mp ha with rfl | ha
    · exact ⟨a, by simp, Agr.refl _ _⟩
    · obtain ⟨z, hz, haz⟩ := ih a ha
      refine ⟨z, ?_, haz⟩
      simp only [List.mem_append, List.mem_cons] at hz ⊢
      rcases hz with hz | rfl | hz
      · exact Or.inl (Or.inr hz)
      · exact Or.inl (Or.inl rfl)
      · exact Or.inr hz
  | drop hx _ ih =>
    intro a ha
    rcases List.mem_cons.mp ha with rfl | ha
    · obtain ⟨z, hz, haz⟩ := hx
      exact ⟨z, by simp [hz], haz⟩
    · exact ih a ha

theorem DomAcc.sub {U : List Nat} {S L L' : List St} (h : DomAcc U S L L') : ∀ a, a ∈ L' → a ∈ L := by
  induction h with
  | nil => intro a ha; cases ha
  | keep _ ih =>
    intro a ha
    rcases List.mem_cons.mp ha with rfl | ha
    · simp
    · exact List.mem_cons_of_mem _ (ih a ha)
  | drop _ _ ih => intro a ha; exact List.mem_cons_of_mem _ (ih a ha)

theorem Dom.head {U : List Nat} {L L' : List St} (h : Dom U L L') : L.head? = L'.head? := by
  cases h with
  | nil => rfl
  | keep _ => rfl
  | drop hx _ => obtain ⟨z, hz, _⟩ := hx; cases hz

theorem Dom.isEmpty {U : List Nat} {L L' : List St} (h : Dom U L L') : L.isEmpty = L'.isEmpty := by
  have := h.head
  cases L <;> cases L' <;> simp_all

theorem Dom.firstOnly {U : List Nat} {L L' : List St} (h : Dom U L L') : firstOnly L = firstOnly L' := by
  simp only [Fancy.firstOnly, h.head]

theorem LR.mem_left {R : St → St → Prop} {l1 l2 : List St} (h : LR R l1 l2) :
    ∀ a, a ∈ l1 → ∃ b, b ∈ l2 ∧ R a b := by
  induction h with
  | nil => intro a ha; cases ha
  | cons hab _ ih =>
    intro a ha
    rcases List.mem_cons.mp ha with rfl | ha
    · exact ⟨_, by simp, hab⟩
    · obtain ⟨b, hb, hr⟩ := ih a ha
      exact ⟨b, List.mem_cons_of_mem _ hb, hr⟩

/-- **closure under `flatMap`**: the continuations `k` (full) and `k'` (atomized) are dominated from every
    state that occurs, and the full continuation is oblivious -/
theorem DomAcc.flatMap {U : List Nat} {S L L' : List St} {k k' : St → List St} (h : DomAcc U S L L')
    (hk : ∀ r, (r ∈ L ∨ r ∈ S) → Dom U (k r) (k' r))
    (hobl : ∀ r z, Agr U r z → LR (Agr U) (k r) (k z)) :
    DomAcc U (S.flatMap k') (L.flatMap k) (L'.flatMap k') := by
  induction h with
  | nil => exact .nil
  | @keep S x L L' _ ih =>
    simp only [List.flatMap_cons]
    refine DomAcc.append (hk x (Or.inl (by simp))).weaken ?_
    have := ih (fun r hr => hk r (by
      rcases hr with hr | hr
      · exact Or.inl (List.mem_cons_of_mem _ hr)
      · rcases List.mem_cons.mp hr with rfl | hr
        · exact Or.inl (by simp)
        · exact Or.inr hr))
    simpa [List.flatMap_cons] using this
  | @drop S x L L' hx _ ih =>
    simp only [List.flatMap_cons]
    obtain ⟨z, hz, hxz⟩ := hx
    refine DomAcc.dropAll (fun a ha => ?_) (ih (fun r hr => hk r (by
      rcases hr with hr | hr
      · exact Or.inl (List.mem_cons_of_mem _ hr)
      · exact Or.inr hr)))
    obtain ⟨b, hb, hab⟩ := (hobl x z hxz).mem_left a ha
    obtain ⟨w, hw, hbw⟩ := (hk z (Or.inr hz)).covered b hb
    simp only [List.append_nil] at hw
    exact ⟨w, List.mem_flatMap.mpr ⟨z, hz, hw⟩, hab.trans hbw⟩

theorem Dom.flatMap {U : List Nat} {L L' : List St} {k k' : St → List St} (h : Dom U L L')
    (hk : ∀ r, r ∈ L → Dom U (k r) (k' r))
    (hobl : ∀ r z, Agr U r z → LR (Agr U) (k r) (k z)) :
    Dom U (L.flatMap k) (L'.flatMap k') := by
  have := DomAcc.flatMap h (fun r hr => hk r (by rcases hr with hr | hr; exact hr; cases hr)) hobl
  simpa using this

theorem DomAcc.map {U : List Nat} {S L L' : List St} {f : St → St} (h : DomAcc U S L L')
    (hf : ∀ a z, Agr U a z → Agr U (f a) (f z)) : DomAcc U (S.map f) (L.map f) (L'.map f) := by
  induction h with
  | nil => exact .nil
  | keep _ ih => exact .keep (by simpa using ih)
  | drop hx _ ih =>
    obtain ⟨z, hz, hxz⟩ := hx
    exact .drop ⟨f z, List.mem_map.mpr ⟨z, hz, rfl⟩, hf _ _ hxz⟩ ih

theorem DomAcc.filter {U : List Nat} {S L L' : List St} {p : St → Bool} (h : DomAcc U S L L')
    (hp : ∀ a z, Agr U a z → p a = p z) : DomAcc U (S.filter p) (L.filter p) (L'.filter p) := by
  induction h with
  | nil => exact .nil
  | @keep S x L L' _ ih =>
    simp only [List.filter_cons] at ih ⊢
    split
    · rename_i hx; simp only [hx, if_true] at ih; exact .keep ih
    · rename_i hx; simp only [hx] at ih; exact ih
  | @drop S x L L' hx _ ih =>
    obtain ⟨z, hz, hxz⟩ := hx
    simp only [List.filter_cons]
    split
    · rename_i hpx
      exact .drop ⟨z, List.mem_filter.mpr ⟨hz, by rw [← hp x z hxz]; exact hpx⟩, hxz⟩ ih
    · exact ih

/-- the list version over a plain list: piecewise domination -/
theorem Dom.flatMap_same {α : Type} {U : List Nat} (l : List α) {f g : α → List St}
    (h : ∀ x, x ∈ l → Dom U (f x) (g x)) : Dom U (l.flatMap f) (l.flatMap g) := by
  induction l with
  | nil => exact .nil
  | cons x xs ih =>
    simp only [List.flatMap_cons]
    exact (h x (by simp)).append (ih fun y hy => h y (by simp [hy]))

/-- a run all of whose results are pairwise related is dominated by its first result -/
theorem Dom.firstOf {U : List Nat} (L : List St) (h : ∀ r, r ∈ L → ∀ q, q ∈ L → Agr U r q) :
    Dom U L (Fancy.firstOnly L) := by
  cases L with
  | nil => exact .nil
  | cons x xs =>
    simp only [Fancy.firstOnly, List.head?_cons, Option.toList_some]
    refine .keep ?_
    have : DomAcc U [x] (xs ++ []) [] :=
      DomAcc.dropAll (fun a ha => ⟨x, by simp, h a (by simp [ha]) x (by simp)⟩) .nil
    simpa using this

theorem DomAcc.ite {U : List Nat} {S L1 L1' L2 L2' : List St} {p : Prop} [Decidable p] (h1 : DomAcc U S L1 L1')
    (h2 : DomAcc U S L2 L2') : DomAcc U S (if p then L1 else L2) (if p then L1' else L2') := by
  split
  · exact h1
  · exact h2

/-! ## the atomized tree is dominated by the original one -/

theorem atomizeP_easy (br : Nat → Bool) (e : Expr) (hard : Bool) (h : (!hard && !isHard br e) = true) :
    atomizeP br e hard = e := by
  rw [atomizeP.eq_def]; simp only [h, ↓reduceIte]

theorem atomizeAll_eq_map (br : Nat → Bool) : ∀ (es : List Expr), atomizeAll br es = es.map fun e => atomizeP br e true
  | [] => rfl
  | e :: es => by simp only [atomizeAll, List.map_cons, atomizeAll_eq_map br es]

theorem atomizeAlts_eq_map (br : Nat → Bool) (hard : Bool) :
    ∀ (es : List Expr), atomizeAlts br es hard = es.map fun e => atomizeP br e hard
  | [] => rfl
  | e :: es => by simp only [atomizeAlts, List.map_cons, atomizeAlts_eq_map br hard es]

theorem noReadAll_of_mem {U : List Nat} : ∀ (es : List Expr), (∀ e, e ∈ es → noRead U e = true) → noReadAll U es = true
  | [], _ => rfl
  | e :: es, h => by
    simp only [noReadAll, Bool.and_eq_true]
    exact ⟨h e (by simp), noReadAll_of_mem es (fun x hx => h x (by simp [hx]))⟩

theorem s5okAll_mem (br : Nat → Bool) : ∀ (es : List Expr), s5okAll br es = true → ∀ e, e ∈ es → s5ok br e true = true
  | [], _, e, he => by cases he
  | x :: xs, h, e, he => by
    simp only [s5okAll, Bool.and_eq_true] at h
    rcases List.mem_cons.mp he with rfl | he
    · exact h.1
    · exact s5okAll_mem br xs h.2 e he

theorem s5okAlts_mem (br : Nat → Bool) (hard : Bool) :
    ∀ (es : List Expr), s5okAlts br es hard = true → ∀ e, e ∈ es → s5ok br e hard = true
  | [], _, e, he => by cases he
  | x :: xs, h, e, he => by
    simp only [s5okAlts, Bool.and_eq_true] at h
    rcases List.mem_cons.mp he with rfl | he
    · exact h.1
    · exact s5okAlts_mem br hard xs h.2 e he

theorem mem_atzSlotsAll (br : Nat → Bool) : ∀ (es : List Expr) (e : Expr), e ∈ es → ∀ i, i ∈ atzSlots br e true →
    i ∈ atzSlotsAll br es
  | [], e, he, _, _ => by cases he
  | x :: xs, e, he, i, hi => by
    simp only [atzSlotsAll, List.mem_append]
    rcases List.mem_cons.mp he with rfl | he
    · exact Or.inl hi
    · exact Or.inr (mem_atzSlotsAll br xs e he i hi)

theorem mem_atzSlotsAlts (br : Nat → Bool) (hard : Bool) : ∀ (es : List Expr) (e : Expr), e ∈ es →
    ∀ i, i ∈ atzSlots br e hard → i ∈ atzSlotsAlts br es hard
  | [], e, he, _, _ => by cases he
  | x :: xs, e, he, i, hi => by
    simp only [atzSlotsAlts, List.mem_append]
    rcases List.mem_cons.mp he with rfl | he
    · exact Or.inl hi
    · exact Or.inr (mem_atzSlotsAlts br hard xs e he i hi)

theorem wellShapedAll_mem' : ∀ (es : List Expr), wellShapedAll es = true → ∀ e, e ∈ es → wellShaped e = true
  | [], _, e, he => by cases he
  | x :: xs, h, e, he => by
    simp only [wellShapedAll, Bool.and_eq_true] at h
    rcases List.mem_cons.mp he with rfl | he
    · exact h.1
    · exact wellShapedAll_mem' xs h.2 e he

section Main
variable (c : Ctx) (n : Nat) (U : List Nat)

/-- a delegated run: dominated by its atomized form -/
theorem runDom (hlen : c.len < UNSET) (X : List Expr) (hw : wellShapedAll X = true) (hcs : constSizeAll X = true)
    (hz : noBareEndZAll X = true) (hU : ∀ i, i ∈ runSlots X → i ∈ U) (st : St) (hg : st.Good c n) :
    Dom U (semConcat c X st) (semConcat c (runA5 X) st) := by
  unfold runA5
  split
  · exact DomAcc.refl _ _ _
  · rename_i hc
    rw [semConcat_atomic_run]
    refine Dom.firstOf _ (fun r hr q hq => ?_)
    have hUo : ∀ i, i ∈ ownSlotsList X → i ∈ U := by
      intro i hi
      apply hU
      simp only [runSlots, hc, ownSlotsListS_eq]
      exact hi
    have hgr := semConcat_good c n _ st r hg hr
    have hgq := semConcat_good c n _ st q hg hq
    have hixr := const_exact_concat c X hw hcs hz st r hr (by have := hgr.ix; omega)
    have hixq := const_exact_concat c X hw hcs hz st q hq (by have := hgq.ix; omega)
    have hfr := semConcat_frame c X st r hr
    have hfq := semConcat_frame c X st q hq
    exact ⟨by omega, hfr.1.trans hfq.1.symm, fun i hi =>
      (hfr.2 i (fun h => hi (hUo i h))).trans (hfq.2 i (fun h => hi (hUo i h))).symm⟩

/-- a concatenation whose children are dominated one by one -/
theorem semConcat_dom_of (f : Expr → Expr) : ∀ (es : List Expr),
    (∀ e, e ∈ es → ∀ st, st.Good c n → Dom U (sem c e st) (sem c (f e) st)) →
    (∀ e, e ∈ es → noRead U e = true) → ∀ st, st.Good c n →
    Dom U (semConcat c es st) (semConcat c (es.map f) st)
  | [], _, _, st, _ => by simp only [List.map_nil, semConcat]; exact DomAcc.refl _ _ _
  | e :: es, hT, hnr, st, hg => by
    simp only [List.map_cons, semConcat]
    refine (hT e (by simp) st hg).flatMap (fun r hr => ?_) (fun r z hrz => ?_)
    · exact semConcat_dom_of f es (fun e' he' => hT e' (by simp [he'])) (fun e' he' => hnr e' (by simp [he']))
        r (sem_good c n e st r hg hr)
    · exact semConcat_agrR c U es r z (noReadAll_of_mem es (fun e' he' => hnr e' (by simp [he']))) hrz

theorem semAlt_dom_of (f : Expr → Expr) : ∀ (es : List Expr),
    (∀ e, e ∈ es → ∀ st, st.Good c n → Dom U (sem c e st) (sem c (f e) st)) → ∀ st, st.Good c n →
    Dom U (semAlt c es st) (semAlt c (es.map f) st)
  | [], _, st, _ => by simp only [List.map_nil, semAlt]; exact .nil
  | e :: es, hT, st, hg => by
    simp only [List.map_cons, semAlt]
    exact (hT e (by simp) st hg).append (semAlt_dom_of f es (fun e' he' => hT e' (by simp [he'])) st hg)

/-- the loop over a dominated body -/
theorem repLoop_dom (body body' : St → List St)
    (hb : ∀ st, st.Good c n → Dom U (body st) (body' st))
    (hobl : ∀ a b, Agr U a b → LR (Agr U) (body a) (body b))
    (hkg : ∀ st r, st.Good c n → r ∈ body st → r.Good c n)
    (lo : Nat) (hi : Option Nat) (greedy : Bool) :
    ∀ (fuel count : Nat) (st : St), st.Good c n →
      Dom U (repLoop body lo hi greedy fuel count st) (repLoop body' lo hi greedy fuel count st)
  | 0, _, _, _ => .nil
  | fuel + 1, count, st, hg => by
    have hiters : Dom U (repStep body lo hi (repLoop body lo hi greedy fuel) count st)
        (repStep body' lo hi (repLoop body' lo hi greedy fuel) count st) := by
      refine (hb st hg).flatMap (fun r hr => ?_) (fun r z hrz => ?_)
      · exact .ite (.refl _ _ _)
          (repLoop_dom body body' hb hobl hkg lo hi greedy fuel (count + 1) r (hkg st r hg hr))
      · rw [hrz.1]
        exact .ite (.single hrz) (repLoop_agr body hobl lo hi greedy fuel (count + 1) r z hrz)
    rw [repLoop_step, repLoop_step]
    exact .ite (.refl _ _ _) (.ite hiters (.ite (hiters.append (.refl _ _ _)) (.keep hiters.weaken)))

theorem behindOne_dom (body body' : St → List St)
    (hb : ∀ st, st.Good c n → Dom U (body st) (body' st)) (st : St) (hg : st.Good c n) :
    Dom U (behindOne body st) (behindOne body' st) := by
  unfold behindOne
  refine Dom.flatMap_same _ (fun k _ => ?_)
  have := (hb { st with ix := st.ix - k } (hg.withIx _ (by have := hg.ix; omega))).filter
    (p := fun r => r.ix == st.ix) (fun a z haz => by rw [haz.1])
  simpa using this

theorem semBehindAlts_dom_of (f : Expr → Expr) : ∀ (es : List Expr),
    (∀ e, e ∈ es → ∀ st, st.Good c n → Dom U (sem c e st) (sem c (f e) st)) → ∀ st, st.Good c n →
    Dom U (semBehindAlts c es st) (semBehindAlts c (es.map f) st)
  | [], _, st, _ => by simp only [List.map_nil, semBehindAlts]; exact .nil
  | e :: es, hT, st, hg => by
    simp only [List.map_cons, semBehindAlts]
    exact (behindOne_dom c n U _ _ (hT e (by simp)) st hg).append
      (semBehindAlts_dom_of f es (fun e' he' => hT e' (by simp [he'])) st hg)

/-- `e'` is dominated by `e` from every good state, read forwards and read backwards as the body of a
    look-behind -/
def DomBoth (e e' : Expr) : Prop :=
  (∀ st, st.Good c n → Dom U (sem c e st) (sem c e' st)) ∧
    ∀ st, st.Good c n → Dom U (semBehind c e st) (semBehind c e' st)

theorem DomBoth.refl (e : Expr) : DomBoth c n U e e :=
  ⟨fun _ _ => DomAcc.refl _ _ _, fun _ _ => DomAcc.refl _ _ _⟩

/-- when neither is an alternation the backward reading is that of the forward semantics -/
theorem DomBoth.of_not_alt {e e' : Expr} (hna : ∀ es, e ≠ .alt es) (hna' : ∀ es, e' ≠ .alt es)
    (h : ∀ st, st.Good c n → Dom U (sem c e st) (sem c e' st)) : DomBoth c n U e e' :=
  ⟨h, fun st hg => by
    rw [semBehind_of_not_alt c hna, semBehind_of_not_alt c hna']; exact behindOne_dom c n U _ _ h st hg⟩

theorem DomBoth.alt (f : Expr → Expr) (es : List Expr)
    (h : ∀ e, e ∈ es → ∀ st, st.Good c n → Dom U (sem c e st) (sem c (f e) st)) :
    DomBoth c n U (.alt es) (.alt (es.map f)) :=
  ⟨fun st hg => by simp only [sem]; exact semAlt_dom_of c n U f es h st hg,
    fun st hg => by simp only [semBehind]; exact semBehindAlts_dom_of c n U f es h st hg⟩

/-- a subtree the compiler delegates as a whole is left as it is -/
theorem DomBoth.of_hard (br : Nat → Bool) {e : Expr} {hard : Bool}
    (h : ¬(!hard && !isHard br e) = true → DomBoth c n U e (atomizeP br e hard)) :
    DomBoth c n U e (atomizeP br e hard) := by
  by_cases hdel : (!hard && !isHard br e) = true
  · rw [atomizeP_easy br e hard hdel]; exact .refl c n U e
  · exact h hdel

theorem dom_sem_both (br : Nat → Bool) (hlen : c.len < UNSET) (e : Expr) : ∀ (hard : Bool), s5ok br e hard = true →
    wellShaped e = true → noRead U e = true → (∀ i, i ∈ atzSlots br e hard → i ∈ U) →
    DomBoth c n U e (atomizeP br e hard) := by
  induction e using Expr.induct with
  | concat es ih =>
    intro hard hok hw hnr hU
    refine .of_hard c n U br fun hdel => .of_not_alt c n U nofun ?_ fun st hg => ?_
    · rw [atomizeP]; simp only [hdel, Bool.false_eq_true, ↓reduceIte]; nofun
    rw [atomizeP]; rw [s5ok] at hok; rw [atzSlots] at hU
    simp only [hdel, Bool.false_eq_true, ↓reduceIte, Bool.and_eq_true] at hok hU ⊢
    simp only [wellShaped] at hw
    simp only [noRead] at hnr
    generalize hsp : concatSplit br es hard = sp at hU ⊢
    have hle := concatSplit_le br es hard
    rw [hsp] at hle
    have hnrm := noReadAll_mem es hnr
    have hrest : es.drop sp.1 = (es.drop sp.1).take (sp.2 - sp.1) ++ es.drop sp.2 := by
      have h1 : es.drop sp.1 = (es.drop sp.1).take (sp.2 - sp.1) ++ (es.drop sp.1).drop (sp.2 - sp.1) :=
        (List.take_append_drop _ _).symm
      have h2 : (es.drop sp.1).drop (sp.2 - sp.1) = es.drop sp.2 := by
        rw [List.drop_drop]; congr 1; omega
      rw [← h2, ← h1]
    have hmidA : ((atomizeAll br es).drop sp.1).take (sp.2 - sp.1) =
        ((es.drop sp.1).take (sp.2 - sp.1)).map fun e => atomizeP br e true := by
      rw [atomizeAll_eq_map, ← List.map_drop, ← List.map_take]
    rw [hmidA]
    -- the three parts of the full semantics
    have hfull : sem c (.concat es) st = (semConcat c (es.take sp.1) st).flatMap fun r =>
        (semConcat c ((es.drop sp.1).take (sp.2 - sp.1)) r).flatMap (semConcat c (es.drop sp.2)) := by
      simp only [sem]
      conv => lhs; rw [← List.take_append_drop sp.1 es]
      rw [semConcat_append]
      congr 1; funext r
      conv => lhs; rw [hrest]
      exact semConcat_append c _ _ r
    rw [hfull]
    simp only [sem]
    rw [semConcat_append]
    have hsuf : ∀ r, r.Good c n →
        Dom U (semConcat c (es.drop sp.2) r)
          (semConcat c (if hard = true then runA5 (es.drop sp.2) else es.drop sp.2) r) := by
      intro r hr
      cases hard with
      | false => exact DomAcc.refl _ _ _
      | true =>
        simp only [if_true]
        exact runDom c n U hlen (es.drop sp.2) (wellShapedAll_drop es sp.2 hw)
          (by rw [← hsp]; exact concatSplit_suffix_constSizeAll br es)
          (noBareEndZAll_drop es sp.2 hok.2)
          (fun i hi => hU i (by simp only [List.mem_append, if_true]; exact Or.inr (Or.inr hi))) r hr
    refine (runDom c n U hlen (es.take sp.1) (wellShapedAll_take es sp.1 hw)
      (by rw [← hsp]; exact concatSplit_prefix_constSizeAll br es hard)
      (noBareEndZAll_take es sp.1 hok.2)
      (fun i hi => hU i (by simp only [List.mem_append]; exact Or.inl hi)) st hg).flatMap
        (fun r hr => ?_) (fun r z hrz => ?_)
    · have hrg := semConcat_good c n _ st r hg hr
      rw [semConcat_append]
      refine (semConcat_dom_of c n U (fun e => atomizeP br e true) ((es.drop sp.1).take (sp.2 - sp.1))
        (fun e' he' => ?_) (fun e' he' => hnrm e' (List.mem_of_mem_drop (List.mem_of_mem_take he')))
        r hrg).flatMap (fun r2 hr2 => hsuf r2 (semConcat_good c n _ r r2 hrg hr2))
        (fun r2 z2 h2 => semConcat_agrR c U _ r2 z2
          (noReadAll_of_mem _ (fun e' he' => hnrm e' (List.mem_of_mem_drop he'))) h2)
      have hmem : e' ∈ es := List.mem_of_mem_drop (List.mem_of_mem_take he')
      exact (ih e' hmem true (s5okAll_mem br es hok.1 e' hmem) (wellShapedAll_mem' es hw e' hmem) (hnrm e' hmem)
        (fun i hi => hU i (by
          simp only [List.mem_append]
          exact Or.inr (Or.inl (mem_atzSlotsAll br es e' hmem i hi))))).1
    · have hnr2 : noReadAll U (es.drop sp.1) = true :=
        noReadAll_of_mem _ (fun e' he' => hnrm e' (List.mem_of_mem_drop he'))
      have := semConcat_agrR c U (es.drop sp.1) r z hnr2 hrz
      rw [hrest, semConcat_append, semConcat_append] at this
      exact this
  | alt es ih =>
    intro hard hok hw hnr hU
    refine .of_hard c n U br fun hdel => ?_
    rw [atomizeP]; rw [s5ok] at hok; rw [atzSlots] at hU
    simp only [hdel, Bool.false_eq_true, ↓reduceIte, Bool.and_eq_true] at hok hU ⊢
    simp only [wellShaped, Bool.and_eq_true] at hw
    simp only [noRead] at hnr
    rw [atomizeAlts_eq_map]
    exact .alt c n U _ es fun e' he' =>
      (ih e' he' hard (s5okAlts_mem br hard es hok.2 e' he') (wellShapedAll_mem' es hw.2 e' he')
        (noReadAll_mem es hnr e' he') (fun i hi => hU i (mem_atzSlotsAlts br hard es e' he' i hi))).1
  | group g e ih =>
    intro hard hok hw hnr hU
    refine .of_hard c n U br fun hdel => ?_
    rw [atomizeP]; rw [s5ok] at hok; rw [atzSlots] at hU
    simp only [hdel, Bool.false_eq_true, ↓reduceIte] at hok hU ⊢
    simp only [wellShaped] at hw
    simp only [noRead] at hnr
    refine .of_not_alt c n U nofun nofun fun st hg => ?_
    simp only [sem]
    have := ((ih hard hok hw hnr hU).1 (st.setSlot (2 * g) (some st.ix)) (hg.setSlot _ _ hg.ix)).map
      (f := fun r => r.setSlot (2 * g + 1) (some r.ix)) (fun a z haz => by rw [haz.1]; exact haz.setSlot _ _)
    simpa using this
  | «repeat» e lo hi greedy ih =>
    intro hard hok hw hnr hU
    refine .of_hard c n U br fun hdel => ?_
    rw [atomizeP]; rw [s5ok] at hok; rw [atzSlots] at hU
    simp only [hdel, Bool.false_eq_true, ↓reduceIte] at hok hU ⊢
    simp only [wellShaped] at hw
    simp only [noRead] at hnr
    refine .of_not_alt c n U nofun nofun fun st hg => ?_
    simp only [sem]
    refine repLoop_dom c n U (sem c e) _ ?_
      (fun a b hab => sem_agrR c U e a b hnr hab) (fun st' r hg' hr => sem_good c n e st' r hg' hr)
      lo hi greedy _ 0 st hg
    by_cases hopt : (lo == 0 && hi == some 1) = true
    · simp only [hopt, if_true, Bool.and_eq_true] at hok hU ⊢
      exact (ih hard hok.1 hw hnr hU).1
    · simp only [hopt, Bool.false_eq_true, if_false, Bool.and_eq_true] at hok hU ⊢
      exact (ih true hok.1 hw hnr hU).1
  | look e la ih =>
    intro hard hok hw hnr hU
    rw [atomizeP]; rw [atzSlots] at hU
    simp only [isHard, Bool.not_true, Bool.and_false, Bool.false_eq_true, ↓reduceIte] at hU ⊢
    simp only [wellShaped] at hw
    simp only [noRead] at hnr
    have hoke : s5ok br e false = true := by
      cases la with
      | ahead =>
        rw [s5ok] at hok
        simp only [isHard, Bool.not_true, Bool.and_false, Bool.false_eq_true, ↓reduceIte, Bool.and_eq_true] at hok
        exact hok.1
      | aheadNeg =>
        rw [s5ok] at hok
        simp only [isHard, Bool.not_true, Bool.and_false, Bool.false_eq_true, ↓reduceIte] at hok
        exact hok
      | behind =>
        rw [s5ok] at hok
        simp only [isHard, Bool.not_true, Bool.and_false, Bool.false_eq_true, ↓reduceIte, Bool.and_eq_true] at hok
        exact hok.1.1
      | behindNeg =>
        rw [s5ok] at hok
        simp only [isHard, Bool.not_true, Bool.and_false, Bool.false_eq_true, ↓reduceIte, Bool.and_eq_true] at hok
        exact hok.1
    obtain ⟨ihe, hbeh⟩ := ih false hoke hw hnr hU
    refine .of_not_alt c n U nofun nofun fun st hg => ?_
    cases la with
    | ahead => simp only [sem, (ihe st hg).firstOnly]; exact DomAcc.refl _ _ _
    | aheadNeg => simp only [sem, (ihe st hg).isEmpty]; exact DomAcc.refl _ _ _
    | behind => simp only [sem, (hbeh st hg).firstOnly]; exact DomAcc.refl _ _ _
    | behindNeg => simp only [sem, (hbeh st hg).isEmpty]; exact DomAcc.refl _ _ _
  | atomic e ih =>
    intro hard hok hw hnr hU
    rw [atomizeP]; rw [s5ok] at hok; rw [atzSlots] at hU
    simp only [isHard, Bool.not_true, Bool.and_false, Bool.false_eq_true, ↓reduceIte, Bool.and_eq_true] at hok hU ⊢
    simp only [wellShaped] at hw
    simp only [noRead] at hnr
    refine .of_not_alt c n U nofun nofun fun st hg => ?_
    simp only [sem, ((ih false hok.1 hw hnr hU).1 st hg).firstOnly]
    exact DomAcc.refl _ _ _
  | cond cnd y no ihc ihy ihn =>
    intro hard hok hw hnr hU
    rw [atomizeP]; rw [s5ok] at hok; rw [atzSlots] at hU
    simp only [isHard, Bool.not_true, Bool.and_false, Bool.false_eq_true, ↓reduceIte, Bool.and_eq_true] at hok hU ⊢
    simp only [wellShaped, Bool.and_eq_true] at hw
    simp only [noRead, Bool.and_eq_true] at hnr
    refine .of_not_alt c n U nofun nofun fun st hg => ?_
    have hc := (ihc hard hok.1.1.1 hw.1.1 hnr.1.1
      (fun i hi => hU i (by simp only [List.mem_append]; exact Or.inl hi))).1 st hg
    simp only [sem, ← hc.head]
    cases hh : (sem c cnd st).head? with
    | none =>
      exact (ihn hard hok.2 hw.2 hnr.2
        (fun i hi => hU i (by simp only [List.mem_append]; exact Or.inr (Or.inr hi)))).1 st hg
    | some r =>
      exact (ihy hard hok.1.2 hw.1.2 hnr.1.2
        (fun i hi => hU i (by simp only [List.mem_append]; exact Or.inr (Or.inl hi)))).1 r
        (sem_good c n cnd st r hg (List.mem_of_mem_head? hh))
  | _ =>
    intro hard _ _ _ _
    refine .of_hard c n U br fun hdel => ?_
    rw [atomizeP.eq_def]
    simp only [hdel, Bool.false_eq_true, ↓reduceIte]
    exact .refl c n U _

section
variable (br : Nat → Bool) (hlen : c.len < UNSET)

include hlen in
/-- **the atomized tree is dominated by the original one**, from every good state -/
theorem dom_sem : ∀ (e : Expr) (hard : Bool), s5ok br e hard = true → wellShaped e = true → noRead U e = true →
    (∀ i, i ∈ atzSlots br e hard → i ∈ U) → ∀ st, st.Good c n →
    Dom U (sem c e st) (sem c (atomizeP br e hard) st) :=
  fun e hard hok hw hnr hU => (dom_sem_both c n U br hlen e hard hok hw hnr hU).1

include hlen in
/-- **the two trees have the same first result** -/
theorem atomizeP_head (e : Expr) (hard : Bool) (hok : s5ok br e hard = true) (hw : wellShaped e = true)
    (hnr : noRead U e = true) (hU : ∀ i, i ∈ atzSlots br e hard → i ∈ U) (st : St) (hg : st.Good c n) :
    (sem c (atomizeP br e hard) st).head? = (sem c e st).head? :=
  (dom_sem c n U br hlen e hard hok hw hnr hU st hg).head.symm

end

end Main

end Fancy
