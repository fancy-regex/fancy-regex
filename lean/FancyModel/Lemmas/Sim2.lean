import FancyModel.Lemmas.AVM2Defs
import FancyModel.Lemmas.Sim
/-!
# Simulation against the full machine (engine refinement, stage S2): definitions and structural rules

`Sim2 … sm a b`: with the code of an expression at addresses `[a, b)`, the structured whole-copy
machine (`Big2`, every instruction) started at `a` in the machine image of `st` computes
`(sm st).foldr succ failA` — "try the results of the reference semantics in priority order".

Compared with `Sim` (stage S1) the statement carries what the remaining instructions need:

* the machine's ordinary slots are `unview st.slots ++ aux`: the capture slots followed by the
  auxiliary slots (loop counters, saved look-around positions). Code that owns the auxiliary slots
  `[lo, hi)` may change only those (`AuxAgree`); the continuation has to accept any values there.
* the auxiliary stack `astk` (of `BeginAtomic`/`EndAtomic`) is handed back unchanged when the code is
  *balanced*; unbalanced code (a conditional's false path never pops its entry — finding F8) hands
  back `junk ++ astk`. Atomic groups, atomic look-arounds and conditions need a balanced body.
* every alternative the code leaves on the branch stack has its pc inside `[a, b]` — what
  `FailNegativeLookAround`'s pop-until-marker relies on.
* the continuation is *parametric* in what failing back yields (`Par`): for each result it either
  passes the failure through or gives an answer that does not depend on it. In a committing context
  (`cm = true`: the continuation never fails back — the bodies of atomic groups and look-arounds,
  which the compiler visits in a non-hard context) it is `Commit`.
-/
namespace Fancy

/-- for each result: pass through, or an answer independent of what failing back yields -/
def Par (succ : St → Ans → Ans) : Prop :=
  ∀ r, (∀ acc, succ r acc = acc) ∨ (∃ a, ∀ acc, succ r acc = a)

/-- the continuation never comes back -/
def Commit (succ : St → Ans → Ans) : Prop := ∀ r acc acc', succ r acc = succ r acc'

def SuccOK (cm : Bool) (succ : St → Ans → Ans) : Prop := if cm then Commit succ else Par succ

theorem Commit.par {succ : St → Ans → Ans} (h : Commit succ) : Par succ :=
  fun r => Or.inr ⟨succ r .noMatch, fun acc => h r acc .noMatch⟩

theorem SuccOK.par {cm : Bool} {succ : St → Ans → Ans} (h : SuccOK cm succ) : Par succ := by
  cases cm with
  | true => exact Commit.par (by simpa [SuccOK] using h)
  | false => simpa [SuccOK] using h

theorem SuccOK.ofCommit {cm : Bool} {succ : St → Ans → Ans} (h : Commit succ) : SuccOK cm succ := by
  cases cm with
  | true => simpa [SuccOK] using h
  | false => simpa [SuccOK] using h.par

/-- trying a list of results under a parametric continuation is parametric -/
theorem Par.foldr_list {succ : St → Ans → Ans} (h : Par succ) (l : List St) :
    (∀ acc, l.foldr succ acc = acc) ∨ (∃ a, ∀ acc, l.foldr succ acc = a) := by
  induction l with
  | nil => left; intro acc; rfl
  | cons q qs ih =>
    simp only [List.foldr_cons]
    rcases h q with hq | ⟨a, hq⟩
    · rcases ih with h1 | ⟨a, h1⟩
      · left; intro acc; rw [hq, h1]
      · right; exact ⟨a, fun acc => by rw [hq, h1]⟩
    · right; exact ⟨a, fun acc => hq _⟩

theorem Par.foldr {succ : St → Ans → Ans} (h : Par succ) (F : St → List St) :
    Par (fun r acc => (F r).foldr succ acc) := fun r => h.foldr_list (F r)

theorem Par.const (f : St → Ans) : Par (fun r _ => f r) := fun r => Or.inr ⟨f r, fun _ => rfl⟩
theorem Commit.const (f : St → Ans) : Commit (fun r _ => f r) := fun _ _ _ => rfl

/-- a committing continuation passes nothing through: only the empty list of results does -/
theorem Commit.not_pass {succ : St → Ans → Ans} (hc : Commit succ) (q : St) (qs : List St) :
    ¬ ∀ acc, (q :: qs).foldr succ acc = acc := by
  intro h
  have h1 := h .noMatch
  have h2 := h (.matched [])
  simp only [List.foldr_cons] at h1 h2
  rw [hc q _ (qs.foldr succ .noMatch), h1] at h2
  cases h2

/-- `aux'` agrees with `aux` outside the owned slots `[lo, hi)` (absolute slot numbers, the auxiliary
    slots start at `n`) -/
def AuxAgree (n lo hi : Nat) (aux aux' : List Nat) : Prop :=
  aux'.length = aux.length ∧ ∀ j, n ≤ j → (j < lo ∨ hi ≤ j) → aux'[j - n]? = aux[j - n]?

theorem AuxAgree.refl (n lo hi : Nat) (aux : List Nat) : AuxAgree n lo hi aux aux := ⟨rfl, fun _ _ _ => rfl⟩

theorem AuxAgree.mono {n lo hi lo' hi' : Nat} {aux aux' : List Nat} (h : AuxAgree n lo hi aux aux')
    (h1 : lo' ≤ lo) (h2 : hi ≤ hi') : AuxAgree n lo' hi' aux aux' :=
  ⟨h.1, fun j hj hout => h.2 j hj (by omega)⟩

theorem AuxAgree.trans {n lo mid hi : Nat} {a1 a2 a3 : List Nat} (h1 : AuxAgree n lo mid a1 a2)
    (h2 : AuxAgree n mid hi a2 a3) (hle1 : lo ≤ mid) (hle2 : mid ≤ hi) : AuxAgree n lo hi a1 a3 :=
  ⟨h2.1.trans h1.1, fun j hj hout => (h2.2 j hj (by omega)).trans (h1.2 j hj (by omega))⟩

theorem AuxAgree.trans' {n lo hi : Nat} {a1 a2 a3 : List Nat} (h1 : AuxAgree n lo hi a1 a2)
    (h2 : AuxAgree n lo hi a2 a3) : AuxAgree n lo hi a1 a3 :=
  ⟨h2.1.trans h1.1, fun j hj hout => (h2.2 j hj hout).trans (h1.2 j hj hout)⟩

theorem AuxAgree.set {n lo hi : Nat} (aux : List Nat) (j v : Nat) (hn : n ≤ j) (hj : lo ≤ j ∧ j < hi) :
    AuxAgree n lo hi aux (aux.set (j - n) v) := by
  refine ⟨by simp, fun k hk hout => ?_⟩
  rw [List.getElem?_set_ne (by omega)]

/-- reading an auxiliary slot that the intervening code does not own -/
theorem AuxAgree.get {n lo hi : Nat} {aux aux' : List Nat} (h : AuxAgree n lo hi aux aux') (j : Nat) (hn : n ≤ j)
    (hout : j < lo ∨ hi ≤ j) : aux'[j - n]? = aux[j - n]? := h.2 j hn hout

def Sim2 (c : Ctx) (n nS : Nat) (prog : List Insn) (lo hi : Nat) (bal cm : Bool) (sm : St → List St) (a b : Nat) : Prop :=
  ∀ (st : St) (aux astk : List Nat) (X : List SBranch) (succ : St → Ans → Ans) (failA : Ans),
    st.Good c n → n + aux.length = nS → SuccOK cm succ →
    -- what failing into `X` yields: only demanded if every result passes the failure through
    ((∀ acc, (sm st).foldr succ acc = acc) → Big2 c prog nS (.fail X) failA) →
    -- the continuation: only demanded for results that are *reached* (all earlier ones pass the
    -- failure through); what failing back yields is only demanded if this one passes it through too
    (∀ l1 r l2, sm st = l1 ++ r :: l2 → (∀ acc, l1.foldr succ acc = acc) →
      ∀ (aux' junk : List Nat) (S : List SBranch) (acc : Ans),
        AuxAgree n lo hi aux aux' → (bal = true → junk = []) → (∀ br ∈ S, a ≤ br.pc ∧ br.pc ≤ b) →
        ((∀ acc', succ r acc' = acc') → Big2 c prog nS (.fail (S ++ X)) acc) →
        Big2 c prog nS (.run b r.ix (unview r.slots ++ aux') (junk ++ astk) (S ++ X)) (succ r acc)) →
    Big2 c prog nS (.run a st.ix (unview st.slots ++ aux) astk X) ((sm st).foldr succ failA)

/-! ## Weakenings -/

theorem Sim2.congr {c : Ctx} {n nS : Nat} {prog : List Insn} {lo hi : Nat} {bal cm : Bool} {f g : St → List St} {a b : Nat}
    (h : Sim2 c n nS prog lo hi bal cm f a b) (hfg : ∀ st, f st = g st) : Sim2 c n nS prog lo hi bal cm g a b := by
  have : f = g := funext hfg
  rwa [this] at h

theorem Sim2.cast {c : Ctx} {n nS : Nat} {prog : List Insn} {lo hi : Nat} {bal cm : Bool} {f : St → List St} {a b a' b' : Nat}
    (h : Sim2 c n nS prog lo hi bal cm f a b) (ha : a' = a) (hb : b' = b) : Sim2 c n nS prog lo hi bal cm f a' b' := by
  subst ha; subst hb; exact h

/-- owning more auxiliary slots is weaker -/
theorem Sim2.widen {c : Ctx} {n nS : Nat} {prog : List Insn} {lo hi lo' hi' : Nat} {bal cm : Bool} {f : St → List St} {a b : Nat}
    (h : Sim2 c n nS prog lo hi bal cm f a b) (h1 : lo' ≤ lo) (h2 : hi ≤ hi') : Sim2 c n nS prog lo' hi' bal cm f a b := by
  intro st aux astk X succ failA hg hl hsucc hf hs
  exact h st aux astk X succ failA hg hl hsucc hf
    (fun l1 r l2 hsp hpass aux' junk S acc hag hb hS hacc => hs l1 r l2 hsp hpass aux' junk S acc (hag.mono h1 h2) hb hS hacc)

/-- balanced code is in particular code (the continuation just gets `junk = []`) -/
theorem Sim2.unbal {c : Ctx} {n nS : Nat} {prog : List Insn} {lo hi : Nat} {bal cm : Bool} {f : St → List St} {a b : Nat}
    (h : Sim2 c n nS prog lo hi true cm f a b) : Sim2 c n nS prog lo hi bal cm f a b := by
  intro st aux astk X succ failA hg hl hsucc hf hs
  exact h st aux astk X succ failA hg hl hsucc hf
    (fun l1 r l2 hsp hpass aux' junk S acc hag hb hS hacc => by
      have hj : junk = [] := hb rfl
      subst hj
      exact hs l1 r l2 hsp hpass aux' [] S acc hag (fun _ => rfl) hS hacc)

/-- code proved for parametric continuations works in a committing context -/
theorem Sim2.toCommit {c : Ctx} {n nS : Nat} {prog : List Insn} {lo hi : Nat} {bal cm : Bool} {f : St → List St} {a b : Nat}
    (h : Sim2 c n nS prog lo hi bal false f a b) : Sim2 c n nS prog lo hi bal cm f a b := by
  intro st aux astk X succ failA hg hl hsucc hf hs
  exact h st aux astk X succ failA hg hl (by simpa [SuccOK] using hsucc.par) hf hs

/-- the pc range may be enlarged -/
theorem mem_split {α : Type} {x : α} {l : List α} (h : x ∈ l) : ∃ l1 l2, l = l1 ++ x :: l2 := List.append_of_mem h

/-! ## The relation at one state

`Sim2` quantifies over the start state; the loops are inductions over it and carry facts about the
auxiliary slots (a counter's value). `Sim2At` is the same statement for one state `st`, one auxiliary
vector `aux` and the list `l` of results tried from there; the branches left behind lie in `[pa, pb]`,
which need not be the code's own range `[a, b]` (a loop is entered at its head, inside its range).
Machine steps are taken in `step`/`fail`/`push` only; everything else composes with `ret` and `bind`. -/

def Sim2At (c : Ctx) (n nS : Nat) (prog : List Insn) (lo hi : Nat) (bal cm : Bool) (pa pb : Nat)
    (st : St) (aux : List Nat) (l : List St) (a b : Nat) : Prop :=
  ∀ (astk : List Nat) (X : List SBranch) (succ : St → Ans → Ans) (failA : Ans), SuccOK cm succ →
    ((∀ acc, l.foldr succ acc = acc) → Big2 c prog nS (.fail X) failA) →
    (∀ l1 r l2, l = l1 ++ r :: l2 → (∀ acc, l1.foldr succ acc = acc) →
      ∀ (aux' junk : List Nat) (S : List SBranch) (acc : Ans),
        AuxAgree n lo hi aux aux' → (bal = true → junk = []) → (∀ br ∈ S, pa ≤ br.pc ∧ br.pc ≤ pb) →
        ((∀ acc', succ r acc' = acc') → Big2 c prog nS (.fail (S ++ X)) acc) →
        Big2 c prog nS (.run b r.ix (unview r.slots ++ aux') (junk ++ astk) (S ++ X)) (succ r acc)) →
    Big2 c prog nS (.run a st.ix (unview st.slots ++ aux) astk X) (l.foldr succ failA)

theorem flatMap_split {G : St → List St} {l l1 l2 m1 m2 : List St} {r q : St}
    (h1 : l = l1 ++ r :: l2) (h2 : G r = m1 ++ q :: m2) :
    l.flatMap G = (l1.flatMap G ++ m1) ++ q :: (m2 ++ l2.flatMap G) := by
  rw [h1, List.flatMap_append, List.flatMap_cons, h2]
  simp [List.append_assoc]

theorem flatMap_pass {G : St → List St} {succ : St → Ans → Ans} {l1 m1 : List St}
    (hp1 : ∀ acc, l1.foldr (fun r acc => (G r).foldr succ acc) acc = acc) (hp2 : ∀ acc, m1.foldr succ acc = acc) :
    ∀ acc, (l1.flatMap G ++ m1).foldr succ acc = acc := by
  intro acc
  rw [List.foldr_append, hp2, foldr_flatMap]
  exact hp1 acc

section At
variable {c : Ctx} {n nS : Nat} {prog : List Insn} {lo hi : Nat} {bal cm : Bool} {pa pb : Nat}
  {st : St} {aux : List Nat} {a b : Nat}

theorem Sim2.at {sm : St → List St} (h : Sim2 c n nS prog lo hi bal cm sm a b) (hg : st.Good c n)
    (hl : n + aux.length = nS) : Sim2At c n nS prog lo hi bal cm a b st aux (sm st) a b :=
  fun astk X succ failA => h st aux astk X succ failA hg hl

theorem Sim2.ofAt {sm : St → List St}
    (h : ∀ st aux, st.Good c n → n + aux.length = nS → Sim2At c n nS prog lo hi bal cm a b st aux (sm st) a b) :
    Sim2 c n nS prog lo hi bal cm sm a b :=
  fun st aux astk X succ failA hg hl => h st aux hg hl astk X succ failA

/-- owning more auxiliary slots, or allowing a larger range for the branches left, is weaker -/
theorem Sim2At.mono {lo' hi' pa' pb' : Nat} {l : List St} (h : Sim2At c n nS prog lo hi bal cm pa pb st aux l a b)
    (h1 : lo' ≤ lo) (h2 : hi ≤ hi') (h3 : pa' ≤ pa) (h4 : pb ≤ pb') :
    Sim2At c n nS prog lo' hi' bal cm pa' pb' st aux l a b := by
  intro astk X succ failA hsucc hf hs
  exact h astk X succ failA hsucc hf (fun l1 r l2 hsp hpass aux' junk S acc hag hb hS hacc =>
    hs l1 r l2 hsp hpass aux' junk S acc (hag.mono h1 h2) hb (fun br hbr => by have := hS br hbr; omega) hacc)

/-- no code: the one result is the start state -/
theorem Sim2At.ret : Sim2At c n nS prog lo hi bal cm pa pb st aux [st] a a := by
  intro astk X succ failA _ hf hs
  have := hs [] st [] rfl (fun _ => rfl) aux [] [] failA (AuxAgree.refl _ _ _ _) (fun _ => rfl) (by simp)
    (fun hp => by simpa using hf (by simpa using hp))
  simpa using this

/-- an instruction that touches neither stack, writing owned auxiliary slots only -/
theorem Sim2At.step {st' : St} {aux' : List Nat} {l : List St} {a' : Nat}
    (hstep : ∀ astk X, sstep c prog nS a st.ix (unview st.slots ++ aux) astk X =
      some (.run a' st'.ix (unview st'.slots ++ aux') astk X))
    (hag : AuxAgree n lo hi aux aux') (h : Sim2At c n nS prog lo hi bal cm pa pb st' aux' l a' b) :
    Sim2At c n nS prog lo hi bal cm pa pb st aux l a b := by
  intro astk X succ failA hsucc hf hs
  exact Big2.step _ _ _ _ _ _ _ (hstep astk X) (h astk X succ failA hsucc hf
    (fun l1 r l2 hsp hpass aux2 junk S acc hag2 hb hS hacc =>
      hs l1 r l2 hsp hpass aux2 junk S acc (hag.trans' hag2) hb hS hacc))

theorem Sim2At.fail (hstep : ∀ astk X, sstep c prog nS a st.ix (unview st.slots ++ aux) astk X = some (.fail X)) :
    Sim2At c n nS prog lo hi bal cm pa pb st aux [] a b :=
  fun astk X _ _ _ hf _ => Big2.step _ _ _ _ _ _ _ (hstep astk X) (hf (fun _ => rfl))

/-- an instruction that goes on at `x` and leaves a branch to `y`: the results from `x` are tried
    first, then those from `y` -/
theorem Sim2At.push {aux1 : List Nat} {l1 l2 : List St} {x y : Nat}
    (hstep : ∀ astk X, sstep c prog nS a st.ix (unview st.slots ++ aux) astk X =
      some (.run x st.ix (unview st.slots ++ aux1) astk (⟨y, st.ix, unview st.slots ++ aux1, astk⟩ :: X)))
    (hag : AuxAgree n lo hi aux aux1) (hy : pa ≤ y ∧ y ≤ pb)
    (h1 : Sim2At c n nS prog lo hi bal cm pa pb st aux1 l1 x b)
    (h2 : Sim2At c n nS prog lo hi bal cm pa pb st aux1 l2 y b) :
    Sim2At c n nS prog lo hi bal cm pa pb st aux (l1 ++ l2) a b := by
  intro astk X succ failA hsucc hf hs
  rw [List.foldr_append]
  apply Big2.step _ _ _ _ _ _ _ (hstep astk X)
  apply h1 astk (⟨y, st.ix, unview st.slots ++ aux1, astk⟩ :: X) succ _ hsucc
  · -- failing into the pushed branch (only reached if `l1` passes the failure through)
    intro hp1
    apply Big2.failPop
    exact h2 astk X succ failA hsucc (fun hp2 => hf (fun acc => by rw [List.foldr_append, hp2, hp1]))
      (fun m1 r m2 hsp hpass aux' junk S acc hag' hb hS hacc =>
        hs (l1 ++ m1) r m2 (by rw [hsp, List.append_assoc]) (fun acc => by rw [List.foldr_append, hpass, hp1])
          aux' junk S acc (hag.trans' hag') hb hS hacc)
  · intro m1 r m2 hsp hpass aux' junk S acc hag' hb hS hacc
    have := hs m1 r (m2 ++ l2) (by rw [hsp]; simp) hpass aux' junk
      (S ++ [⟨y, st.ix, unview st.slots ++ aux1, astk⟩]) acc (hag.trans' hag') hb
      (fun br hbr => by
        rcases List.mem_append.mp hbr with h | h
        · exact hS br h
        · simp only [List.mem_singleton] at h; subst h; exact hy)
      (fun hp => by simpa [List.append_assoc] using hacc hp)
    simpa [List.append_assoc] using this

theorem Sim2At.split {l1 l2 : List St} {x y : Nat} (hsplit : prog[a]? = some (.split x y)) (hy : pa ≤ y ∧ y ≤ pb)
    (h1 : Sim2At c n nS prog lo hi bal cm pa pb st aux l1 x b)
    (h2 : Sim2At c n nS prog lo hi bal cm pa pb st aux l2 y b) :
    Sim2At c n nS prog lo hi bal cm pa pb st aux (l1 ++ l2) a b :=
  Sim2At.push (fun astk X => by simp [sstep, hsplit]) (AuxAgree.refl _ _ _ _) hy h1 h2

theorem Sim2At.jmp {l : List St} {t : Nat} (hjmp : prog[a]? = some (.jmp t))
    (h : Sim2At c n nS prog lo hi bal cm pa pb st aux l t b) : Sim2At c n nS prog lo hi bal cm pa pb st aux l a b :=
  Sim2At.step (fun astk X => by simp [sstep, hjmp]) (AuxAgree.refl _ _ _ _) h

/-- the code up to `m` yields `l`, the code from `m` yields `g r` from each `r` of `l`. The first part
    may own fewer auxiliary slots (the second part then finds the others as they were), and is claimed
    for the continuation class `cm1`, which must contain "then `g`, then a continuation of class `cm`" -/
theorem Sim2At.bind {lo1 hi1 : Nat} {cm1 : Bool} {l : List St} {g : St → List St} {m : Nat}
    (h1 : Sim2At c n nS prog lo1 hi1 bal cm1 pa pb st aux l a m) (hlo : lo ≤ lo1) (hhi : hi1 ≤ hi)
    (h2 : ∀ r, r ∈ l → ∀ aux', AuxAgree n lo1 hi1 aux aux' → Sim2At c n nS prog lo hi bal cm pa pb r aux' (g r) m b)
    (hcls : ∀ succ, SuccOK cm succ → SuccOK cm1 (fun r acc => (g r).foldr succ acc)) :
    Sim2At c n nS prog lo hi bal cm pa pb st aux (l.flatMap g) a b := by
  intro astk X succ failA hsucc hf hs
  rw [foldr_flatMap]
  apply h1 astk X (fun r acc => (g r).foldr succ acc) failA (hcls succ hsucc)
    (fun hp => hf (fun acc => by rw [foldr_flatMap]; exact hp acc))
  intro l1 r1 l2 hsp1 hpass1 aux1 junk1 S1 acc1 hag1 hb1 hS1 hf1
  apply h2 r1 (by rw [hsp1]; simp) aux1 hag1 (junk1 ++ astk) (S1 ++ X) succ acc1 hsucc hf1
  intro m1 r2 m2 hsp2 hpass2 aux2 junk2 S2 acc2 hag2 hb2 hS2 hf2
  have := hs (l1.flatMap g ++ m1) r2 (m2 ++ l2.flatMap g) (flatMap_split hsp1 hsp2) (flatMap_pass hpass1 hpass2)
    aux2 (junk2 ++ junk1) (S2 ++ S1) acc2 ((hag1.mono hlo hhi).trans' hag2)
    (fun hb => by rw [hb1 hb, hb2 hb]; rfl)
    (fun br hbr => (List.mem_append.mp hbr).elim (hS2 br) (hS1 br))
    (fun hp => by simpa [List.append_assoc] using hf2 hp)
  simpa [List.append_assoc] using this

/-- `bind` under a parametric continuation -/
theorem Sim2At.bindPar {lo1 hi1 : Nat} {l : List St} {g : St → List St} {m : Nat}
    (h1 : Sim2At c n nS prog lo1 hi1 bal false pa pb st aux l a m) (hlo : lo ≤ lo1) (hhi : hi1 ≤ hi)
    (h2 : ∀ r, r ∈ l → ∀ aux', AuxAgree n lo1 hi1 aux aux' → Sim2At c n nS prog lo hi bal cm pa pb r aux' (g r) m b) :
    Sim2At c n nS prog lo hi bal cm pa pb st aux (l.flatMap g) a b :=
  h1.bind hlo hhi h2 (fun succ hsucc => by simpa [SuccOK] using hsucc.par.foldr g)

/-- results that are never tried may be appended: whenever `l` passes the failure through, so does `rest`
    (vacuously under a committing continuation; or when `rest` repeats a result of `l`) -/
theorem Sim2At.append_dead {l rest : List St} (h : Sim2At c n nS prog lo hi bal cm pa pb st aux l a b)
    (hdead : ∀ succ, SuccOK cm succ → (∀ acc, l.foldr succ acc = acc) → ∀ acc, rest.foldr succ acc = acc) :
    Sim2At c n nS prog lo hi bal cm pa pb st aux (l ++ rest) a b := by
  intro astk X succ failA hsucc hf hs
  rw [List.foldr_append]
  exact h astk X succ _ hsucc
    (fun hp => by
      rw [hdead succ hsucc hp]
      exact hf (fun acc => by rw [List.foldr_append, hdead succ hsucc hp, hp]))
    (fun l1 r l2 hsp hpass => hs l1 r (l2 ++ rest) (by rw [hsp]; simp) hpass)

/-- Under a constant continuation `k` (a committing one) a block is run to its first result only; what
    it has left on the stacks by then is for the caller to cut. -/
theorem Sim2At.first {l : List St} (h : Sim2At c n nS prog lo hi bal true pa pb st aux l a b)
    (astk : List Nat) (X : List SBranch) (k : St → Ans) (noA : Ans)
    (hnone : l = [] → Big2 c prog nS (.fail X) noA)
    (hfirst : ∀ r rest, l = r :: rest → ∀ (aux' junk : List Nat) (S : List SBranch),
      AuxAgree n lo hi aux aux' → (bal = true → junk = []) → (∀ br ∈ S, pa ≤ br.pc ∧ br.pc ≤ pb) →
      Big2 c prog nS (.run b r.ix (unview r.slots ++ aux') (junk ++ astk) (S ++ X)) (k r)) :
    Big2 c prog nS (.run a st.ix (unview st.slots ++ aux) astk X) (l.foldr (fun r _ => k r) noA) := by
  apply h astk X (fun r _ => k r) noA (SuccOK.ofCommit (Commit.const k))
  · intro hp
    cases l with
    | nil => exact hnone rfl
    | cons q qs => exact absurd hp ((Commit.const k).not_pass q qs)
  · intro l1 r l2 hsp hpass aux' junk S acc hag hb hS _
    cases l1 with
    | cons q qs => exact absurd hpass ((Commit.const k).not_pass q qs)
    | nil => exact hfirst r l2 hsp aux' junk S hag hb hS

/-- `EndAtomic` with the count pushed by the matching `BeginAtomic` on top: cut back to `X` -/
theorem sstep_endAtomic {m : Nat} (hend : prog[m]? = some .endAtomic) (ix : Nat) (slots astk : List Nat)
    (S X : List SBranch) :
    sstep c prog nS m ix slots (X.length :: astk) (S ++ X) = some (.run (m + 1) ix slots astk X) := by
  have hlen : X.length ≤ (S ++ X).length := by simp
  have hdrop : (S ++ X).drop ((S ++ X).length - X.length) = X := by
    rw [List.length_append, Nat.add_sub_cancel]; exact List.drop_left
  simp only [sstep, hend, hlen, ↓reduceIte, hdrop]

/-- `<block>; EndAtomic`, entered with `|X|` on top of the auxiliary stack and `M` above `X` on the
    branch stack: the block (balanced, committing) runs to its first result, then `EndAtomic` cuts the
    branch stack back to `X`. This is the core of atomic groups and of the condition of a conditional. -/
theorem Sim2At.cut {l : List St} (hend : prog[b]? = some .endAtomic)
    (h : Sim2At c n nS prog lo hi true true pa pb st aux l a b)
    (astk : List Nat) (X M : List SBranch) (k : St → Ans) (noA : Ans)
    (hnone : l = [] → Big2 c prog nS (.fail (M ++ X)) noA)
    (hfirst : ∀ r rest, l = r :: rest → ∀ aux', AuxAgree n lo hi aux aux' →
      Big2 c prog nS (.run (b + 1) r.ix (unview r.slots ++ aux') astk X) (k r)) :
    Big2 c prog nS (.run a st.ix (unview st.slots ++ aux) (X.length :: astk) (M ++ X))
      (l.foldr (fun r _ => k r) noA) :=
  h.first (X.length :: astk) (M ++ X) k noA hnone fun r rest hl aux' junk S hag hb _ => by
    rw [hb rfl, List.nil_append, ← List.append_assoc]
    exact Big2.step _ _ _ _ _ _ _ (sstep_endAtomic hend _ _ _ _ _) (hfirst r rest hl aux' hag)

end At

/-! ## Structural rules -/

theorem Sim2.nil (c : Ctx) (n nS : Nat) (prog : List Insn) (lo hi : Nat) (bal cm : Bool) (a : Nat) :
    Sim2 c n nS prog lo hi bal cm (fun st => [st]) a a :=
  Sim2.ofAt fun _ _ _ _ => Sim2At.ret

/-- sequencing, general form: `f` owns `[lo1, hi1)` inside `[lo, hi)`, `g` owns `[lo, hi)`; `f` is
    claimed for the continuation class `cm1`, which must contain "then `g`, then a continuation of
    class `cm`" -/
theorem Sim2.seqIn {c : Ctx} {n nS : Nat} {prog : List Insn} {lo lo1 hi1 hi : Nat} {bal cm cm1 : Bool} {f g : St → List St}
    {a m b : Nat}
    (h1 : Sim2 c n nS prog lo1 hi1 bal cm1 f a m) (h2 : Sim2 c n nS prog lo hi bal cm g m b) (hk : KeepsGood c n f)
    (hcls : ∀ succ, SuccOK cm succ → SuccOK cm1 (fun r acc => (g r).foldr succ acc))
    (hlo : lo ≤ lo1) (hhi : hi1 ≤ hi) (ham : a ≤ m) (hmb : m ≤ b) :
    Sim2 c n nS prog lo hi bal cm (fun st => (f st).flatMap g) a b :=
  Sim2.ofAt fun st _ hg hl =>
    ((h1.at hg hl).mono (Nat.le_refl _) (Nat.le_refl _) (Nat.le_refl _) hmb).bind hlo hhi
      (fun r hr _ hag => (h2.at (hk st r hg hr) (hag.1 ▸ hl)).mono (Nat.le_refl _) (Nat.le_refl _) ham (Nat.le_refl _))
      hcls

/-- sequencing: `f` owns `[lo, mid)`, `g` owns `[mid, hi)` -/
theorem Sim2.seq {c : Ctx} {n nS : Nat} {prog : List Insn} {lo mid hi : Nat} {bal cm : Bool} {f g : St → List St} {a m b : Nat}
    (h1 : Sim2 c n nS prog lo mid bal false f a m) (h2 : Sim2 c n nS prog mid hi bal cm g m b) (hk : KeepsGood c n f)
    (hle1 : lo ≤ mid) (hle2 : mid ≤ hi) (ham : a ≤ m) (hmb : m ≤ b) :
    Sim2 c n nS prog lo hi bal cm (fun st => (f st).flatMap g) a b :=
  Sim2.seqIn h1 (h2.widen hle1 (Nat.le_refl _)) hk (fun succ hsucc => by simpa [SuccOK] using hsucc.par.foldr g)
    (Nat.le_refl _) hle2 ham hmb

/-- a continuation precomposed with a map of the results stays in its class -/
theorem SuccOK.comp {cm : Bool} {succ : St → Ans → Ans} (h : SuccOK cm succ) (f : St → St) :
    SuccOK cm (fun r acc => succ (f r) acc) := by
  cases cm with
  | true => exact fun r acc acc' => h (f r) acc acc'
  | false => exact fun r => h (f r)

/-- a single instruction that either advances (one result) or fails (no result) -/
theorem Sim2.test1 {c : Ctx} {n nS : Nat} {prog : List Insn} {lo hi : Nat} {bal cm : Bool} {a : Nat}
    (cond : St → Bool) (upd : St → St)
    (hstep : ∀ (st : St) (aux astk : List Nat) X, st.Good c n → n + aux.length = nS →
      sstep c prog nS a st.ix (unview st.slots ++ aux) astk X =
        some (if cond st then .run (a + 1) (upd st).ix (unview (upd st).slots ++ aux) astk X else .fail X)) :
    Sim2 c n nS prog lo hi bal cm (fun st => if cond st then [upd st] else []) a (a + 1) := by
  refine Sim2.ofAt fun st aux hg hl => ?_
  have h := fun astk X => hstep st aux astk X hg hl
  cases hc : cond st <;> simp only [hc, Bool.false_eq_true, ↓reduceIte] at h ⊢
  · exact Sim2At.fail h
  · exact Sim2At.step h (AuxAgree.refl _ _ _ _) Sim2At.ret

/-- alternation of two pieces of code: `Split(a+1, m+1); <f>; Jmp b; <g>` with `<f>` at `[a+1, m)` -/
theorem Sim2.alt2 {c : Ctx} {n nS : Nat} {prog : List Insn} {lo hi : Nat} {bal cm : Bool} {f g : St → List St} {a m b : Nat}
    (hsplit : prog[a]? = some (.split (a + 1) (m + 1))) (hjmp : prog[m]? = some (.jmp b))
    (h1 : Sim2 c n nS prog lo hi bal cm f (a + 1) m) (h2 : Sim2 c n nS prog lo hi bal cm g (m + 1) b)
    (ham : a + 1 ≤ m) (hmb : m + 1 ≤ b) :
    Sim2 c n nS prog lo hi bal cm (fun st => f st ++ g st) a b :=
  Sim2.ofAt fun st aux hg hl => by
    have hf : Sim2At c n nS prog lo hi bal cm a b st aux ((f st).flatMap fun r => [r]) (a + 1) b :=
      ((h1.at hg hl).mono (Nat.le_refl _) (Nat.le_refl _) (Nat.le_succ _) (by omega)).bind (Nat.le_refl _) (Nat.le_refl _)
        (fun _ _ _ _ => Sim2At.jmp hjmp Sim2At.ret) (fun succ hsucc => by simpa using hsucc)
    rw [List.flatMap_singleton'] at hf
    exact Sim2At.split hsplit (by omega) hf
      ((h2.at hg hl).mono (Nat.le_refl _) (Nat.le_refl _) (by omega) (Nat.le_refl _))

/-- the previous, stronger-premise form (continuation available for every result, failure evidence
    unconditional) is a consequence: convenient at the top level -/
theorem Sim2.apply_all {c : Ctx} {n nS : Nat} {prog : List Insn} {lo hi : Nat} {bal cm : Bool} {sm : St → List St} {a b : Nat}
    (h : Sim2 c n nS prog lo hi bal cm sm a b)
    (st : St) (aux astk : List Nat) (X : List SBranch) (succ : St → Ans → Ans) (failA : Ans)
    (hg : st.Good c n) (hl : n + aux.length = nS) (hsucc : SuccOK cm succ)
    (hf : Big2 c prog nS (.fail X) failA)
    (hs : ∀ r, r ∈ sm st → ∀ (aux' junk : List Nat) (S : List SBranch) (acc : Ans),
        AuxAgree n lo hi aux aux' → (bal = true → junk = []) → (∀ br ∈ S, a ≤ br.pc ∧ br.pc ≤ b) →
        ((∀ acc', succ r acc' = acc') → Big2 c prog nS (.fail (S ++ X)) acc) →
        Big2 c prog nS (.run b r.ix (unview r.slots ++ aux') (junk ++ astk) (S ++ X)) (succ r acc)) :
    Big2 c prog nS (.run a st.ix (unview st.slots ++ aux) astk X) ((sm st).foldr succ failA) :=
  h st aux astk X succ failA hg hl hsucc (fun _ => hf)
    (fun l1 r l2 hsp _ aux' junk S acc hag hb hS hacc => hs r (by rw [hsp]; simp) aux' junk S acc hag hb hS hacc)

end Fancy
