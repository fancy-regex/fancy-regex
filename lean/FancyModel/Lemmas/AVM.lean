import FancyModel.Lemmas.StateRefine
import FancyModel.Model.VM
/-!
# The whole-copy abstract machine and its link to the interpreter

`ACfg` is a configuration of the VM in which every pending alternative is a *whole copy* of the
slot vector (the reference of C20). `astep` is the VM instruction step on such configurations for
the instruction set of the interpreted core (no `Delegate`, no atomic / look-around bookkeeping);
`Big` is the big-step relation "from this configuration the machine ends with this answer".

`link` (`Follows`; `link_initial` from the initial state of a run): whenever the abstract machine
ends with answer `a`, the concrete interpreter (`runLoop`, on the undo-log `State`) started from a
state that abstracts to the same configuration returns `a` — unless it stops for one of the three
resource reasons the abstract machine does not have (fuel, backtrack limit, branch-stack cap).
-/
namespace Fancy
open State

inductive ACfg where
  | run (pc ix : Nat) (saves : List Nat) (stack : List ABranch)
  | fail (stack : List ABranch)

inductive Ans where
  | matched (saves : List Nat)
  | noMatch
deriving DecidableEq, Repr

def Ans.toOutcome : Ans → Outcome
  | .matched s => .matched s
  | .noMatch => .noMatch

/-- `capStart` on a plain slot vector -/
def capSaves (saves : List Nat) (pos : Nat) : List Nat :=
  match saves[1]?, saves[0]? with
  | some e, some s0 =>
    let s1 := if s0 > e then e else s0
    let s2 := if s1 < pos then pos else s1
    saves.set 0 s2
  | _, _ => saves

/-- one instruction on a whole-copy configuration (`none`: outside the modelled instruction set,
    a panic site, or `End`) -/
def astep (c : Ctx) (prog : List Insn) (pc ix : Nat) (saves : List Nat) (stack : List ABranch) : Option ACfg :=
  match prog[pc]? with
  | some .any =>
    match c.at? ix with
    | some _ => some (.run (pc + 1) (ix + 1) saves stack)
    | none => some (.fail stack)
  | some .anyNoNL =>
    match c.at? ix with
    | some ch => if ch != '\n' then some (.run (pc + 1) (ix + 1) saves stack) else some (.fail stack)
    | none => some (.fail stack)
  | some (.lit val) =>
    if c.litAt false val ix then some (.run (pc + 1) (ix + val.length) saves stack) else some (.fail stack)
  | some (.assertion a) => if c.assertion a ix then some (.run (pc + 1) ix saves stack) else some (.fail stack)
  | some (.split x y) => some (.run x ix saves (⟨y, ix, saves⟩ :: stack))
  | some (.jmp t) => some (.run t ix saves stack)
  | some (.save slot) => if slot < saves.length then some (.run (pc + 1) ix (saves.set slot ix) stack) else none
  | some (.backref slot) =>
    match saves[slot]?, saves[slot + 1]? with
    | some lo, some hi =>
      if lo == UNSET || hi == UNSET then some (.fail stack)
      else if lo > hi then some (.fail stack)
      else if c.sameAt lo hi ix then some (.run (pc + 1) (ix + (hi - lo)) saves stack) else some (.fail stack)
    | _, _ => none
  | some .contPrev => if ix != c.pos || c.skipped then some (.fail stack) else some (.run (pc + 1) ix saves stack)
  | _ => none

inductive Big (c : Ctx) (prog : List Insn) : ACfg → Ans → Prop where
  | done (pc ix : Nat) (saves : List Nat) (stack : List ABranch) :
      prog[pc]? = some .end_ → 1 < saves.length → Big c prog (.run pc ix saves stack) (.matched (capSaves saves c.pos))
  | step (pc ix : Nat) (saves : List Nat) (stack : List ABranch) (cfg' : ACfg) (a : Ans) :
      astep c prog pc ix saves stack = some cfg' → Big c prog cfg' a → Big c prog (.run pc ix saves stack) a
  | failEmpty : Big c prog (.fail []) .noMatch
  | failPop (b : ABranch) (rest : List ABranch) (a : Ans) :
      Big c prog (.run b.pc b.ix b.saves rest) a → Big c prog (.fail (b :: rest)) a

/-- what the interpreter does after a failing instruction (the tail of `runLoop`'s body) -/
def afterFail (c : Ctx) (prog : List Insn) (o : VMOpts) (fuel : Nat) (s' : State) (st : Stats) : Outcome × Stats :=
  if s'.stack.isEmpty then (.noMatch, st) else
  let st := { st with backtracks := st.backtracks + 1 }
  if st.backtracks > o.backtrackLimit then (.errLimit, st) else
  match s'.pop with
  | none => (.panic "pop", st)
  | some (s'', pc', ix') => runLoop c prog o fuel pc' ix' s'' st

theorem runLoop_succ (c : Ctx) (prog : List Insn) (o : VMOpts) (fuel pc ix : Nat) (s : State) (st : Stats) :
    runLoop c prog o (fuel + 1) pc ix s st =
      match step c prog pc ix s with
      | .done out => (out, { st with steps := st.steps + 1 })
      | .cont pc' ix' s' =>
        runLoop c prog o fuel pc' ix' s'
          { steps := st.steps + 1, backtracks := st.backtracks, maxDepth := max st.maxDepth s'.stack.length }
      | .fail s' => afterFail c prog o fuel s' { st with steps := st.steps + 1 } := by
  simp only [runLoop, afterFail]
  cases step c prog pc ix s <;> rfl

/-- the outcomes the link theorem allows: the abstract answer, or a resource stop -/
def Good (out : Outcome) (a : Ans) : Prop :=
  out = .outOfFuel ∨ out = .errStack ∨ out = .errLimit ∨ out = a.toOutcome

inductive StepRel : StepResult → ACfg → Prop where
  | cont (pc ix : Nat) (s : State) : Inv s → StepRel (.cont pc ix s) (.run pc ix (abs s).saves (abs s).stack)
  | fail (s : State) : Inv s → StepRel (.fail s) (.fail (abs s).stack)
  | overflow (cfg : ACfg) : StepRel (.done .errStack) cfg

theorem abs_saves (s : State) : (abs s).saves = s.saves := rfl

theorem get_eq (s : State) (slot : Nat) : s.get slot = s.saves[slot]? := rfl

/-- `R` against a partial right-hand side: nothing is claimed where it is undefined -/
def OptRel {α β : Type} (R : α → β → Prop) (a : α) : Option β → Prop
  | none => True
  | some b => R a b

section
variable {α β : Type} {R : α → β → Prop} {r r₁ r₂ : α} {o o₁ o₂ : Option β} {p : Prop} [Decidable p]

/-- a test made on both sides -/
theorem OptRel.ite (h1 : p → OptRel R r₁ o₁) (h2 : ¬p → OptRel R r₂ o₂) :
    OptRel R (if p then r₁ else r₂) (if p then o₁ else o₂) := by
  by_cases hp : p
  · rw [if_pos hp, if_pos hp]; exact h1 hp
  · rw [if_neg hp, if_neg hp]; exact h2 hp

/-- a test made on the right only, which is undefined when it fails -/
theorem OptRel.guard (h : p → OptRel R r o) : OptRel R r (if p then o else none) := by
  by_cases hp : p
  · rw [if_pos hp]; exact h hp
  · rw [if_neg hp]; trivial

theorem OptRel.guard_not (h : ¬p → OptRel R r o) : OptRel R r (if p then none else o) := by
  by_cases hp : p
  · rw [if_pos hp]; trivial
  · rw [if_neg hp]; exact h hp
end

theorem StepRel.cont' {pc ix : Nat} {s : State} {a : AState} (hi : Inv s) (e : abs s = a) :
    StepRel (.cont pc ix s) (.run pc ix a.saves a.stack) := by
  subst e; exact .cont pc ix s hi

theorem step_simO (c : Ctx) (prog : List Insn) (pc ix : Nat) (s : State) (hi : Inv s) :
    OptRel StepRel (step c prog pc ix s) (astep c prog pc ix (abs s).saves (abs s).stack) := by
  have hcont {pc ix : Nat} : OptRel StepRel (.cont pc ix s) (some (.run pc ix (abs s).saves (abs s).stack)) :=
    .cont _ _ s hi
  have hfail : OptRel StepRel (.fail s) (some (.fail (abs s).stack)) := .fail s hi
  unfold astep step
  cases hp : prog[pc]? with
  | none => trivial
  | some insn =>
    cases insn <;> simp only <;> try trivial
    case any =>
      cases c.at? ix with
      | none => exact hfail
      | some _ => exact hcont
    case anyNoNL =>
      cases c.at? ix with
      | none => exact hfail
      | some ch => exact .ite (fun _ => hcont) fun _ => hfail
    case lit val => exact .ite (fun _ => hcont) fun _ => hfail
    case assertion a => exact .ite (fun _ => hcont) fun _ => hfail
    case split x y =>
      unfold pushOr
      cases hpush : s.push y ix with
      | overflow => exact .overflow _
      | ok s' => exact StepRel.cont' (inv_push s s' y ix hi hpush) (abs_push s s' y ix hpush)
    case jmp t => exact hcont
    case save slot =>
      refine .guard fun hlt => ?_
      obtain ⟨s', h1, h2, h3, _⟩ := save_spec s hi slot ix hlt
      simp only [h1]
      exact StepRel.cont' h3 h2
    case backref slot =>
      rw [get_eq, get_eq, abs_saves]
      cases s.saves[slot]? with
      | none => trivial
      | some lo =>
        cases s.saves[slot + 1]? with
        | none => trivial
        | some hi' =>
          exact .ite (fun _ => hfail) fun _ => .ite (fun _ => hfail) fun _ =>
            .ite (fun _ => hcont) fun _ => hfail
    case contPrev => exact .ite (fun _ => hfail) fun _ => hcont

theorem step_sim (c : Ctx) (prog : List Insn) (pc ix : Nat) (s : State) (hi : Inv s) (cfg' : ACfg)
    (h : astep c prog pc ix (abs s).saves (abs s).stack = some cfg') :
    StepRel (step c prog pc ix s) cfg' := by
  have := step_simO c prog pc ix s hi
  rwa [h] at this

theorem capStart_saves (s : State) (hi : Inv s) (pos : Nat) (hl : 1 < s.saves.length) :
    ∃ s', capStart s pos = some s' ∧ s'.saves = capSaves s.saves pos := by
  obtain ⟨e1, h1⟩ : ∃ e, s.saves[1]? = some e := ⟨_, List.getElem?_eq_getElem hl⟩
  obtain ⟨e0, h0⟩ : ∃ e, s.saves[0]? = some e :=
    ⟨_, List.getElem?_eq_getElem (Nat.lt_trans Nat.zero_lt_one hl)⟩
  have hg0 : s.get 0 = some e0 := by simpa [State.get] using h0
  have hself : s.saves.set 0 e0 = s.saves := by
    apply List.ext_getElem?
    intro i
    by_cases hi0 : i = 0
    · subst hi0; rw [List.getElem?_set_self (by omega)]; exact h0.symm
    · rw [List.getElem?_set_ne (by omega)]
  unfold capStart capSaves
  simp only [h1, h0, hg0, Option.bind_some]
  by_cases hgt : e0 > e1
  · obtain ⟨s1, hs1, hi1, hsv1⟩ := save_saves s hi 0 e1 (Nat.lt_trans Nat.zero_lt_one hl)
    have hl1 : 1 < s1.saves.length := by rw [hsv1]; simpa using hl
    have hg1 : s1.get 0 = some e1 := by
      simp only [State.get, hsv1]; rw [List.getElem?_set_self (by omega)]
    simp only [hgt, ↓reduceIte, hs1, Option.bind_some, hg1]
    by_cases hlt : e1 < pos
    · obtain ⟨s2, hs2, _, hsv2⟩ := save_saves s1 hi1 0 pos (Nat.lt_trans Nat.zero_lt_one hl1)
      refine ⟨s2, by simp [hlt, hs2], ?_⟩
      rw [hsv2, hsv1]; simp [hlt, List.set_set]
    · refine ⟨s1, by simp [hlt], ?_⟩
      rw [hsv1]; simp [hlt]
  · simp only [hgt, ↓reduceIte, Option.bind_some, hg0]
    by_cases hlt : e0 < pos
    · obtain ⟨s2, hs2, _, hsv2⟩ := save_saves s hi 0 pos (Nat.lt_trans Nat.zero_lt_one hl)
      exact ⟨s2, by simp [hlt, hs2], by rw [hsv2]; simp [hlt]⟩
    · exact ⟨s, by simp [hlt], by simp [hlt, hself]⟩

/-- what "the interpreter follows" means for each kind of configuration -/
def Follows (c : Ctx) (prog : List Insn) (o : VMOpts) (a : Ans) : ACfg → Prop
  | .run pc ix saves stack =>
    ∀ (s : State), Inv s → abs s = ⟨saves, stack⟩ → ∀ (fuel : Nat) (st : Stats),
      Good (runLoop c prog o fuel pc ix s st).1 a
  | .fail stack =>
    ∀ (s' : State), Inv s' → (abs s').stack = stack → ∀ (fuel : Nat) (st : Stats),
      Good (afterFail c prog o fuel s' st).1 a

theorem link (c : Ctx) (prog : List Insn) (o : VMOpts) (cfg : ACfg) (a : Ans) (h : Big c prog cfg a) :
    Follows c prog o a cfg := by
  induction h with
  | done pc ix saves stack hend hlen =>
    intro s hi habs fuel st
    cases fuel with
    | zero => left; rfl
    | succ fuel =>
      rw [runLoop_succ]
      have hs : s.saves = saves := by have := congrArg AState.saves habs; simpa [abs] using this
      obtain ⟨s', h1, h2⟩ := capStart_saves s hi c.pos (by rw [hs]; exact hlen)
      simp only [step, hend, h1]
      right; right; right
      simp [Ans.toOutcome, h2, hs]
  | step pc ix saves stack cfg' a hstep hbig ih =>
    intro s hi habs fuel st
    cases fuel with
    | zero => left; rfl
    | succ fuel =>
      rw [runLoop_succ]
      have hstep' : astep c prog pc ix (abs s).saves (abs s).stack = some cfg' := by
        rw [habs]; exact hstep
      have hrel := step_sim c prog pc ix s hi cfg' hstep'
      generalize hst : step c prog pc ix s = sr at hrel
      cases hrel with
      | cont pc' ix' s' hi' => exact ih s' hi' rfl fuel _
      | fail s' hi' => exact ih s' hi' rfl fuel _
      | overflow _ => right; left; rfl
  | failEmpty =>
    intro s' hi habs fuel st
    unfold afterFail
    have : s'.stack = [] := by
      have h1 := abs_stack_length_eq s'
      rw [habs] at h1
      exact List.eq_nil_of_length_eq_zero (by simpa using h1.symm)
    simp [this, Good, Ans.toOutcome]
  | failPop b rest a hbig ih =>
    intro s' hi habs fuel st
    unfold afterFail
    have hne : s'.stack ≠ [] := by
      intro hnil
      have h1 := abs_stack_length_eq s'
      rw [habs, hnil] at h1
      simp at h1
    obtain ⟨b0, rest0, hst⟩ : ∃ b0 rest0, s'.stack = b0 :: rest0 := by
      cases hs : s'.stack with
      | nil => exact absurd hs hne
      | cons b0 r0 => exact ⟨b0, r0, rfl⟩
    obtain ⟨s'', h1, h2, h3, _⟩ := pop_spec s' hi b0 rest0 hst
    simp only [hst, List.isEmpty_cons, Bool.false_eq_true, ↓reduceIte]
    split
    · right; right; left; rfl
    · simp only [h1]
      have hpop : (abs s').pop = some (abs s'', b0.pc, b0.ix) := h2
      have hab : abs s' = ⟨(abs s').saves, b :: rest⟩ := by
        cases ha : abs s' with
        | mk sv stk => simp only [ha] at habs; subst habs; rfl
      rw [hab] at hpop
      simp only [AState.pop, Option.some.injEq, Prod.mk.injEq] at hpop
      obtain ⟨e1, e2, e3⟩ := hpop
      rw [← e2, ← e3]
      exact ih s'' h3 e1.symm fuel _

/-- the form used by the property theorems: from the initial state of a run -/
theorem link_initial (c : Ctx) (p : Prog) (o : VMOpts) (a : Ans)
    (h : Big c p.body (.run 0 c.pos (List.replicate p.nSaves UNSET) []) a) (fuel : Nat) :
    Good (run c p o fuel).1 a := by
  have hinv : Inv (State.new p.nSaves o.maxStack) :=
    ⟨by simp [State.new, sumNsave], by simp [State.new]⟩
  have habs : abs (State.new p.nSaves o.maxStack) = ⟨List.replicate p.nSaves UNSET, []⟩ := by
    simp [abs, State.new, absStack]
  exact link c p.body o _ a h _ hinv habs fuel {}

end Fancy
