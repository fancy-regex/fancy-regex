import FancyModel.Proofs.C02
/-!
# Reference results stay inside the text

`St.Good c n st`: the position is `≤ len`, the slot vector has length `n`, and every recorded
offset is `≤ len`. Every result of every expression from a good state is good (`sem_good`): the
reference semantics never reports an offset outside the text — the specification-side half of C05's
"every reported offset is valid", and the invariant the simulation proof needs to identify machine
slot vectors (with their unset sentinel) and semantic slots.
-/
namespace Fancy

structure St.Good (c : Ctx) (n : Nat) (st : St) : Prop where
  ix : st.ix ≤ c.len
  len : st.slots.length = n
  vals : ∀ v, some v ∈ st.slots → v ≤ c.len

theorem St.Good.withIx {c : Ctx} {n : Nat} {st : St} (h : st.Good c n) (k : Nat) (hk : k ≤ c.len) :
    ({ st with ix := k } : St).Good c n := ⟨hk, h.len, h.vals⟩

theorem St.Good.setSlot {c : Ctx} {n : Nat} {st : St} (h : st.Good c n) (i v : Nat) (hv : v ≤ c.len) :
    (st.setSlot i (some v)).Good c n := by
  refine ⟨h.ix, by simpa [St.setSlot] using h.len, ?_⟩
  intro w hw
  simp only [St.setSlot] at hw
  rcases List.mem_or_eq_of_mem_set hw with hm | he
  · exact h.vals w hm
  · cases he; exact hv

theorem litAt_le (c : Ctx) (ci : Bool) (val : List Char) (ix : Nat) (h : c.litAt ci val ix = true) (hix : ix ≤ c.len) :
    ix + val.length ≤ c.len := by
  induction val generalizing ix with
  | nil => simpa using hix
  | cons a as ih =>
    simp only [Ctx.litAt] at h
    cases hat : c.at? ix with
    | none => simp [hat] at h
    | some b =>
      simp only [hat, Bool.and_eq_true] at h
      have hlt : ix < c.len := at_some_lt c ix b hat
      have := ih (ix + 1) h.2 (by omega)
      simp only [List.length_cons]; omega

theorem semConcat_good_of (c : Ctx) (n : Nat) (es : List Expr)
    (h : ∀ e ∈ es, ∀ (st r : St), st.Good c n → r ∈ sem c e st → r.Good c n) :
    ∀ (st r : St), st.Good c n → r ∈ semConcat c es st → r.Good c n :=
  fun st r hg hr => semConcat_rel_of (T := fun st r => st.Good c n → r.Good c n) (fun _ hg => hg)
    (fun _ _ _ h1 h2 hg => h2 (h1 hg)) c es (fun e he st r hr hg => h e he st r hg hr) st r hr hg

theorem sem_good (c : Ctx) (n : Nat) : ∀ (e : Expr) (st r : St), st.Good c n → r ∈ sem c e st → r.Good c n := by
  intro e
  induction e using Expr.inductBehind with
  | empty => intro st r hg h; exact mem_sem_empty h ▸ hg
  | any nl => intro st r hg h; exact (mem_sem_any h).1 ▸ hg.withIx _ (mem_sem_any h).2
  | assertion a => intro st r hg h; exact mem_sem_assertion h ▸ hg
  | literal val casei =>
    intro st r hg h
    exact (mem_sem_literal h).1 ▸ hg.withIx _ (litAt_le c casei val st.ix (mem_sem_literal h).2 hg.ix)
  | concat es ih => intro st r hg h; simp only [sem] at h; exact semConcat_good_of c n es ih st r hg h
  | alt es ih =>
    intro st r hg h
    simp only [sem] at h
    exact semAlt_rel_of (T := fun st r => st.Good c n → r.Good c n) c es
      (fun e he st r hr hg => ih e he st r hg hr) st r h hg
  | group g e ih =>
    intro st r hg h
    obtain ⟨r', hr', rfl⟩ := mem_sem_group h
    have h1 := ih _ r' (hg.setSlot (2 * g) st.ix hg.ix) hr'
    exact h1.setSlot (2 * g + 1) r'.ix h1.ix
  | look e la ih ihb =>
    intro st r hg h
    cases la with
    | ahead => obtain ⟨r', hr', rfl⟩ := mem_sem_ahead h; exact (ih st r' hg hr').withIx _ hg.ix
    | aheadNeg => exact mem_sem_aheadNeg h ▸ hg
    | behind =>
      obtain ⟨r', hr', rfl⟩ := mem_sem_behind h
      exact (semBehindAlts_rel_of (T := fun st r => st.Good c n → r.Good c n)
        (fun st j _ hj h hg => h (hg.withIx j (Nat.le_trans hj hg.ix))) c _
        (fun e' he' st r hr hg => ihb e' he' st r hg hr) st r' hr' hg).withIx _ hg.ix
    | behindNeg => exact mem_sem_behindNeg h ▸ hg
  | «repeat» e lo hi greedy ih =>
    intro st r hg h
    simp only [sem] at h
    exact repLoop_rel (T := fun st r => st.Good c n → r.Good c n) (fun _ hg => hg)
      (fun _ _ _ h1 h2 hg => h2 (h1 hg)) (sem c e) (fun st r hr hg => ih st r hg hr) lo hi greedy _ 0 st r h hg
  | delegate inner size casei =>
    intro st r hg h
    obtain ⟨k, rfl, _, hk⟩ := mem_sem_delegate h
    exact hg.withIx _ hk
  | backref g =>
    intro st r hg h
    obtain ⟨k, rfl, hk⟩ := mem_sem_backref h
    exact hg.withIx _ hk
  | atomic e ih => intro st r hg h; exact ih st r hg (mem_sem_atomic h)
  | keepOut => intro st r hg h; exact mem_sem_keepOut h ▸ hg.setSlot 0 st.ix hg.ix
  | contPrev => intro st r hg h; exact mem_sem_contPrev h ▸ hg
  | backrefExists g => intro st r hg h; exact mem_sem_backrefExists h ▸ hg
  | cond cnd y f ihc ihy ihf =>
    intro st r hg h
    rcases mem_sem_cond h with ⟨r1, hr1, h⟩ | h
    · exact ihy r1 r (ihc st r1 hg hr1) h
    · exact ihf st r hg h
  | subroutine g => intro st r _ h; exact absurd h not_mem_sem_subroutine

theorem semConcat_good (c : Ctx) (n : Nat) : ∀ (es : List Expr) (st r : St), st.Good c n →
    r ∈ semConcat c es st → r.Good c n :=
  fun es => semConcat_good_of c n es fun e _ => sem_good c n e

end Fancy
