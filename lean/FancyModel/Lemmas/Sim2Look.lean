import FancyModel.Lemmas.Sim2Core
/-!
# Atomic groups, look-aheads, negative look-arounds against the full machine (stage S2)

Generic in the body semantics `sm : St → List St`, so that look-behinds (body = go back, then the
expression) reuse the same lemmas.

* `sim2_atomic` — `BeginAtomic; <body>; EndAtomic`
* `sim2_poslook_plain_all` / `sim2_poslook_plain` — `Save; <body>; Restore` (body with at most one result)
* `sim2_poslook_atomic` — `BeginAtomic; Save; <body>; Restore; EndAtomic`: the former inside an atomic group
* `sim2_neglook` — `Split; <body>; FailNegativeLookAround`
* corollaries for `sem c (.atomic e)`, `sem c (.look e .ahead)` (both layouts), `sem c (.look e .aheadNeg)`
* look-behind layouts (`GoBack k` first): `sim2_posbehind_atomic`, `sim2_posbehind_plain`, `sim2_negbehind`

These are the constructs that *cut*: an atomic group continues only from the first result of its
body and a negative look-around never resumes its marker once the body has a result. This is what
the demand-driven obligations of `Sim2` are for (continuation only for reached results, fail
evidence only when everything before passes the failure through): the body's continuation here is a
constant function of the fail-back answer, so "the earlier results pass the failure through" forces
the reached result to be the head (`Sim2At.first`).
-/
namespace Fancy

/-- `dropUntil` skips the branches whose pc is not the target and stops at the marker -/
theorem dropUntil_append_marker (t : Nat) (S : List SBranch) (mk : SBranch) (X : List SBranch)
    (hS : ∀ br ∈ S, br.pc ≠ t) (hmk : mk.pc = t) : dropUntil t (S ++ mk :: X) = some X := by
  induction S with
  | nil => simp [dropUntil, hmk]
  | cons b bs ih =>
    have hb : b.pc ≠ t := hS b (by simp)
    simp only [List.cons_append, dropUntil, beq_iff_eq, hb, ↓reduceIte]
    exact ih (fun br hbr => hS br (by simp [hbr]))

/-! ## Passing the failure through -/

/-- trying the results `l` under `succ` hands back whatever failing back yields -/
@[reducible] private def Thru (succ : St → Ans → Ans) (l : List St) : Prop := ∀ acc, l.foldr succ acc = acc

private theorem Thru.nil (succ : St → Ans → Ans) : Thru succ [] := fun _ => rfl

private theorem Thru.append {succ : St → Ans → Ans} {l1 l2 : List St} (h1 : Thru succ l1) (h2 : Thru succ l2) :
    Thru succ (l1 ++ l2) := by
  intro acc; rw [List.foldr_append, h2, h1]

private theorem Thru.single {succ : St → Ans → Ans} {r : St} (h : ∀ acc, succ r acc = acc) : Thru succ [r] := by
  intro acc; simpa using h acc

private theorem Thru.of_single {succ : St → Ans → Ans} {r : St} (h : Thru succ [r]) : ∀ acc, succ r acc = acc := by
  intro acc; simpa using h acc

private theorem Thru.flatMap {succ : St → Ans → Ans} {g : St → List St} {l : List St}
    (h : Thru (fun r acc => (g r).foldr succ acc) l) : Thru succ (l.flatMap g) := by
  intro acc; rw [foldr_flatMap]; exact h acc

private theorem Thru.map {succ : St → Ans → Ans} {f : St → St} {l : List St}
    (h : Thru (fun r acc => succ (f r) acc) l) : Thru succ (l.map f) := by
  intro acc; rw [List.foldr_map]; exact h acc


/-! ## 1. Atomic groups -/

section Look
variable {c : Ctx} {n nS : Nat} {prog : List Insn}

private theorem firstOnly_foldr_const (l : List St) (succ : St → Ans → Ans) (failA : Ans) :
    (firstOnly l).foldr succ failA = l.foldr (fun r _ => succ r failA) failA := by
  cases l with
  | nil => rfl
  | cons q qs => simp [firstOnly]

/-- `a: BeginAtomic; <body> [a+1, m); m: EndAtomic`. The body must be balanced and is only used with
    a committing continuation; the group itself works under every continuation. -/
theorem sim2_atomic {lo hi : Nat} {cm : Bool} {sm : St → List St} {a m : Nat}
    (hbegin : prog[a]? = some .beginAtomic) (hend : prog[m]? = some .endAtomic)
    (hbody : Sim2 c n nS prog lo hi true true sm (a + 1) m) :
    Sim2 c n nS prog lo hi true cm (fun st => firstOnly (sm st)) a (m + 1) := by
  refine Sim2.ofAt fun st aux hg hl => ?_
  intro astk X succ failA _ hf hs
  have hstep : sstep c prog nS a st.ix (unview st.slots ++ aux) astk X =
      some (.run (a + 1) st.ix (unview st.slots ++ aux) (X.length :: astk) X) := by
    simp [sstep, hbegin]
  apply Big2.step _ _ _ _ _ _ _ hstep
  rw [firstOnly_foldr_const]
  refine (hbody.at hg hl).cut hend astk X [] (fun r => succ r failA) failA
    (fun h0 => hf (by rw [h0]; exact Thru.nil _)) fun r rest h0 aux' hag => ?_
  have := hs [] r [] (by rw [h0]; rfl) (Thru.nil _) aux' [] [] failA hag (fun _ => rfl) (by simp)
    (fun h => by simpa using hf (by rw [h0]; exact Thru.single h))
  simpa using this

/-! ## 2. Positive look-around, plain layout -/

/-- `a: Save(slot); <body> [a+1, m); m: Restore(slot)` without any cut: every result of the body, with
    the position put back. Balance and continuation mode are those of the body; the branches the body
    leaves stay on the stack. -/
theorem sim2_poslook_plain_all {slot hi : Nat} {bal cm : Bool} {sm : St → List St} {a m : Nat}
    (hsave : prog[a]? = some (.save slot)) (hrestore : prog[m]? = some (.restore slot))
    (hn : n ≤ slot) (hslot : slot < nS) (hhi : slot < hi)
    (hbody : Sim2 c n nS prog (slot + 1) hi bal cm sm (a + 1) m) (hk : KeepsGood c n sm) :
    Sim2 c n nS prog slot hi bal cm (fun st => (sm st).map fun r => { r with ix := st.ix }) a (m + 1) := by
  intro st aux astk X succ failA hg hl hsucc hf hs
  have hstep1 : sstep c prog nS a st.ix (unview st.slots ++ aux) astk X =
      some (.run (a + 1) st.ix (unview st.slots ++ aux.set (slot - n) st.ix) astk X) := by
    simp only [sstep, hsave, hslot, ↓reduceIte]
    rw [set_aux_slot _ _ n slot _ hg.len hn]
  apply Big2.step _ _ _ _ _ _ _ hstep1
  simp only [List.foldr_map]
  have hag0 : AuxAgree n slot hi aux (aux.set (slot - n) st.ix) := AuxAgree.set aux slot st.ix hn ⟨Nat.le_refl _, hhi⟩
  apply hbody st (aux.set (slot - n) st.ix) astk X (fun r acc => succ { r with ix := st.ix } acc) failA hg
    (by simpa using hl) (hsucc.comp _)
  · intro hthru
    exact hf (Thru.map hthru)
  · intro l1 r l2 hpos hthru aux' junk S acc hag hb hS hacc
    have hrlen : r.slots.length = n := (hk st r hg (by rw [hpos]; simp)).len
    have hget : (unview r.slots ++ aux')[slot]? = some st.ix := by
      rw [get_aux_slot _ _ n slot hrlen hn, hag.get slot hn (Or.inl (Nat.lt_succ_self _)),
        List.getElem?_set_self (by omega)]
    have hstep2 : sstep c prog nS m r.ix (unview r.slots ++ aux') (junk ++ astk) (S ++ X) =
        some (.run (m + 1) st.ix (unview r.slots ++ aux') (junk ++ astk) (S ++ X)) := by
      simp only [sstep, hrestore, hslot, ↓reduceIte, hget, hg.ix]
    apply Big2.step _ _ _ _ _ _ _ hstep2
    exact hs (l1.map fun r => { r with ix := st.ix }) { r with ix := st.ix } (l2.map fun r => { r with ix := st.ix })
      (by simp [hpos]) (Thru.map hthru) aux' junk S acc
      (hag0.trans' (hag.mono (Nat.le_succ _) (Nat.le_refl _))) hb
      (fun br hbr => by have := hS br hbr; omega) hacc

/-! ## 3. Positive look-around, atomic layout -/

/-- `a: BeginAtomic; a+1: Save(slot); <body> [a+2, m); m: Restore(slot); m+1: EndAtomic`; `slot` is an
    auxiliary slot, the body owns `[slot+1, hi)`: the plain layout inside an atomic group -/
theorem sim2_poslook_atomic {slot hi : Nat} {cm : Bool} {sm : St → List St} {a m : Nat}
    (hbegin : prog[a]? = some .beginAtomic) (hsave : prog[a + 1]? = some (.save slot))
    (hrestore : prog[m]? = some (.restore slot)) (hend : prog[m + 1]? = some .endAtomic)
    (hn : n ≤ slot) (hslot : slot < nS) (hhi : slot < hi)
    (hbody : Sim2 c n nS prog (slot + 1) hi true true sm (a + 2) m) (hk : KeepsGood c n sm) :
    Sim2 c n nS prog slot hi true cm
      (fun st => (firstOnly (sm st)).map fun r => { r with ix := st.ix }) a (m + 2) :=
  (sim2_atomic hbegin hend (sim2_poslook_plain_all hsave hrestore hn hslot hhi hbody hk)).congr
    fun st => by cases sm st <;> rfl

/-- the plain layout for a body with at most one result (what the compiler requires of it): the
    semantics of the positive look-around. `cm` of the body is the outer `cm`. -/
theorem sim2_poslook_plain {slot hi : Nat} {bal cm : Bool} {sm : St → List St} {a m : Nat}
    (hsave : prog[a]? = some (.save slot)) (hrestore : prog[m]? = some (.restore slot))
    (hn : n ≤ slot) (hslot : slot < nS) (hhi : slot < hi)
    (hbody : Sim2 c n nS prog (slot + 1) hi bal cm sm (a + 1) m) (hk : KeepsGood c n sm)
    (hone : ∀ st, (sm st).length ≤ 1) :
    Sim2 c n nS prog slot hi bal cm
      (fun st => (firstOnly (sm st)).map fun r => { r with ix := st.ix }) a (m + 1) :=
  (sim2_poslook_plain_all hsave hrestore hn hslot hhi hbody hk).congr
    (fun st => by rw [firstOnly_of_length_le_one _ (hone st)])

/-! ## 4. Negative look-around -/

/-- `a: Split(a+1, m+1); <body> [a+1, m); m: FailNegativeLookAround`. Any balance of the body; the
    body is only used with a committing continuation. The result is balanced, changes no auxiliary
    slot and leaves no branch. -/
theorem sim2_neglook {lo hi : Nat} {bal cm : Bool} {sm : St → List St} {a m : Nat}
    (hsplit : prog[a]? = some (.split (a + 1) (m + 1))) (hfail : prog[m]? = some .failNegLook)
    (hbody : Sim2 c n nS prog lo hi bal true sm (a + 1) m) :
    Sim2 c n nS prog lo hi true cm (fun st => if (sm st).isEmpty then [st] else []) a (m + 1) := by
  refine Sim2.ofAt fun st aux hg hl => ?_
  intro astk X succ failA _ hf hs
  have hstep : sstep c prog nS a st.ix (unview st.slots ++ aux) astk X =
      some (.run (a + 1) st.ix (unview st.slots ++ aux) astk (⟨m + 1, st.ix, unview st.slots ++ aux, astk⟩ :: X)) := by
    simp [sstep, hsplit]
  apply Big2.step _ _ _ _ _ _ _ hstep
  -- no result: the marker is resumed at `m+1`; a first result: the instruction pops to the marker and fails
  have := (hbody.at hg hl).first astk (⟨m + 1, st.ix, unview st.slots ++ aux, astk⟩ :: X) (fun _ => failA)
    (succ st failA)
    (fun h0 => by
      apply Big2.failPop
      simp only [h0, List.isEmpty_nil, ↓reduceIte] at hf hs
      have := hs [] st [] rfl (Thru.nil _) aux [] [] failA (AuxAgree.refl _ _ _ _) (fun _ => rfl) (by simp)
        (fun h => by simpa using hf (Thru.single h))
      simpa using this)
    (fun r rest h0 aux' junk S _ _ hS => by
      have hstep2 : sstep c prog nS m r.ix (unview r.slots ++ aux') (junk ++ astk)
          (S ++ ⟨m + 1, st.ix, unview st.slots ++ aux, astk⟩ :: X) = some (.fail X) := by
        simp only [sstep, hfail]
        rw [dropUntil_append_marker (m + 1) S _ X (fun br hbr => by have := hS br hbr; omega) rfl]
      exact Big2.step _ _ _ _ _ _ _ hstep2 (hf (fun acc => by simp [h0])))
  cases hsm : sm st <;> simpa [hsm] using this

/-! ## 5. Corollaries for the reference semantics -/

theorem sim2_sem_atomic {lo hi : Nat} {cm : Bool} {e : Expr} {a m : Nat}
    (hbegin : prog[a]? = some .beginAtomic) (hend : prog[m]? = some .endAtomic)
    (hbody : Sim2 c n nS prog lo hi true true (sem c e) (a + 1) m) :
    Sim2 c n nS prog lo hi true cm (sem c (.atomic e)) a (m + 1) :=
  (sim2_atomic hbegin hend hbody).congr (fun st => by simp [sem])

theorem sim2_sem_ahead_atomic {slot hi : Nat} {cm : Bool} {e : Expr} {a m : Nat}
    (hbegin : prog[a]? = some .beginAtomic) (hsave : prog[a + 1]? = some (.save slot))
    (hrestore : prog[m]? = some (.restore slot)) (hend : prog[m + 1]? = some .endAtomic)
    (hn : n ≤ slot) (hslot : slot < nS) (hhi : slot < hi)
    (hbody : Sim2 c n nS prog (slot + 1) hi true true (sem c e) (a + 2) m) :
    Sim2 c n nS prog slot hi true cm (sem c (.look e .ahead)) a (m + 2) :=
  (sim2_poslook_atomic hbegin hsave hrestore hend hn hslot hhi hbody (fun st r hg hr => sem_good c n e st r hg hr)).congr
    (fun st => by simp [sem])

theorem sim2_sem_ahead_plain {slot hi : Nat} {bal cm : Bool} {e : Expr} {a m : Nat}
    (hsave : prog[a]? = some (.save slot)) (hrestore : prog[m]? = some (.restore slot))
    (hn : n ≤ slot) (hslot : slot < nS) (hhi : slot < hi)
    (hbody : Sim2 c n nS prog (slot + 1) hi bal cm (sem c e) (a + 1) m)
    (hone : ∀ st, (sem c e st).length ≤ 1) :
    Sim2 c n nS prog slot hi bal cm (sem c (.look e .ahead)) a (m + 1) :=
  (sim2_poslook_plain hsave hrestore hn hslot hhi hbody (fun st r hg hr => sem_good c n e st r hg hr) hone).congr
    (fun st => by simp [sem])

theorem sim2_sem_aheadNeg {lo hi : Nat} {bal cm : Bool} {e : Expr} {a m : Nat}
    (hsplit : prog[a]? = some (.split (a + 1) (m + 1))) (hfail : prog[m]? = some .failNegLook)
    (hbody : Sim2 c n nS prog lo hi bal true (sem c e) (a + 1) m) :
    Sim2 c n nS prog lo hi true cm (sem c (.look e .aheadNeg)) a (m + 1) :=
  (sim2_neglook hsplit hfail hbody).congr (fun st => by simp [sem])

/-! ## 6. Look-behind layouts: `GoBack k` first -/

theorem keepsGood_goBack (k : Nat) :
    KeepsGood c n (fun st => if k ≤ st.ix then [{ st with ix := st.ix - k }] else []) := by
  intro st r hg hr
  by_cases hk : k ≤ st.ix
  · simp only [hk, ↓reduceIte, List.mem_singleton] at hr; subst hr
    exact hg.withIx _ (by have := hg.ix; omega)
  · simp [hk] at hr

theorem keepsGood_back {body : St → List St} (k : Nat) (hk : KeepsGood c n body) :
    KeepsGood c n (fun st => (if k ≤ st.ix then [{ st with ix := st.ix - k }] else []).flatMap body) := by
  intro st r hg hr
  obtain ⟨q, hq, hr⟩ := List.mem_flatMap.mp hr
  exact hk q r (keepsGood_goBack k st q hg hq) hr

/-- `GoBack k; <body>`: the body of a look-behind -/
theorem sim2_back {lo hi : Nat} {bal cm : Bool} {body : St → List St} {a m k : Nat}
    (hback : prog[a]? = some (.goBack k)) (hbody : Sim2 c n nS prog lo hi bal cm body (a + 1) m) (ham : a + 1 ≤ m)
    (hlh : lo ≤ hi) :
    Sim2 c n nS prog lo hi bal cm
      (fun st => (if k ≤ st.ix then [{ st with ix := st.ix - k }] else []).flatMap body) a m :=
  Sim2.seq (sim2_goBack c n nS prog lo lo bal false a k hback) hbody (keepsGood_goBack k) (Nat.le_refl _) hlh
    (Nat.le_succ _) ham

/-- `a: BeginAtomic; a+1: Save(slot); a+2: GoBack k; <body> [a+3, m); m: Restore(slot); m+1: EndAtomic` -/
theorem sim2_posbehind_atomic {slot hi : Nat} {cm : Bool} {body : St → List St} {a m k : Nat}
    (hbegin : prog[a]? = some .beginAtomic) (hsave : prog[a + 1]? = some (.save slot))
    (hback : prog[a + 2]? = some (.goBack k))
    (hrestore : prog[m]? = some (.restore slot)) (hend : prog[m + 1]? = some .endAtomic)
    (hn : n ≤ slot) (hslot : slot < nS) (hhi : slot < hi) (ham : a + 3 ≤ m)
    (hbody : Sim2 c n nS prog (slot + 1) hi true true body (a + 3) m) (hk : KeepsGood c n body) :
    Sim2 c n nS prog slot hi true cm
      (fun st => (firstOnly ((if k ≤ st.ix then [{ st with ix := st.ix - k }] else []).flatMap body)).map
        fun r => { r with ix := st.ix }) a (m + 2) :=
  sim2_poslook_atomic hbegin hsave hrestore hend hn hslot hhi
    (sim2_back hback (hbody.cast rfl rfl) ham hhi) (keepsGood_back k hk)

private theorem length_back_le_one {body : St → List St} (k : Nat) (hone : ∀ st, (body st).length ≤ 1) (st : St) :
    ((if k ≤ st.ix then [{ st with ix := st.ix - k }] else []).flatMap body).length ≤ 1 := by
  by_cases hk : k ≤ st.ix
  · simpa [hk] using hone _
  · simp [hk]

/-- `a: Save(slot); a+1: GoBack k; <body> [a+2, m); m: Restore(slot)`, body with at most one result -/
theorem sim2_posbehind_plain {slot hi : Nat} {bal cm : Bool} {body : St → List St} {a m k : Nat}
    (hsave : prog[a]? = some (.save slot)) (hback : prog[a + 1]? = some (.goBack k))
    (hrestore : prog[m]? = some (.restore slot))
    (hn : n ≤ slot) (hslot : slot < nS) (hhi : slot < hi) (ham : a + 2 ≤ m)
    (hbody : Sim2 c n nS prog (slot + 1) hi bal cm body (a + 2) m) (hk : KeepsGood c n body)
    (hone : ∀ st, (body st).length ≤ 1) :
    Sim2 c n nS prog slot hi bal cm
      (fun st => (firstOnly ((if k ≤ st.ix then [{ st with ix := st.ix - k }] else []).flatMap body)).map
        fun r => { r with ix := st.ix }) a (m + 1) :=
  sim2_poslook_plain hsave hrestore hn hslot hhi
    (sim2_back hback (hbody.cast rfl rfl) ham hhi) (keepsGood_back k hk) (length_back_le_one k hone)

/-- `a: Split(a+1, m+1); a+1: GoBack k; <body> [a+2, m); m: FailNegativeLookAround` -/
theorem sim2_negbehind {lo hi : Nat} {bal cm : Bool} {body : St → List St} {a m k : Nat}
    (hsplit : prog[a]? = some (.split (a + 1) (m + 1))) (hback : prog[a + 1]? = some (.goBack k))
    (hfail : prog[m]? = some .failNegLook) (ham : a + 2 ≤ m) (hlh : lo ≤ hi)
    (hbody : Sim2 c n nS prog lo hi bal true body (a + 2) m) :
    Sim2 c n nS prog lo hi true cm
      (fun st => if ((if k ≤ st.ix then [{ st with ix := st.ix - k }] else []).flatMap body).isEmpty then [st] else [])
      a (m + 1) :=
  sim2_neglook hsplit hfail (sim2_back hback (hbody.cast rfl rfl) ham hlh)


end Look

/-! ## The hypotheses are satisfiable: concrete layouts (2 capture slots, body = `GoBack 1` or empty) -/

example (c : Ctx) (cm : Bool) :
    Sim2 c 2 2 [.beginAtomic, .goBack 1, .endAtomic] 2 2 true cm
      (fun st => firstOnly (if 1 ≤ st.ix then [{ st with ix := st.ix - 1 }] else [])) 0 3 :=
  sim2_atomic (a := 0) (m := 2) rfl rfl (sim2_goBack _ _ _ _ _ _ _ _ 1 _ rfl)

example (c : Ctx) (cm : Bool) :
    Sim2 c 2 3 [.beginAtomic, .save 2, .goBack 1, .restore 2, .endAtomic] 2 3 true cm
      (fun st => (firstOnly (if 1 ≤ st.ix then [{ st with ix := st.ix - 1 }] else [])).map
        fun r => { r with ix := st.ix }) 0 5 :=
  sim2_poslook_atomic (n := 2) (nS := 3) (slot := 2) (hi := 3) (a := 0) (m := 3) rfl rfl rfl rfl
    (by omega) (by omega) (by omega)
    (sim2_goBack _ _ _ _ _ _ _ _ 2 _ rfl) (keepsGood_goBack 1)

example (c : Ctx) (cm : Bool) :
    Sim2 c 2 3 [.save 2, .goBack 1, .restore 2] 2 3 true cm
      (fun st => (firstOnly (if 1 ≤ st.ix then [{ st with ix := st.ix - 1 }] else [])).map
        fun r => { r with ix := st.ix }) 0 3 :=
  sim2_poslook_plain (n := 2) (nS := 3) (slot := 2) (hi := 3) (a := 0) (m := 2) rfl rfl (by omega) (by omega) (by omega)
    (sim2_goBack _ _ _ _ _ _ _ _ 1 _ rfl) (keepsGood_goBack 1) (fun st => by by_cases h : 1 ≤ st.ix <;> simp [h])

example (c : Ctx) (cm : Bool) :
    Sim2 c 2 2 [.split 1 3, .goBack 1, .failNegLook] 2 2 true cm
      (fun st => if (if 1 ≤ st.ix then [{ st with ix := st.ix - 1 }] else []).isEmpty then [st] else []) 0 3 :=
  sim2_neglook (bal := true) (a := 0) (m := 2) rfl rfl (sim2_goBack _ _ _ _ _ _ _ _ 1 _ rfl)

example (c : Ctx) (cm : Bool) :
    Sim2 c 2 3 [.beginAtomic, .save 2, .goBack 1, .restore 2, .endAtomic] 2 3 true cm
      (fun st => (firstOnly ((if 1 ≤ st.ix then [{ st with ix := st.ix - 1 }] else []).flatMap fun st => [st])).map
        fun r => { r with ix := st.ix }) 0 5 :=
  sim2_posbehind_atomic (n := 2) (nS := 3) (slot := 2) (hi := 3) (a := 0) (m := 3) rfl rfl rfl rfl rfl (by omega) (by omega) (by omega) (by omega)
    (Sim2.nil c 2 3 _ 3 3 true true 3) (fun st r hg hr => by simp at hr; subst hr; exact hg)

example (c : Ctx) (cm : Bool) :
    Sim2 c 2 3 [.save 2, .goBack 1, .restore 2] 2 3 true cm
      (fun st => (firstOnly ((if 1 ≤ st.ix then [{ st with ix := st.ix - 1 }] else []).flatMap fun st => [st])).map
        fun r => { r with ix := st.ix }) 0 3 :=
  sim2_posbehind_plain (n := 2) (nS := 3) (slot := 2) (hi := 3) (a := 0) (m := 2) rfl rfl rfl (by omega) (by omega) (by omega) (by omega)
    (Sim2.nil c 2 3 _ 3 3 true cm 2) (fun st r hg hr => by simp at hr; subst hr; exact hg) (fun _ => by simp)

example (c : Ctx) (cm : Bool) :
    Sim2 c 2 2 [.split 1 3, .goBack 1, .failNegLook] 2 2 true cm
      (fun st => if ((if 1 ≤ st.ix then [{ st with ix := st.ix - 1 }] else []).flatMap fun st => [st]).isEmpty
        then [st] else []) 0 3 :=
  sim2_negbehind (bal := true) (lo := 2) (hi := 2) (a := 0) (m := 2) rfl rfl rfl (by omega) (by omega) (Sim2.nil c 2 2 _ 2 2 true true 2)

example (c : Ctx) (cm : Bool) :
    Sim2 c 2 2 [.beginAtomic, .endAtomic] 2 2 true cm (sem c (.atomic .empty)) 0 2 :=
  sim2_sem_atomic (a := 0) (m := 1) rfl rfl ((Sim2.nil c 2 2 _ 2 2 true true 1).congr (fun st => by simp [sem]))

example (c : Ctx) (cm : Bool) :
    Sim2 c 2 3 [.beginAtomic, .save 2, .restore 2, .endAtomic] 2 3 true cm (sem c (.look .empty .ahead)) 0 4 :=
  sim2_sem_ahead_atomic (n := 2) (nS := 3) (slot := 2) (hi := 3) (a := 0) (m := 2) rfl rfl rfl rfl
    (by omega) (by omega) (by omega) ((Sim2.nil c 2 3 _ 3 3 true true 2).congr (fun st => by simp [sem]))

example (c : Ctx) (cm : Bool) :
    Sim2 c 2 3 [.save 2, .restore 2] 2 3 true cm (sem c (.look .empty .ahead)) 0 2 :=
  sim2_sem_ahead_plain (n := 2) (nS := 3) (slot := 2) (hi := 3) (a := 0) (m := 1) rfl rfl
    (by omega) (by omega) (by omega) ((Sim2.nil c 2 3 _ 3 3 true cm 1).congr (fun st => by simp [sem]))
    (fun st => by simp [sem])

example (c : Ctx) (cm : Bool) :
    Sim2 c 2 2 [.split 1 2, .failNegLook] 2 2 true cm (sem c (.look .empty .aheadNeg)) 0 2 :=
  sim2_sem_aheadNeg (bal := true) (a := 0) (m := 1) rfl rfl
    ((Sim2.nil c 2 2 _ 2 2 true true 1).congr (fun st => by simp [sem]))

end Fancy
