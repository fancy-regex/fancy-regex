import FancyModel.Model.State
/-!
# The undo-log state refines whole-state copies (helper lemmas for `Proofs/C20.lean`)

`abs` maps the concrete `State` (current slots + a copy-on-write undo log split into segments by
the `nsave` fields) to the reference the property describes: current slots and a stack of *whole
copies*. Every operation is shown to commute with `abs` under the invariant `Inv`.
-/
namespace Fancy
open State

/-- undo log entries, newest first: older entries are applied later and therefore win -/
def undo (saves : List Nat) (log : List (Nat × Nat)) : List Nat :=
  log.foldl (fun sv e => sv.set e.1 e.2) saves

structure ABranch where
  pc : Nat
  ix : Nat
  saves : List Nat
deriving DecidableEq, Repr

/-- the whole-copy reference state -/
structure AState where
  saves : List Nat
  stack : List ABranch
deriving DecidableEq, Repr

def absStack : List Nat → Nat → List (Nat × Nat) → List Branch → List ABranch
  | _, _, _, [] => []
  | cur, n, log, b :: bs =>
    ⟨b.pc, b.ix, undo cur (log.take n)⟩ :: absStack (undo cur (log.take n)) b.nsave (log.drop n) bs

def abs (s : State) : AState := ⟨s.saves, absStack s.saves s.nsave s.oldsave s.stack⟩

structure Inv (s : State) : Prop where
  len : s.nsave + sumNsave s.stack ≤ s.oldsave.length
  slots : ∀ e ∈ s.oldsave, e.1 < s.saves.length

/-! ## `undo` -/

@[simp] theorem undo_nil (sv : List Nat) : undo sv [] = sv := rfl
@[simp] theorem undo_cons (sv : List Nat) (e : Nat × Nat) (es : List (Nat × Nat)) :
    undo sv (e :: es) = undo (sv.set e.1 e.2) es := rfl

theorem undo_append (sv : List Nat) (a b : List (Nat × Nat)) :
    undo sv (a ++ b) = undo (undo sv a) b := by
  simp [undo, List.foldl_append]

@[simp] theorem undo_length (sv : List Nat) (log : List (Nat × Nat)) : (undo sv log).length = sv.length := by
  induction log generalizing sv with
  | nil => rfl
  | cons e es ih => simp [ih]

/-- pointwise: the *oldest* entry for a slot decides its value -/
theorem undo_getElem? (log : List (Nat × Nat)) (sv : List Nat) (i : Nat) :
    (undo sv log)[i]? =
      match log.reverse.find? (fun e => e.1 == i) with
      | some e => if i < sv.length then some e.2 else none
      | none => sv[i]? := by
  induction log generalizing sv with
  | nil => simp
  | cons e es ih =>
    rw [undo_cons, ih, List.reverse_cons, List.find?_append]
    cases h : es.reverse.find? (fun e => e.1 == i) with
    | some e' => simp
    | none =>
      simp only [Option.none_or, List.find?_cons, List.find?_nil]
      by_cases hi : e.1 = i
      · subst hi
        simp only [beq_self_eq_true]
        by_cases hl : e.1 < sv.length
        · simp [hl]
        · simp [hl, List.getElem?_eq_none (Nat.le_of_not_lt (by simpa using hl))]
      · have : (e.1 == i) = false := by simp [hi]
        simp only [this]
        rw [List.getElem?_set_ne hi]

theorem undo_set_of_mem (log : List (Nat × Nat)) (saves : List Nat) (slot val : Nat)
    (h : log.any (fun e => e.1 == slot) = true) :
    undo (saves.set slot val) log = undo saves log := by
  induction log generalizing saves with
  | nil => simp at h
  | cons e es ih =>
    simp only [undo_cons]
    by_cases he : e.1 = slot
    · subst he; simp [List.set_set]
    · have : es.any (fun e => e.1 == slot) = true := by simpa [he] using h
      rw [List.set_comm _ _ (by omega : slot ≠ e.1)]
      exact ih _ this

/-! ## `restore` is `undo` -/

theorem restore_eq (n : Nat) (log : List (Nat × Nat)) (saves : List Nat)
    (hn : n ≤ log.length) (hs : ∀ e ∈ log.take n, e.1 < saves.length) :
    restore n log saves = some (log.drop n, undo saves (log.take n)) := by
  induction n generalizing log saves with
  | zero => simp [restore]
  | succ n ih =>
    cases log with
    | nil => simp at hn
    | cons e es =>
      obtain ⟨slot, value⟩ := e
      have h1 : slot < saves.length := hs (slot, value) (by simp)
      simp only [restore, h1, ↓reduceIte, List.take_succ_cons, List.drop_succ_cons, undo_cons]
      apply ih
      · simpa using hn
      · intro e he
        simpa using hs e (by simp [he])

/-! ## `push`, `pop`, `save` commute with `abs` -/

def AState.push (a : AState) (pc ix : Nat) : AState := { a with stack := ⟨pc, ix, a.saves⟩ :: a.stack }

def AState.pop (a : AState) : Option (AState × Nat × Nat) :=
  match a.stack with
  | [] => none
  | b :: rest => some (⟨b.saves, rest⟩, b.pc, b.ix)

def AState.save (a : AState) (slot val : Nat) : AState := { a with saves := a.saves.set slot val }

/-- discard the alternatives above `count` (atomic commit), keep the current values -/
def AState.cut (a : AState) (count : Nat) : AState := { a with stack := a.stack.drop (a.stack.length - count) }

theorem sumNsave_cons (b : Branch) (bs : List Branch) : sumNsave (b :: bs) = b.nsave + sumNsave bs := by
  simp [sumNsave]

theorem abs_push (s s' : State) (pc ix : Nat) (h : s.push pc ix = .ok s') :
    abs s' = (abs s).push pc ix := by
  unfold State.push at h
  split at h
  · cases h
    simp [abs, absStack, AState.push]
  · cases h

theorem inv_push (s s' : State) (pc ix : Nat) (hi : Inv s) (h : s.push pc ix = .ok s') : Inv s' := by
  unfold State.push at h
  split at h
  · cases h
    exact ⟨by simpa [sumNsave_cons] using hi.len, hi.slots⟩
  · cases h

theorem mem_take_of {α} {l : List α} {n : Nat} {x : α} (h : x ∈ l.take n) : x ∈ l :=
  List.mem_of_mem_take h

theorem pop_spec (s : State) (hi : Inv s) (b : Branch) (rest : List Branch) (hs : s.stack = b :: rest) :
    ∃ s', s.pop = some (s', b.pc, b.ix) ∧ (abs s).pop = some (abs s', b.pc, b.ix) ∧ Inv s' ∧ s'.maxStack = s.maxStack := by
  have hn : s.nsave ≤ s.oldsave.length := by have := hi.len; omega
  have hr := restore_eq s.nsave s.oldsave s.saves hn (fun e he => hi.slots e (mem_take_of he))
  refine ⟨{ s with saves := undo s.saves (s.oldsave.take s.nsave), oldsave := s.oldsave.drop s.nsave,
                   stack := rest, nsave := b.nsave }, ?_, ?_, ?_, rfl⟩
  · simp [State.pop, hr, hs]
  · simp [abs, hs, absStack, AState.pop]
  · constructor
    · have := hi.len
      simp only [hs, sumNsave_cons] at this
      simp only [List.length_drop]
      omega
    · intro e he
      simp only [undo_length]
      exact hi.slots e (List.mem_of_mem_drop he)

theorem save_spec (s : State) (hi : Inv s) (slot val : Nat) (hslot : slot < s.saves.length) :
    ∃ s', s.save slot val = some s' ∧ abs s' = (abs s).save slot val ∧ Inv s' ∧ s'.maxStack = s.maxStack := by
  have hn : s.nsave ≤ s.oldsave.length := by have := hi.len; omega
  unfold State.save
  simp only [Nat.not_lt.mpr hn, ↓reduceIte, Nat.not_le.mpr hslot]
  split
  · rename_i hmem
    refine ⟨_, rfl, ?_, ?_, rfl⟩
    · simp only [abs, AState.save]
      cases hst : s.stack with
      | nil => simp [absStack]
      | cons b bs =>
        simp only [absStack]
        rw [undo_set_of_mem _ _ _ _ hmem]
    · exact ⟨hi.len, by simpa using hi.slots⟩
  · rename_i hmem
    refine ⟨_, rfl, ?_, ?_, rfl⟩
    · simp only [abs, AState.save]
      cases hst : s.stack with
      | nil => simp [absStack]
      | cons b bs =>
        simp only [absStack, List.take_succ_cons, List.drop_succ_cons, undo_cons, List.set_set]
        have : (s.saves.set slot (s.saves.getD slot 0)) = s.saves := by
          rw [List.getD_eq_getElem?_getD, List.getElem?_eq_getElem hslot]
          simp
        rw [this]
    · constructor
      · simpa using Nat.succ_le_succ hi.len |> fun h => by omega
      · intro e he
        simp only [List.length_set]
        rcases List.mem_cons.mp he with rfl | he
        · exact hslot
        · exact hi.slots e he

theorem save_saves (s : State) (hi : Inv s) (slot val : Nat) (hslot : slot < s.saves.length) :
    ∃ s', s.save slot val = some s' ∧ Inv s' ∧ s'.saves = s.saves.set slot val := by
  obtain ⟨s', h1, h2, h3, _⟩ := save_spec s hi slot val hslot
  exact ⟨s', h1, h3, congrArg AState.saves h2⟩

/-! ## `backtrack_cut` -/

theorem cutKeep_find (seen : List Nat) (l : List (Nat × Nat)) (i : Nat) (h : seen.contains i = false) :
    (cutKeep seen l).find? (fun e => e.1 == i) = l.find? (fun e => e.1 == i) := by
  induction l generalizing seen with
  | nil => simp [cutKeep]
  | cons e es ih =>
    unfold cutKeep
    by_cases hc : seen.contains e.1 = true
    · have hne : (e.1 == i) = false := by
        cases hb : (e.1 == i) with
        | false => rfl
        | true =>
          have : e.1 = i := by simpa using hb
          rw [this] at hc; rw [hc] at h; cases h
      simp only [hc, ↓reduceIte, List.find?_cons, hne]
      exact ih seen h
    · simp only [hc, Bool.false_eq_true, ↓reduceIte, List.find?_cons]
      cases hb : (e.1 == i) with
      | true => rfl
      | false =>
        apply ih
        have hne : ¬ (e.1 = i) := by simpa using hb
        simp only [List.contains_cons, Bool.or_eq_false_iff]
        refine ⟨?_, h⟩
        cases hq : (i == e.1) with
        | false => rfl
        | true => exact absurd (by simpa using hq : i = e.1).symm hne

theorem find_none_not_contains (seg : List (Nat × Nat)) (i : Nat)
    (h : seg.reverse.find? (fun e => e.1 == i) = none) : (seg.map (·.1)).contains i = false := by
  rw [List.find?_eq_none] at h
  cases hc : (seg.map (·.1)).contains i with
  | false => rfl
  | true =>
    rw [List.contains_iff_mem] at hc
    obtain ⟨e, he, hei⟩ := List.mem_map.mp hc
    have := h e (by simpa using he)
    simp [hei] at this

/-- the compaction of `backtrack_cut` does not change what undoing the merged segment yields -/
theorem undo_compact (sv : List Nat) (top seg : List (Nat × Nat)) :
    undo sv ((cutKeep (seg.map (·.1)) top.reverse).reverse ++ seg) = undo sv (top ++ seg) := by
  apply List.ext_getElem?
  intro i
  rw [undo_getElem?, undo_getElem?]
  simp only [List.reverse_append, List.reverse_reverse, List.find?_append]
  cases h : seg.reverse.find? (fun e => e.1 == i) with
  | some e => simp
  | none =>
    simp only [Option.none_or]
    rw [cutKeep_find _ _ _ (find_none_not_contains seg i h)]

theorem absStack_drop (cur : List Nat) (n : Nat) (log : List (Nat × Nat)) (bs : List Branch) (k : Nat)
    (hk : k ≤ bs.length) (hlen : n + sumNsave (bs.take k) ≤ log.length) :
    (absStack cur n log bs).drop k =
      match bs.drop k with
      | [] => []
      | b :: rest =>
        ⟨b.pc, b.ix, undo cur (log.take (n + sumNsave (bs.take k)))⟩ ::
          absStack (undo cur (log.take (n + sumNsave (bs.take k)))) b.nsave
            (log.drop (n + sumNsave (bs.take k))) rest := by
  induction k generalizing cur n log bs with
  | zero =>
    cases bs with
    | nil => simp [absStack]
    | cons b rest => simp [absStack, sumNsave]
  | succ k ih =>
    cases bs with
    | nil => simp at hk
    | cons b rest =>
      simp only [absStack, List.drop_succ_cons, List.take_succ_cons]
      have hk' : k ≤ rest.length := by simpa using hk
      simp only [List.take_succ_cons, sumNsave_cons] at hlen
      have hlen' : b.nsave + sumNsave (rest.take k) ≤ (log.drop n).length := by
        simp only [List.length_drop]; omega
      rw [ih (undo cur (log.take n)) b.nsave (log.drop n) rest hk' hlen']
      cases hrest : rest.drop k with
      | nil => simp
      | cons b' rest' =>
        simp only [sumNsave_cons]
        have e1 : log.take (n + (b.nsave + sumNsave (rest.take k))) =
            log.take n ++ (log.drop n).take (b.nsave + sumNsave (rest.take k)) := by
          rw [List.take_add]
        have e2 : (log.drop n).drop (b.nsave + sumNsave (rest.take k)) =
            log.drop (n + (b.nsave + sumNsave (rest.take k))) := by
          rw [List.drop_drop]
        rw [e1, undo_append, e2]

theorem sumNsave_append (a b : List Branch) : sumNsave (a ++ b) = sumNsave a + sumNsave b := by
  simp [sumNsave]

theorem sumNsave_take_le (bs : List Branch) (k : Nat) : sumNsave (bs.take k) ≤ sumNsave bs := by
  conv => rhs; rw [← List.take_append_drop k bs]
  rw [sumNsave_append]; omega

theorem cutKeep_mem (seen : List Nat) (l : List (Nat × Nat)) (e : Nat × Nat) (h : e ∈ cutKeep seen l) : e ∈ l := by
  induction l generalizing seen with
  | nil => simp [cutKeep] at h
  | cons x xs ih =>
    unfold cutKeep at h
    split at h
    · exact List.mem_cons_of_mem _ (ih _ h)
    · rcases List.mem_cons.mp h with rfl | h
      · simp
      · exact List.mem_cons_of_mem _ (ih _ h)

theorem cutKeep_length_le (seen : List Nat) (l : List (Nat × Nat)) : (cutKeep seen l).length ≤ l.length := by
  induction l generalizing seen with
  | nil => simp [cutKeep]
  | cons x xs ih =>
    unfold cutKeep
    split
    · have := ih seen; simp; omega
    · have := ih (x.1 :: seen); simp; omega

theorem cut_abs_core (cur : List Nat) (log : List (Nat × Nat)) (m1 bn : Nat) (b' : Branch)
    (rest' : List Branch) (h : m1 + bn ≤ log.length) :
    absStack cur ((cutKeep (((log.drop m1).take bn).map (·.1)) (log.take m1).reverse).length + bn)
        ((cutKeep (((log.drop m1).take bn).map (·.1)) (log.take m1).reverse).reverse ++
          (log.drop m1).take bn ++ log.drop (m1 + bn)) (b' :: rest')
      = ⟨b'.pc, b'.ix, undo cur (log.take (m1 + bn))⟩ ::
          absStack (undo cur (log.take (m1 + bn))) b'.nsave (log.drop (m1 + bn)) rest' := by
  generalize hseg : (log.drop m1).take bn = seg
  generalize hkept : cutKeep (seg.map (·.1)) (log.take m1).reverse = kept
  have hseglen : seg.length = bn := by
    rw [← hseg]; simp only [List.length_take, List.length_drop]; omega
  have ht : (kept.reverse ++ seg ++ log.drop (m1 + bn)).take (kept.length + bn) = kept.reverse ++ seg := by
    rw [List.take_append_of_le_length (by simp [hseglen])]
    rw [List.take_of_length_le (by simp [hseglen])]
  have hdr : (kept.reverse ++ seg ++ log.drop (m1 + bn)).drop (kept.length + bn) = log.drop (m1 + bn) := by
    rw [List.drop_append_of_le_length (by simp [hseglen])]
    rw [List.drop_of_length_le (by simp [hseglen])]
    simp
  have hsplit : log.take (m1 + bn) = log.take m1 ++ seg := by
    rw [List.take_add, hseg]
  simp only [absStack, ht, hdr]
  rw [hsplit, ← hkept, undo_compact]

theorem absStack_length (cur : List Nat) (n : Nat) (log : List (Nat × Nat)) (bs : List Branch) :
    (absStack cur n log bs).length = bs.length := by
  induction bs generalizing cur n log with
  | nil => rfl
  | cons b bs ih => simp [absStack, ih]

theorem cut_spec (s : State) (hi : Inv s) (count : Nat) (hc : count ≤ s.stack.length) :
    ∃ s', s.backtrackCut count = some s' ∧ abs s' = (abs s).cut count ∧ Inv s' ∧ s'.maxStack = s.maxStack := by
  unfold State.backtrackCut
  by_cases heq : s.stack.length = count
  · refine ⟨s, by simp [heq], ?_, hi, rfl⟩
    simp only [AState.cut, abs, absStack_length, heq, Nat.sub_self, List.drop_zero]
  · have hlt : count < s.stack.length := by omega
    simp only [beq_iff_eq, heq, ↓reduceIte, Nat.not_lt.mpr hc]
    generalize hk : s.stack.length - count = k
    have hk1 : 1 ≤ k := by omega
    have hkl : k ≤ s.stack.length := by omega
    obtain ⟨b, hb⟩ : ∃ b, s.stack[k - 1]? = some b := by
      have : k - 1 < s.stack.length := by omega
      exact ⟨s.stack[k - 1], List.getElem?_eq_getElem this⟩
    have htake : s.stack.take k = s.stack.take (k - 1) ++ [b] := by
      have : s.stack.take (k - 1 + 1) = s.stack.take (k - 1) ++ [b] := by rw [List.take_succ, hb]; rfl
      rwa [Nat.sub_add_cancel hk1] at this
    have hsum : sumNsave (s.stack.take k) = sumNsave (s.stack.take (k - 1)) + b.nsave := by
      rw [htake, sumNsave_append]; simp [sumNsave]
    have hle := sumNsave_take_le s.stack k
    have hlen := hi.len
    simp only [hb]
    have hfit : ¬ (s.nsave + sumNsave (s.stack.take (k - 1)) + b.nsave > s.oldsave.length) := by omega
    simp only [hfit, ↓reduceIte]
    refine ⟨_, rfl, ?_, ?_, rfl⟩
    · -- abstraction commutes
      simp only [abs, AState.cut]
      congr 1
      rw [absStack_length, hk, absStack_drop s.saves s.nsave s.oldsave s.stack k hkl (by omega)]
      cases hd : s.stack.drop k with
      | nil => simp [absStack]
      | cons b' rest' =>
        have hm : s.nsave + sumNsave (s.stack.take k) = s.nsave + sumNsave (s.stack.take (k - 1)) + b.nsave := by omega
        simp only [hm]
        exact cut_abs_core s.saves s.oldsave _ b.nsave b' rest' (by omega)
    · -- invariant
      constructor
      · simp only [List.length_append, List.length_reverse, List.length_drop, List.length_take]
        have h1 : sumNsave s.stack = sumNsave (s.stack.take k) + sumNsave (s.stack.drop k) := by
          conv => lhs; rw [← List.take_append_drop k s.stack]
          rw [sumNsave_append]
        have : min b.nsave (s.oldsave.length - (s.nsave + sumNsave (s.stack.take (k - 1)))) = b.nsave := by omega
        omega
      · intro e he
        simp only [List.mem_append, List.mem_reverse] at he
        rcases he with (he | he) | he
        · have := cutKeep_mem _ _ _ he
          exact hi.slots e (mem_take_of (by simpa using this))
        · exact hi.slots e (List.mem_of_mem_drop (mem_take_of he))
        · exact hi.slots e (List.mem_of_mem_drop he)

theorem abs_stack_length_eq (s : State) : (abs s).stack.length = s.stack.length := by
  simp [abs, absStack_length]
end Fancy
