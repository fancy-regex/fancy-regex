import FancyModel.Proofs.C16b
import FancyModel.Spec.Domain
import FancyModel.Model.Regex
/-!
# Shape of the trees the parser returns; preservation through `build`

The engine theorems take `wellShaped`, `leafSizesOK`, `noBareEndZ` … of the tree as hypotheses.
This file discharges the first two for every tree the *parser model* returns, for every pattern
string (every byte string, in fact: no UTF-8 validity, no fuel assumption, no assumption on
`isAlnum`), and transports them (and `noBareEndZ`) through `build`.

**A parsed tree need NOT be `wellShaped`.**  `wellShaped` has the clause
`.subroutine _ => false`, and the parser does return subroutine calls:

    parseStr isAlnum "(a)\g1".toList false
      = .ok ⟨.concat [.group 0 (.literal ['a'] false), .subroutine 1], [1], []⟩

(`parse_wellShaped_counterexample` below; also `(a)(?P>n)`-style calls).  It is the *analyzer*
(`checkRefs`, run by `build`) that rejects them (`CompileErr.featureNotSupported`).  This is the
only obstruction.  What holds:

* `parse_parsedOK`: the tree satisfies `parsedOK`, which is `wellShaped` without the subroutine
  clause, *strengthened*: every alternation has at least two children (not just one) and every
  `Delegate` size is 0 or 1.
* `parse_wellShaped_partial`: `wellShaped t.expr = noSub t.expr` — well shaped exactly when the
  tree holds no subroutine call; `parse_wellShaped_of_noSub` is the conditional form.
* `parse_build_wellShaped`: if the parsed tree *builds* (`build t.expr t.backrefs = .ok b`), both
  `t.expr` and `b.raw` are well shaped — no side condition.  This is the form that discharges the
  hypothesis of the engine theorems, which all start from a `Built`.
* `parse_leafSizesOK` (unconditional), `parse_build_leafSizesOK`.
* `build_raw_eq`: `b.raw = (renumber tree 1).1` (and `b.wrapped`, `b.backrefs`, `b.nGroups`);
  `wellShaped`, `leafSizesOK`, `noBareEndZ`, `noSub`, `parsedOK` are invariant under `renumber`
  (`*_renumber`, as equalities), hence `build_raw_wellShaped`, `build_raw_leafSizesOK`,
  `build_raw_noBareEndZ`, `build_raw_parsedOK_iff`.
-/
namespace Fancy

/-! ## The shape the parser guarantees -/

mutual
/-- what the parser guarantees of every tree: literals are one character, alternations have at
    least two children, `Delegate` sizes are 0 or 1 (subroutine calls are allowed) -/
def parsedOK : Expr → Bool
  | .literal val _ => val.length == 1
  | .delegate _ size _ => decide (size ≤ 1)
  | .concat es => parsedOKAll es
  | .alt es => decide (2 ≤ es.length) && parsedOKAll es
  | .group _ e => parsedOK e
  | .look e _ => parsedOK e
  | .repeat e _ _ _ => parsedOK e
  | .atomic e => parsedOK e
  | .cond c y n => parsedOK c && parsedOK y && parsedOK n
  | _ => true
def parsedOKAll : List Expr → Bool
  | [] => true
  | e :: es => parsedOK e && parsedOKAll es
end

mutual
/-- no subroutine call anywhere -/
def noSub : Expr → Bool
  | .subroutine _ => false
  | .concat es => noSubAll es
  | .alt es => noSubAll es
  | .group _ e => noSub e
  | .look e _ => noSub e
  | .repeat e _ _ _ => noSub e
  | .atomic e => noSub e
  | .cond c y n => noSub c && noSub y && noSub n
  | _ => true
def noSubAll : List Expr → Bool
  | [] => true
  | e :: es => noSub e && noSubAll es
end

mutual
/-- for a tree of the parser's shape, `wellShaped` says exactly "no subroutine call" -/
theorem wellShaped_eq_noSub : ∀ (e : Expr), parsedOK e = true → wellShaped e = noSub e
  | .empty, _ | .any _, _ | .assertion _, _ | .backref _, _ | .keepOut, _ | .contPrev, _
  | .backrefExists _, _ | .delegate _ _ _, _ | .subroutine _, _ => rfl
  | .literal v ci, h => by simpa [wellShaped, noSub, parsedOK] using h
  | .concat es, h => by
    simp only [parsedOK] at h
    simp only [wellShaped, noSub]; exact wellShapedAll_eq_noSubAll es h
  | .alt es, h => by
    simp only [parsedOK, Bool.and_eq_true, decide_eq_true_eq] at h
    have hne : es.isEmpty = false := by cases es <;> simp at h ⊢
    simp only [wellShaped, noSub, hne, Bool.not_false, Bool.true_and]
    exact wellShapedAll_eq_noSubAll es h.2
  | .group _ e, h => by
    simp only [parsedOK] at h; simp only [wellShaped, noSub]; exact wellShaped_eq_noSub e h
  | .look e _, h => by
    simp only [parsedOK] at h; simp only [wellShaped, noSub]; exact wellShaped_eq_noSub e h
  | .repeat e _ _ _, h => by
    simp only [parsedOK] at h; simp only [wellShaped, noSub]; exact wellShaped_eq_noSub e h
  | .atomic e, h => by
    simp only [parsedOK] at h; simp only [wellShaped, noSub]; exact wellShaped_eq_noSub e h
  | .cond c y n, h => by
    simp only [parsedOK, Bool.and_eq_true] at h
    simp only [wellShaped, noSub]
    rw [wellShaped_eq_noSub c h.1.1, wellShaped_eq_noSub y h.1.2, wellShaped_eq_noSub n h.2]
theorem wellShapedAll_eq_noSubAll : ∀ (es : List Expr), parsedOKAll es = true →
    wellShapedAll es = noSubAll es
  | [], _ => rfl
  | e :: es, h => by
    simp only [parsedOKAll, Bool.and_eq_true] at h
    simp only [wellShapedAll, noSubAll]
    rw [wellShaped_eq_noSub e h.1, wellShapedAll_eq_noSubAll es h.2]
end

mutual
theorem leafSizesOK_of_parsedOK : ∀ (e : Expr), parsedOK e = true → leafSizesOK e = true
  | .empty, _ | .any _, _ | .assertion _, _ | .backref _, _ | .keepOut, _ | .contPrev, _
  | .backrefExists _, _ | .literal _ _, _ | .subroutine _, _ => rfl
  | .delegate _ size _, h => by
    simp only [parsedOK, decide_eq_true_eq] at h
    simp only [leafSizesOK]
    have : (1 : Nat) ≤ UNSET := by unfold UNSET; omega
    exact decide_eq_true (Nat.le_trans h this)
  | .concat es, h => by
    simp only [parsedOK] at h; simp only [leafSizesOK]; exact leafSizesOKList_of_parsedOKAll es h
  | .alt es, h => by
    simp only [parsedOK, Bool.and_eq_true] at h
    simp only [leafSizesOK]; exact leafSizesOKList_of_parsedOKAll es h.2
  | .group _ e, h => by
    simp only [parsedOK] at h; simp only [leafSizesOK]; exact leafSizesOK_of_parsedOK e h
  | .look e _, h => by
    simp only [parsedOK] at h; simp only [leafSizesOK]; exact leafSizesOK_of_parsedOK e h
  | .repeat e _ _ _, h => by
    simp only [parsedOK] at h; simp only [leafSizesOK]; exact leafSizesOK_of_parsedOK e h
  | .atomic e, h => by
    simp only [parsedOK] at h; simp only [leafSizesOK]; exact leafSizesOK_of_parsedOK e h
  | .cond c y n, h => by
    simp only [parsedOK, Bool.and_eq_true] at h
    simp only [leafSizesOK, Bool.and_eq_true]
    exact ⟨⟨leafSizesOK_of_parsedOK c h.1.1, leafSizesOK_of_parsedOK y h.1.2⟩,
      leafSizesOK_of_parsedOK n h.2⟩
theorem leafSizesOKList_of_parsedOKAll : ∀ (es : List Expr), parsedOKAll es = true →
    leafSizesOKList es = true
  | [], _ => rfl
  | e :: es, h => by
    simp only [parsedOKAll, Bool.and_eq_true] at h
    simp only [leafSizesOKList, Bool.and_eq_true]
    exact ⟨leafSizesOK_of_parsedOK e h.1, leafSizesOKList_of_parsedOKAll es h.2⟩
end

mutual
/-- a well-shaped tree holds no subroutine call -/
theorem noSub_of_wellShaped : ∀ (e : Expr), wellShaped e = true → noSub e = true
  | .empty, _ | .any _, _ | .assertion _, _ | .backref _, _ | .keepOut, _ | .contPrev, _
  | .backrefExists _, _ | .delegate _ _ _, _ | .literal _ _, _ => rfl
  | .subroutine _, h => by simp [wellShaped] at h
  | .concat es, h => by
    simp only [wellShaped] at h; simp only [noSub]; exact noSubAll_of_wellShapedAll es h
  | .alt es, h => by
    simp only [wellShaped, Bool.and_eq_true] at h
    simp only [noSub]; exact noSubAll_of_wellShapedAll es h.2
  | .group _ e, h => by
    simp only [wellShaped] at h; simp only [noSub]; exact noSub_of_wellShaped e h
  | .look e _, h => by
    simp only [wellShaped] at h; simp only [noSub]; exact noSub_of_wellShaped e h
  | .repeat e _ _ _, h => by
    simp only [wellShaped] at h; simp only [noSub]; exact noSub_of_wellShaped e h
  | .atomic e, h => by
    simp only [wellShaped] at h; simp only [noSub]; exact noSub_of_wellShaped e h
  | .cond c y n, h => by
    simp only [wellShaped, Bool.and_eq_true] at h
    simp only [noSub, Bool.and_eq_true]
    exact ⟨⟨noSub_of_wellShaped c h.1.1, noSub_of_wellShaped y h.1.2⟩, noSub_of_wellShaped n h.2⟩
theorem noSubAll_of_wellShapedAll : ∀ (es : List Expr), wellShapedAll es = true →
    noSubAll es = true
  | [], _ => rfl
  | e :: es, h => by
    simp only [wellShapedAll, Bool.and_eq_true] at h
    simp only [noSubAll, Bool.and_eq_true]
    exact ⟨noSub_of_wellShaped e h.1, noSubAll_of_wellShapedAll es h.2⟩
end

/-! ## The analyzer rejects subroutine calls -/

mutual
theorem noSub_of_checkRefs : ∀ (e : Expr) (n m : Nat), checkRefs e n = .ok m → noSub e = true
  | .empty, _, _, _ | .any _, _, _, _ | .assertion _, _, _, _ | .backref _, _, _, _
  | .keepOut, _, _, _ | .contPrev, _, _, _ | .backrefExists _, _, _, _ | .delegate _ _ _, _, _, _
  | .literal _ _, _, _, _ => by simp [noSub]
  | .subroutine _, _, _, h => by simp [checkRefs] at h
  | .concat es, n, m, h => by
    simp only [checkRefs] at h; simp only [noSub]; exact noSubAll_of_checkRefsList es n m h
  | .alt es, n, m, h => by
    simp only [checkRefs] at h; simp only [noSub]; exact noSubAll_of_checkRefsList es n m h
  | .group _ e, n, m, h => by
    simp only [checkRefs] at h; simp only [noSub]; exact noSub_of_checkRefs e _ m h
  | .look e _, n, m, h => by
    simp only [checkRefs] at h; simp only [noSub]; exact noSub_of_checkRefs e _ m h
  | .repeat e _ _ _, n, m, h => by
    simp only [checkRefs] at h; simp only [noSub]; exact noSub_of_checkRefs e _ m h
  | .atomic e, n, m, h => by
    simp only [checkRefs] at h; simp only [noSub]; exact noSub_of_checkRefs e _ m h
  | .cond c y f, n, m, h => by
    simp only [checkRefs] at h
    simp only [noSub, Bool.and_eq_true]
    cases hc : checkRefs c n with
    | error e => rw [hc] at h; cases h
    | ok n1 =>
      rw [hc] at h; simp only at h
      cases hy : checkRefs y n1 with
      | error e => rw [hy] at h; cases h
      | ok n2 =>
        rw [hy] at h; simp only at h
        exact ⟨⟨noSub_of_checkRefs c n n1 hc, noSub_of_checkRefs y n1 n2 hy⟩,
          noSub_of_checkRefs f n2 m h⟩
theorem noSubAll_of_checkRefsList : ∀ (es : List Expr) (n m : Nat),
    checkRefsList es n = .ok m → noSubAll es = true
  | [], _, _, _ => rfl
  | e :: es, n, m, h => by
    simp only [checkRefsList] at h
    simp only [noSubAll, Bool.and_eq_true]
    cases he : checkRefs e n with
    | error err => rw [he] at h; cases h
    | ok n' =>
      rw [he] at h; simp only at h
      exact ⟨noSub_of_checkRefs e n n' he, noSubAll_of_checkRefsList es n' m h⟩
end

/-! ## `renumber` changes group numbers only -/

theorem renumberList_length : ∀ (es : List Expr) (n : Nat), (renumberList es n).1.length = es.length
  | [], _ => rfl
  | e :: es, n => by simp only [renumberList, List.length_cons]; rw [renumberList_length es]

theorem renumberList_isEmpty (es : List Expr) (n : Nat) :
    (renumberList es n).1.isEmpty = es.isEmpty := by
  cases es <;> simp [renumberList]

mutual
theorem wellShaped_renumber : ∀ (e : Expr) (n : Nat), wellShaped (renumber e n).1 = wellShaped e
  | .empty, _ | .any _, _ | .assertion _, _ | .backref _, _ | .keepOut, _ | .contPrev, _
  | .backrefExists _, _ | .delegate _ _ _, _ | .literal _ _, _ | .subroutine _, _ => rfl
  | .concat es, n => by simp only [renumber, wellShaped]; exact wellShapedAll_renumber es n
  | .alt es, n => by
    simp only [renumber, wellShaped]
    rw [renumberList_isEmpty, wellShapedAll_renumber es n]
  | .group _ e, n => by simp only [renumber, wellShaped]; exact wellShaped_renumber e _
  | .look e _, n => by simp only [renumber, wellShaped]; exact wellShaped_renumber e _
  | .repeat e _ _ _, n => by simp only [renumber, wellShaped]; exact wellShaped_renumber e _
  | .atomic e, n => by simp only [renumber, wellShaped]; exact wellShaped_renumber e _
  | .cond c y f, n => by
    simp only [renumber, wellShaped]
    rw [wellShaped_renumber c, wellShaped_renumber y, wellShaped_renumber f]
theorem wellShapedAll_renumber : ∀ (es : List Expr) (n : Nat),
    wellShapedAll (renumberList es n).1 = wellShapedAll es
  | [], _ => rfl
  | e :: es, n => by
    simp only [renumberList, wellShapedAll]
    rw [wellShaped_renumber e, wellShapedAll_renumber es]
end

mutual
theorem leafSizesOK_renumber : ∀ (e : Expr) (n : Nat), leafSizesOK (renumber e n).1 = leafSizesOK e
  | .empty, _ | .any _, _ | .assertion _, _ | .backref _, _ | .keepOut, _ | .contPrev, _
  | .backrefExists _, _ | .delegate _ _ _, _ | .literal _ _, _ | .subroutine _, _ => rfl
  | .concat es, n => by simp only [renumber, leafSizesOK]; exact leafSizesOKList_renumber es n
  | .alt es, n => by simp only [renumber, leafSizesOK]; exact leafSizesOKList_renumber es n
  | .group _ e, n => by simp only [renumber, leafSizesOK]; exact leafSizesOK_renumber e _
  | .look e _, n => by simp only [renumber, leafSizesOK]; exact leafSizesOK_renumber e _
  | .repeat e _ _ _, n => by simp only [renumber, leafSizesOK]; exact leafSizesOK_renumber e _
  | .atomic e, n => by simp only [renumber, leafSizesOK]; exact leafSizesOK_renumber e _
  | .cond c y f, n => by
    simp only [renumber, leafSizesOK]
    rw [leafSizesOK_renumber c, leafSizesOK_renumber y, leafSizesOK_renumber f]
theorem leafSizesOKList_renumber : ∀ (es : List Expr) (n : Nat),
    leafSizesOKList (renumberList es n).1 = leafSizesOKList es
  | [], _ => rfl
  | e :: es, n => by
    simp only [renumberList, leafSizesOKList]
    rw [leafSizesOK_renumber e, leafSizesOKList_renumber es]
end

mutual
theorem noBareEndZ_renumber : ∀ (e : Expr) (n : Nat), noBareEndZ (renumber e n).1 = noBareEndZ e
  | .empty, _ | .any _, _ | .assertion _, _ | .backref _, _ | .keepOut, _ | .contPrev, _
  | .backrefExists _, _ | .delegate _ _ _, _ | .literal _ _, _ | .subroutine _, _ => rfl
  | .concat es, n => by simp only [renumber, noBareEndZ]; exact noBareEndZAll_renumber es n
  | .alt es, n => by simp only [renumber, noBareEndZ]; exact noBareEndZAll_renumber es n
  | .group _ e, n => by simp only [renumber, noBareEndZ]; exact noBareEndZ_renumber e _
  | .look e _, n => by simp only [renumber, noBareEndZ]
  | .repeat e _ _ _, n => by simp only [renumber, noBareEndZ]; exact noBareEndZ_renumber e _
  | .atomic e, n => by simp only [renumber, noBareEndZ]; exact noBareEndZ_renumber e _
  | .cond c y f, n => by
    simp only [renumber, noBareEndZ]
    rw [noBareEndZ_renumber c, noBareEndZ_renumber y, noBareEndZ_renumber f]
theorem noBareEndZAll_renumber : ∀ (es : List Expr) (n : Nat),
    noBareEndZAll (renumberList es n).1 = noBareEndZAll es
  | [], _ => rfl
  | e :: es, n => by
    simp only [renumberList, noBareEndZAll]
    rw [noBareEndZ_renumber e, noBareEndZAll_renumber es]
end

mutual
theorem noSub_renumber : ∀ (e : Expr) (n : Nat), noSub (renumber e n).1 = noSub e
  | .empty, _ | .any _, _ | .assertion _, _ | .backref _, _ | .keepOut, _ | .contPrev, _
  | .backrefExists _, _ | .delegate _ _ _, _ | .literal _ _, _ | .subroutine _, _ => rfl
  | .concat es, n => by simp only [renumber, noSub]; exact noSubAll_renumber es n
  | .alt es, n => by simp only [renumber, noSub]; exact noSubAll_renumber es n
  | .group _ e, n => by simp only [renumber, noSub]; exact noSub_renumber e _
  | .look e _, n => by simp only [renumber, noSub]; exact noSub_renumber e _
  | .repeat e _ _ _, n => by simp only [renumber, noSub]; exact noSub_renumber e _
  | .atomic e, n => by simp only [renumber, noSub]; exact noSub_renumber e _
  | .cond c y f, n => by
    simp only [renumber, noSub]
    rw [noSub_renumber c, noSub_renumber y, noSub_renumber f]
theorem noSubAll_renumber : ∀ (es : List Expr) (n : Nat),
    noSubAll (renumberList es n).1 = noSubAll es
  | [], _ => rfl
  | e :: es, n => by
    simp only [renumberList, noSubAll]
    rw [noSub_renumber e, noSubAll_renumber es]
end

mutual
theorem parsedOK_renumber : ∀ (e : Expr) (n : Nat), parsedOK (renumber e n).1 = parsedOK e
  | .empty, _ | .any _, _ | .assertion _, _ | .backref _, _ | .keepOut, _ | .contPrev, _
  | .backrefExists _, _ | .delegate _ _ _, _ | .literal _ _, _ | .subroutine _, _ => rfl
  | .concat es, n => by simp only [renumber, parsedOK]; exact parsedOKAll_renumber es n
  | .alt es, n => by
    simp only [renumber, parsedOK]
    rw [renumberList_length, parsedOKAll_renumber es n]
  | .group _ e, n => by simp only [renumber, parsedOK]; exact parsedOK_renumber e _
  | .look e _, n => by simp only [renumber, parsedOK]; exact parsedOK_renumber e _
  | .repeat e _ _ _, n => by simp only [renumber, parsedOK]; exact parsedOK_renumber e _
  | .atomic e, n => by simp only [renumber, parsedOK]; exact parsedOK_renumber e _
  | .cond c y f, n => by
    simp only [renumber, parsedOK]
    rw [parsedOK_renumber c, parsedOK_renumber y, parsedOK_renumber f]
theorem parsedOKAll_renumber : ∀ (es : List Expr) (n : Nat),
    parsedOKAll (renumberList es n).1 = parsedOKAll es
  | [], _ => rfl
  | e :: es, n => by
    simp only [renumberList, parsedOKAll]
    rw [parsedOK_renumber e, parsedOKAll_renumber es]
end

/-! ## `build` -/

/-- the wrapped tree, numbered, spelled out -/
theorem renumber_wrapTree (tree : Expr) :
    (renumber (wrapTree tree) 0).1 =
      .concat [.repeat (.any true) 0 none false, .group 0 (renumber tree 1).1] := by
  simp [wrapTree, renumber, renumberList]

/-- **what `build` keeps of the tree**: `raw` is the parser's tree with its groups numbered from 1
    in opening-parenthesis order, `wrapped` is the numbered `wrap_tree`, the back-reference set is
    passed on, `nGroups` is what the analyzer's checks end at, and those checks have passed. -/
theorem build_raw_eq (tree : Expr) (backrefs : List Nat) (b : Built)
    (hb : build tree backrefs = .ok b) :
    b.raw = (renumber tree 1).1 ∧
    b.wrapped = .concat [.repeat (.any true) 0 none false, .group 0 (renumber tree 1).1] ∧
    b.wrapped = (renumber (wrapTree tree) 0).1 ∧
    b.backrefs = backrefs ∧
    checkRefs b.wrapped 0 = .ok b.nGroups := by
  unfold build at hb
  simp only [renumber_wrapTree] at hb ⊢
  split at hb
  · cases hb
  · rename_i n hn
    split at hb
    · cases hb; exact ⟨rfl, rfl, rfl, rfl, hn⟩
    · split at hb
      · cases hb
      · cases hb; exact ⟨rfl, rfl, rfl, rfl, hn⟩

/-- a tree that builds holds no subroutine call -/
theorem build_noSub (tree : Expr) (backrefs : List Nat) (b : Built)
    (hb : build tree backrefs = .ok b) : noSub tree = true := by
  obtain ⟨_, hw, _, _, hc⟩ := build_raw_eq tree backrefs b hb
  rw [hw] at hc
  have := noSub_of_checkRefs _ _ _ hc
  simpa [noSub, noSubAll, noSub_renumber] using this

theorem build_raw_parsedOK_iff (tree : Expr) (backrefs : List Nat) (b : Built)
    (hb : build tree backrefs = .ok b) : parsedOK b.raw = parsedOK tree := by
  rw [(build_raw_eq tree backrefs b hb).1, parsedOK_renumber]

theorem build_raw_wellShaped (tree : Expr) (backrefs : List Nat) (b : Built)
    (hb : build tree backrefs = .ok b) (h : wellShaped tree = true) : wellShaped b.raw = true := by
  rw [(build_raw_eq tree backrefs b hb).1, wellShaped_renumber]; exact h

theorem build_raw_leafSizesOK (tree : Expr) (backrefs : List Nat) (b : Built)
    (hb : build tree backrefs = .ok b) (h : leafSizesOK tree = true) :
    leafSizesOK b.raw = true := by
  rw [(build_raw_eq tree backrefs b hb).1, leafSizesOK_renumber]; exact h

theorem build_raw_noBareEndZ (tree : Expr) (backrefs : List Nat) (b : Built)
    (hb : build tree backrefs = .ok b) (h : noBareEndZ tree = true) :
    noBareEndZ b.raw = true := by
  rw [(build_raw_eq tree backrefs b hb).1, noBareEndZ_renumber]; exact h

/-- a tree of the parser's shape that builds is well shaped, and so is `raw` -/
theorem build_wellShaped_of_parsedOK (tree : Expr) (backrefs : List Nat) (b : Built)
    (hb : build tree backrefs = .ok b) (h : parsedOK tree = true) :
    wellShaped tree = true ∧ wellShaped b.raw = true := by
  have hw : wellShaped tree = true := by
    rw [wellShaped_eq_noSub tree h]; exact build_noSub tree backrefs b hb
  exact ⟨hw, build_raw_wellShaped tree backrefs b hb hw⟩

end Fancy

namespace Fancy.Parse
open Fancy.Utf8 (codepointLen isLead)
open Fancy

/-! ## The parser: every returned node is of the parser's shape

No assumption on the bytes (validity of the UTF-8 is not needed: a slice that exists has the
length asked for, and `codepointLen b` bytes starting with `b` decode to one character, lossily or
not), none on the fuel, none on `isAlnum`. -/

/-- the returned node is of the parser's shape -/
def Shp (r : Nat × Expr × PState) : Prop := parsedOK r.2.1 = true

/-- the returned children are of the parser's shape -/
def ShpL (r : Nat × List Expr × PState) : Prop := parsedOKAll r.2.1 = true

@[simp] theorem Shp_mk (ix : Nat) (e : Expr) (st : PState) :
    Shp (ix, e, st) = (parsedOK e = true) := rfl

@[simp] theorem ShpL_mk (ix : Nat) (es : List Expr) (st : PState) :
    ShpL (ix, es, st) = (parsedOKAll es = true) := rfl

theorem parsedOK_of_isLeaf {e : Expr} (h : isLeaf e = true) : parsedOK e = true := by
  cases e with
  | literal s ci => exact h
  | delegate s size ci =>
    have : size = 1 := by simpa [isLeaf] using h
    subst this; rfl
  | _ => first | rfl | cases h

theorem parsedOK_condInner {c inner : Expr} (h : CondInner c inner) (hc : parsedOK c = true) :
    parsedOK inner = true := by
  rcases h with rfl | ⟨g, rfl, rfl⟩
  · exact hc
  · rfl

/-- an alternation has at least two children, so both halves of a split body are of the parser's
    shape -/
theorem parsedOK_condSplit {child b1 b2 : Expr} (h : CondSplit child b1 b2)
    (hc : parsedOK child = true) : parsedOK b1 = true ∧ parsedOK b2 = true := by
  rcases h with ⟨rfl, rfl⟩ | ⟨rest, rfl, rfl | ⟨rfl, hnot⟩⟩
  · exact ⟨hc, rfl⟩
  · simp only [parsedOK, parsedOKAll, Bool.and_eq_true] at hc
    exact ⟨hc.2.1, hc.2.2.1⟩
  · simp only [parsedOK, parsedOKAll, Bool.and_eq_true, decide_eq_true_eq, List.length_cons] at hc
    refine ⟨hc.2.1, ?_⟩
    have hlen : 2 ≤ rest.length := by
      match rest, hc.1, hnot with
      | [], h1, _ => simp at h1
      | [e], _, hnot => exact absurd rfl (hnot e)
      | _ :: _ :: _, _, _ => simp
    simp [parsedOK, hlen, hc.2.2]

/-- every construction of the parser yields a node of the parser's shape -/
theorem preservedS (re : Bytes) : Preserved re (fun _ _ => Shp) (fun _ _ => ShpL) (fun _ _ => ShpL) where
  leaf := fun _ h _ => parsedOK_of_isLeaf h
  endZ := fun _ _ => rfl
  moved := fun h _ _ _ _ => h
  alt := fun {_ _ _ _ _ _ _ _ child r1 rs} hc _ ha _ => by
    have hc' : parsedOK child = true := hc
    have ha' : parsedOKAll (r1 :: rs) = true := ha
    simp only [parsedOKAll, Bool.and_eq_true] at ha'
    simp [parsedOK, parsedOKAll, hc', ha'.1, ha'.2]
  altNil := rfl
  altCons := fun {_ _ _ _ _ _ _ child rest} _ hc _ ha => by
    have hc' : parsedOK child = true := hc
    have ha' : parsedOKAll rest = true := ha
    simp [parsedOKAll, hc', ha']
  brNil := fun _ => rfl
  brOne := fun {_ _ _ _ c} h => by
    have h' : parsedOKAll [c] = true := h
    simpa [parsedOKAll] using h'
  brCat := fun h => h
  blNil := rfl
  blDrop := fun _ => rfl
  blCons := fun {_ _ _ _ _ _ child rest} _ hc _ hb => by
    have hc' : parsedOK child = true := hc
    have hb' : parsedOKAll rest = true := hb
    simp only [ShpL_mk]
    split
    · exact hb'
    · simp [parsedOKAll, hc', hb']
  rep := fun _ _ _ h _ _ _ => h
  possessive := fun _ _ _ h _ _ _ => h
  look := fun _ _ _ h _ => h
  atomic := fun _ _ h _ => h
  group := fun _ _ h _ => h
  named := fun _ _ _ h _ => h
  condDrop := fun _ _ _ _ => rfl
  condOnly := fun hc _ _ _ _ hin => parsedOK_condInner hin hc
  cond := fun {_ _ _ _ _ _ _ _ c inner child b1 b2} _ hc _ _ hb _ hin hsp => by
    have hi := parsedOK_condInner hin hc
    have hs := parsedOK_condSplit hsp hb
    simp only [Shp_mk, parsedOK, Bool.and_eq_true]
    exact ⟨⟨hi, hs.1⟩, hs.2⟩

/-- `parse_re` returns a tree of the parser's shape: any bytes, fuel, state, index, depth -/
theorem parseRe_parsedOK (isAlnum : Char → Bool) (re : Bytes) (f : Nat) (st st' : PState)
    (ix d ix' : Nat) (e : Expr) (h : parseRe isAlnum f re st ix d = .ok (ix', e, st')) :
    parsedOK e = true :=
  ((descent (preservedS re) isAlnum f).re_ st ix d).of_eq h

/-- the same for `parseBytes` (any byte string, valid UTF-8 or not) -/
theorem parseBytes_parsedOK (isAlnum : Char → Bool) (re : Bytes) (casei : Bool) (t : Tree)
    (h : parseBytes isAlnum re casei = .ok t) : parsedOK t.expr = true := by
  obtain ⟨ix, st, hre, _, _⟩ := parseBytes_ok h
  exact parseRe_parsedOK isAlnum _ _ _ _ _ _ _ _ hre

/-! ## The theorems on pattern strings -/

/-- every tree the parser returns: literals of one character, alternations of at least two
    children, `Delegate` sizes 0 or 1 -/
theorem parse_parsedOK (isAlnum : Char → Bool) (cs : List Char) (casei : Bool) (t : Tree)
    (h : parseStr isAlnum cs casei = .ok t) : parsedOK t.expr = true :=
  parseBytes_parsedOK isAlnum _ casei t h

/-- `wellShaped t.expr = true` fails for some parsed trees (`parse_wellShaped_counterexample`: `(a)\g1`
    parses to `concat [group 0 (literal "a"), subroutine 1]`).  The strongest true statement: the parsed
    tree is well shaped **exactly when** it holds no subroutine call. -/
theorem parse_wellShaped_partial (isAlnum : Char → Bool) (cs : List Char) (casei : Bool) (t : Tree)
    (h : parseStr isAlnum cs casei = .ok t) : wellShaped t.expr = noSub t.expr :=
  wellShaped_eq_noSub t.expr (parse_parsedOK isAlnum cs casei t h)

theorem parse_wellShaped_of_noSub (isAlnum : Char → Bool) (cs : List Char) (casei : Bool)
    (t : Tree) (h : parseStr isAlnum cs casei = .ok t) (hs : noSub t.expr = true) :
    wellShaped t.expr = true := by
  rw [parse_wellShaped_partial isAlnum cs casei t h]; exact hs

/-- **no side condition once the tree builds**: the analyzer rejects subroutine calls, so a parsed
    tree that `build` accepts is well shaped, and so is the numbered `raw` the engine runs on -/
theorem parse_build_wellShaped (isAlnum : Char → Bool) (cs : List Char) (casei : Bool) (t : Tree)
    (b : Built) (h : parseStr isAlnum cs casei = .ok t) (hb : build t.expr t.backrefs = .ok b) :
    wellShaped t.expr = true ∧ wellShaped b.raw = true :=
  build_wellShaped_of_parsedOK t.expr t.backrefs b hb (parse_parsedOK isAlnum cs casei t h)

/-- the parser writes only sizes 0 and 1 on `Delegate` leaves -/
theorem parse_leafSizesOK (isAlnum : Char → Bool) (cs : List Char) (casei : Bool) (t : Tree)
    (h : parseStr isAlnum cs casei = .ok t) : leafSizesOK t.expr = true :=
  leafSizesOK_of_parsedOK t.expr (parse_parsedOK isAlnum cs casei t h)

theorem parse_build_leafSizesOK (isAlnum : Char → Bool) (cs : List Char) (casei : Bool) (t : Tree)
    (b : Built) (h : parseStr isAlnum cs casei = .ok t) (hb : build t.expr t.backrefs = .ok b) :
    leafSizesOK b.raw = true :=
  build_raw_leafSizesOK t.expr t.backrefs b hb (parse_leafSizesOK isAlnum cs casei t h)

/-! ## The counterexample, and non-vacuity on concrete pattern strings (by evaluation) -/

private def PS (s : String) : Res Tree := parseStr (fun c => c.isAlphanum) s.toList false

/-- **counterexample to `parse_wellShaped`**: `(a)\g1` parses, to a tree with a subroutine call,
    which is not `wellShaped` (its `parsedOK` and `leafSizesOK` hold, and `build` rejects it) -/
theorem parse_wellShaped_counterexample :
    parseStr (fun c => c.isAlphanum) "(a)\\g1".toList false =
      .ok ⟨.concat [.group 0 (.literal ['a'] false), .subroutine 1], [1], []⟩ ∧
    wellShaped (.concat [.group 0 (.literal ['a'] false), .subroutine 1]) = false ∧
    build (.concat [.group 0 (.literal ['a'] false), .subroutine 1]) [1] =
      .error .featureNotSupported :=
  ⟨isTree_sound (by decide +kernel), by decide,
    by simp [build, wrapTree, renumber, renumberList, checkRefs, checkRefsList]⟩

/-- `(?<n>a|bc)(?=d)\k<n>{2,3}` as the parser returns it (with `\1` for `\k<n>` the parser answers
    `CompileError::NamedBackrefOnly`: numbered back-references next to named groups) -/
private def exTree : Expr :=
  .concat [.group 0 (.alt [.literal ['a'] false,
      .concat [.literal ['b'] false, .literal ['c'] false]]),
    .look (.literal ['d'] false) .ahead,
    .repeat (.backref 1) 2 (some 3) true]

private theorem ex_parse : PS "(?<n>a|bc)(?=d)\\k<n>{2,3}" = .ok ⟨exTree, [1], [([110], 1)]⟩ :=
  isTree_sound (by decide +kernel)

/-- `[\d\x41-z]+\Z|(?i:é)` : class and escape `Delegate`s (size 1), the `\Z` look-ahead over a
    `Delegate` of size 0, a two-byte literal -/
private def exTree2 : Expr :=
  .alt [.concat [.repeat (.delegate "[\\dA-z]".toList 1 false) 1 none true,
      .look (.delegate ['\n', '*', '$'] 0 false) .ahead],
    .literal ['é'] true]

private theorem ex_parse2 : PS "[\\d\\x41-z]+\\Z|(?i:é)" = .ok ⟨exTree2, [], []⟩ :=
  isTree_sound (by decide +kernel)

set_option linter.unusedSimpArgs false in
private theorem ex_build : ∃ b, build exTree [1] = .ok b := by
  simp [build, exTree, wrapTree, renumber, renumberList, checkRefs, checkRefsList, isHard,
    isHardAny, compile, visit, visitMiddle, visitAlt, visitAltBody, concatSplit, groupCount,
    groupCountList, constSize, constSizeAll, minSize, minSizeMin, minSizeSum, allMinSize,
    compileDelegates, compileDelegate, isLiteral, isLiteralAll, boundsEq, satMul, satAdd, sureReps,
    UNSET, Assertion.isHard, wrapPosLook, posLookBodyPc, pushLiteral, pushLiteralAll]

-- 1. `parse_parsedOK`, `parse_wellShaped_partial`, `parse_wellShaped_of_noSub`
example : parsedOK exTree = true := parse_parsedOK _ _ _ _ ex_parse
example : wellShaped exTree = noSub exTree := parse_wellShaped_partial _ _ _ _ ex_parse
example : wellShaped exTree = true :=
  parse_wellShaped_of_noSub _ _ _ ⟨exTree, [1], [([110], 1)]⟩ ex_parse (by decide)
example : wellShaped exTree2 = true :=
  parse_wellShaped_of_noSub _ _ _ ⟨exTree2, [], []⟩ ex_parse2 (by decide)
-- on the counterexample the equation reads `false = false`
example : wellShaped (.concat [.group 0 (.literal ['a'] false), .subroutine 1]) =
    noSub (.concat [.group 0 (.literal ['a'] false), .subroutine 1]) :=
  parse_wellShaped_partial _ _ _ ⟨_, [1], []⟩ parse_wellShaped_counterexample.1

-- 2. `parse_leafSizesOK`
example : leafSizesOK exTree = true := parse_leafSizesOK _ _ _ _ ex_parse
example : leafSizesOK exTree2 = true := parse_leafSizesOK _ _ _ _ ex_parse2

-- 3. `build_raw_eq`, `build_raw_wellShaped`, `build_raw_leafSizesOK`, `build_raw_noBareEndZ`,
--    `parse_build_wellShaped`, `parse_build_leafSizesOK`: the tree builds, so the statements have
--    a witness
example : ∃ b, build exTree [1] = .ok b ∧
    b.raw = .concat [.group 1 (.alt [.literal ['a'] false,
        .concat [.literal ['b'] false, .literal ['c'] false]]),
      .look (.literal ['d'] false) .ahead,
      .repeat (.backref 1) 2 (some 3) true] ∧
    wellShaped b.raw = true ∧ leafSizesOK b.raw = true ∧ noBareEndZ b.raw = true := by
  obtain ⟨b, hb⟩ := ex_build
  refine ⟨b, hb, ?_, build_raw_wellShaped _ _ b hb (by decide),
    build_raw_leafSizesOK _ _ b hb (by decide), build_raw_noBareEndZ _ _ b hb (by decide)⟩
  rw [(build_raw_eq _ _ b hb).1]
  simp [exTree, renumber, renumberList]

example : ∃ b, build exTree [1] = .ok b ∧ wellShaped exTree = true ∧ wellShaped b.raw = true ∧
    leafSizesOK b.raw = true := by
  obtain ⟨b, hb⟩ := ex_build
  have h := parse_build_wellShaped _ _ _ ⟨exTree, [1], [([110], 1)]⟩ b ex_parse hb
  exact ⟨b, hb, h.1, h.2,
    parse_build_leafSizesOK _ _ _ ⟨exTree, [1], [([110], 1)]⟩ b ex_parse hb⟩

-- `build_noSub` on the counterexample: it does not build
example : ¬ ∃ b, build (.concat [.group 0 (.literal ['a'] false), .subroutine 1]) [1] = .ok b := by
  rintro ⟨b, hb⟩
  have := build_noSub _ _ b hb
  simp [noSub, noSubAll] at this

end Fancy.Parse
