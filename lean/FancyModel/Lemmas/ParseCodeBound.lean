import FancyModel.Lemmas.ParseShape
import FancyModel.Lemmas.CompileLen
import FancyModel.Proofs.C16b
/-!
# The compiler's code bound of a parsed tree is linear in the pattern length

`codeBound` (Lemmas/CompileLen.lean) bounds the length of the compiled code; it is linear in the size of
the tree (the compiler does not unroll repeats). Here: the tree the parser returns has `codeBound` at
most `44 * (pattern bytes) + 1` (`parse_codeBound`), by the recursive-descent induction (`descent`,
`Proofs/C16b.lean`) with a quantitative invariant: for the node parsed from
`ix` to `ix'`, with `c` the number of pattern bytes consumed (positions clamped to the pattern length),

    codeBound e ≤ 1   ∨   codeBound e + 18 ≤ 44 * c          (`SzE`, `c = clamp re ix' - clamp re ix`)

(leaves cost 1 whatever they consume — the empty branch consumes nothing; every composite node is paid
for by bytes it owns: a quantifier byte, the `(` of a group, the `|` of an alternative, and the
children of a concatenation each consume at least one byte and are never empty). Lists of children carry
`codeBoundList es + 10 * es.length ≤ 44 * c` (`SzB`, children of a branch) and
`codeBoundList es + 35 * es.length ≤ 44 * c` (`SzA`, further alternatives, each with its `|`).
-/
namespace Fancy.Parse
open Fancy.Utf8 (codepointLen isLead)
open Fancy

/-- a leaf of the compiler's cost measure -/
def LeafC (r : Nat × Expr × PState) : Prop := codeBound r.2.1 = 1

@[simp] theorem LeafC_mk (ix : Nat) (e : Expr) (st : PState) :
    LeafC (ix, e, st) = (codeBound e = 1) := rfl

theorem codeBound_of_isLeaf {e : Expr} (h : isLeaf e = true) : codeBound e = 1 := by
  cases e <;> first | rfl | cases h

theorem codeBound_condInner {c inner : Expr} (h : CondInner c inner) :
    codeBound inner ≤ codeBound c := by
  rcases h with rfl | ⟨g, rfl, rfl⟩ <;> exact Nat.le_refl _

theorem codeBound_condSplit {child b1 b2 : Expr} (h : CondSplit child b1 b2) :
    codeBound b1 + codeBound b2 ≤ codeBound child + 1 := by
  rcases h with ⟨rfl, rfl⟩ | ⟨rest, rfl, rfl | ⟨rfl, _⟩⟩
  · exact Nat.le_refl _
  · simp only [codeBound, codeBoundList]; omega
  · simp only [codeBound, codeBoundList]; omega

/-! ### The recursive descent -/

/-- an index clamped to the pattern: `clamp re ix' - clamp re ix` is the number of pattern bytes
    between two indices -/
def clamp (re : Bytes) (i : Nat) : Nat := min i re.size

theorem clamp_mono (re : Bytes) {i j : Nat} (h : i ≤ j) : clamp re i ≤ clamp re j := by
  unfold clamp; omega

/-- a byte of the pattern lies between `i` and `j` -/
theorem clamp_lt (re : Bytes) {i j : Nat} (hi : i < re.size) (h : i < j) :
    clamp re i + 1 ≤ clamp re j := by
  unfold clamp; omega

/-- a node parsed from `ix`: not to the left; a leaf, or paid for by the bytes consumed -/
def SzE (re : Bytes) (ix : Nat) (r : Nat × Expr × PState) : Prop :=
  ix ≤ r.1 ∧ (codeBound r.2.1 ≤ 1 ∨ codeBound r.2.1 + 18 + 44 * clamp re ix ≤ 44 * clamp re r.1)

/-- the children of a branch -/
def SzB (re : Bytes) (ix : Nat) (r : Nat × List Expr × PState) : Prop :=
  ix ≤ r.1 ∧ codeBoundList r.2.1 + 10 * r.2.1.length + 44 * clamp re ix ≤ 44 * clamp re r.1

/-- the further alternatives of an alternation, each after its `|` -/
def SzA (re : Bytes) (ix : Nat) (r : Nat × List Expr × PState) : Prop :=
  ix ≤ r.1 ∧ codeBoundList r.2.1 + 35 * r.2.1.length + 44 * clamp re ix ≤ 44 * clamp re r.1

/-- what both cases of `SzE` give: the cost is at most one more than the bytes pay for -/
theorem SzE.budget {re : Bytes} {ix ix' : Nat} {e : Expr} {st : PState} (h : SzE re ix (ix', e, st)) :
    codeBound e + 44 * clamp re ix ≤ 44 * clamp re ix' + 1 := by
  obtain ⟨h1, h2⟩ := h
  simp only at h1 h2
  have := clamp_mono re h1
  rcases h2 with h2 | h2 <;> omega

/-- a node of cost `k ≤ 8` more than its child, over at least one more byte of the pattern than the
    child -/
theorem SzE.node {re : Bytes} {ix ix1 ix2 ix3 : Nat} {child e : Expr} {st1 st3 : PState} {k : Nat}
    (h : SzE re ix1 (ix2, child, st1)) (hk : codeBound e = codeBound child + k) (hk8 : k ≤ 8)
    (hle : ix ≤ ix3) (hb : clamp re ix + clamp re ix2 + 1 ≤ clamp re ix1 + clamp re ix3) :
    SzE re ix (ix3, e, st3) := by
  have := h.budget
  refine ⟨hle, Or.inr ?_⟩
  simp only
  omega

/-- the byte is the `(` before the body -/
theorem SzE.wrap {re : Bytes} {ix ix1 ix2 ix3 : Nat} {child e : Expr} {st1 st3 : PState} {k : Nat}
    (h : SzE re ix1 (ix2, child, st1)) (hk : codeBound e = codeBound child + k) (hk8 : k ≤ 8)
    (hix : ix < re.size) (h1 : ix < ix1) (h3 : ix2 ≤ ix3) : SzE re ix (ix3, e, st3) := by
  have := clamp_lt re hix h1
  have := clamp_mono re h3
  exact h.node hk hk8 (by have := h.1; simp only at this; omega) (by omega)

/-- the byte is the quantifier after the atom -/
theorem SzE.quant {re : Bytes} {ix ix1 ix2 ix4 : Nat} {child e : Expr} {st1 : PState} {k : Nat}
    (h : SzE re ix (ix1, child, st1)) (hk : codeBound e = codeBound child + k) (hk8 : k ≤ 8)
    (h1 : ix1 ≤ ix2) (hlt : ix2 < re.size) (h4 : ix2 < ix4) : SzE re ix (ix4, e, st1) := by
  have := clamp_lt re hlt h4
  have := clamp_mono re h1
  exact h.node hk hk8 (by have := h.1; simp only at this; omega) (by omega)

theorem szE_inner {re : Bytes} {ix next after : Nat} {condition inner : Expr} {st st1 : PState}
    (h : SzE re ix (next, condition, st1)) (hle : next ≤ after)
    (hin : codeBound inner ≤ codeBound condition) : SzE re ix (after, inner, st) := by
  obtain ⟨h1, h2⟩ := h
  simp only at h1 h2
  have := clamp_mono re hle
  refine ⟨by simp only; omega, ?_⟩
  simp only
  rcases h2 with h2 | h2
  · exact Or.inl (by omega)
  · right; omega

theorem szE_cond {re : Bytes} {ix next next2 end_ after : Nat} {condition inner child b1 b2 : Expr}
    {st st1 st2 : PState} (hc : SzE re ix (next, condition, st1))
    (h4 : next < next2) (h4' : next2 ≤ re.size) (hb : SzE re next2 (end_, child, st2))
    (h8 : end_ < after) (hin : codeBound inner ≤ codeBound condition)
    (hbr : codeBound b1 + codeBound b2 ≤ codeBound child + 1) :
    SzE re ix (after, .cond inner b1 b2, st) := by
  have h1 := hc.1
  have h5 := hb.1
  simp only at h1 h5
  have := hc.budget
  have := hb.budget
  have := clamp_lt re (show next < re.size by omega) h4
  have := clamp_mono re (Nat.le_of_lt h8)
  refine ⟨by simp only; omega, Or.inr ?_⟩
  simp only [codeBound]
  omega

/-- every composite node is paid for by bytes it owns: a quantifier byte, the `(` of a group, the `|`
    of an alternative; the children of a concatenation each consume at least one byte -/
theorem preservedC (re : Bytes) :
    Preserved re (fun _ => SzE re) (fun _ => SzA re) (fun _ => SzB re) where
  leaf := fun h1 h2 _ => ⟨h1, Or.inl (Nat.le_of_eq (codeBound_of_isLeaf h2))⟩
  endZ := fun {_ ix ix'} hlt hsz => by
    have := clamp_lt re hsz hlt
    refine ⟨Nat.le_of_lt hlt, Or.inr ?_⟩
    show 9 + 18 + 44 * clamp re ix ≤ 44 * clamp re ix'
    omega
  moved := fun {_ _ _ _ ix0 ix i1 i2 e} h h0 h1 _ _ => by
    obtain ⟨a, b⟩ := h
    simp only at a b
    have := clamp_mono re h0
    have := clamp_mono re h1
    exact ⟨by simp only; omega, b.imp id (fun b => by simp only; omega)⟩
  alt := fun {_ _ _ _ ix ix1 ix2 ix3 child r1 rs} hc hle ha _ => by
    have h1 := hc.1
    obtain ⟨h5, h6⟩ := ha
    simp only [codeBoundList, List.length_cons] at h1 h5 h6
    have := hc.budget
    have := clamp_mono re hle
    refine ⟨by simp only; omega, Or.inr ?_⟩
    simp only [codeBound, codeBoundList]
    omega
  altNil := ⟨Nat.le_refl _, by simp only [codeBoundList, List.length_nil]; omega⟩
  altCons := fun {_ _ _ ix ix1 ix2 ix3 child rest} hlt hc hle ha => by
    have h1 := hc.1
    obtain ⟨h5, h6⟩ := ha
    simp only at h1 h5 h6
    have := hc.budget
    have := clamp_lt re hlt (show ix < ix + 1 by omega)
    have := clamp_mono re hle
    refine ⟨by simp only; omega, ?_⟩
    simp only [codeBoundList, List.length_cons]
    omega
  brNil := fun h => ⟨h.1, Or.inl (Nat.le_refl _)⟩
  brOne := fun {_ _ ix ix1 c} h => by
    obtain ⟨h1, h2⟩ := h
    simp only [codeBoundList, List.length_cons, List.length_nil] at h1 h2
    exact ⟨h1, Or.inr (by simp only; omega)⟩
  brCat := fun {_ _ ix ix1 c1 c2 cs} h => by
    obtain ⟨h1, h2⟩ := h
    simp only [codeBoundList, List.length_cons] at h1 h2
    exact ⟨h1, Or.inr (by simp only [codeBound, codeBoundList]; omega)⟩
  blNil := ⟨Nat.le_refl _, by simp only [codeBoundList, List.length_nil]; omega⟩
  blDrop := fun _ => ⟨Nat.le_refl _, by simp only [codeBoundList, List.length_nil]; omega⟩
  blCons := fun {_ _ _ ix next ix3 child rest} hlt hc hne hb => by
    obtain ⟨h1, h2⟩ := hc
    obtain ⟨h5, h6⟩ := hb
    simp only at h1 h2 h5 h6
    have := clamp_lt re hlt (show ix < next by omega)
    refine ⟨by simp only; omega, ?_⟩
    simp only
    split
    · omega
    · simp only [codeBoundList, List.length_cons]
      rcases h2 with h2 | h2 <;> omega
  rep := fun _ _ _ h h1 hlt h4 => h.quant (k := 3) rfl (by omega) h1 hlt h4
  possessive := fun _ _ _ h h1 hlt h4 => h.quant (k := 5) rfl (by omega) h1 hlt h4
  look := fun _ hix h1 h h3 => h.wrap (k := 8) rfl (Nat.le_refl _) hix h1 (Nat.le_of_lt h3)
  atomic := fun hix h1 h h3 => h.wrap (k := 2) rfl (by omega) hix h1 (Nat.le_of_lt h3)
  group := fun hix h1 h h3 => h.wrap (k := 2) rfl (by omega) hix h1 (Nat.le_of_lt h3)
  named := fun _ hix h1 h h3 => h.wrap (k := 2) rfl (by omega) hix h1 (Nat.le_of_lt h3)
  condDrop := fun hc h4 hb h8 =>
    ⟨by have := hc.1; simp only at this ⊢; omega, Or.inl (Nat.le_refl _)⟩
  condOnly := fun hc h4 hb _ h8 hin =>
    szE_inner hc (by have := hb.1; simp only at this; omega) (codeBound_condInner hin)
  cond := fun _ hc h4 h4' hb h8 hin hsp =>
    szE_cond hc h4 h4' hb h8 (codeBound_condInner hin) (codeBound_condSplit hsp)

/-- `parse_re` from index 0: the cost of the tree is at most `44 * (bytes) + 1` -/
theorem parseBytes_codeBound (isAlnum : Char → Bool) (re : Bytes) (casei : Bool) (t : Tree)
    (h : parseBytes isAlnum re casei = .ok t) : codeBound t.expr ≤ 44 * re.size + 1 := by
  obtain ⟨ix, st, hre, _, _⟩ := parseBytes_ok h
  have := ((descent (preservedC re) isAlnum _).re_ _ 0 0).of_eq hre
  obtain ⟨_, h2⟩ := this
  simp only at h2
  have : clamp re ix ≤ re.size := Nat.min_le_right _ _
  rcases h2 with h2 | h2 <;> omega

/-- **the code bound of a parsed pattern is linear in its length** -/
theorem parse_codeBound (isAlnum : Char → Bool) (cs : List Char) (casei : Bool) (t : Tree)
    (h : parseStr isAlnum cs casei = .ok t) : codeBound t.expr ≤ 44 * (bytesOf cs).size + 1 :=
  parseBytes_codeBound isAlnum _ casei t h

/-! ### through `wrap_tree` and the group numbering -/

mutual
theorem codeBound_renumber : ∀ (e : Expr) (n : Nat), codeBound (renumber e n).1 = codeBound e
  | .group g e, n => by simp only [renumber, codeBound, codeBound_renumber e (n + 1)]
  | .concat es, n => by simp only [renumber, codeBound, codeBoundList_renumberList es n]
  | .alt es, n => by simp only [renumber, codeBound, codeBoundList_renumberList es n]
  | .look e la, n => by simp only [renumber, codeBound, codeBound_renumber e n]
  | .repeat e lo hi g, n => by simp only [renumber, codeBound, codeBound_renumber e n]
  | .atomic e, n => by simp only [renumber, codeBound, codeBound_renumber e n]
  | .cond c y f, n => by
    simp only [renumber, codeBound, codeBound_renumber c n, codeBound_renumber y _, codeBound_renumber f _]
  | .empty, _ => rfl
  | .any _, _ => rfl
  | .assertion _, _ => rfl
  | .literal _ _, _ => rfl
  | .delegate _ _ _, _ => rfl
  | .backref _, _ => rfl
  | .keepOut, _ => rfl
  | .contPrev, _ => rfl
  | .backrefExists _, _ => rfl
  | .subroutine _, _ => rfl
theorem codeBoundList_renumberList : ∀ (es : List Expr) (n : Nat),
    codeBoundList (renumberList es n).1 = codeBoundList es
  | [], _ => rfl
  | e :: es, n => by
    simp only [renumberList, codeBoundList, codeBound_renumber e n, codeBoundList_renumberList es _]
end

theorem codeBound_wrapped (e : Expr) : codeBound (renumber (wrapTree e) 0).1 = codeBound e + 24 := by
  rw [codeBound_renumber]
  simp [wrapTree, codeBound, codeBoundList]; omega

/-- **the size hypothesis of the translated compiler from the pattern length**: a pattern shorter than
    `2^58` bytes compiles to code shorter than `usize::MAX` -/
theorem parse_codeBound_fits (isAlnum : Char → Bool) (cs : List Char) (casei : Bool) (t : Tree)
    (h : parseStr isAlnum cs casei = .ok t) (hlen : (bytesOf cs).size < 2 ^ 58) :
    codeBound (renumber (wrapTree t.expr) 0).1 < UNSET := by
  have := parse_codeBound isAlnum cs casei t h
  rw [codeBound_wrapped]
  have h58 : (2 : Nat) ^ 58 = 288230376151711744 := by decide
  rw [h58] at hlen
  simp only [UNSET]
  omega

end Fancy.Parse
