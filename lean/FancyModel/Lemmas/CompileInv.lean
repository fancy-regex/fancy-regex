import FancyModel.Model.Compile
/-!
# Inversion of the compiler

`visit` first asks whether the whole sub-tree goes to the automata engine (`visit_easy_eq`); otherwise it
lays out the node's own instructions around the code of its children.  Every invariant of compiled code
(length bound, slot typing, what the `Delegate` instructions carry, the simulations) is an induction over
`visit` and its five companions that needs, per constructor, exactly one thing: from
`visit br e hard pc nsv gix = .ok (code, nsv')` the successful recursive calls and the layout of `code`.
That is what `visit_<arm>_ok` says, once, so that the inductions need not unfold the body of `visit`.

The leaves come as equations (`visit_empty`, `visit_any_true`, …).  Arms the analyzer always calls hard
(look-arounds, atomic groups, conditionals, back-references, `\K`, `\G`) need no side condition; the others
take `hdel`, the negation of the hand-off test.
-/
namespace Fancy

variable {br : Nat → Bool} {hard : Bool} {pc nsv gix nsv' : Nat} {code : Code}

theorem visit_easy_eq (br : Nat → Bool) (e : Expr) (hard : Bool) (pc nsv gix : Nat)
    (h : (!hard && !isHard br e) = true) : visit br e hard pc nsv gix = .ok (compileDelegate e gix, nsv) := by
  rw [visit.eq_def]
  simp only [h, ↓reduceIte]

/-! ## Leaves -/

theorem visit_empty (hdel : ¬(!hard && !isHard br .empty) = true) :
    visit br .empty hard pc nsv gix = .ok ([], nsv) := by
  rw [visit]; simp only [hdel, Bool.false_eq_true, ↓reduceIte]

theorem visit_any_true (hdel : ¬(!hard && !isHard br (.any true)) = true) :
    visit br (.any true) hard pc nsv gix = .ok ([.any], nsv) := by
  rw [visit]; simp only [hdel, Bool.false_eq_true, ↓reduceIte]

theorem visit_any_false (hdel : ¬(!hard && !isHard br (.any false)) = true) :
    visit br (.any false) hard pc nsv gix = .ok ([.anyNoNL], nsv) := by
  rw [visit]; simp only [hdel, Bool.false_eq_true, ↓reduceIte]

theorem visit_assertion {a : Assertion} (hdel : ¬(!hard && !isHard br (.assertion a)) = true) :
    visit br (.assertion a) hard pc nsv gix = .ok ([.assertion a], nsv) := by
  rw [visit]; simp only [hdel, Bool.false_eq_true, ↓reduceIte]

theorem visit_literal_cs {v : List Char} (hdel : ¬(!hard && !isHard br (.literal v false)) = true) :
    visit br (.literal v false) hard pc nsv gix = .ok ([.lit v], nsv) := by
  rw [visit]; simp only [hdel, Bool.false_eq_true, ↓reduceIte, Bool.not_false]

/-- a case-insensitive literal is handed over in every context -/
theorem visit_literal_ci {v : List Char} :
    visit br (.literal v true) hard pc nsv gix = .ok (compileDelegate (.literal v true) gix, nsv) := by
  rw [visit]; split <;> simp

theorem visit_delegate {inner : List Char} {size : Nat} {ci : Bool} :
    visit br (.delegate inner size ci) hard pc nsv gix = .ok (compileDelegate (.delegate inner size ci) gix, nsv) := by
  rw [visit]; split <;> rfl

theorem visit_backref {g : Nat} : visit br (.backref g) hard pc nsv gix = .ok ([.backref (g * 2)], nsv) := by
  rw [visit]; simp [isHard]

theorem visit_backrefExists {g : Nat} :
    visit br (.backrefExists g) hard pc nsv gix = .ok ([.backrefExists g], nsv) := by
  rw [visit]; simp [isHard]

theorem visit_keepOut : visit br .keepOut hard pc nsv gix = .ok ([.save 0], nsv) := by
  rw [visit]; simp [isHard]

theorem visit_contPrev : visit br .contPrev hard pc nsv gix = .ok ([.contPrev], nsv) := by
  rw [visit]; simp [isHard]

theorem visit_subroutine {g : Nat} (hdel : ¬(!hard && !isHard br (.subroutine g)) = true) :
    visit br (.subroutine g) hard pc nsv gix = .error .featureNotSupported := by
  rw [visit]; simp only [hdel, Bool.false_eq_true, ↓reduceIte]

/-- the constructors without children -/
def Expr.isLeaf : Expr → Bool
  | .concat _ | .alt _ | .group .. | .look .. | .repeat .. | .atomic _ | .cond .. => false
  | _ => true

/-- what a leaf that is not handed over compiles to: one instruction, none for `empty` -/
def leafCode : Expr → Code
  | .any true => [.any]
  | .any false => [.anyNoNL]
  | .assertion a => [.assertion a]
  | .literal v _ => [.lit v]
  | .backref g => [.backref (g * 2)]
  | .backrefExists g => [.backrefExists g]
  | .keepOut => [.save 0]
  | .contPrev => [.contPrev]
  | _ => []

/-- all leaves at once: no auxiliary slot is taken, and the code is either the hand-off of an expression that is
    not hard (the whole leaf in an easy context, a case-insensitive literal or a `Delegate` node anywhere) or
    `leafCode` -/
theorem visit_leaf_ok {e : Expr} (hl : e.isLeaf = true) (hv : visit br e hard pc nsv gix = .ok (code, nsv')) :
    nsv' = nsv ∧ (code = compileDelegate e gix ∧ isHard br e = false ∨ code = leafCode e) := by
  by_cases hdel : (!hard && !isHard br e) = true
  · rw [visit_easy_eq br e hard pc nsv gix hdel] at hv
    cases hv
    simp only [Bool.and_eq_true, Bool.not_eq_true'] at hdel
    exact ⟨rfl, .inl ⟨rfl, hdel.2⟩⟩
  · cases e with
    | empty => rw [visit_empty hdel] at hv; cases hv; exact ⟨rfl, .inr rfl⟩
    | any nl =>
      cases nl
      · rw [visit_any_false hdel] at hv; cases hv; exact ⟨rfl, .inr rfl⟩
      · rw [visit_any_true hdel] at hv; cases hv; exact ⟨rfl, .inr rfl⟩
    | assertion a => rw [visit_assertion hdel] at hv; cases hv; exact ⟨rfl, .inr rfl⟩
    | literal v ci =>
      cases ci
      · rw [visit_literal_cs hdel] at hv; cases hv; exact ⟨rfl, .inr rfl⟩
      · rw [visit_literal_ci] at hv; cases hv; exact ⟨rfl, .inl ⟨rfl, rfl⟩⟩
    | delegate inner size ci => rw [visit_delegate] at hv; cases hv; exact ⟨rfl, .inl ⟨rfl, rfl⟩⟩
    | backref g => rw [visit_backref] at hv; cases hv; exact ⟨rfl, .inr rfl⟩
    | backrefExists g => rw [visit_backrefExists] at hv; cases hv; exact ⟨rfl, .inr rfl⟩
    | keepOut => rw [visit_keepOut] at hv; cases hv; exact ⟨rfl, .inr rfl⟩
    | contPrev => rw [visit_contPrev] at hv; cases hv; exact ⟨rfl, .inr rfl⟩
    | subroutine g => rw [visit_subroutine hdel] at hv; cases hv
    | _ => cases hl

/-! ## One child -/

theorem visit_group_ok {g : Nat} {c : Expr} (hdel : ¬(!hard && !isHard br (.group g c)) = true)
    (hv : visit br (.group g c) hard pc nsv gix = .ok (code, nsv')) :
    ∃ body, visit br c hard (pc + 1) nsv (gix + 1) = .ok (body, nsv') ∧
      code = [.save (g * 2)] ++ body ++ [.save (g * 2 + 1)] := by
  rw [visit] at hv
  simp only [hdel, Bool.false_eq_true, ↓reduceIte] at hv
  split at hv
  · cases hv
  · rename_i body _ hb; cases hv; exact ⟨body, hb, rfl⟩

theorem visit_atomic_ok {c : Expr} (hv : visit br (.atomic c) hard pc nsv gix = .ok (code, nsv')) :
    ∃ body, visit br c false (pc + 1) nsv gix = .ok (body, nsv') ∧
      code = [.beginAtomic] ++ body ++ [.endAtomic] := by
  rw [visit] at hv
  simp only [isHard, Bool.not_true, Bool.and_false, Bool.false_eq_true, ↓reduceIte] at hv
  split at hv
  · cases hv
  · rename_i body _ hb; cases hv; exact ⟨body, hb, rfl⟩

theorem visit_ahead_ok {c : Expr} (hv : visit br (.look c .ahead) hard pc nsv gix = .ok (code, nsv')) :
    ∃ body, visit br c false (posLookBodyPc (isHard br c) false pc) (nsv + 1) gix = .ok (body, nsv') ∧
      code = wrapPosLook (isHard br c) false nsv 0 body := by
  rw [visit] at hv
  simp only [isHard, Bool.not_true, Bool.and_false, Bool.false_eq_true, ↓reduceIte] at hv
  split at hv
  · cases hv
  · rename_i body _ hb; cases hv; exact ⟨body, hb, rfl⟩

theorem visit_aheadNeg_ok {c : Expr} (hv : visit br (.look c .aheadNeg) hard pc nsv gix = .ok (code, nsv')) :
    ∃ body, visit br c false (negLookBodyPc false pc) nsv gix = .ok (body, nsv') ∧
      code = wrapNegLook false pc 0 body := by
  rw [visit] at hv
  simp only [isHard, Bool.not_true, Bool.and_false, Bool.false_eq_true, ↓reduceIte] at hv
  split at hv
  · cases hv
  · rename_i body _ hb; cases hv; exact ⟨body, hb, rfl⟩

/-- a look-behind whose body is not an alternation: the body must have constant size -/
theorem visit_behind_ok {c : Expr} (hna : ∀ es, c ≠ .alt es)
    (hv : visit br (.look c .behind) hard pc nsv gix = .ok (code, nsv')) :
    constSize c = true ∧
    ∃ body, visit br c false (posLookBodyPc (isHard br c) true pc) (nsv + 1) gix = .ok (body, nsv') ∧
      code = wrapPosLook (isHard br c) true nsv (minSize c) body := by
  rw [visit] at hv
  · simp only [isHard, Bool.not_true, Bool.and_false, Bool.false_eq_true, ↓reduceIte] at hv
    cases hcs : constSize c
    · simp [hcs] at hv
    · simp only [hcs, Bool.not_true, Bool.false_eq_true, ↓reduceIte] at hv
      split at hv
      · cases hv
      · rename_i body _ hb; cases hv; exact ⟨rfl, body, hb, rfl⟩
  · exact hna

theorem visit_behindNeg_ok {c : Expr} (hna : ∀ es, c ≠ .alt es)
    (hv : visit br (.look c .behindNeg) hard pc nsv gix = .ok (code, nsv')) :
    constSize c = true ∧
    ∃ body, visit br c false (negLookBodyPc true pc) nsv gix = .ok (body, nsv') ∧
      code = wrapNegLook true pc (minSize c) body := by
  rw [visit] at hv
  · simp only [isHard, Bool.not_true, Bool.and_false, Bool.false_eq_true, ↓reduceIte] at hv
    cases hcs : constSize c
    · simp [hcs] at hv
    · simp only [hcs, Bool.not_true, Bool.false_eq_true, ↓reduceIte] at hv
      split at hv
      · cases hv
      · rename_i body _ hb; cases hv; exact ⟨rfl, body, hb, rfl⟩
  · exact hna

/-! ## Look-behind over an alternation -/

/-- constant-size alternation: one `GoBack` and the alternation compiled as a whole -/
theorem visit_behind_alt_const_ok {es : List Expr} (hcs : constSize (.alt es) = true)
    (hv : visit br (.look (.alt es) .behind) hard pc nsv gix = .ok (code, nsv')) :
    ∃ body, visitAltBody br es (posLookBodyPc (isHardAny br es) true pc) (nsv + 1) gix = .ok (body, nsv') ∧
      code = wrapPosLook (isHardAny br es) true nsv (minSizeMin es) body := by
  rw [visit] at hv
  simp only [isHard, Bool.not_true, Bool.and_false, Bool.false_eq_true, ↓reduceIte, hcs] at hv
  split at hv
  · cases hv
  · rename_i body _ hb; cases hv; exact ⟨body, hb, rfl⟩

/-- alternatives of different sizes: an alternation of look-behinds, made atomic -/
theorem visit_behind_alt_var_ok {es : List Expr} (hcs : constSize (.alt es) = false)
    (hv : visit br (.look (.alt es) .behind) hard pc nsv gix = .ok (code, nsv')) :
    ∃ f endPc, lookBehindAlts br es (pc + 1) nsv gix = .ok (f, endPc, nsv') ∧
      code = [.beginAtomic] ++ f endPc ++ [.endAtomic] := by
  rw [visit] at hv
  simp only [isHard, Bool.not_true, Bool.and_false, Bool.false_eq_true, ↓reduceIte, hcs, Bool.not_false] at hv
  split at hv
  · cases hv
  · rename_i f endPc _ hb; cases hv; exact ⟨f, endPc, hb, rfl⟩

theorem visit_behindNeg_alt_const_ok {es : List Expr} (hcs : constSize (.alt es) = true)
    (hv : visit br (.look (.alt es) .behindNeg) hard pc nsv gix = .ok (code, nsv')) :
    ∃ body, visitAltBody br es (negLookBodyPc true pc) nsv gix = .ok (body, nsv') ∧
      code = wrapNegLook true pc (minSizeMin es) body := by
  rw [visit] at hv
  simp only [isHard, Bool.not_true, Bool.and_false, Bool.false_eq_true, ↓reduceIte, hcs] at hv
  split at hv
  · cases hv
  · rename_i body _ hb; cases hv; exact ⟨body, hb, rfl⟩

theorem visit_behindNeg_alt_var {es : List Expr} (hcs : constSize (.alt es) = false) :
    visit br (.look (.alt es) .behindNeg) hard pc nsv gix = lookBehindNegAlts br es pc nsv gix := by
  rw [visit]
  simp only [isHard, Bool.not_true, Bool.and_false, Bool.false_eq_true, ↓reduceIte, hcs, Bool.not_false]

/-- the constant-size body of a look-behind is compiled like the alternation itself in a non-hard context -/
theorem visitAltBody_eq_visit (br : Nat → Bool) (es : List Expr) (pc nsv gix : Nat) :
    visitAltBody br es pc nsv gix = visit br (.alt es) false pc nsv gix := by
  rw [visitAltBody, visit]
  simp only [isHard, Bool.not_false, Bool.true_and]

/-! A look-behind by the size of its body rather than by its shape: a body of constant size is compiled as a
whole (an alternation too: `visitAltBody`), a body of varying size must be an alternation. -/

section BehindBySize
variable {e : Expr}

theorem visit_behind_const_ok (hcs : constSize e = true)
    (hv : visit br (.look e .behind) hard pc nsv gix = .ok (code, nsv')) :
    ∃ body, visit br e false (posLookBodyPc (isHard br e) true pc) (nsv + 1) gix = .ok (body, nsv') ∧
      code = wrapPosLook (isHard br e) true nsv (minSize e) body := by
  by_cases hc : ∃ es, e = .alt es
  · obtain ⟨es, rfl⟩ := hc
    obtain ⟨body, hb, rfl⟩ := visit_behind_alt_const_ok hcs hv
    rw [visitAltBody_eq_visit] at hb
    exact ⟨body, hb, by simp only [isHard, minSize]⟩
  · exact (visit_behind_ok (fun es he => hc ⟨es, he⟩) hv).2

/-- a body of varying size must be an alternation of constant-size alternatives -/
theorem visit_behind_var_ok (hcs : constSize e = false)
    (hv : visit br (.look e .behind) hard pc nsv gix = .ok (code, nsv')) :
    ∃ es f endPc, e = .alt es ∧ lookBehindAlts br es (pc + 1) nsv gix = .ok (f, endPc, nsv') ∧
      code = [.beginAtomic] ++ f endPc ++ [.endAtomic] := by
  by_cases hc : ∃ es, e = .alt es
  · obtain ⟨es, rfl⟩ := hc
    obtain ⟨f, endPc, hb, rfl⟩ := visit_behind_alt_var_ok hcs hv
    exact ⟨es, f, endPc, rfl, hb, rfl⟩
  · rw [(visit_behind_ok (fun es he => hc ⟨es, he⟩) hv).1] at hcs; cases hcs

theorem visit_behindNeg_const_ok (hcs : constSize e = true)
    (hv : visit br (.look e .behindNeg) hard pc nsv gix = .ok (code, nsv')) :
    ∃ body, visit br e false (negLookBodyPc true pc) nsv gix = .ok (body, nsv') ∧
      code = wrapNegLook true pc (minSize e) body := by
  by_cases hc : ∃ es, e = .alt es
  · obtain ⟨es, rfl⟩ := hc
    obtain ⟨body, hb, rfl⟩ := visit_behindNeg_alt_const_ok hcs hv
    rw [visitAltBody_eq_visit] at hb
    exact ⟨body, hb, by simp only [minSize]⟩
  · exact (visit_behindNeg_ok (fun es he => hc ⟨es, he⟩) hv).2

theorem visit_behindNeg_var_ok (hcs : constSize e = false)
    (hv : visit br (.look e .behindNeg) hard pc nsv gix = .ok (code, nsv')) :
    ∃ es, e = .alt es ∧ lookBehindNegAlts br es pc nsv gix = .ok (code, nsv') := by
  by_cases hc : ∃ es, e = .alt es
  · obtain ⟨es, rfl⟩ := hc
    exact ⟨es, rfl, by rw [← visit_behindNeg_alt_var hcs]; exact hv⟩
  · rw [(visit_behindNeg_ok (fun es he => hc ⟨es, he⟩) hv).1] at hcs; cases hcs

end BehindBySize

/-! ## Repetition: the five layouts -/

section Repeat
variable {c : Expr} {lo : Nat} {hi : Option Nat} {greedy : Bool}

theorem visit_opt_ok (hdel : ¬(!hard && !isHard br (.repeat c lo hi greedy)) = true)
    (hopt : (lo == 0 && hi == some 1) = true)
    (hv : visit br (.repeat c lo hi greedy) hard pc nsv gix = .ok (code, nsv')) :
    ∃ body, visit br c hard (pc + 1) nsv gix = .ok (body, nsv') ∧
      code = (if greedy then Insn.split (pc + 1) (pc + 1 + body.length)
              else Insn.split (pc + 1 + body.length) (pc + 1)) :: body := by
  rw [visit] at hv
  simp only [hdel, Bool.false_eq_true, ↓reduceIte, hopt] at hv
  split at hv
  · cases hv
  · rename_i body _ hb; cases hv; exact ⟨body, hb, rfl⟩

/-- unbounded repeat of a body that may match empty: `RepeatEpsilon*` with a position check -/
theorem visit_repeatEps_ok (hdel : ¬(!hard && !isHard br (.repeat c lo hi greedy)) = true)
    (hopt : ¬(lo == 0 && hi == some 1) = true) (heps : (hi == none && minSize c == 0) = true)
    (hv : visit br (.repeat c lo hi greedy) hard pc nsv gix = .ok (code, nsv')) :
    ∃ body, visit br c (hard || isHard br (.repeat c lo hi greedy)) (pc + 2) (nsv + 2) gix = .ok (body, nsv') ∧
      code = [.save0 nsv,
              if greedy then Insn.repeatEpsGr lo (pc + 2 + body.length + 1) nsv (nsv + 1)
              else Insn.repeatEpsNg lo (pc + 2 + body.length + 1) nsv (nsv + 1)] ++ body ++ [.jmp (pc + 1)] := by
  rw [visit] at hv
  simp only [hdel, Bool.false_eq_true, ↓reduceIte, hopt, heps] at hv
  split at hv
  · cases hv
  · rename_i body _ hb; cases hv; exact ⟨body, hb, rfl⟩

theorem visit_star_ok (hdel : ¬(!hard && !isHard br (.repeat c lo hi greedy)) = true)
    (hopt : ¬(lo == 0 && hi == some 1) = true) (heps : ¬(hi == none && minSize c == 0) = true)
    (hstar : (lo == 0 && hi == none) = true)
    (hv : visit br (.repeat c lo hi greedy) hard pc nsv gix = .ok (code, nsv')) :
    ∃ body, visit br c (hard || isHard br (.repeat c lo hi greedy)) (pc + 1) nsv gix = .ok (body, nsv') ∧
      code = [if greedy then Insn.split (pc + 1) (pc + 1 + body.length + 1)
              else Insn.split (pc + 1 + body.length + 1) (pc + 1)] ++ body ++ [.jmp pc] := by
  rw [visit] at hv
  simp only [hdel, Bool.false_eq_true, ↓reduceIte, hopt, heps, hstar] at hv
  split at hv
  · cases hv
  · rename_i body _ hb; cases hv; exact ⟨body, hb, rfl⟩

theorem visit_plus_ok (hdel : ¬(!hard && !isHard br (.repeat c lo hi greedy)) = true)
    (hopt : ¬(lo == 0 && hi == some 1) = true) (heps : ¬(hi == none && minSize c == 0) = true)
    (hstar : ¬(lo == 0 && hi == none) = true) (hplus : (lo == 1 && hi == none) = true)
    (hv : visit br (.repeat c lo hi greedy) hard pc nsv gix = .ok (code, nsv')) :
    ∃ body, visit br c (hard || isHard br (.repeat c lo hi greedy)) pc nsv gix = .ok (body, nsv') ∧
      code = body ++ [if greedy then Insn.split pc (pc + body.length + 1)
                      else Insn.split (pc + body.length + 1) pc] := by
  rw [visit] at hv
  simp only [hdel, Bool.false_eq_true, ↓reduceIte, hopt, heps, hstar, hplus] at hv
  split at hv
  · cases hv
  · rename_i body _ hb; cases hv; exact ⟨body, hb, rfl⟩

/-- every other bound: a counter slot and `Repeat{Gr,Ng}` -/
theorem visit_counted_ok (hdel : ¬(!hard && !isHard br (.repeat c lo hi greedy)) = true)
    (hopt : ¬(lo == 0 && hi == some 1) = true) (heps : ¬(hi == none && minSize c == 0) = true)
    (hstar : ¬(lo == 0 && hi == none) = true) (hplus : ¬(lo == 1 && hi == none) = true)
    (hv : visit br (.repeat c lo hi greedy) hard pc nsv gix = .ok (code, nsv')) :
    ∃ body, visit br c (hard || isHard br (.repeat c lo hi greedy)) (pc + 2) (nsv + 1) gix = .ok (body, nsv') ∧
      code = [.save0 nsv,
              if greedy then Insn.repeatGr lo hi (pc + 2 + body.length + 1) nsv
              else Insn.repeatNg lo hi (pc + 2 + body.length + 1) nsv] ++ body ++ [.jmp (pc + 1)] := by
  rw [visit] at hv
  simp only [hdel, Bool.false_eq_true, ↓reduceIte, hopt, heps, hstar, hplus] at hv
  split at hv
  · cases hv
  · rename_i body _ hb; cases hv; exact ⟨body, hb, rfl⟩

end Repeat

/-! ## Several children -/

theorem visit_cond_ok {c y n : Expr} (hv : visit br (.cond c y n) hard pc nsv gix = .ok (code, nsv')) :
    ∃ cc nsv1 yc nsv2 nc,
      visit br c hard (pc + 2) nsv gix = .ok (cc, nsv1) ∧
      visit br y hard (pc + 2 + cc.length + 1) nsv1 (gix + groupCount c) = .ok (yc, nsv2) ∧
      visit br n hard (pc + 2 + cc.length + 1 + yc.length + 1) nsv2 (gix + groupCount c + groupCount y) = .ok (nc, nsv') ∧
      code = [.beginAtomic, .split (pc + 2) (pc + 2 + cc.length + 1 + yc.length + 1)] ++ cc ++ [.endAtomic] ++ yc ++
             [.jmp (pc + 2 + cc.length + 1 + yc.length + 1 + nc.length)] ++ nc := by
  rw [visit] at hv
  simp only [isHard, Bool.not_true, Bool.and_false, Bool.false_eq_true, ↓reduceIte] at hv
  split at hv
  · cases hv
  · rename_i cc nsv1 hb1
    split at hv
    · cases hv
    · rename_i yc nsv2 hb2
      split at hv
      · cases hv
      · rename_i nc _ hb3; cases hv; exact ⟨cc, nsv1, yc, nsv2, nc, hb1, hb2, hb3, rfl⟩

theorem visit_alt_ok {es : List Expr} (hdel : ¬(!hard && !isHard br (.alt es)) = true)
    (hv : visit br (.alt es) hard pc nsv gix = .ok (code, nsv')) :
    ∃ f endPc, visitAlt br es hard pc nsv gix = .ok (f, endPc, nsv') ∧ code = f endPc := by
  rw [visit] at hv
  simp only [hdel, Bool.false_eq_true, ↓reduceIte] at hv
  split at hv
  · cases hv
  · rename_i f endPc _ hb; cases hv; exact ⟨f, endPc, hb, rfl⟩

theorem visitMiddle_skip (br : Nat → Bool) : ∀ (es : List Expr) (skip take pc nsv gix : Nat),
    visitMiddle br es skip take pc nsv gix = visitMiddle br (es.drop skip) 0 take pc nsv gix
  | [], skip, take, pc, nsv, gix => by simp [visitMiddle]
  | e :: es, 0, take, pc, nsv, gix => by simp
  | e :: es, skip + 1, take, pc, nsv, gix => by
    simp only [visitMiddle, List.drop_succ_cons]
    exact visitMiddle_skip br es skip take pc nsv gix

/-- a concatenation in a hard context: the easy prefix `es.take sp.1` and the easy suffix `es.drop sp.2`
    are delegated, the children in between are visited one by one -/
theorem visit_concat_ok {es : List Expr} (hdel : ¬(!hard && !isHard br (.concat es)) = true)
    (hv : visit br (.concat es) hard pc nsv gix = .ok (code, nsv')) :
    ∃ mid, visitMiddle br (es.drop (concatSplit br es hard).1) 0
            ((concatSplit br es hard).2 - (concatSplit br es hard).1)
            (pc + (compileDelegates (es.take (concatSplit br es hard).1) gix).length) nsv
            (gix + groupCountList (es.take (concatSplit br es hard).1)) = .ok (mid, nsv') ∧
      code = compileDelegates (es.take (concatSplit br es hard).1) gix ++ mid ++
             compileDelegates (es.drop (concatSplit br es hard).2)
               (gix + groupCountList (es.take (concatSplit br es hard).2)) := by
  rw [visit] at hv
  simp only [hdel, Bool.false_eq_true, ↓reduceIte] at hv
  rw [visitMiddle_skip] at hv
  split at hv
  · cases hv
  · rename_i mid _ hb; cases hv; exact ⟨mid, hb, rfl⟩

/-! ## The companions over lists -/

theorem visitMiddle_cons_ok {e : Expr} {es : List Expr} {take : Nat}
    (hv : visitMiddle br (e :: es) 0 (take + 1) pc nsv gix = .ok (code, nsv')) :
    ∃ c1 nsv1 c2, visit br e true pc nsv gix = .ok (c1, nsv1) ∧
      visitMiddle br es 0 take (pc + c1.length) nsv1 (gix + groupCount e) = .ok (c2, nsv') ∧ code = c1 ++ c2 := by
  simp only [visitMiddle] at hv
  split at hv
  · cases hv
  · rename_i c1 nsv1 hb1
    split at hv
    · cases hv
    · rename_i c2 _ hb2; cases hv; exact ⟨c1, nsv1, c2, hb1, hb2, rfl⟩

section Alts
variable {f : Nat → Code} {endPc : Nat} {e e2 : Expr} {es : List Expr}

theorem visitAlt_single_ok (hv : visitAlt br [e] hard pc nsv gix = .ok (f, endPc, nsv')) :
    ∃ c, visit br e hard pc nsv gix = .ok (c, nsv') ∧ f = (fun _ => c) ∧ endPc = pc + c.length := by
  simp only [visitAlt] at hv
  split at hv
  · cases hv
  · rename_i c _ hb; cases hv; exact ⟨c, hb, rfl, rfl⟩

theorem visitAlt_cons_ok (hv : visitAlt br (e :: e2 :: es) hard pc nsv gix = .ok (f, endPc, nsv')) :
    ∃ c nsv1 f2, visit br e hard (pc + 1) nsv gix = .ok (c, nsv1) ∧
      visitAlt br (e2 :: es) hard (pc + 1 + c.length + 1) nsv1 (gix + groupCount e) = .ok (f2, endPc, nsv') ∧
      f = fun endT => [Insn.split (pc + 1) (pc + 1 + c.length + 1)] ++ c ++ [Insn.jmp endT] ++ f2 endT := by
  simp only [visitAlt] at hv
  split at hv
  · cases hv
  · rename_i c nsv1 hb1
    split at hv
    · cases hv
    · rename_i f2 _ _ hb2; cases hv; exact ⟨c, nsv1, f2, hb1, hb2, rfl⟩

theorem lookBehindAlts_single_ok (hv : lookBehindAlts br [e] pc nsv gix = .ok (f, endPc, nsv')) :
    constSize e = true ∧
    ∃ body, visit br e false (posLookBodyPc (isHard br e) true pc) (nsv + 1) gix = .ok (body, nsv') ∧
      f = (fun _ => wrapPosLook (isHard br e) true nsv (minSize e) body) ∧
      endPc = pc + (wrapPosLook (isHard br e) true nsv (minSize e) body).length := by
  simp only [lookBehindAlts] at hv
  cases hcs : constSize e
  · simp [hcs] at hv
  · simp only [hcs, Bool.not_true, Bool.false_eq_true, ↓reduceIte] at hv
    split at hv
    · cases hv
    · rename_i body _ hb; cases hv; exact ⟨rfl, body, hb, rfl, rfl⟩

theorem lookBehindAlts_cons_ok (hv : lookBehindAlts br (e :: e2 :: es) pc nsv gix = .ok (f, endPc, nsv')) :
    constSize e = true ∧
    ∃ body nsv1 f2,
      visit br e false (posLookBodyPc (isHard br e) true (pc + 1)) (nsv + 1) gix = .ok (body, nsv1) ∧
      lookBehindAlts br (e2 :: es) (pc + 1 + (wrapPosLook (isHard br e) true nsv (minSize e) body).length + 1) nsv1
        (gix + groupCount e) = .ok (f2, endPc, nsv') ∧
      f = fun endT => [Insn.split (pc + 1) (pc + 1 + (wrapPosLook (isHard br e) true nsv (minSize e) body).length + 1)] ++
            wrapPosLook (isHard br e) true nsv (minSize e) body ++ [Insn.jmp endT] ++ f2 endT := by
  simp only [lookBehindAlts] at hv
  cases hcs : constSize e
  · simp [hcs] at hv
  · simp only [hcs, Bool.not_true, Bool.false_eq_true, ↓reduceIte] at hv
    split at hv
    · cases hv
    · rename_i body nsv1 hb1
      split at hv
      · cases hv
      · rename_i f2 _ _ hb2; cases hv; exact ⟨rfl, body, nsv1, f2, hb1, hb2, rfl⟩

theorem lookBehindNegAlts_cons_ok (hv : lookBehindNegAlts br (e :: es) pc nsv gix = .ok (code, nsv')) :
    constSize e = true ∧
    ∃ body nsv1 c2, visit br e false (negLookBodyPc true pc) nsv gix = .ok (body, nsv1) ∧
      lookBehindNegAlts br es (pc + (wrapNegLook true pc (minSize e) body).length) nsv1 (gix + groupCount e)
        = .ok (c2, nsv') ∧
      code = wrapNegLook true pc (minSize e) body ++ c2 := by
  simp only [lookBehindNegAlts] at hv
  cases hcs : constSize e
  · simp [hcs] at hv
  · simp only [hcs, Bool.not_true, Bool.false_eq_true, ↓reduceIte] at hv
    split at hv
    · cases hv
    · rename_i body nsv1 hb1
      split at hv
      · cases hv
      · rename_i c2 _ hb2; cases hv; exact ⟨rfl, body, nsv1, c2, hb1, hb2, rfl⟩

end Alts

end Fancy
