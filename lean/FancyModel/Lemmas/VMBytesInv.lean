import FancyModel.Lemmas.VMBytesRefine
/-!
# The typed-state invariant: shrinking the dynamic hypothesis of `runB_refines`

`TypedState τ len s`: every position slot holds `UNSET` or a value `≤ len`, every undo-log entry of
a position slot likewise, every pending branch resumes at a position `≤ len`.

* `step_typed`: for a well-typed instruction, from a typed state at `ix ≤ len`, under the RESIDUAL
  run-time facts `tameOK` — a `Restore` reads a value `≤ len` (i.e. not an unset slot), at
  `BeginAtomic`/`EndAtomic` the pointer cell of the auxiliary stack points above the ordinary slots,
  a `Delegate`'s group slots exist — the next state is typed and the next position is `≤ len`.
* `stepOK_of_typed`: in a typed state the local precondition `stepOK` of the simulation follows from
  `tameOK`.
* `okLoop_of_tame` / `runB_refines_tame`: the monitor `okLoop` of `runB_refines` follows from the
  smaller monitor `tameLoop` (only the residual facts, along the run); so
  `runB = mapped run` whenever the program is well typed and the code-point run never restores an unset
  slot and keeps the auxiliary-stack discipline.
-/
namespace Fancy
open State Utf8

structure TypedState (τ : Nat → Bool) (len : Nat) (s : State) : Prop where
  saves : ∀ i v, τ i = true → s.saves[i]? = some v → Valid len v
  stack : ∀ b ∈ s.stack, b.ix ≤ len
  log : ∀ e ∈ s.oldsave, τ e.1 = true → Valid len e.2

/-- what a step leaves behind -/
def ResOK (τ : Nat → Bool) (len : Nat) : StepResult → Prop
  | .cont _ ix s => TypedState τ len s ∧ ix ≤ len
  | .fail s => TypedState τ len s
  | .done _ => True

/-- the residual run-time facts -/
def tameOK (τ : Nat → Bool) (nS : Nat) (c : Ctx) (insn : Insn) (s : State) : Bool :=
  match insn with
  | .restore slot => optAll (s.get slot) fun v => decide (v ≤ c.len)
  | .beginAtomic =>
    decide (s.explicitSp = nS) &&
      optAll (if s.saves.length = s.explicitSp then some (s.explicitSp + 1) else s.get s.explicitSp)
        fun sp => decide (nS ≤ sp)
  | .endAtomic =>
    decide (s.explicitSp = nS) && optAll (s.get s.explicitSp) fun p => decide (nS + 1 ≤ p)
  | .delegate _ _ eg => decide (2 * eg ≤ s.saves.length)
  | _ => true

/-- the smaller monitor: the residual facts at every configuration the code-point run visits -/
def tameLoop (c : Ctx) (τ : Nat → Bool) (nS : Nat) (prog : List Insn) (op : VMOpts) : Nat → Nat → Nat → State → Nat → Bool
  | 0, _, _, _, _ => true
  | fuel + 1, pc, ix, s, bt =>
    (match prog[pc]? with | none => true | some insn => tameOK τ nS c insn s) &&
    match step c prog pc ix s with
    | .done _ => true
    | .cont pc' ix' s' => tameLoop c τ nS prog op fuel pc' ix' s' bt
    | .fail s' =>
      if s'.stack.isEmpty then true else
      if bt + 1 > op.backtrackLimit then true else
      match s'.pop with
      | none => true
      | some (s'', pc', ix') => tameLoop c τ nS prog op fuel pc' ix' s'' (bt + 1)

variable {τ : Nat → Bool} {len : Nat}

theorem typed_new (n m : Nat) : TypedState τ len (State.new n m) := by
  refine ⟨?_, ?_, ?_⟩
  · intro i v _ hv
    simp only [State.new] at hv
    obtain ⟨_, rfl⟩ := List.getElem?_eq_some_iff.mp hv
    right; simp
  · intro b hb; simp [State.new] at hb
  · intro e he; simp [State.new] at he

theorem typed_set {saves : List Nat} (h : ∀ i v, τ i = true → saves[i]? = some v → Valid len v) (slot w : Nat)
    (hw : τ slot = true → Valid len w) : ∀ i v, τ i = true → (saves.set slot w)[i]? = some v → Valid len v := by
  intro i v hτ hv
  rw [List.getElem?_set] at hv
  split at hv
  · rename_i heq
    subst heq
    split at hv
    · cases hv; exact hw hτ
    · cases hv
  · exact h i v hτ hv

/-- a number slot may hold anything -/
theorem valid_of_num {slot v : Nat} (h : τ slot = false) : τ slot = true → Valid len v :=
  fun h' => by rw [h] at h'; cases h'

theorem typed_save {s s' : State} {slot v : Nat} (h : TypedState τ len s) (hv : τ slot = true → Valid len v)
    (hs : s.save slot v = some s') : TypedState τ len s' := by
  unfold State.save at hs
  split at hs
  · cases hs
  · split at hs
    · cases hs
    · rename_i h1 h2
      split at hs
      · simp only [Option.some.injEq] at hs; subst hs
        exact ⟨typed_set h.saves slot v hv, h.stack, h.log⟩
      · simp only [Option.some.injEq] at hs; subst hs
        refine ⟨typed_set h.saves slot v hv, h.stack, ?_⟩
        intro e he hτ
        rcases List.mem_cons.mp he with rfl | he
        · have hlt : slot < s.saves.length := by omega
          exact h.saves slot _ hτ (by simp [List.getElem?_eq_getElem hlt])
        · exact h.log e he hτ

theorem typed_push {s s' : State} {pc ix : Nat} (h : TypedState τ len s) (hix : ix ≤ len)
    (hs : s.push pc ix = .ok s') : TypedState τ len s' := by
  unfold State.push at hs
  split at hs
  · simp only [PushResult.ok.injEq] at hs; subst hs
    refine ⟨h.saves, ?_, h.log⟩
    intro b hb
    rcases List.mem_cons.mp hb with rfl | hb
    · exact hix
    · exact h.stack b hb
  · cases hs

theorem typed_restore : ∀ (n : Nat) (log : List (Nat × Nat)) (saves : List Nat) (l' : List (Nat × Nat)) (sv' : List Nat),
    (∀ e ∈ log, τ e.1 = true → Valid len e.2) → (∀ i v, τ i = true → saves[i]? = some v → Valid len v) →
    State.restore n log saves = some (l', sv') →
    (∀ e ∈ l', τ e.1 = true → Valid len e.2) ∧ (∀ i v, τ i = true → sv'[i]? = some v → Valid len v)
  | 0, log, saves, l', sv', hl, hs, h => by
    simp only [State.restore, Option.some.injEq, Prod.mk.injEq] at h
    obtain ⟨rfl, rfl⟩ := h
    exact ⟨hl, hs⟩
  | n + 1, [], saves, l', sv', _, _, h => by simp [State.restore] at h
  | n + 1, (slot, value) :: log, saves, l', sv', hl, hs, h => by
    simp only [State.restore] at h
    split at h
    · exact typed_restore n log (saves.set slot value) l' sv' (fun e he => hl e (List.mem_cons_of_mem _ he))
        (typed_set hs slot value (fun hτ => hl (slot, value) (List.mem_cons_self ..) hτ)) h
    · cases h

theorem typed_pop {s s' : State} {pc ix : Nat} (h : TypedState τ len s) (hs : s.pop = some (s', pc, ix)) :
    TypedState τ len s' ∧ ix ≤ len := by
  unfold State.pop at hs
  cases hr : State.restore s.nsave s.oldsave s.saves with
  | none => rw [hr] at hs; cases hs
  | some p =>
    obtain ⟨log, saves⟩ := p
    rw [hr] at hs
    simp only at hs
    obtain ⟨h1, h2⟩ := typed_restore s.nsave s.oldsave s.saves log saves h.log h.saves hr
    cases hst : s.stack with
    | nil => rw [hst] at hs; cases hs
    | cons b rest =>
      rw [hst] at hs
      simp only [Option.some.injEq, Prod.mk.injEq] at hs
      obtain ⟨rfl, rfl, rfl⟩ := hs
      have hb : ∀ x ∈ b :: rest, x.ix ≤ len := by rw [← hst]; exact h.stack
      exact ⟨⟨h2, fun x hx => hb x (List.mem_cons_of_mem _ hx), h1⟩, hb b (List.mem_cons_self ..)⟩

theorem typed_popUntil (target : Nat) : ∀ (fuel : Nat) (s s' : State), TypedState τ len s →
    popUntil target fuel s = some s' → TypedState τ len s'
  | 0, _, _, _, h => by simp [popUntil] at h
  | fuel + 1, s, s', ht, h => by
    simp only [popUntil] at h
    cases hp : s.pop with
    | none => rw [hp] at h; cases h
    | some p =>
      obtain ⟨s1, pc, ix⟩ := p
      rw [hp] at h
      simp only at h
      have h1 := (typed_pop ht hp).1
      split at h
      · simp only [Option.some.injEq] at h; subst h; exact h1
      · exact typed_popUntil target fuel s1 s' h1 h

theorem typed_backtrackCut {s s' : State} {count : Nat} (h : TypedState τ len s)
    (hs : s.backtrackCut count = some s') : TypedState τ len s' := by
  unfold State.backtrackCut at hs
  split at hs
  · simp only [Option.some.injEq] at hs; subst hs; exact h
  · split at hs
    · cases hs
    · simp only at hs
      split at hs
      · cases hs
      · split at hs
        · cases hs
        · simp only [Option.some.injEq] at hs
          subst hs
          refine ⟨h.saves, fun b hb => h.stack b (List.mem_of_mem_drop hb), ?_⟩
          intro e he hτ
          simp only [List.mem_append, List.mem_reverse] at he
          rcases he with (he | he) | he
          · have := cutKeep_mem _ _ e he
            exact h.log e (List.mem_of_mem_take (List.mem_reverse.mp this)) hτ
          · exact h.log e (List.mem_of_mem_drop (List.mem_of_mem_take he)) hτ
          · exact h.log e (List.mem_of_mem_drop he) hτ

theorem typed_grow {s : State} (h : TypedState τ len s) (x : Nat) (hτ : τ s.saves.length = false) :
    TypedState τ len { s with saves := s.saves ++ [x] } := by
  refine ⟨?_, h.stack, h.log⟩
  intro i v hτi hv
  by_cases hi : i < s.saves.length
  · rw [List.getElem?_append_left hi] at hv; exact h.saves i v hτi hv
  · by_cases hi' : i = s.saves.length
    · subst hi'; rw [hτ] at hτi; cases hτi
    · rw [List.getElem?_eq_none (by simp; omega)] at hv; cases hv

theorem typed_pushCore {s1 s' : State} {val : Nat} (h : TypedState τ len s1) (hτe : τ s1.explicitSp = false)
    (hsp : ∀ sp, s1.get s1.explicitSp = some sp → τ sp = false) (hs : pushCoreB s1 val = some s') :
    TypedState τ len s' := by
  unfold pushCoreB at hs
  cases hg : s1.get s1.explicitSp with
  | none => rw [hg] at hs; cases hs
  | some sp =>
    rw [hg] at hs
    simp only at hs
    have hτsp := hsp sp hg
    by_cases hl : (s1.saves.length == sp) = true
    · simp only [hl, if_true] at hs
      have hl' : s1.saves.length = sp := by simpa using hl
      exact typed_save (typed_grow h val (by rw [hl']; exact hτsp)) (valid_of_num hτe) hs
    · simp only [hl] at hs
      cases hsv : s1.save sp val with
      | none => rw [hsv] at hs; cases hs
      | some s2 =>
        rw [hsv] at hs
        exact typed_save (typed_save h (valid_of_num hτsp) hsv)
          (valid_of_num hτe) hs

theorem typed_stackPush {s s' : State} {val : Nat} (h : TypedState τ len s) (hτ : ∀ i, s.explicitSp ≤ i → τ i = false)
    (hsp : ∀ sp, (if s.saves.length = s.explicitSp then some (s.explicitSp + 1) else s.get s.explicitSp) = some sp →
      τ sp = false) (hs : s.stackPush val = some s') : TypedState τ len s' := by
  by_cases hl : s.saves.length = s.explicitSp
  · rw [stackPush_pos s val hl] at hs
    refine typed_pushCore (typed_grow h _ (by rw [hl]; exact hτ _ (Nat.le_refl _))) (hτ _ (Nat.le_refl _)) ?_ hs
    intro sp hg
    apply hsp
    simp only [hl, if_true]
    simp only [State.get, ← hl, List.getElem?_append_right (Nat.le_refl _), Nat.sub_self,
      List.getElem?_cons_zero] at hg
    rw [← hl]; exact hg
  · rw [stackPush_neg s val hl] at hs
    refine typed_pushCore h (hτ _ (Nat.le_refl _)) ?_ hs
    intro sp hg
    apply hsp
    simp only [hl, if_false]
    exact hg

theorem typed_stackPop {s s' : State} {count : Nat} (h : TypedState τ len s) (hτ : τ s.explicitSp = false)
    (hs : s.stackPop = some (s', count)) : TypedState τ len s' := by
  unfold State.stackPop at hs
  cases hg : s.get s.explicitSp with
  | none => rw [hg] at hs; cases hs
  | some p =>
    rw [hg] at hs
    cases p with
    | zero => cases hs
    | succ sp =>
      simp only at hs
      cases hg2 : s.get sp with
      | none => rw [hg2] at hs; cases hs
      | some result =>
        rw [hg2] at hs
        simp only at hs
        cases hsv : s.save s.explicitSp sp with
        | none => rw [hsv] at hs; cases hs
        | some s2 =>
          rw [hsv] at hs
          simp only [Option.map_some, Option.some.injEq, Prod.mk.injEq] at hs
          obtain ⟨rfl, _⟩ := hs
          exact typed_save h (valid_of_num hτ) hsv

theorem typed_copyGroups (r : St) (sg eg : Nat) (hr : ∀ g a, g < 2 * eg → r.slot g = some a → a ≤ len) :
    ∀ (n : Nat) (s s' : State), sg + n ≤ eg → TypedState τ len s → copyGroups r sg n s = some s' → TypedState τ len s'
  | 0, s, s', _, h, hs => by simp only [copyGroups, Option.some.injEq] at hs; subst hs; exact h
  | n + 1, s, s', hn, h, hs => by
    simp only [copyGroups] at hs
    cases hc : copyGroups r sg n s with
    | none => rw [hc] at hs; cases hs
    | some s1 =>
      rw [hc] at hs
      simp only at hs
      have h1 := typed_copyGroups r sg eg hr n s s1 (by omega) h hc
      cases ha : r.slot ((sg + n) * 2) with
      | none => rw [ha] at hs; simp only [Option.some.injEq] at hs; subst hs; exact h1
      | some a =>
        rw [ha] at hs
        cases hb : r.slot ((sg + n) * 2 + 1) with
        | none => rw [hb] at hs; cases hs
        | some b =>
          rw [hb] at hs
          simp only at hs
          cases hsv : s1.save ((sg + n) * 2) a with
          | none => rw [hsv] at hs; cases hs
          | some s2 =>
            rw [hsv] at hs
            simp only [Option.bind_some] at hs
            exact typed_save (typed_save h1 (fun _ => Or.inl (hr _ a (by omega) ha)) hsv)
              (fun _ => Or.inl (hr _ b (by omega) hb)) hs

theorem typed_capStart {s s' : State} {pos : Nat} (h : TypedState τ len s) (hpos : pos ≤ len)
    (h1 : τ 1 = true) (hs : capStart s pos = some s') : TypedState τ len s' := by
  unfold capStart at hs
  cases hg1 : s.saves[1]? with
  | none => rw [hg1] at hs; simp only [Option.some.injEq] at hs; subst hs; exact h
  | some slot1 =>
    rw [hg1] at hs
    simp only at hs
    have hv1 : Valid len slot1 := h.saves 1 slot1 h1 hg1
    cases hg0 : s.get 0 with
    | none => rw [hg0] at hs; cases hs
    | some s0 =>
      rw [hg0] at hs
      simp only [Option.bind_some] at hs
      have key : ∀ t : State, TypedState τ len t →
          ((t.get 0).bind fun s0' => if s0' < pos then t.save 0 pos else some t) = some s' → TypedState τ len s' := by
        intro t ht hh
        cases hgt : t.get 0 with
        | none => rw [hgt] at hh; cases hh
        | some t0 =>
          rw [hgt] at hh
          simp only [Option.bind_some] at hh
          split at hh
          · exact typed_save ht (fun _ => Or.inl hpos) hh
          · simp only [Option.some.injEq] at hh; subst hh; exact ht
      split at hs
      · cases hsv : s.save 0 slot1 with
        | none => rw [hsv] at hs; cases hs
        | some t =>
          rw [hsv] at hs
          simp only [Option.bind_some] at hs
          exact key t (typed_save h (fun _ => hv1) hsv) hs
      · simp only [Option.bind_some] at hs
        exact key s h hs

theorem typed_pushOr {s : State} (h : TypedState τ len s) {ix : Nat} (hix : ix ≤ len) (x y : Nat) :
    ResOK τ len (pushOr s y ix fun s' => .cont x ix s') := by
  unfold pushOr
  cases hp : s.push y ix with
  | ok s' => exact ⟨typed_push h hix hp, hix⟩
  | overflow => trivial

theorem resOK_ite {p : Prop} [Decidable p] {a b : StepResult} (ha : p → ResOK τ len a) (hb : ¬ p → ResOK τ len b) :
    ResOK τ len (if p then a else b) := by
  by_cases hp : p
  · rw [if_pos hp]; exact ha hp
  · rw [if_neg hp]; exact hb hp

theorem resOK_save {s : State} {slot v : Nat} {msg : String} {k : State → StepResult} (h : TypedState τ len s)
    (hv : τ slot = true → Valid len v) (hk : ∀ s', TypedState τ len s' → ResOK τ len (k s')) :
    ResOK τ len (match s.save slot v with
      | none => .done (.panic msg)
      | some s' => k s') := by
  cases hs : s.save slot v with
  | none => trivial
  | some s' => exact hk s' (typed_save h hv hs)

/-- what the oracle returns lies inside the text (from the typed group slots) -/
theorem delegate_good (c : Ctx) (es : List Expr) (sg eg ix : Nat) (saves : List Nat)
    (hes : slotsBelowAll (2 * eg) es = true) (hlen : 2 * eg ≤ saves.length) (hix : ix ≤ c.len)
    (hvalid : ∀ v ∈ saves.take (2 * eg), Valid c.len v) (r : St)
    (hr : delegateOracle c es sg eg ix saves = some r) :
    r.ix ≤ c.len ∧ ∀ g a, g < 2 * eg → r.slot g = some a → a ≤ c.len := by
  obtain ⟨hext, _⟩ := delegateOracle_ext c es sg eg ix (2 * eg) (2 * eg) saves hes (by omega) (Nat.le_refl _) hlen
  rw [hext] at hr
  cases hr' : delegateOracle c es sg eg ix (saves.take (2 * eg)) with
  | none => rw [hr'] at hr; cases hr
  | some r' =>
    rw [hr'] at hr
    simp only [Option.map_some, Option.some.injEq] at hr
    subst hr
    have hgood : r'.Good c (2 * eg) := delegateOracle_good c es sg eg ix saves hix hlen hvalid r' hr'
    refine ⟨hgood.ix, ?_⟩
    intro g a hg ha
    rw [extSt_slot _ r' g (by rw [hgood.len]; exact hg)] at ha
    exact hgood.vals a (slot_mem r' g a ha)

theorem optAll_of {x : Option Nat} {p : Nat → Bool} (h : ∀ v, x = some v → p v = true) : optAll x p = true := by
  cases x with
  | none => rfl
  | some v => exact h v rfl

section Inv
variable (c : Ctx) (τ : Nat → Bool) (nS : Nat)
variable (hτ : ∀ i, nS ≤ i → τ i = false) (hpos : c.pos ≤ c.len)

include hpos in
/-- in a typed state the local precondition of the simulation follows from the residual facts -/
theorem stepOK_of_typed (insn : Insn) (ix : Nat) (s : State) (hty : insn.typed τ = true)
    (hts : TypedState τ c.len s) (hix : ix ≤ c.len) (htame : tameOK τ nS c insn s = true) :
    stepOK τ nS c insn ix s = true := by
  have hval : ∀ slot, τ slot = true → (optAll (s.get slot) fun v => decide (Valid c.len v)) = true :=
    fun slot h => optAll_of (fun v hv => decide_eq_true (hts.saves slot v h hv))
  cases insn with
  | restore slot | beginAtomic | endAtomic => simpa [stepOK, tameOK, hix] using htame
  | repeatEpsGr lo next rep check | repeatEpsNg lo next rep check =>
    simp only [Insn.typed, Bool.and_eq_true] at hty
    simp [stepOK, hix, hval check hty.2]
  | backref slot =>
    simp only [Insn.typed, Bool.and_eq_true] at hty
    simp [stepOK, hix, hval slot hty.1, hval (slot + 1) hty.2]
  | end_ =>
    simp only [Insn.typed, Bool.and_eq_true] at hty
    simp [stepOK, hix, hpos, hval 0 hty.1, hval 1 hty.2]
  | contPrev => simp [stepOK, hix, hpos]
  | delegate es sg eg =>
    simp only [Insn.typed, Bool.and_eq_true, List.all_eq_true, List.mem_range] at hty
    simp only [tameOK, decide_eq_true_eq] at htame
    simp only [stepOK, Bool.and_eq_true, decide_eq_true_eq, List.all_eq_true]
    refine ⟨hix, htame, ?_⟩
    intro v hv
    obtain ⟨i, hi⟩ := List.getElem?_of_mem hv
    rw [List.getElem?_take] at hi
    split at hi
    · rename_i hlt; exact hts.saves i v (hty.2 i hlt) hi
    · cases hi
  | _ => simp [stepOK, hix]

include hτ hpos in
/-- **the typed-state invariant is preserved by every well-typed instruction** under the residual
    facts; the next position stays inside the text -/
theorem step_typed (prog : List Insn) (pc ix : Nat) (s : State) (insn : Insn)
    (hpc : prog[pc]? = some insn) (hty : insn.typed τ = true)
    (hts : TypedState τ c.len s) (hix : ix ≤ c.len) (htame : tameOK τ nS c insn s = true) :
    ResOK τ c.len (step c prog pc ix s) := by
  cases insn with
  | end_ =>
    simp only [step, hpc]
    split <;> trivial
  | any =>
    simp only [step, hpc]
    cases hat : c.at? ix with
    | none => exact hts
    | some ch => exact ⟨hts, at_some_lt c ix ch hat⟩
  | anyNoNL =>
    simp only [step, hpc]
    cases hat : c.at? ix with
    | none => exact hts
    | some ch => exact resOK_ite (fun _ => ⟨hts, at_some_lt c ix ch hat⟩) (fun _ => hts)
  | lit val =>
    simp only [step, hpc]
    exact resOK_ite (fun h => ⟨hts, litAt_le c false val ix h hix⟩) (fun _ => hts)
  | assertion a =>
    simp only [step, hpc]
    exact resOK_ite (fun _ => ⟨hts, hix⟩) (fun _ => hts)
  | split x y =>
    simp only [step, hpc]
    exact typed_pushOr hts hix x y
  | jmp t =>
    simp only [step, hpc]
    exact ⟨hts, hix⟩
  | save slot =>
    simp only [step, hpc]
    cases hs : s.save slot ix with
    | none => trivial
    | some s' => exact ⟨typed_save hts (fun _ => Or.inl hix) hs, hix⟩
  | save0 slot =>
    simp only [step, hpc]
    cases hs : s.save slot 0 with
    | none => trivial
    | some s' => exact ⟨typed_save hts (fun _ => Or.inl (Nat.zero_le _)) hs, hix⟩
  | restore slot =>
    simp only [step, hpc]
    simp only [tameOK] at htame
    cases hg : s.get slot with
    | none => trivial
    | some v => exact ⟨hts, of_decide_eq_true (optAll_spec htame hg)⟩
  | repeatGr lo hi next rep | repeatNg lo hi next rep =>
    simp only [step, hpc]
    simp only [Insn.typed, Bool.not_eq_true'] at hty
    cases hg : s.get rep with
    | none => trivial
    | some cnt =>
      exact resOK_ite (fun _ => ⟨hts, hix⟩) fun _ => resOK_save hts (valid_of_num hty) fun s' h' =>
        resOK_ite (fun _ => typed_pushOr h' hix _ _) (fun _ => ⟨h', hix⟩)
  | repeatEpsGr lo next rep check | repeatEpsNg lo next rep check =>
    simp only [step, hpc]
    simp only [Insn.typed, Bool.and_eq_true, Bool.not_eq_true'] at hty
    cases hg : s.get rep with
    | none => cases s.get check <;> trivial
    | some cnt =>
      cases hg2 : s.get check with
      | none => trivial
      | some chk =>
        exact resOK_ite (fun _ => hts) fun _ => resOK_save hts (valid_of_num hty.1) fun s' h' =>
          resOK_ite (fun _ => resOK_save h' (fun _ => Or.inl hix) fun s'' h'' => typed_pushOr h'' hix _ _)
            (fun _ => ⟨h', hix⟩)
  | goBack n =>
    simp only [step, hpc]
    unfold Fancy.goBack
    by_cases hn : n ≤ ix
    · rw [if_pos hn]; exact ⟨hts, by omega⟩
    · rw [if_neg hn]; exact hts
  | failNegLook =>
    simp only [step, hpc]
    cases hp : popUntil (pc + 1) (s.stack.length + 1) s with
    | none => trivial
    | some s' => exact typed_popUntil _ _ s s' hts hp
  | backref slot =>
    simp only [step, hpc]
    cases hg : s.get slot with
    | none => cases s.get (slot + 1) <;> trivial
    | some lo =>
      cases hg2 : s.get (slot + 1) with
      | none => trivial
      | some hi =>
        refine resOK_ite (fun _ => hts) fun _ => resOK_ite (fun _ => hts) fun _ =>
          resOK_ite (fun hsa => ?_) (fun _ => hts)
        simp only [Ctx.sameAt, Bool.and_eq_true, decide_eq_true_eq] at hsa
        exact ⟨hts, hsa.1⟩
  | backrefExists g =>
    simp only [step, hpc]
    cases hg : s.get (g * 2) with
    | none => trivial
    | some lo => exact resOK_ite (fun _ => hts) (fun _ => ⟨hts, hix⟩)
  | beginAtomic =>
    simp only [step, hpc]
    simp only [tameOK, Bool.and_eq_true, decide_eq_true_eq] at htame
    obtain ⟨hsp, hptr⟩ := htame
    cases hs : s.stackPush s.backtrackCount with
    | none => trivial
    | some s' =>
      exact ⟨typed_stackPush hts (fun i hi => hτ i (by omega))
        (fun sp h => hτ sp (of_decide_eq_true (optAll_spec hptr h))) hs, hix⟩
  | endAtomic =>
    simp only [step, hpc]
    simp only [tameOK, Bool.and_eq_true, decide_eq_true_eq] at htame
    cases hs : s.stackPop with
    | none => trivial
    | some p =>
      obtain ⟨s', count⟩ := p
      dsimp only
      have h' := typed_stackPop hts (hτ _ (by omega)) hs
      cases hc : s'.backtrackCut count with
      | none => trivial
      | some s'' => exact ⟨typed_backtrackCut h' hc, hix⟩
  | delegate es sg eg =>
    simp only [step, hpc]
    simp only [Insn.typed, Bool.and_eq_true, List.all_eq_true, List.mem_range] at hty
    simp only [tameOK, decide_eq_true_eq] at htame
    have hvalid : ∀ v ∈ s.saves.take (2 * eg), Valid c.len v := by
      intro v hv
      obtain ⟨i, hi⟩ := List.getElem?_of_mem hv
      rw [List.getElem?_take] at hi
      split at hi
      · rename_i hlt; exact hts.saves i v (hty.2 i hlt) hi
      · cases hi
    cases hr : delegateOracle c es sg eg ix s.saves with
    | none => exact hts
    | some r =>
      obtain ⟨hrix, hrv⟩ := delegate_good c es sg eg ix s.saves hty.1 htame hix hvalid r hr
      dsimp only
      split
      · exact ⟨hts, hrix⟩
      · cases hc : copyGroups r sg (eg - sg) s with
        | none => trivial
        | some s' =>
          refine ⟨?_, hrix⟩
          rcases Nat.le_total sg eg with h | h
          · exact typed_copyGroups r sg eg hrv (eg - sg) s s' (by omega) hts hc
          · have h0 : eg - sg = 0 := by omega
            rw [h0] at hc
            simp only [copyGroups, Option.some.injEq] at hc
            subst hc; exact hts
  | contPrev =>
    simp only [step, hpc]
    exact resOK_ite (fun _ => hts) (fun _ => ⟨hts, hix⟩)

include hτ hpos in
/-- **the monitor of `runB_refines` from the residual monitor** -/
theorem okLoop_of_tame (prog : List Insn) (op : VMOpts) (hwt : wellTyped τ prog = true) :
    ∀ (fuel pc ix : Nat) (s : State) (bt : Nat), TypedState τ c.len s → ix ≤ c.len →
      tameLoop c τ nS prog op fuel pc ix s bt = true → okLoop c τ nS prog op fuel pc ix s bt = true
  | 0, _, _, _, _, _, _, _ => rfl
  | fuel + 1, pc, ix, s, bt, hts, hix, ht => by
    simp only [tameLoop, Bool.and_eq_true] at ht
    obtain ⟨ht1, ht2⟩ := ht
    simp only [okLoop, Bool.and_eq_true]
    cases hpc : prog[pc]? with
    | none =>
      refine ⟨by simp [cfgOK, hpc], ?_⟩
      have : step c prog pc ix s = .done (.panic "prog index") := by unfold step; simp only [hpc]
      rw [this]
    | some insn =>
      rw [hpc] at ht1
      have hty := wellTyped_at hwt hpc
      refine ⟨by simp only [cfgOK, hpc]; exact stepOK_of_typed c τ nS hpos insn ix s hty hts hix ht1, ?_⟩
      have hres := step_typed c τ nS hτ hpos prog pc ix s insn hpc hty hts hix ht1
      cases hstep : step c prog pc ix s with
      | done out => rfl
      | cont pc' ix' s' =>
        rw [hstep] at hres ht2
        exact okLoop_of_tame prog op hwt fuel pc' ix' s' bt hres.1 hres.2 ht2
      | fail s' =>
        rw [hstep] at hres ht2
        simp only at ht2 ⊢
        split
        · rfl
        · rename_i hemp
          simp only [hemp] at ht2
          split
          · rfl
          · rename_i hlim
            simp only [hlim] at ht2
            cases hpop : s'.pop with
            | none => rfl
            | some q =>
              obtain ⟨s'', pc', ix'⟩ := q
              rw [hpop] at ht2
              obtain ⟨h1, h2⟩ := typed_pop hres hpop
              exact okLoop_of_tame prog op hwt fuel pc' ix' s'' (bt + 1) h1 h2 ht2

end Inv

/-- **`runB` refines `run` under the residual monitor only**: a well-typed program, a start position
    inside the text, and along the code-point run no `Restore` of an unset slot and the auxiliary-stack
    discipline at `BeginAtomic`/`EndAtomic` (`tameLoop`) -/
theorem runB_refines_tame (c : Ctx) (τ : Nat → Bool) (nS : Nat)
    (hceq : ∀ a b, c.ceq false a b = (a == b)) (hU : (bytesOfChars c.text).length < UNSET)
    (hτ : ∀ i, nS ≤ i → τ i = false) (hpos : c.pos ≤ c.len)
    (p : Prog) (op : VMOpts) (fuel : Nat) (hwt : wellTyped τ p.body = true)
    (ht : tameLoop c τ nS p.body op fuel 0 c.pos (State.new p.nSaves op.maxStack) 0 = true) :
    runB (BCtx.ofCtx c) p op fuel = (mapOut τ (offOf c.text) (run c p op fuel).1, (run c p op fuel).2) :=
  runB_refines c τ nS hceq hU hτ p op fuel hwt
    (okLoop_of_tame c τ nS hτ hpos p.body op hwt fuel 0 c.pos _ 0 (typed_new _ _) hpos ht)

end Fancy
