import FancyModel.Lemmas.SimCompile4
import FancyModel.Spec.Stage5
import FancyModel.Proofs.C13b
import FancyModel.Proofs.C02
import FancyModel.Proofs.C03
import FancyModel.Lemmas.ExprInduct
/-!
# Stage S4, semantic half: atomizing a delegated run of the top-level concatenation does not change the
first result, when the run's own groups are referenced nowhere else

No machines here, only the reference semantics `sem` (Spec/Sem.lean).

* `Agr U a b`: the states `a`, `b` are at the same position and agree on every slot outside `U`.
* `untouched U e`: `e` neither reads (`\g`, `(?(g)…)`) nor writes (a group, `\K`) a slot of `U`.
* `noRead U e` (Spec/Stage5.lean): `e` does not read a slot of `U` (it may write one).
* `sem_agrR` (from `sem_agrR_both`): **obliviousness for arbitrary expressions** — from `Agr U`-related
  states an expression that does not read `U` has `Agr U`-related result lists (same length, pointwise
  related), for every construct of the semantics: look-arounds, atomic groups, back-references, conditionals,
  loops. `sem_agr` is the case of an untouched expression.
* `head_flatMap_first`: if all results of `P` are pairwise `Agr U`-related and the continuation `k` is
  oblivious, `((P st).flatMap k).head? = ((firstOnly (P st)).flatMap k).head?`.
* `concatA_head`: the top-level concatenation and its atomized form (`concatA`, Lemmas/SimCompile4.lean)
  have the same first result (Proofs/C01g.lean lifts this to the wrapped pattern and the search).
-/
namespace Fancy

/-! ## related states, related lists -/

def Agr (U : List Nat) (a b : St) : Prop :=
  a.ix = b.ix ∧ a.slots.length = b.slots.length ∧ ∀ i, i ∉ U → a.slots[i]? = b.slots[i]?

theorem Agr.refl (U : List Nat) (a : St) : Agr U a a := ⟨rfl, rfl, fun _ _ => rfl⟩

theorem Agr.symm {U : List Nat} {a b : St} (h : Agr U a b) : Agr U b a :=
  ⟨h.1.symm, h.2.1.symm, fun i hi => (h.2.2 i hi).symm⟩

theorem Agr.trans {U : List Nat} {a b d : St} (h1 : Agr U a b) (h2 : Agr U b d) : Agr U a d :=
  ⟨h1.1.trans h2.1, h1.2.1.trans h2.2.1, fun i hi => (h1.2.2 i hi).trans (h2.2.2 i hi)⟩

theorem Agr.withIx {U : List Nat} {a b : St} (h : Agr U a b) (k : Nat) :
    Agr U { a with ix := k } { b with ix := k } := ⟨rfl, h.2.1, h.2.2⟩

theorem Agr.setSlot {U : List Nat} {a b : St} (h : Agr U a b) (i : Nat) (v : Option Nat) :
    Agr U (a.setSlot i v) (b.setSlot i v) := by
  refine ⟨h.1, by simp [St.setSlot, h.2.1], ?_⟩
  intro j hj
  simp only [St.setSlot, List.getElem?_set, h.2.1]
  split
  · rfl
  · exact h.2.2 j hj

theorem Agr.slot {U : List Nat} {a b : St} (h : Agr U a b) (i : Nat) (hi : i ∉ U) : a.slot i = b.slot i := by
  simp only [St.slot, h.2.2 i hi]

/-- pointwise related lists of the same length -/
inductive LR (R : St → St → Prop) : List St → List St → Prop where
  | nil : LR R [] []
  | cons {a b : St} {l1 l2 : List St} : R a b → LR R l1 l2 → LR R (a :: l1) (b :: l2)

theorem LR.single {R : St → St → Prop} {a b : St} (h : R a b) : LR R [a] [b] := .cons h .nil

theorem LR.append {R : St → St → Prop} {l1 l2 m1 m2 : List St} (h1 : LR R l1 l2) (h2 : LR R m1 m2) :
    LR R (l1 ++ m1) (l2 ++ m2) := by
  induction h1 with
  | nil => exact h2
  | cons h _ ih => exact .cons h ih

theorem LR.flatMap {R : St → St → Prop} {l1 l2 : List St} {f g : St → List St} (h : LR R l1 l2)
    (hfg : ∀ a b, R a b → LR R (f a) (g b)) : LR R (l1.flatMap f) (l2.flatMap g) := by
  induction h with
  | nil => exact .nil
  | cons h _ ih => simp only [List.flatMap_cons]; exact (hfg _ _ h).append ih

theorem LR.flatMap_same {α : Type} {R : St → St → Prop} (l : List α) {f g : α → List St}
    (hfg : ∀ x, x ∈ l → LR R (f x) (g x)) : LR R (l.flatMap f) (l.flatMap g) := by
  induction l with
  | nil => exact .nil
  | cons x xs ih =>
    simp only [List.flatMap_cons]
    exact (hfg x (by simp)).append (ih fun y hy => hfg y (by simp [hy]))

theorem LR.map {R : St → St → Prop} {l1 l2 : List St} {f g : St → St} (h : LR R l1 l2)
    (hfg : ∀ a b, R a b → R (f a) (g b)) : LR R (l1.map f) (l2.map g) := by
  induction h with
  | nil => exact .nil
  | cons h _ ih => exact .cons (hfg _ _ h) ih

theorem LR.filter {R : St → St → Prop} {l1 l2 : List St} {p q : St → Bool} (h : LR R l1 l2)
    (hpq : ∀ a b, R a b → p a = q b) : LR R (l1.filter p) (l2.filter q) := by
  induction h with
  | nil => exact .nil
  | @cons a b m1 m2 h _ ih =>
    simp only [List.filter_cons, hpq a b h]
    split
    · exact .cons h ih
    · exact ih

theorem LR.firstOnly {R : St → St → Prop} {l1 l2 : List St} (h : LR R l1 l2) :
    LR R (Fancy.firstOnly l1) (Fancy.firstOnly l2) := by
  cases h with
  | nil => exact .nil
  | cons h _ => exact .single h

theorem LR.isEmpty {R : St → St → Prop} {l1 l2 : List St} (h : LR R l1 l2) : l1.isEmpty = l2.isEmpty := by
  cases h <;> rfl

theorem LR.head {R : St → St → Prop} {l1 l2 : List St} (h : LR R l1 l2) :
    (l1.head? = none ∧ l2.head? = none) ∨ ∃ a b, l1.head? = some a ∧ l2.head? = some b ∧ R a b := by
  cases h with
  | nil => exact Or.inl ⟨rfl, rfl⟩
  | cons h _ => exact Or.inr ⟨_, _, rfl, rfl, h⟩

/-! ## expressions that do not touch a set of slots -/

mutual
theorem ownSlotsS_eq : ∀ (e : Expr), ownSlotsS e = ownSlots e
  | .group g e => by simp only [ownSlotsS, ownSlots, ownSlotsS_eq e]
  | .concat es => by simp only [ownSlotsS, ownSlots, ownSlotsListS_eq es]
  | .alt es => by simp only [ownSlotsS, ownSlots, ownSlotsListS_eq es]
  | .look e _ => by simp only [ownSlotsS, ownSlots, ownSlotsS_eq e]
  | .repeat e _ _ _ => by simp only [ownSlotsS, ownSlots, ownSlotsS_eq e]
  | .atomic e => by simp only [ownSlotsS, ownSlots, ownSlotsS_eq e]
  | .cond c y n => by simp only [ownSlotsS, ownSlots, ownSlotsS_eq c, ownSlotsS_eq y, ownSlotsS_eq n]
  | .keepOut => rfl
  | .empty => rfl
  | .any _ => rfl
  | .assertion _ => rfl
  | .literal _ _ => rfl
  | .delegate _ _ _ => rfl
  | .backref _ => rfl
  | .contPrev => rfl
  | .backrefExists _ => rfl
  | .subroutine _ => rfl
theorem ownSlotsListS_eq : ∀ (es : List Expr), ownSlotsListS es = ownSlotsList es
  | [] => rfl
  | e :: es => by simp only [ownSlotsListS, ownSlotsList, ownSlotsS_eq e, ownSlotsListS_eq es]
end

theorem not_contains {U : List Nat} {i : Nat} (h : (!U.contains i) = true) : i ∉ U := by
  simpa using h

theorem LR.ite {R : St → St → Prop} {p : Prop} [Decidable p] {l1 l2 m1 m2 : List St} (h1 : LR R l1 l2)
    (h2 : LR R m1 m2) : LR R (if p then l1 else m1) (if p then l2 else m2) := by
  split
  · exact h1
  · exact h2

theorem repLoop_agr {U : List Nat} (body : St → List St)
    (hb : ∀ a b, Agr U a b → LR (Agr U) (body a) (body b))
    (lo : Nat) (hi : Option Nat) (greedy : Bool) :
    ∀ (fuel count : Nat) (a b : St), Agr U a b →
      LR (Agr U) (repLoop body lo hi greedy fuel count a) (repLoop body lo hi greedy fuel count b)
  | 0, _, _, _, _ => .nil
  | fuel + 1, count, a, b, hab => by
    have hiters : LR (Agr U) (repStep body lo hi (repLoop body lo hi greedy fuel) count a)
        (repStep body lo hi (repLoop body lo hi greedy fuel) count b) := by
      refine (hb a b hab).flatMap (fun r q hrq => ?_)
      rw [hrq.1, hab.1]
      exact .ite (.single hrq) (repLoop_agr body hb lo hi greedy fuel (count + 1) r q hrq)
    rw [repLoop_step, repLoop_step]
    exact .ite (.single hab) (.ite hiters (.ite (hiters.append (.single hab)) (.cons hab hiters)))

theorem behindOne_agr {U : List Nat} (body : St → List St)
    (hb : ∀ a b, Agr U a b → LR (Agr U) (body a) (body b)) (a b : St) (hab : Agr U a b) :
    LR (Agr U) (behindOne body a) (behindOne body b) := by
  unfold behindOne
  rw [hab.1]
  refine LR.flatMap_same _ (fun k _ => ?_)
  refine (hb _ _ (hab.withIx _)).filter (fun r q hrq => ?_)
  rw [hrq.1]

theorem semConcat_agr_of (c : Ctx) (U : List Nat) : ∀ (es : List Expr),
    (∀ e, e ∈ es → ∀ a b, Agr U a b → LR (Agr U) (sem c e a) (sem c e b)) →
    ∀ a b, Agr U a b → LR (Agr U) (semConcat c es a) (semConcat c es b)
  | [], _, a, b, hab => by simp only [semConcat]; exact .single hab
  | e :: es, hsem, a, b, hab => by
    simp only [semConcat]
    exact (hsem e (by simp) a b hab).flatMap (semConcat_agr_of c U es fun e' he' => hsem e' (by simp [he']))

theorem semAlt_agr_of (c : Ctx) (U : List Nat) : ∀ (es : List Expr),
    (∀ e, e ∈ es → ∀ a b, Agr U a b → LR (Agr U) (sem c e a) (sem c e b)) →
    ∀ a b, Agr U a b → LR (Agr U) (semAlt c es a) (semAlt c es b)
  | [], _, _, _, _ => by simp only [semAlt]; exact .nil
  | e :: es, hsem, a, b, hab => by
    simp only [semAlt]
    exact (hsem e (by simp) a b hab).append (semAlt_agr_of c U es (fun e' he' => hsem e' (by simp [he'])) a b hab)

theorem semBehindAlts_agr_of (c : Ctx) (U : List Nat) : ∀ (es : List Expr),
    (∀ e, e ∈ es → ∀ a b, Agr U a b → LR (Agr U) (sem c e a) (sem c e b)) →
    ∀ a b, Agr U a b → LR (Agr U) (semBehindAlts c es a) (semBehindAlts c es b)
  | [], _, _, _, _ => by simp only [semBehindAlts]; exact .nil
  | e :: es, hsem, a, b, hab => by
    simp only [semBehindAlts]
    exact (behindOne_agr _ (hsem e (by simp)) a b hab).append
      (semBehindAlts_agr_of c U es (fun e' he' => hsem e' (by simp [he'])) a b hab)

theorem noReadAll_mem {U : List Nat} : ∀ (es : List Expr), noReadAll U es = true → ∀ e ∈ es, noRead U e = true
  | [], _, e, he => by cases he
  | x :: xs, h, e, he => by
    simp only [noReadAll, Bool.and_eq_true] at h
    rcases List.mem_cons.mp he with rfl | he
    · exact h.1
    · exact noReadAll_mem xs h.2 e he

/-- for a body that is not an alternation, the backward reading is oblivious when the forward one is -/
theorem agr_behind {c : Ctx} {U : List Nat} {e : Expr} (hna : ∀ es, e ≠ .alt es)
    (h : ∀ a b, Agr U a b → LR (Agr U) (sem c e a) (sem c e b)) :
    (∀ a b, Agr U a b → LR (Agr U) (sem c e a) (sem c e b)) ∧
      ∀ a b, Agr U a b → LR (Agr U) (semBehind c e a) (semBehind c e b) :=
  ⟨h, fun a b hab => by
    rw [semBehind_of_not_alt c hna, semBehind_of_not_alt c hna]; exact behindOne_agr _ h a b hab⟩

/-- **obliviousness**: an expression that does not read `U` maps `Agr U`-related states to `Agr U`-related
    result lists, read forwards and read backwards as a look-behind body -/
theorem sem_agrR_both (c : Ctx) (U : List Nat) (e : Expr) : noRead U e = true →
    (∀ a b, Agr U a b → LR (Agr U) (sem c e a) (sem c e b)) ∧
      ∀ a b, Agr U a b → LR (Agr U) (semBehind c e a) (semBehind c e b) := by
  induction e using Expr.induct with
  | empty => exact fun _ => agr_behind nofun fun a b hab => by simp only [sem]; exact .single hab
  | any nl =>
    refine fun _ => agr_behind nofun fun a b hab => ?_
    simp only [sem, hab.1]
    split
    · exact .ite (.single (hab.withIx _)) .nil
    · exact .nil
  | assertion as =>
    refine fun _ => agr_behind nofun fun a b hab => ?_
    simp only [sem, hab.1]
    exact .ite (.single hab) .nil
  | literal val casei =>
    refine fun _ => agr_behind nofun fun a b hab => ?_
    simp only [sem, hab.1]
    exact .ite (.single (hab.withIx _)) .nil
  | concat es ih =>
    intro hu
    simp only [noRead] at hu
    refine agr_behind nofun fun a b hab => ?_
    simp only [sem]
    exact semConcat_agr_of c U es (fun e he => (ih e he (noReadAll_mem es hu e he)).1) a b hab
  | alt es ih =>
    intro hu
    simp only [noRead] at hu
    have h := fun e he => (ih e he (noReadAll_mem es hu e he)).1
    exact ⟨fun a b hab => by simp only [sem]; exact semAlt_agr_of c U es h a b hab,
      fun a b hab => by simp only [semBehind]; exact semBehindAlts_agr_of c U es h a b hab⟩
  | group g e ih =>
    intro hu
    simp only [noRead] at hu
    refine agr_behind nofun fun a b hab => ?_
    simp only [sem, hab.1]
    exact ((ih hu).1 _ _ (hab.setSlot _ _)).map (fun r q hrq => by rw [hrq.1]; exact hrq.setSlot _ _)
  | look e la ih =>
    intro hu
    simp only [noRead] at hu
    obtain ⟨hf, hb⟩ := ih hu
    refine agr_behind nofun fun a b hab => ?_
    cases la with
    | ahead => simp only [sem, hab.1]; exact (hf a b hab).firstOnly.map (fun r q hrq => hrq.withIx _)
    | aheadNeg => simp only [sem, (hf a b hab).isEmpty]; exact .ite (.single hab) .nil
    | behind => simp only [sem, hab.1]; exact (hb a b hab).firstOnly.map (fun r q hrq => hrq.withIx _)
    | behindNeg => simp only [sem, (hb a b hab).isEmpty]; exact .ite (.single hab) .nil
  | «repeat» e lo hi greedy ih =>
    intro hu
    simp only [noRead] at hu
    refine agr_behind nofun fun a b hab => ?_
    simp only [sem]
    exact repLoop_agr (sem c e) (ih hu).1 lo hi greedy _ 0 a b hab
  | delegate inner size casei =>
    refine fun _ => agr_behind nofun fun a b hab => ?_
    simp only [sem, delegateSem, hab.1]
    refine .ite ?_ (.ite (.ite (.single (hab.withIx _)) .nil) .nil)
    split
    · exact .ite (.single (hab.withIx _)) .nil
    · exact .nil
  | backref g =>
    intro hu
    simp only [noRead, Bool.and_eq_true] at hu
    refine agr_behind nofun fun a b hab => ?_
    simp only [sem, hab.slot _ (not_contains hu.1), hab.slot _ (not_contains hu.2), hab.1]
    split
    · exact .ite (.single (hab.withIx _)) .nil
    · exact .nil
  | atomic e ih =>
    intro hu
    simp only [noRead] at hu
    refine agr_behind nofun fun a b hab => ?_
    simp only [sem]
    exact ((ih hu).1 a b hab).firstOnly
  | keepOut =>
    refine fun _ => agr_behind nofun fun a b hab => ?_
    simp only [sem, hab.1]; exact .single (hab.setSlot _ _)
  | contPrev =>
    refine fun _ => agr_behind nofun fun a b hab => ?_
    simp only [sem, hab.1]
    exact .ite (.single hab) .nil
  | backrefExists g =>
    intro hu
    simp only [noRead] at hu
    refine agr_behind nofun fun a b hab => ?_
    simp only [sem, hab.slot _ (not_contains hu)]
    exact .ite (.single hab) .nil
  | cond cnd y n ihc ihy ihn =>
    intro hu
    simp only [noRead, Bool.and_eq_true] at hu
    refine agr_behind nofun fun a b hab => ?_
    simp only [sem]
    rcases ((ihc hu.1.1).1 a b hab).head with ⟨h1, h2⟩ | ⟨r, q, h1, h2, hrq⟩
    · rw [h1, h2]; exact (ihn hu.2).1 a b hab
    · rw [h1, h2]; exact (ihy hu.1.2).1 r q hrq
  | subroutine _ => exact fun _ => agr_behind nofun fun a b hab => by simp only [sem]; exact .nil

theorem sem_agrR (c : Ctx) (U : List Nat) (e : Expr) (a b : St) (hu : noRead U e = true) (hab : Agr U a b) :
    LR (Agr U) (sem c e a) (sem c e b) :=
  (sem_agrR_both c U e hu).1 a b hab

theorem semConcat_agrR (c : Ctx) (U : List Nat) (es : List Expr) (a b : St) (hu : noReadAll U es = true) :
    Agr U a b → LR (Agr U) (semConcat c es a) (semConcat c es b) :=
  semConcat_agr_of c U es (fun e he x y => sem_agrR c U e x y (noReadAll_mem es hu e he)) a b

theorem semAlt_agrR (c : Ctx) (U : List Nat) :
    ∀ (es : List Expr) (a b : St), noReadAll U es = true → Agr U a b →
      LR (Agr U) (semAlt c es a) (semAlt c es b) :=
  fun es a b hu => semAlt_agr_of c U es (fun e he x y => sem_agrR c U e x y (noReadAll_mem es hu e he)) a b

mutual
theorem noRead_of_untouched (U : List Nat) : ∀ (e : Expr), untouched U e = true → noRead U e = true
  | .backref _, h => h
  | .backrefExists _, h => h
  | .group _ e, h => by
    simp only [untouched, Bool.and_eq_true] at h
    simp only [noRead]; exact noRead_of_untouched U e h.2
  | .concat es, h => by simp only [noRead]; exact noReadAll_of_untouchedAll U es h
  | .alt es, h => by simp only [noRead]; exact noReadAll_of_untouchedAll U es h
  | .look e _, h => by simp only [noRead]; exact noRead_of_untouched U e h
  | .repeat e _ _ _, h => by simp only [noRead]; exact noRead_of_untouched U e h
  | .atomic e, h => by simp only [noRead]; exact noRead_of_untouched U e h
  | .cond c y n, h => by
    simp only [untouched, Bool.and_eq_true] at h
    simp only [noRead, Bool.and_eq_true]
    exact ⟨⟨noRead_of_untouched U c h.1.1, noRead_of_untouched U y h.1.2⟩, noRead_of_untouched U n h.2⟩
  | .keepOut, _ => rfl
  | .empty, _ => rfl
  | .any _, _ => rfl
  | .assertion _, _ => rfl
  | .literal _ _, _ => rfl
  | .delegate _ _ _, _ => rfl
  | .contPrev, _ => rfl
  | .subroutine _, _ => rfl
theorem noReadAll_of_untouchedAll (U : List Nat) : ∀ (es : List Expr), untouchedAll U es = true → noReadAll U es = true
  | [], _ => rfl
  | e :: es, h => by
    simp only [untouchedAll, Bool.and_eq_true] at h
    simp only [noReadAll, Bool.and_eq_true]
    exact ⟨noRead_of_untouched U e h.1, noReadAll_of_untouchedAll U es h.2⟩
end

/-- an expression that neither reads nor writes `U` is a special case -/
theorem sem_agr (c : Ctx) (U : List Nat) :
    ∀ (e : Expr) (a b : St), untouched U e = true → Agr U a b → LR (Agr U) (sem c e a) (sem c e b) :=
  fun e a b hu => sem_agrR c U e a b (noRead_of_untouched U e hu)

theorem semAlt_agr (c : Ctx) (U : List Nat) :
    ∀ (es : List Expr) (a b : St), untouchedAll U es = true → Agr U a b →
      LR (Agr U) (semAlt c es a) (semAlt c es b) :=
  fun es a b hu => semAlt_agrR c U es a b (noReadAll_of_untouchedAll U es hu)

/-! ## first results -/

theorem head_flatMap_first (L : List St) (k : St → List St)
    (h : ∀ r ∈ L, ∀ q ∈ L, (k r).isEmpty = (k q).isEmpty) :
    ((firstOnly L).flatMap k).head? = (L.flatMap k).head? := by
  cases L with
  | nil => rfl
  | cons x xs =>
    simp only [firstOnly, List.head?_cons, Option.toList_some, List.flatMap_cons, List.flatMap_nil, List.append_nil]
    cases hk : k x with
    | nil =>
      have hall : ∀ r ∈ xs, k r = [] := by
        intro r hr
        have := h r (by simp [hr]) x (by simp)
        rw [hk] at this
        simpa using this
      have : xs.flatMap k = [] := by
        rw [List.flatMap_eq_nil_iff]; exact hall
      simp [this]
    | cons y ys => simp

theorem isEmpty_of_head_eq {l1 l2 : List St} (h : l1.head? = l2.head?) : l1.isEmpty = l2.isEmpty := by
  cases l1 <;> cases l2 <;> simp_all

theorem untouchedAll_nil : ∀ (es : List Expr), untouchedAll [] es = true := by
  intro es
  have key : ∀ (e : Expr), untouched [] e = true := by
    intro e
    induction e using Expr.rec (motive_2 := fun es => untouchedAll [] es = true) with
    | concat es ih => simpa [untouched] using ih
    | alt es ih => simpa [untouched] using ih
    | group g e ih => simp [untouched, ih]
    | look e la ih => simpa [untouched] using ih
    | «repeat» e lo hi g ih => simpa [untouched] using ih
    | atomic e ih => simpa [untouched] using ih
    | cond c y n i1 i2 i3 => simp [untouched, i1, i2, i3]
    | nil => rfl
    | cons e es i1 i2 => simp [untouchedAll, i1, i2]
    | _ => simp [untouched]
  induction es with
  | nil => rfl
  | cons e es ih => simp [untouchedAll, key e, ih]

theorem semConcat_runA (c : Ctx) (es : List Expr) (st : St) :
    semConcat c (runA es) st = semConcat c es st ∨ semConcat c (runA es) st = firstOnly (semConcat c es st) := by
  unfold runA
  split
  · exact Or.inl rfl
  · exact Or.inr (semConcat_atomic_run c es st)

/-- **the atomized top-level concatenation has the same first result** -/
theorem concatA_head (c : Ctx) (n : Nat) (br : Nat → Bool) (es : List Expr) (hlen : c.len < UNSET)
    (hw : wellShapedAll es = true) (hz : noBareEndZAll es = true) (hu : unrefOK br es = true)
    (st : St) (hg : st.Good c n) :
    (sem c (concatA br es) st).head? = (sem c (.concat es) st).head? := by
  generalize hsp : concatSplit br es true = sp at hu
  have hle := concatSplit_le br es true
  rw [hsp] at hle
  have hsplit : es = es.take sp.1 ++ ((es.drop sp.1).take (sp.2 - sp.1) ++ es.drop sp.2) := by
    have h1 : es.drop sp.1 = (es.drop sp.1).take (sp.2 - sp.1) ++ (es.drop sp.1).drop (sp.2 - sp.1) :=
      (List.take_append_drop _ _).symm
    have h2 : (es.drop sp.1).drop (sp.2 - sp.1) = es.drop sp.2 := by
      rw [List.drop_drop]; congr 1; omega
    rw [← h2, ← h1, List.take_append_drop]
  have hrest : es.drop sp.1 = (es.drop sp.1).take (sp.2 - sp.1) ++ es.drop sp.2 := by
    have h1 : es.drop sp.1 = (es.drop sp.1).take (sp.2 - sp.1) ++ (es.drop sp.1).drop (sp.2 - sp.1) :=
      (List.take_append_drop _ _).symm
    have h2 : (es.drop sp.1).drop (sp.2 - sp.1) = es.drop sp.2 := by
      rw [List.drop_drop]; congr 1; omega
    rw [← h2, ← h1]
  -- the continuation of the prefix run, with and without the atomized suffix
  have hk : ∀ (L : List St),
      (L.flatMap fun r => (semConcat c ((es.drop sp.1).take (sp.2 - sp.1)) r).flatMap
        (semConcat c (runA (es.drop sp.2)))).head? =
      (L.flatMap (semConcat c (es.drop sp.1))).head? := by
    intro L
    have hr : ∀ r, semConcat c (es.drop sp.1) r =
        (semConcat c ((es.drop sp.1).take (sp.2 - sp.1)) r).flatMap (semConcat c (es.drop sp.2)) := by
      intro r; conv => lhs; rw [hrest]
      exact semConcat_append c _ _ r
    have hr' : semConcat c (es.drop sp.1) = fun r =>
        (semConcat c ((es.drop sp.1).take (sp.2 - sp.1)) r).flatMap (semConcat c (es.drop sp.2)) := funext hr
    rw [hr', ← List.flatMap_assoc, ← List.flatMap_assoc]
    have hsuf : semConcat c (runA (es.drop sp.2)) = semConcat c (es.drop sp.2) ∨
        semConcat c (runA (es.drop sp.2)) = fun r => firstOnly (semConcat c (es.drop sp.2) r) := by
      unfold runA
      split
      · exact Or.inl rfl
      · exact Or.inr (funext fun r => semConcat_atomic_run c _ r)
    rcases hsuf with h | h
    · rw [h]
    · rw [h]; exact head_flatMap_firstOnly _ _
  have hlhs : sem c (concatA br es) st =
      (semConcat c (runA (es.take sp.1)) st).flatMap fun r =>
        (semConcat c ((es.drop sp.1).take (sp.2 - sp.1)) r).flatMap (semConcat c (runA (es.drop sp.2))) := by
    simp only [concatA, sem, hsp]
    rw [semConcat_append]
    congr 1; funext r; rw [semConcat_append]
  have hrhs : sem c (.concat es) st = (semConcat c (es.take sp.1) st).flatMap (semConcat c (es.drop sp.1)) := by
    simp only [sem]
    conv => lhs; rw [← List.take_append_drop sp.1 es]
    exact semConcat_append c _ _ st
  rw [hlhs, hrhs]
  by_cases hc : (groupCountList (es.take sp.1) == 0 || linearAll (es.take sp.1)) = true
  · have : runA (es.take sp.1) = es.take sp.1 := by simp only [runA, hc, if_true]
    rw [this]; exact hk _
  · have hrun : runA (es.take sp.1) = [.atomic (.concat (es.take sp.1))] := by simp only [runA, hc]; rfl
    rw [hrun, semConcat_atomic_run, hk]
    -- the run is atomized: its own groups are touched nowhere in the rest
    have hun : untouchedAll (ownSlotsList (es.take sp.1)) (es.drop sp.1) = true := by
      simp only [unrefOK, hsp, Bool.or_eq_true, ownSlotsListS_eq] at hu
      rcases hu with hu | hu
      · exact absurd (by simpa using hu) hc
      · exact hu
    apply head_flatMap_first
    intro r hr q hq
    have hgr := semConcat_good c n _ st r hg hr
    have hgq := semConcat_good c n _ st q hg hq
    have hwp : wellShapedAll (es.take sp.1) = true := wellShapedAll_take es sp.1 hw
    have hcp : constSizeAll (es.take sp.1) = true := by rw [← hsp]; exact concatSplit_prefix_constSizeAll br es true
    have hzp : noBareEndZAll (es.take sp.1) = true := noBareEndZAll_take es sp.1 hz
    have hixr := const_exact_concat c (es.take sp.1) hwp hcp hzp st r hr (by have := hgr.ix; omega)
    have hixq := const_exact_concat c (es.take sp.1) hwp hcp hzp st q hq (by have := hgq.ix; omega)
    have hfr := semConcat_frame c (es.take sp.1) st r hr
    have hfq := semConcat_frame c (es.take sp.1) st q hq
    have hag : Agr (ownSlotsList (es.take sp.1)) r q :=
      ⟨by omega, hfr.1.trans hfq.1.symm, fun i hi => (hfr.2 i hi).trans (hfq.2 i hi).symm⟩
    exact (semConcat_agrR c _ (es.drop sp.1) r q (noReadAll_of_untouchedAll _ _ hun) hag).isEmpty

end Fancy
