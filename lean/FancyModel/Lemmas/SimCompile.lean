import FancyModel.Proofs.C03
import FancyModel.Lemmas.Sim
import FancyModel.Model.Compile
import FancyModel.Lemmas.CompileInv
import FancyModel.Lemmas.ExprInduct
/-!
# The compiler emits simulating code for the interpreted core (stage S1)

`isCore e`: literals, `.`, assertions, `\K`, `\G`, back-references, concatenation, alternation,
capture groups and the quantifiers `?`, `*`, `+` (greedy or lazy; `*`/`+` over a body that cannot
match empty). For such `e`, in a hard context, if the code `visit` emits contains no `Delegate`
instruction (`noDeleg`: the easy constant-size runs that `compile_concat` splits off are pure
literals and became `Lit`), then that code simulates `sem c e` (`sim_visit`).
-/
namespace Fancy

mutual
def isCore : Expr → Bool
  | .empty => true
  | .any _ => true
  | .assertion _ => true
  | .literal v ci => !ci && v.length == 1
  | .concat es => isCoreAll es
  | .alt es => !es.isEmpty && isCoreAll es
  | .group _ e => isCore e
  | .repeat e lo hi _ =>
    isCore e && ((lo == 0 && hi == some 1) || (hi == none && (lo == 0 || lo == 1) && decide (0 < minSize e)))
  | .backref _ => true
  | .keepOut => true
  | .contPrev => true
  | _ => false
def isCoreAll : List Expr → Bool
  | [] => true
  | e :: es => isCore e && isCoreAll es
end

theorem noDeleg_append (a b : List Insn) : noDeleg (a ++ b) = (noDeleg a && noDeleg b) := by
  simp [noDeleg, List.all_append]

mutual
theorem isCore_wellShaped : ∀ (e : Expr), isCore e = true → wellShaped e = true
  | .empty, _ | .any _, _ | .assertion _, _ | .backref _, _ | .keepOut, _ | .contPrev, _ => by simp [wellShaped]
  | .literal v ci, h => by simp only [isCore, Bool.and_eq_true] at h; simpa [wellShaped] using h.2
  | .concat es, h => by simp only [isCore] at h; simpa [wellShaped] using isCoreAll_wellShaped es h
  | .alt es, h => by
    simp only [isCore, Bool.and_eq_true] at h
    simp only [wellShaped, Bool.and_eq_true]
    exact ⟨h.1, isCoreAll_wellShaped es h.2⟩
  | .group _ e, h => by simp only [isCore] at h; simpa [wellShaped] using isCore_wellShaped e h
  | .repeat e _ _ _, h => by
    simp only [isCore, Bool.and_eq_true] at h; simpa [wellShaped] using isCore_wellShaped e h.1
  | .look _ _, h | .delegate _ _ _, h | .atomic _, h | .backrefExists _, h | .cond _ _ _, h | .subroutine _, h => by
    simp [isCore] at h
theorem isCoreAll_wellShaped : ∀ (es : List Expr), isCoreAll es = true → wellShapedAll es = true
  | [], _ => rfl
  | e :: es, h => by
    simp only [isCoreAll, Bool.and_eq_true] at h
    simp only [wellShapedAll, Bool.and_eq_true]
    exact ⟨isCore_wellShaped e h.1, isCoreAll_wellShaped es h.2⟩
end

/-- a body with positive minimum size advances -/
theorem advances_of_minSize (c : Ctx) (e : Expr) (hw : wellShaped e = true) (hm : 0 < minSize e) :
    Advances (sem c e) := by
  intro st r hr
  have := C13_min_sound c e hw st r hr
  omega

theorem keepsGood_sem (c : Ctx) (n : Nat) (e : Expr) : KeepsGood c n (sem c e) :=
  fun st r hg hr => sem_good c n e st r hg hr

theorem keepsGood_semConcat (c : Ctx) (n : Nat) (es : List Expr) : KeepsGood c n (semConcat c es) :=
  fun st r hg hr => semConcat_good c n es st r hg hr

/-! ## Literal runs -/

theorem litAt_append (c : Ctx) (a b : List Char) (ix : Nat) :
    c.litAt false (a ++ b) ix = (c.litAt false a ix && c.litAt false b (ix + a.length)) := by
  induction a generalizing ix with
  | nil => simp [Ctx.litAt]
  | cons x xs ih =>
    simp only [List.cons_append, Ctx.litAt, List.length_cons]
    cases c.at? ix with
    | none => simp
    | some ch =>
      simp only
      rw [ih (ix + 1)]
      have : ix + 1 + xs.length = ix + (xs.length + 1) := by omega
      rw [this, Bool.and_assoc]

mutual
theorem sem_isLiteral (c : Ctx) : ∀ (e : Expr), isLiteral e = true → ∀ st,
    sem c e st = if c.litAt false (pushLiteral e) st.ix then [{ st with ix := st.ix + (pushLiteral e).length }] else []
  | .literal v ci, h, st => by
    have : ci = false := by simpa [isLiteral] using h
    subst this
    simp only [sem, pushLiteral]
    by_cases hq : c.litAt false v st.ix = true <;> simp [hq]
  | .concat es, h, st => by
    simp only [sem, pushLiteral]
    exact semConcat_isLiteralAll c es (by simpa [isLiteral] using h) st
  | .empty, h, _ | .any _, h, _ | .assertion _, h, _ | .alt _, h, _ | .group _ _, h, _ | .look _ _, h, _
  | .repeat _ _ _ _, h, _ | .delegate _ _ _, h, _ | .backref _, h, _ | .atomic _, h, _ | .keepOut, h, _
  | .contPrev, h, _ | .backrefExists _, h, _ | .cond _ _ _, h, _ | .subroutine _, h, _ => by simp [isLiteral] at h
theorem semConcat_isLiteralAll (c : Ctx) : ∀ (es : List Expr), isLiteralAll es = true → ∀ st,
    semConcat c es st =
      if c.litAt false (pushLiteralAll es) st.ix then [{ st with ix := st.ix + (pushLiteralAll es).length }] else []
  | [], _, st => by simp [semConcat, pushLiteralAll, Ctx.litAt]
  | e :: es, h, st => by
    simp only [isLiteralAll, Bool.and_eq_true] at h
    simp only [semConcat, pushLiteralAll]
    have hla := litAt_append c (pushLiteral e) (pushLiteralAll es) st.ix
    rw [sem_isLiteral c e h.1 st]
    by_cases h1 : c.litAt false (pushLiteral e) st.ix = true
    · simp only [h1, ↓reduceIte, List.flatMap_cons, List.flatMap_nil, List.append_nil, Bool.true_and] at hla ⊢
      rw [semConcat_isLiteralAll c es h.2]
      simp only [List.length_append]
      by_cases h2 : c.litAt false (pushLiteralAll es) (st.ix + (pushLiteral e).length) = true
      · simp [h2, hla, Nat.add_assoc]
      · simp [h2, hla]
    · simp only [h1, Bool.false_and] at hla
      simp [h1, hla]
end

theorem compileDelegates_noDeleg (es : List Expr) (gix : Nat) (h : noDeleg (compileDelegates es gix) = true) :
    es.isEmpty = true ∨ isLiteralAll es = true := by
  unfold compileDelegates at h
  by_cases he : es.isEmpty = true
  · left; exact he
  · right
    by_cases hl : isLiteralAll es = true
    · exact hl
    · simp [he, hl, noDeleg, Insn.isDelegate] at h

/-- `compile_delegates` of an easy run without `Delegate`: nothing, or a single `Lit` for an all-literal run -/
theorem sim_delegates_run (c : Ctx) (n : Nat) (prog : List Insn) (es : List Expr) (gix a : Nat)
    (hn : noDeleg (compileDelegates es gix) = true) (hc : CodeAt prog a (compileDelegates es gix)) :
    Sim c n prog (semConcat c es) a (a + (compileDelegates es gix).length) := by
  by_cases he : es.isEmpty = true
  · obtain rfl : es = [] := by simpa using he
    exact (Sim.nil c n prog a).congr fun st => by simp [semConcat]
  · have hl := (compileDelegates_noDeleg es gix hn).resolve_left he
    unfold compileDelegates at hc ⊢
    simp only [he, Bool.false_eq_true, ↓reduceIte, hl] at hc ⊢
    exact (sim_lit c n prog a (pushLiteralAll es) hc.head).congr fun st => (semConcat_isLiteralAll c es hl st).symm

/-- `x?` in the reference semantics -/
theorem sem_opt (c : Ctx) (e : Expr) (greedy : Bool) (st : St) :
    sem c (.repeat e 0 (some 1) greedy) st = if greedy then sem c e st ++ [st] else st :: sem c e st := by
  simp only [sem]
  have hF : max 0 ((some 1 : Option Nat).getD 0) + c.len + 2 = (c.len + 1) + 1 + 1 := by simp; omega
  rw [hF]
  have h2 : ∀ (r : St), repLoop (sem c e) 0 (some 1) greedy (c.len + 1 + 1) 1 r = [r] := by
    intro r; simp [repLoop]
  conv => lhs; unfold repLoop
  simp only [Option.some.injEq, Nat.succ_ne_self, ↓reduceIte, Option.isNone_some, Bool.false_and,
    Bool.false_eq_true, Nat.lt_irrefl, h2]
  have : ∀ l : List St, (l.flatMap fun r => [r]) = l := by
    intro l; induction l with
    | nil => rfl
    | cons a as ih => simp [ih]
  simp [this]

/-! ### list predicates as `∀ … ∈`; they pass to `take` / `drop` -/

theorem isCoreAll_iff (es : List Expr) : isCoreAll es = true ↔ ∀ e ∈ es, isCore e = true := by
  induction es with
  | nil => simp [isCoreAll]
  | cons e es ih => simp [isCoreAll, ih]

theorem slotsBelowAll_iff (n : Nat) (es : List Expr) :
    slotsBelowAll n es = true ↔ ∀ e ∈ es, slotsBelow n e = true := by
  induction es with
  | nil => simp [slotsBelowAll]
  | cons e es ih => simp [slotsBelowAll, ih]

theorem condFreeAll_iff (es : List Expr) : condFreeAll es = true ↔ ∀ e ∈ es, condFree e = true := by
  induction es with
  | nil => simp [condFreeAll]
  | cons e es ih => simp [condFreeAll, ih]

theorem s2okAll_iff (es : List Expr) : s2okAll es = true ↔ ∀ e ∈ es, s2ok e = true := by
  induction es with
  | nil => simp [s2okAll]
  | cons e es ih => simp [s2okAll, ih]

theorem isCoreAll_drop (es : List Expr) (k : Nat) (h : isCoreAll es = true) : isCoreAll (es.drop k) = true :=
  (isCoreAll_iff _).mpr fun e he => (isCoreAll_iff es).mp h e (List.mem_of_mem_drop he)

theorem slotsBelowAll_drop (n : Nat) (es : List Expr) (k : Nat) (h : slotsBelowAll n es = true) :
    slotsBelowAll n (es.drop k) = true :=
  (slotsBelowAll_iff n _).mpr fun e he => (slotsBelowAll_iff n es).mp h e (List.mem_of_mem_drop he)

theorem slotsBelowAll_take (n : Nat) (es : List Expr) (k : Nat) (h : slotsBelowAll n es = true) :
    slotsBelowAll n (es.take k) = true :=
  (slotsBelowAll_iff n _).mpr fun e he => (slotsBelowAll_iff n es).mp h e (List.mem_of_mem_take he)

theorem condFreeAll_drop (es : List Expr) (k : Nat) (h : condFreeAll es = true) : condFreeAll (es.drop k) = true :=
  (condFreeAll_iff _).mpr fun e he => (condFreeAll_iff es).mp h e (List.mem_of_mem_drop he)

theorem condFreeAll_take (es : List Expr) (k : Nat) (h : condFreeAll es = true) : condFreeAll (es.take k) = true :=
  (condFreeAll_iff _).mpr fun e he => (condFreeAll_iff es).mp h e (List.mem_of_mem_take he)

theorem s2okAll_drop (es : List Expr) (k : Nat) (h : s2okAll es = true) : s2okAll (es.drop k) = true :=
  (s2okAll_iff _).mpr fun e he => (s2okAll_iff es).mp h e (List.mem_of_mem_drop he)

theorem concatSplit_le (br : Nat → Bool) (es : List Expr) (hard : Bool) :
    (concatSplit br es hard).1 ≤ (concatSplit br es hard).2 ∧ (concatSplit br es hard).2 ≤ es.length := by
  unfold concatSplit
  simp only
  have h1 : (List.takeWhile (fun c => constSize c && !isHard br c) es).length ≤ es.length :=
    (List.takeWhile_prefix _).length_le
  generalize (List.takeWhile (fun c => constSize c && !isHard br c) es).length = p at h1
  have hrest : ∀ (q : Expr → Bool), (List.takeWhile q (List.drop p es).reverse).length ≤ es.length - p := by
    intro q
    have := (List.takeWhile_prefix q (l := (List.drop p es).reverse)).length_le
    simpa using this
  split
  · have := hrest (fun c => !isHard br c); constructor <;> omega
  · have := hrest (fun c => constSize c && !isHard br c); constructor <;> omega

theorem CodeAt.head_at {prog : List Insn} {a b : Nat} {i : Insn} {rest : List Insn}
    (h : CodeAt prog a (i :: rest)) (hb : b = a) : prog[b]? = some i := hb ▸ h.head

theorem CodeAt.cast {prog : List Insn} {a b : Nat} {code : List Insn}
    (h : CodeAt prog a code) (hb : b = a) : CodeAt prog b code := hb ▸ h

theorem Sim.cast {c : Ctx} {n : Nat} {prog : List Insn} {f : St → List St} {a b a' b' : Nat}
    (h : Sim c n prog f a b) (ha : a' = a) (hb : b' = b) : Sim c n prog f a' b' := by
  subst ha; subst hb; exact h

/-- address arithmetic over code lengths -/
macro "addr" : tactic =>
  `(tactic| (simp only [List.length_append, List.length_cons, List.length_nil, List.length_singleton] at * <;> omega))

/-- the loop Sim for `*` packaged as a `Sim` -/
theorem sim_star {c : Ctx} {n : Nat} {prog : List Insn} {e : Expr} {pc m : Nat} {greedy : Bool}
    (hsplit : prog[pc]? = some (if greedy then .split (pc + 1) (m + 1) else .split (m + 1) (pc + 1)))
    (hjmp : prog[m]? = some (.jmp pc))
    (hbody : Sim c n prog (sem c e) (pc + 1) m)
    (hw : wellShaped e = true) (hm : 0 < minSize e) :
    Sim c n prog (sem c (.repeat e 0 none greedy)) pc (m + 1) := by
  have hadv := advances_of_minSize c e hw hm
  have hkg := keepsGood_sem c n e
  have hflow : ∀ ix saves X a, Big c prog (.run pc ix saves X) a → Big c prog (.run m ix saves X) a := by
    intro ix saves X a hb
    exact Big.step _ _ _ _ _ _ (by simp [astep, hjmp]) hb
  intro st X succ failA hg hf hs
  simp only [sem] at hs ⊢
  cases greedy with
  | true =>
    exact loop_greedy (lo := 0) (by simpa using hsplit) hbody hflow hadv hkg (c.len - st.ix) st X succ failA _ 0
      (Nat.le_refl _) hg (Nat.le_refl _) (by simp; omega) hf hs
  | false =>
    exact loop_lazy (lo := 0) (by simpa using hsplit) hbody hflow hadv hkg (c.len - st.ix) st X succ failA _ 0
      (Nat.le_refl _) hg (Nat.le_refl _) (by simp; omega) hf hs

/-- `x+` in the reference semantics: one mandatory iteration, then the loop -/
theorem sem_plus (c : Ctx) (e : Expr) (greedy : Bool) (st : St) :
    sem c (.repeat e 1 none greedy) st =
      (sem c e st).flatMap fun r => repLoop (sem c e) 1 none greedy (c.len + 2) 1 r := by
  simp only [sem]
  have hF : max 1 ((none : Option Nat).getD 0) + c.len + 2 = (c.len + 2) + 1 := by simp; omega
  rw [hF]
  conv => lhs; unfold repLoop
  simp

theorem sim_plus {c : Ctx} {n : Nat} {prog : List Insn} {e : Expr} {pc m : Nat} {greedy : Bool}
    (hsplit : prog[m]? = some (if greedy then .split pc (m + 1) else .split (m + 1) pc))
    (hbody : Sim c n prog (sem c e) pc m)
    (hw : wellShaped e = true) (hm : 0 < minSize e) :
    Sim c n prog (sem c (.repeat e 1 none greedy)) pc (m + 1) := by
  have hadv := advances_of_minSize c e hw hm
  have hkg := keepsGood_sem c n e
  have hloop : Sim c n prog (fun r => repLoop (sem c e) 1 none greedy (c.len + 2) 1 r) m (m + 1) := by
    intro st X succ failA hg hf hs
    cases greedy with
    | true =>
      exact loop_greedy (lo := 1) (by simpa using hsplit) hbody (fun _ _ _ _ hb => hb) hadv hkg (c.len - st.ix) st X
        succ failA _ 1 (Nat.le_refl _) hg (Nat.le_refl _) (by omega) hf hs
    | false =>
      exact loop_lazy (lo := 1) (by simpa using hsplit) hbody (fun _ _ _ _ hb => hb) hadv hkg (c.len - st.ix) st X
        succ failA _ 1 (Nat.le_refl _) hg (Nat.le_refl _) (by omega) hf hs
  exact (hbody.seq hloop hkg).congr (fun st => (sem_plus c e greedy st).symm)

/-- in a hard context nothing is handed to the automata engine whole -/
theorem not_easy_hard (br : Nat → Bool) (e : Expr) : ¬(!true && !isHard br e) = true := by simp

theorem noDeleg_mid {a body b : List Insn} (h : noDeleg (a ++ body ++ b) = true) : noDeleg body = true := by
  simp only [noDeleg_append, Bool.and_eq_true] at h; exact h.1.2

theorem noDeleg_tail {i : Insn} {body : List Insn} (h : noDeleg (i :: body) = true) : noDeleg body = true := by
  simp only [noDeleg, List.all_cons, Bool.and_eq_true] at h ⊢; exact h.2

/-- the layout every wrapping construct emits: own instructions, the code of the child, own instructions -/
theorem CodeAt.split3 {prog : List Insn} {pc : Nat} {a body b : List Insn} (h : CodeAt prog pc (a ++ body ++ b)) :
    CodeAt prog pc a ∧ CodeAt prog (pc + a.length) body ∧ CodeAt prog (pc + a.length + body.length) b :=
  ⟨h.left.left, h.left.right, h.right.cast (by addr)⟩

/-- `[i] ++ body ++ [j]`, the layout of groups, atomic groups, `*` and negative look-ahead -/
theorem CodeAt.bracket {prog : List Insn} {pc : Nat} {i j : Insn} {body : Code} (h : CodeAt prog pc ([i] ++ body ++ [j])) :
    prog[pc]? = some i ∧ CodeAt prog (pc + 1) body ∧ prog[pc + 1 + body.length]? = some j :=
  ⟨h.left.left.head, h.left.right.cast (by addr), h.right.head_at (by addr)⟩

/-! ### Layouts of the look-arounds and of the conditional

Per shape of `wrapPosLook` / `wrapNegLook`: the frame instructions at the addresses the machine lemmas name, the
code of the body, the total length. None of the frames contains a `Delegate`. -/

theorem noDeleg_wrapPosLook (atomic behind : Bool) (slot k : Nat) (body : Code) :
    noDeleg (wrapPosLook atomic behind slot k body) = noDeleg body := by
  cases atomic <;> cases behind <;> simp [wrapPosLook, noDeleg, Insn.isDelegate]

theorem noDeleg_wrapNegLook (behind : Bool) (pc k : Nat) (body : Code) :
    noDeleg (wrapNegLook behind pc k body) = noDeleg body := by
  cases behind <;> simp [wrapNegLook, noDeleg, Insn.isDelegate]

section Layouts
variable {prog : List Insn} {pc slot k : Nat} {body : Code}

/-- `Save slot; body; Restore slot` -/
theorem CodeAt.posAhead_plain (h : CodeAt prog pc (wrapPosLook false false slot k body)) :
    prog[pc]? = some (.save slot) ∧ CodeAt prog (pc + 1) body ∧
      prog[pc + 1 + body.length]? = some (.restore slot) ∧
      (wrapPosLook false false slot k body).length = 1 + body.length + 1 := by
  simp only [wrapPosLook, Bool.false_eq_true, ↓reduceIte, List.append_nil] at h ⊢
  obtain ⟨h1, hb, h2⟩ := h.split3
  exact ⟨h1.head, hb, h2.head, by addr⟩

/-- `BeginAtomic; Save slot; body; Restore slot; EndAtomic` -/
theorem CodeAt.posAhead_atomic (h : CodeAt prog pc (wrapPosLook true false slot k body)) :
    prog[pc]? = some .beginAtomic ∧ prog[pc + 1]? = some (.save slot) ∧ CodeAt prog (pc + 2) body ∧
      prog[pc + 2 + body.length]? = some (.restore slot) ∧ prog[pc + 2 + body.length + 1]? = some .endAtomic ∧
      (wrapPosLook true false slot k body).length = 2 + body.length + 2 := by
  simp only [wrapPosLook, Bool.false_eq_true, ↓reduceIte, List.append_nil] at h ⊢
  obtain ⟨h0, hcore, h3⟩ := h.split3
  obtain ⟨h1, hb, h2⟩ := hcore.split3
  exact ⟨h0.head, h1.head, hb, h2.head, h3.head_at (by addr), by addr⟩

/-- `Save slot; GoBack k; body; Restore slot` -/
theorem CodeAt.posBehind_plain (h : CodeAt prog pc (wrapPosLook false true slot k body)) :
    prog[pc]? = some (.save slot) ∧ prog[pc + 1]? = some (.goBack k) ∧ CodeAt prog (pc + 2) body ∧
      prog[pc + 2 + body.length]? = some (.restore slot) ∧
      (wrapPosLook false true slot k body).length = 2 + body.length + 1 := by
  simp only [wrapPosLook, Bool.false_eq_true, ↓reduceIte] at h ⊢
  obtain ⟨h1, hb, h2⟩ := h.split3
  exact ⟨h1.left.head, h1.right.head, hb, h2.head, by addr⟩

/-- `BeginAtomic; Save slot; GoBack k; body; Restore slot; EndAtomic` -/
theorem CodeAt.posBehind_atomic (h : CodeAt prog pc (wrapPosLook true true slot k body)) :
    prog[pc]? = some .beginAtomic ∧ prog[pc + 1]? = some (.save slot) ∧ prog[pc + 2]? = some (.goBack k) ∧
      CodeAt prog (pc + 3) body ∧ prog[pc + 3 + body.length]? = some (.restore slot) ∧
      prog[pc + 3 + body.length + 1]? = some .endAtomic ∧
      (wrapPosLook true true slot k body).length = 3 + body.length + 2 := by
  simp only [wrapPosLook, ↓reduceIte] at h ⊢
  obtain ⟨h0, hcore, h3⟩ := h.split3
  obtain ⟨h1, hb, h2⟩ := hcore.split3
  exact ⟨h0.head, h1.left.head, h1.right.head, hb, h2.head, h3.head_at (by addr), by addr⟩

theorem CodeAt.posLook_body {atomic behind : Bool} (h : CodeAt prog pc (wrapPosLook atomic behind slot k body)) :
    CodeAt prog (posLookBodyPc atomic behind pc) body := by
  cases atomic <;> cases behind
  · exact h.posAhead_plain.2.1
  · exact h.posBehind_plain.2.2.1
  · exact h.posAhead_atomic.2.2.1
  · exact h.posBehind_atomic.2.2.2.1

/-- `Split (pc+1) end; body; FailNegativeLookAround` -/
theorem CodeAt.negAhead (h : CodeAt prog pc (wrapNegLook false pc k body)) :
    prog[pc]? = some (.split (pc + 1) (pc + 1 + body.length + 1)) ∧ CodeAt prog (pc + 1) body ∧
      prog[pc + 1 + body.length]? = some .failNegLook ∧
      (wrapNegLook false pc k body).length = 1 + body.length + 1 := by
  simp only [wrapNegLook, Bool.false_eq_true, ↓reduceIte, List.nil_append] at h ⊢
  obtain ⟨h1, hb, h2⟩ := h.split3
  exact ⟨h1.head, hb, h2.head, by addr⟩

/-- `Split (pc+1) end; GoBack k; body; FailNegativeLookAround` -/
theorem CodeAt.negBehind (h : CodeAt prog pc (wrapNegLook true pc k body)) :
    prog[pc]? = some (.split (pc + 1) (pc + 2 + body.length + 1)) ∧ prog[pc + 1]? = some (.goBack k) ∧
      CodeAt prog (pc + 2) body ∧ prog[pc + 2 + body.length]? = some .failNegLook ∧
      (wrapNegLook true pc k body).length = 2 + body.length + 1 := by
  simp only [wrapNegLook, ↓reduceIte] at h ⊢
  refine ⟨?_, h.left.right.left.head_at (by addr), h.left.right.right.cast (by addr), h.right.head_at (by addr),
    by addr⟩
  have := h.left.left.head
  simpa [Nat.add_assoc, Nat.add_comm, Nat.add_left_comm] using this

theorem CodeAt.negLook_body {behind : Bool} (h : CodeAt prog pc (wrapNegLook behind pc k body)) :
    CodeAt prog (negLookBodyPc behind pc) body := by
  cases behind
  · exact h.negAhead.2.1
  · exact h.negBehind.2.2.1

/-- the conditional: two instructions, the condition, one instruction, the yes-branch, one instruction, the
    no-branch -/
theorem CodeAt.cond {i1 i2 e j : Insn} {cc yc nc : Code}
    (h : CodeAt prog pc ([i1, i2] ++ cc ++ [e] ++ yc ++ [j] ++ nc)) :
    prog[pc]? = some i1 ∧ prog[pc + 1]? = some i2 ∧ CodeAt prog (pc + 2) cc ∧
      prog[pc + 2 + cc.length]? = some e ∧ CodeAt prog (pc + 2 + cc.length + 1) yc ∧
      prog[pc + 2 + cc.length + 1 + yc.length]? = some j ∧
      CodeAt prog (pc + 2 + cc.length + 1 + yc.length + 1) nc ∧
      ([i1, i2] ++ cc ++ [e] ++ yc ++ [j] ++ nc).length = 2 + cc.length + 1 + yc.length + 1 + nc.length :=
  ⟨h.left.left.left.left.left.head, h.left.left.left.left.left.tail.head, h.left.left.left.left.right,
    h.left.left.left.right.head_at (by addr), h.left.left.right.cast (by addr), h.left.right.head_at (by addr),
    h.right.cast (by addr), by addr⟩

/-- one step of an alternation chain: `Split`, the alternative, `Jmp`, the remaining alternatives -/
theorem CodeAt.alt_cons {i j : Insn} {c1 rest : Code} (h : CodeAt prog pc ([i] ++ c1 ++ [j] ++ rest)) :
    prog[pc]? = some i ∧ CodeAt prog (pc + 1) c1 ∧ prog[pc + 1 + c1.length]? = some j ∧
      CodeAt prog (pc + 1 + c1.length + 1) rest :=
  ⟨h.left.left.left.head, h.left.left.right, h.left.right.head_at (by addr), h.right.cast (by addr)⟩

end Layouts

/-- a concatenation cut at `i ≤ j` as `compile_concat` cuts it: prefix, middle, suffix -/
theorem semConcat_split3 (c : Ctx) (es : List Expr) {i j : Nat} (hij : i ≤ j) (st : St) :
    semConcat c es st = (semConcat c (es.take i) st).flatMap fun r =>
      (semConcat c ((es.drop i).take (j - i)) r).flatMap (semConcat c (es.drop j)) := by
  have h2 : (es.drop i).drop (j - i) = es.drop j := by rw [List.drop_drop]; congr 1; omega
  conv => lhs; rw [← List.take_append_drop i es, ← List.take_append_drop (j - i) (es.drop i), h2]
  rw [semConcat_append]
  congr 1; funext r; rw [semConcat_append]

theorem visitAlt_len (br : Nat → Bool) : ∀ (es : List Expr) (hard : Bool) (pc nsv gix : Nat) (f : Nat → Code) (endPc nsv' : Nat),
    visitAlt br es hard pc nsv gix = .ok (f, endPc, nsv') → ∀ t, pc + (f t).length = endPc
  | [], hard, pc, nsv, gix, f, endPc, nsv', hv, t => by
    simp only [visitAlt, Except.ok.injEq, Prod.mk.injEq] at hv
    obtain ⟨rfl, rfl, _⟩ := hv
    simp
  | [e], hard, pc, nsv, gix, f, endPc, nsv', hv, t => by
    obtain ⟨c1, _, rfl, rfl⟩ := visitAlt_single_ok hv
    rfl
  | e :: e2 :: es, hard, pc, nsv, gix, f, endPc, nsv', hv, t => by
    obtain ⟨c1, nsv1, f2, _, hb2, rfl⟩ := visitAlt_cons_ok hv
    have := visitAlt_len br (e2 :: es) hard _ nsv1 _ f2 endPc nsv' hb2 t
    simp only [List.length_append, List.length_cons, List.length_nil]
    omega

def SimP (c : Ctx) (n : Nat) (br : Nat → Bool) (e : Expr) : Prop :=
  ∀ (pc nsv gix : Nat) (code : Code) (nsv' : Nat) (prog : List Insn),
    isCore e = true → slotsBelow n e = true →
    visit br e true pc nsv gix = .ok (code, nsv') → noDeleg code = true → CodeAt prog pc code →
    Sim c n prog (sem c e) pc (pc + code.length)

section Arms
variable {c : Ctx} {n : Nat} {br : Nat → Bool}

theorem simP_empty : SimP c n br .empty := by
  intro pc nsv gix code nsv' prog _ _ hv _ _
  rw [visit_empty (not_easy_hard br _)] at hv
  cases hv
  exact (Sim.nil c n prog pc).congr fun st => by simp [sem]

theorem simP_any (nl : Bool) : SimP c n br (.any nl) := by
  intro pc nsv gix code nsv' prog _ _ hv _ hc
  cases nl with
  | true => rw [visit_any_true (not_easy_hard br _)] at hv; cases hv; exact sim_any c n prog pc hc.head
  | false => rw [visit_any_false (not_easy_hard br _)] at hv; cases hv; exact sim_anyNoNL c n prog pc hc.head

theorem simP_assertion (a : Assertion) : SimP c n br (.assertion a) := by
  intro pc nsv gix code nsv' prog _ _ hv _ hc
  rw [visit_assertion (not_easy_hard br _)] at hv
  cases hv
  exact sim_assertion c n prog pc a hc.head

theorem simP_literal (v : List Char) (ci : Bool) : SimP c n br (.literal v ci) := by
  intro pc nsv gix code nsv' prog hcore _ hv _ hc
  simp only [isCore, Bool.and_eq_true, Bool.not_eq_true'] at hcore
  obtain rfl : ci = false := hcore.1
  rw [visit_literal_cs (not_easy_hard br _)] at hv
  cases hv
  exact (sim_lit c n prog pc v hc.head).congr fun st => by simp [sem]

theorem simP_backref (hlen : c.len < UNSET) (g : Nat) : SimP c n br (.backref g) := by
  intro pc nsv gix code nsv' prog _ hs hv _ hc
  rw [visit_backref] at hv
  cases hv
  exact sim_backref c n prog pc g hlen hc.head (by simpa [slotsBelow] using hs)

theorem simP_keepOut : SimP c n br .keepOut := by
  intro pc nsv gix code nsv' prog _ hs hv _ hc
  rw [visit_keepOut] at hv
  cases hv
  exact (sim_save c n prog pc 0 hc.head (by simpa [slotsBelow] using hs)).congr fun st => by simp [sem]

theorem simP_contPrev : SimP c n br .contPrev := by
  intro pc nsv gix code nsv' prog _ _ hv _ hc
  rw [visit_contPrev] at hv
  cases hv
  exact sim_contPrev c n prog pc hc.head

theorem simP_group {g : Nat} {e : Expr} (ih : SimP c n br e) : SimP c n br (.group g e) := by
  intro pc nsv gix code nsv' prog hcore hs hv hn hc
  obtain ⟨body, hb, rfl⟩ := visit_group_ok (not_easy_hard br _) hv
  simp only [isCore] at hcore
  simp only [slotsBelow, Bool.and_eq_true, decide_eq_true_eq] at hs
  obtain ⟨h1, hcb, h2⟩ := hc.split3
  have hbody := ih _ _ _ _ _ prog hcore hs.2 hb (noDeleg_mid hn) hcb
  exact (sim_group (g := g) h1.head h2.head hbody hs.1).cast rfl (by addr)

/-- the children `visitMiddle` compiles one after the other -/
theorem simP_visitMiddle : ∀ (es : List Expr), (∀ e ∈ es, SimP c n br e) →
    ∀ (take pc nsv gix : Nat) (code : Code) (nsv' : Nat) (prog : List Insn),
      isCoreAll es = true → slotsBelowAll n es = true →
      visitMiddle br es 0 take pc nsv gix = .ok (code, nsv') → noDeleg code = true → CodeAt prog pc code →
      Sim c n prog (semConcat c (es.take take)) pc (pc + code.length)
  | [], _, take, pc, nsv, gix, code, nsv', prog, _, _, hv, _, _ => by
    simp only [visitMiddle, Except.ok.injEq, Prod.mk.injEq] at hv
    obtain ⟨rfl, rfl⟩ := hv
    exact (Sim.nil c n prog pc).congr fun st => by simp [semConcat]
  | e :: es, _, 0, pc, nsv, gix, code, nsv', prog, _, _, hv, _, _ => by
    simp only [visitMiddle, Except.ok.injEq, Prod.mk.injEq] at hv
    obtain ⟨rfl, rfl⟩ := hv
    exact (Sim.nil c n prog pc).congr fun st => by simp [semConcat]
  | e :: es, ih, take + 1, pc, nsv, gix, code, nsv', prog, hcore, hs, hv, hn, hc => by
    obtain ⟨c1, nsv1, c2, hb, hb2, rfl⟩ := visitMiddle_cons_ok hv
    simp only [isCoreAll, Bool.and_eq_true] at hcore
    simp only [slotsBelowAll, Bool.and_eq_true] at hs
    simp only [noDeleg_append, Bool.and_eq_true] at hn
    have s1 := ih e List.mem_cons_self _ _ _ _ _ prog hcore.1 hs.1 hb hn.1 hc.left
    have s2 := simP_visitMiddle es (fun x hx => ih x (List.mem_cons_of_mem _ hx)) take _ _ _ _ _ prog
      hcore.2 hs.2 hb2 hn.2 hc.right
    exact ((s1.seq s2 (keepsGood_sem c n e)).congr fun st => by simp [semConcat]).cast rfl (by addr)

theorem simP_concat {es : List Expr} (ih : ∀ e ∈ es, SimP c n br e) : SimP c n br (.concat es) := by
  intro pc nsv gix code nsv' prog hcore hs hv hn hc
  obtain ⟨mid, hb, rfl⟩ := visit_concat_ok (not_easy_hard br _) hv
  have hle := concatSplit_le br es true
  generalize concatSplit br es true = sp at hb hle hn hc ⊢
  simp only [isCore] at hcore
  simp only [slotsBelow] at hs
  simp only [noDeleg_append, Bool.and_eq_true] at hn
  obtain ⟨hcpre, hcmid, hcsuf⟩ := hc.split3
  have s1 := sim_delegates_run c n prog (es.take sp.1) gix pc hn.1.1 hcpre
  have s2 := simP_visitMiddle (es.drop sp.1) (fun e he => ih e (List.mem_of_mem_drop he)) _ _ _ _ _ _ prog
    (isCoreAll_drop es sp.1 hcore) (slotsBelowAll_drop n es sp.1 hs) hb hn.1.2 hcmid
  have s3 := sim_delegates_run c n prog (es.drop sp.2) _ _ hn.2 hcsuf
  have key := s1.seq (s2.seq s3 (keepsGood_semConcat c n _)) (keepsGood_semConcat c n _)
  exact (key.congr fun st => by simp only [sem]; exact (semConcat_split3 c es hle.1 st).symm).cast rfl (by addr)

/-- the alternatives `visitAlt` lays out as a chain of `Split … Jmp` -/
theorem simP_visitAlt : ∀ (es : List Expr), (∀ e ∈ es, SimP c n br e) →
    ∀ (pc nsv gix : Nat) (f : Nat → Code) (endPc nsv' : Nat) (prog : List Insn),
      isCoreAll es = true → slotsBelowAll n es = true → es ≠ [] →
      visitAlt br es true pc nsv gix = .ok (f, endPc, nsv') →
      noDeleg (f endPc) = true → CodeAt prog pc (f endPc) → Sim c n prog (semAlt c es) pc endPc
  | [], _, pc, nsv, gix, f, endPc, nsv', prog, _, _, hne, _, _, _ => absurd rfl hne
  | [e], ih, pc, nsv, gix, f, endPc, nsv', prog, hcore, hs, _, hv, hn, hc => by
    obtain ⟨c1, hb, rfl, rfl⟩ := visitAlt_single_ok hv
    simp only [isCoreAll, Bool.and_eq_true] at hcore
    simp only [slotsBelowAll, Bool.and_eq_true] at hs
    exact (ih e List.mem_cons_self _ _ _ _ _ prog hcore.1 hs.1 hb hn hc).congr fun st => by simp [semAlt]
  | e :: e2 :: es, ih, pc, nsv, gix, f, endPc, nsv', prog, hcore, hs, _, hv, hn, hc => by
    obtain ⟨c1, nsv1, f2, hb, hb2, rfl⟩ := visitAlt_cons_ok hv
    simp only [isCoreAll, Bool.and_eq_true] at hcore
    simp only [slotsBelowAll, Bool.and_eq_true] at hs
    simp only [noDeleg_append, Bool.and_eq_true] at hn
    obtain ⟨hsplit, hc1, hcj, hc2⟩ := hc.alt_cons
    have s1 := ih e List.mem_cons_self _ _ _ _ _ prog hcore.1 hs.1 hb hn.1.1.2 hc1
    have s2 := simP_visitAlt (e2 :: es) (fun x hx => ih x (List.mem_cons_of_mem _ hx)) _ _ _ _ _ _ prog
      (by simp [isCoreAll, hcore.2.1, hcore.2.2]) (by simp [slotsBelowAll, hs.2.1, hs.2.2]) (by simp) hb2 hn.2 hc2
    exact (Sim.alt2 (m := pc + 1 + c1.length) hsplit hcj s1 s2).congr fun st => by simp [semAlt]

theorem simP_alt {es : List Expr} (ih : ∀ e ∈ es, SimP c n br e) : SimP c n br (.alt es) := by
  intro pc nsv gix code nsv' prog hcore hs hv hn hc
  obtain ⟨f, endPc, hb, rfl⟩ := visit_alt_ok (not_easy_hard br _) hv
  simp only [isCore, Bool.and_eq_true] at hcore
  simp only [slotsBelow] at hs
  have hne : es ≠ [] := by intro h; simp [h] at hcore
  have := simP_visitAlt es ih pc nsv gix f endPc nsv' prog hcore.2 hs hne hb hn hc
  exact (this.congr fun st => by simp only [sem]).cast rfl (visitAlt_len br es true pc nsv gix f endPc nsv' hb endPc)

theorem simP_opt {e : Expr} {greedy : Bool} (ih : SimP c n br e) : SimP c n br (.repeat e 0 (some 1) greedy) := by
  intro pc nsv gix code nsv' prog hcore hs hv hn hc
  obtain ⟨body, hb, rfl⟩ := visit_opt_ok (not_easy_hard br _) (by simp) hv
  simp only [isCore, Bool.and_eq_true] at hcore
  simp only [slotsBelow] at hs
  have hbody := ih _ _ _ _ _ prog hcore.1 hs hb (noDeleg_tail hn) hc.tail
  cases greedy with
  | true =>
    exact ((Sim.optG hc.head hbody).congr (g := sem c (.repeat e 0 (some 1) true))
      fun st => by rw [sem_opt]; simp).cast rfl (by addr)
  | false =>
    exact ((Sim.optL hc.head hbody).congr (g := sem c (.repeat e 0 (some 1) false))
      fun st => by rw [sem_opt]; simp).cast rfl (by addr)

theorem simP_star {e : Expr} {greedy : Bool} (hm : 0 < minSize e) (ih : SimP c n br e) :
    SimP c n br (.repeat e 0 none greedy) := by
  intro pc nsv gix code nsv' prog hcore hs hv hn hc
  obtain ⟨body, hb, rfl⟩ := visit_star_ok (not_easy_hard br _) (by simp) (by simp; omega) (by simp) hv
  simp only [isCore, Bool.and_eq_true] at hcore
  simp only [slotsBelow] at hs
  obtain ⟨h1, hcb, h2⟩ := hc.split3
  have hbody := ih _ _ _ _ _ prog hcore.1 hs hb (noDeleg_mid hn) hcb
  have := sim_star (greedy := greedy) (m := pc + 1 + body.length)
    (by cases greedy <;> simpa [Nat.add_assoc] using h1.head) h2.head hbody (isCore_wellShaped e hcore.1) hm
  exact this.cast rfl (by addr)

theorem simP_plus {e : Expr} {greedy : Bool} (hm : 0 < minSize e) (ih : SimP c n br e) :
    SimP c n br (.repeat e 1 none greedy) := by
  intro pc nsv gix code nsv' prog hcore hs hv hn hc
  obtain ⟨body, hb, rfl⟩ := visit_plus_ok (not_easy_hard br _) (by simp) (by simp; omega) (by simp) (by simp) hv
  simp only [isCore, Bool.and_eq_true] at hcore
  simp only [slotsBelow] at hs
  simp only [noDeleg_append, Bool.and_eq_true] at hn
  have hbody := ih _ _ _ _ _ prog hcore.1 hs hb hn.1 hc.left
  have := sim_plus (greedy := greedy) (m := pc + body.length)
    (by cases greedy <;> simpa using hc.right.head) hbody (isCore_wellShaped e hcore.1) hm
  exact this.cast rfl (by addr)

theorem simP_repeat {e : Expr} {lo : Nat} {hi : Option Nat} {greedy : Bool} (ih : SimP c n br e) :
    SimP c n br (.repeat e lo hi greedy) := by
  intro pc nsv gix code nsv' prog hcore
  have hshape := hcore
  simp only [isCore, Bool.and_eq_true, Bool.or_eq_true, beq_iff_eq, decide_eq_true_eq] at hshape
  rcases hshape.2 with ⟨rfl, rfl⟩ | ⟨⟨rfl, rfl | rfl⟩, hm⟩
  · exact simP_opt ih pc nsv gix code nsv' prog hcore
  · exact simP_star hm ih pc nsv gix code nsv' prog hcore
  · exact simP_plus hm ih pc nsv gix code nsv' prog hcore

end Arms

theorem simP_all (c : Ctx) (n : Nat) (br : Nat → Bool) (hlen : c.len < UNSET) : ∀ e, SimP c n br e := by
  intro e
  induction e using Expr.induct with
  | empty => exact simP_empty
  | any nl => exact simP_any nl
  | assertion a => exact simP_assertion a
  | literal v ci => exact simP_literal v ci
  | concat es ih => exact simP_concat ih
  | alt es ih => exact simP_alt ih
  | group g e ih => exact simP_group ih
  | «repeat» e lo hi greedy ih => exact simP_repeat ih
  | backref g => exact simP_backref hlen g
  | keepOut => exact simP_keepOut
  | contPrev => exact simP_contPrev
  | look _ _ _ | delegate _ _ _ | atomic _ _ | backrefExists _ | cond _ _ _ _ _ _ | subroutine _ =>
    intro _ _ _ _ _ _ h; simp [isCore] at h

theorem sim_visit (c : Ctx) (n : Nat) (br : Nat → Bool) (hlen : c.len < UNSET) :
    ∀ (e : Expr) (pc nsv gix : Nat) (code : Code) (nsv' : Nat) (prog : List Insn),
      isCore e = true → slotsBelow n e = true →
      visit br e true pc nsv gix = .ok (code, nsv') → noDeleg code = true → CodeAt prog pc code →
      Sim c n prog (sem c e) pc (pc + code.length) :=
  simP_all c n br hlen

theorem sim_visitAlt (c : Ctx) (n : Nat) (br : Nat → Bool) (hlen : c.len < UNSET) :
    ∀ (es : List Expr) (pc nsv gix : Nat) (f : Nat → Code) (endPc nsv' : Nat) (prog : List Insn),
      isCoreAll es = true → slotsBelowAll n es = true → es ≠ [] →
      visitAlt br es true pc nsv gix = .ok (f, endPc, nsv') →
      (∀ t, pc + (f t).length = endPc) ∧
        (noDeleg (f endPc) = true → CodeAt prog pc (f endPc) → Sim c n prog (semAlt c es) pc endPc) :=
  fun es pc nsv gix f endPc nsv' prog hcore hs hne hv =>
    ⟨visitAlt_len br es true pc nsv gix f endPc nsv' hv,
     simP_visitAlt es (fun e _ => simP_all c n br hlen e) pc nsv gix f endPc nsv' prog hcore hs hne hv⟩

end Fancy
