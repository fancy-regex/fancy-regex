import FancyModel.Lemmas.Sim2Core
/-!
# Counted repeats against the full machine (engine refinement, stage S2)

Code layout (`Model/Compile.lean`, last branch of the `.repeat` case; `rep` is the counter's
auxiliary slot, the body owns the auxiliary slots `[rep+1, hiS)`):

    pc     : Save0(rep)
    pc + 1 : RepeatGr lo hi (m+1) rep      (or RepeatNg)
    pc + 2 : <body>                         [pc+2, m)
    m      : Jmp (pc + 1)

`loop_counted` is the loop invariant: at the head `pc+1` with `aux[rep - n] = count` the machine
computes `(repLoop body lo hi greedy fuel count st).foldr succ failA` for every sufficiently large
`fuel`. `sim2_counted` packages it as a `Sim2` for `sem c (.repeat e lo hi greedy)`.
-/
namespace Fancy

/-! ## The loop measure -/

/-- the loop measure: iterations left below a finite bound, or the text left for an unbounded loop -/
def repMeasure (c : Ctx) (hi : Option Nat) (count : Nat) (st : St) : Nat :=
  match hi with
  | some h => h - count
  | none => c.len - st.ix

/-- the loop measure decreases over one iteration, and the counter stays below a finite bound -/
theorem counted_measure_dec {c : Ctx} {n : Nat} {hi : Option Nat} {body : St → List St} {count k : Nat} {st r : St}
    (hne : hi ≠ none ∨ Advances body) (hr : r ∈ body st) (hgr : r.Good c n)
    (hk : repMeasure c hi count st < k + 1)
    (hc : ∀ h, hi = some h → count ≤ h) (hh : ¬ hi = some count) :
    repMeasure c hi (count + 1) r < k ∧
      (∀ h, hi = some h → count + 1 ≤ h) := by
  cases hi with
  | some h =>
    have h1 := hc h rfl
    have h2 : count ≠ h := fun e => hh (by rw [e])
    simp only [repMeasure] at hk ⊢
    refine ⟨by omega, ?_⟩
    intro h' e
    cases e
    omega
  | none =>
    have hadv : Advances body := by
      rcases hne with h | h
      · exact absurd rfl h
      · exact h
    have h1 := hadv st r hr
    have h2 := hgr.ix
    simp only [repMeasure] at hk ⊢
    refine ⟨by omega, ?_⟩
    intro h' e
    cases e

/-! ## The head instruction -/

/-- the head of a counted loop, greedy or lazy: leave at the upper bound; otherwise count, and past
    the lower bound leave the other way on the branch stack -/
theorem sstep_repeat {c : Ctx} {prog : List Insn} {nS p lo next rep cnt ix : Nat} {hi : Option Nat} {greedy : Bool}
    {slots astk : List Nat} {X : List SBranch}
    (h : prog[p]? = some (if greedy then .repeatGr lo hi next rep else .repeatNg lo hi next rep))
    (hrepS : rep < nS) (hcnt : slots[rep]? = some cnt) (hU : hi = none → cnt ≤ c.len) :
    sstep c prog nS p ix slots astk X = some (
      if hi = some cnt then .run next ix slots astk X
      else if cnt < lo then .run (p + 1) ix (slots.set rep (cnt + 1)) astk X
      else if greedy then .run (p + 1) ix (slots.set rep (cnt + 1)) astk (⟨next, ix, slots.set rep (cnt + 1), astk⟩ :: X)
      else .run next ix (slots.set rep (cnt + 1)) astk (⟨p + 1, ix, slots.set rep (cnt + 1), astk⟩ :: X)) := by
  have hb : (hi == none && decide (c.len < cnt)) = false := by
    cases hi with
    | none => have := hU rfl; simp; omega
    | some x => simp
  have hlo : lo ≤ cnt ↔ ¬ cnt < lo := by omega
  cases greedy <;> simp only [Bool.false_eq_true, ↓reduceIte] at h ⊢ <;>
    simp only [sstep, h, hrepS, ↓reduceIte, hcnt, beq_iff_eq, hb, Bool.false_eq_true, ge_iff_le, hlo] <;>
    by_cases h1 : hi = some cnt <;> by_cases h2 : cnt < lo <;> simp [h1, h2]

/-! ## The loop invariant -/

/-- At the head of a counted loop with the counter cell holding `count`, the machine computes the
    reference loop from `count`, for every `fuel` above the loop measure (`h - count` for a finite
    bound `h`, the remaining text for an unbounded loop over an advancing body). -/
theorem loop_counted {c : Ctx} {n nS : Nat} {prog : List Insn} {body : St → List St}
    {pc m lo rep hiS : Nat} {hi : Option Nat} {greedy bal : Bool}
    (hhead : prog[pc + 1]? = some (if greedy then .repeatGr lo hi (m + 1) rep else .repeatNg lo hi (m + 1) rep))
    (hjmp : prog[m]? = some (.jmp (pc + 1)))
    (hbody : Sim2 c n nS prog (rep + 1) hiS bal false body (pc + 2) m)
    (hrep : n ≤ rep) (hrepS : rep < nS) (hle : rep + 1 ≤ hiS) (hpm : pc + 2 ≤ m)
    (hkg : KeepsGood c n body) (hne : hi ≠ none ∨ Advances body) :
    ∀ (k fuel count : Nat) (st : St) (aux : List Nat),
      repMeasure c hi count st < k → k ≤ fuel →
      (∀ h, hi = some h → count ≤ h) → (hi = none → count ≤ st.ix) →
      st.Good c n → n + aux.length = nS → aux[rep - n]? = some count →
      Sim2At c n nS prog rep hiS bal false pc (m + 1) st aux (repLoop body lo hi greedy fuel count st) (pc + 1) (m + 1) := by
  intro k
  induction k with
  | zero => intro fuel count st aux hk; exact absurd hk (Nat.not_lt_zero _)
  | succ k ih =>
    intro fuel count st aux hk hfuel hc hci hg hl hcnt
    cases fuel with
    | zero => omega
    | succ fuel =>
    rw [repLoop_succ_of hne]
    have hslot : (unview st.slots ++ aux)[rep]? = some count := by
      rw [get_aux_slot _ _ n rep hg.len hrep]; exact hcnt
    have hU : hi = none → count ≤ c.len := fun h => Nat.le_trans (hci h) hg.ix
    have hstep := fun astk X => sstep_repeat (ix := st.ix) (astk := astk) (X := X) hhead hrepS hslot hU
    by_cases hh : hi = some count
    · -- the upper bound is reached: leave the loop
      simp only [if_pos hh] at hstep ⊢
      exact Sim2At.step hstep (AuxAgree.refl _ _ _ _) Sim2At.ret
    · -- the counter is incremented
      rw [set_aux_slot _ _ n rep _ hg.len hrep] at hstep
      simp only [if_neg hh] at hstep ⊢
      have hag0 : AuxAgree n rep hiS aux (aux.set (rep - n) (count + 1)) :=
        AuxAgree.set aux rep (count + 1) hrep ⟨Nat.le_refl _, by omega⟩
      -- one pass through the body and back to the head, for all the iterations' results
      have hiter : Sim2At c n nS prog rep hiS bal false pc (m + 1) st (aux.set (rep - n) (count + 1))
          ((body st).flatMap (repLoop body lo hi greedy fuel (count + 1))) (pc + 2) (m + 1) :=
        ((hbody.at hg (by simpa using hl)).mono (Nat.le_refl _) (Nat.le_refl _) (by omega) (by omega)).bindPar
          (Nat.le_succ _) (Nat.le_refl _) fun r hr aux2 hag => by
            have hgr := hkg st r hg hr
            have hm := counted_measure_dec hne hr hgr hk hc hh
            refine Sim2At.jmp hjmp (ih fuel (count + 1) r aux2 hm.1 (by omega) hm.2 (fun h => ?_) hgr
              (by simpa [hag.1] using hl) ?_)
            · have h1 := (hne.resolve_left (by simp [h])) st r hr
              have h2 := hci h
              omega
            · rw [hag.get rep hrep (Or.inl (Nat.lt_succ_self _)), List.getElem?_set_self (by omega)]
      by_cases hlo : count < lo
      · -- below the lower bound: a mandatory iteration, nothing pushed
        simp only [if_pos hlo] at hstep ⊢
        exact Sim2At.step hstep hag0 hiter
      · simp only [if_neg hlo] at hstep ⊢
        cases greedy with
        | true => exact Sim2At.push hstep hag0 (by omega) hiter Sim2At.ret
        | false => exact Sim2At.push (l1 := [_]) hstep hag0 (by omega) Sim2At.ret hiter

/-! ## The counted repeat -/

/-- `Save0(rep); RepeatGr/RepeatNg lo hi (m+1) rep; <body>; Jmp (pc+1)` simulates
    `e{lo,hi}` (greedy or lazy), for every pair of bounds the compiler can emit here, including
    `hi = some 0`, reversed bounds `hi < lo`, and `lo = 0`. -/
theorem sim2_counted {c : Ctx} {n nS : Nat} {prog : List Insn} {e : Expr} {pc m lo rep hiS : Nat}
    {hi : Option Nat} {greedy bal cm : Bool}
    (hsave0 : prog[pc]? = some (.save0 rep))
    (hhead : prog[pc + 1]? = some (if greedy then .repeatGr lo hi (m + 1) rep else .repeatNg lo hi (m + 1) rep))
    (hjmp : prog[m]? = some (.jmp (pc + 1)))
    (hbody : Sim2 c n nS prog (rep + 1) hiS bal false (sem c e) (pc + 2) m)
    (hrep : n ≤ rep) (hrepS : rep < nS) (hle : rep + 1 ≤ hiS) (hpm : pc + 2 ≤ m)
    (hw : wellShaped e = true)
    (hshape : hi ≠ none ∨ 0 < minSize e) :
    Sim2 c n nS prog rep hiS bal cm (sem c (.repeat e lo hi greedy)) pc (m + 1) :=
  Sim2.toCommit <| Sim2.ofAt fun st aux hg hl => by
    simp only [sem]
    refine Sim2At.step (st' := st) (aux' := aux.set (rep - n) 0)
      (fun astk X => by
        simp only [sstep, hsave0, hrepS, ↓reduceIte]
        rw [set_aux_slot _ _ n rep _ hg.len hrep])
      (AuxAgree.set aux rep 0 hrep ⟨Nat.le_refl _, by omega⟩) ?_
    exact loop_counted hhead hjmp hbody hrep hrepS hle hpm (keepsGood_sem c n e)
      (hshape.imp_right (advances_of_minSize c e hw)) (repMeasure c hi 0 st + 1) _ 0 st _
      (Nat.lt_succ_self _) (by cases hi <;> simp [repMeasure] <;> omega)
      (fun _ _ => Nat.zero_le _) (fun _ => Nat.zero_le _) hg (by simpa using hl)
      (by rw [List.getElem?_set_self (by omega)])

/-! ## The hypotheses are satisfiable: concrete instances -/

/-- local leaf for the examples: `Any` simulates `.` -/
private theorem sim2_any_ex (c : Ctx) (n nS : Nat) (prog : List Insn) (lo hi : Nat) (bal cm : Bool) (a : Nat)
    (h : prog[a]? = some .any) : Sim2 c n nS prog lo hi bal cm (sem c (.any true)) a (a + 1) :=
  sim2_any c n nS prog lo hi bal cm a h

/-- `.{2,3}` greedy: two capture slots, the counter in auxiliary slot 2 -/
example (c : Ctx) :
    Sim2 c 2 3 [.save0 2, .repeatGr 2 (some 3) 4 2, .any, .jmp 1] 2 3 true false
      (sem c (.repeat (.any true) 2 (some 3) true)) 0 4 :=
  sim2_counted (e := .any true) (pc := 0) (m := 3) (greedy := true) (by simp) (by simp) (by simp)
    (sim2_any_ex c 2 3 _ 3 3 true false 2 (by simp)) (by omega) (by omega) (by omega) (by omega)
    (by simp [wellShaped]) (Or.inl (by simp))

/-- `.{3,2}?` lazy with reversed bounds, in a committing context -/
example (c : Ctx) :
    Sim2 c 2 3 [.save0 2, .repeatNg 3 (some 2) 4 2, .any, .jmp 1] 2 3 true true
      (sem c (.repeat (.any true) 3 (some 2) false)) 0 4 :=
  sim2_counted (e := .any true) (pc := 0) (m := 3) (greedy := false) (by simp) (by simp) (by simp)
    (sim2_any_ex c 2 3 _ 3 3 true false 2 (by simp)) (by omega) (by omega) (by omega) (by omega)
    (by simp [wellShaped]) (Or.inl (by simp))

/-- `.{0}` (`hi = some 0`): no iteration -/
example (c : Ctx) :
    Sim2 c 2 3 [.save0 2, .repeatGr 0 (some 0) 4 2, .any, .jmp 1] 2 3 true false
      (sem c (.repeat (.any true) 0 (some 0) true)) 0 4 :=
  sim2_counted (e := .any true) (pc := 0) (m := 3) (greedy := true) (by simp) (by simp) (by simp)
    (sim2_any_ex c 2 3 _ 3 3 true false 2 (by simp)) (by omega) (by omega) (by omega) (by omega)
    (by simp [wellShaped]) (Or.inl (by simp))

/-- `.{2,}` unbounded over a body of positive minimum size -/
example (c : Ctx) :
    Sim2 c 2 3 [.save0 2, .repeatGr 2 none 4 2, .any, .jmp 1] 2 3 true false
      (sem c (.repeat (.any true) 2 none true)) 0 4 :=
  sim2_counted (e := .any true) (pc := 0) (m := 3) (greedy := true) (by simp) (by simp) (by simp)
    (sim2_any_ex c 2 3 _ 3 3 true false 2 (by simp)) (by omega) (by omega) (by omega) (by omega)
    (by simp [wellShaped]) (Or.inr (by simp [minSize]))

/-- the degenerate bounds in the reference semantics: `hi = some 0` yields `[st]`, reversed bounds
    `{3,2}` yield exactly two iterations -/
example (c : Ctx) (st : St) : sem c (.repeat (.any true) 0 (some 0) true) st = [st] := by
  simp [sem, repLoop]

example : (sem ⟨['a', 'b', 'c', 'd'], 0, false, fun _ => false, fun _ _ _ => false, fun _ _ _ => false⟩
    (.repeat (.any true) 3 (some 2) false) ⟨0, [none, none]⟩).map (·.ix) = [2] := by
  simp [sem, repLoop, Ctx.at?, Ctx.len]

end Fancy
