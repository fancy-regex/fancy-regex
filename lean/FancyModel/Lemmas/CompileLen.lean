import FancyModel.Lemmas.CompileInv
import FancyModel.Lemmas.ExprInduct
/-!
# An upper bound of the length of the compiled code

`codeBound e` counts, per node, the most instructions any layout of the compiler puts around the code of the
children; `visit_length_le`: the code `visit` emits for `e` is no longer than `codeBound e` (`LenP`, by
`Expr.induct_look`; the primed `*_length_le'` are the same for the list companions).  Proofs/C03d uses it to show
that the builder's `usize::MAX` sentinel for "no previous alternative" is never a real program counter;
Lemmas/ParseCodeBound.lean bounds `codeBound` of a parsed tree by the length of the pattern.
-/
namespace Fancy
set_option linter.unusedSimpArgs false

mutual
def codeBound : Expr → Nat
  | .concat es => codeBoundList es + 2
  | .alt es => codeBoundList es + 8
  | .group _ c => codeBound c + 2
  | .look c _ => codeBound c + 8
  | .repeat c _ _ _ => codeBound c + 3
  | .atomic c => codeBound c + 2
  | .cond c y n => codeBound c + codeBound y + codeBound n + 4
  | _ => 1
def codeBoundList : List Expr → Nat
  | [] => 0
  | e :: es => codeBound e + 8 + codeBoundList es
end

theorem one_le_codeBound (e : Expr) : 1 ≤ codeBound e := by
  cases e <;> simp only [codeBound] <;> omega

theorem compileDelegate_length (e : Expr) (g : Nat) : (compileDelegate e g).length = 1 := by
  unfold compileDelegate; split <;> rfl

theorem compileDelegates_length_le (es : List Expr) (g : Nat) : (compileDelegates es g).length ≤ 1 := by
  unfold compileDelegates; split
  · simp
  · split <;> simp

theorem wrapPosLook_length_le (a b : Bool) (s m : Nat) (body : Code) :
    (wrapPosLook a b s m body).length ≤ body.length + 5 := by
  unfold wrapPosLook; cases a <;> cases b <;> simp <;> omega

theorem wrapNegLook_length_le (b : Bool) (pc m : Nat) (body : Code) :
    (wrapNegLook b pc m body).length ≤ body.length + 3 := by
  unfold wrapNegLook; cases b <;> simp <;> omega

def LenP (br : Nat → Bool) (e : Expr) : Prop :=
  ∀ (hard : Bool) (pc nsv gix : Nat) (code : Code) (n : Nat),
    Fancy.visit br e hard pc nsv gix = .ok (code, n) → code.length ≤ codeBound e

section Arms
variable {br : Nat → Bool}

/-- whatever is handed over to the automata engine is one instruction -/
theorem lenP_of_hard {e : Expr}
    (h : ∀ (hard : Bool) (pc nsv gix : Nat) (code : Code) (n : Nat), ¬(!hard && !isHard br e) = true →
      visit br e hard pc nsv gix = .ok (code, n) → code.length ≤ codeBound e) : LenP br e := by
  intro hard pc nsv gix code n hv
  by_cases hdel : (!hard && !isHard br e) = true
  · rw [visit_easy_eq br e hard pc nsv gix hdel] at hv
    cases hv
    rw [compileDelegate_length]; exact one_le_codeBound e
  · exact h hard pc nsv gix code n hdel hv

theorem leafCode_length_le (e : Expr) : (leafCode e).length ≤ 1 := by
  unfold leafCode
  split <;> first | exact Nat.le_refl 1 | exact Nat.zero_le 1

theorem lenP_leaf {e : Expr} (hl : e.isLeaf = true) : LenP br e := by
  intro hard pc nsv gix code n hv
  obtain ⟨-, ⟨rfl, -⟩ | rfl⟩ := visit_leaf_ok hl hv
  · rw [compileDelegate_length]; exact one_le_codeBound e
  · exact Nat.le_trans (leafCode_length_le e) (one_le_codeBound e)

theorem lenP_group {g : Nat} {c : Expr} (ih : LenP br c) : LenP br (.group g c) :=
  lenP_of_hard fun hard pc nsv gix code n hdel hv => by
    obtain ⟨body, hb, rfl⟩ := visit_group_ok hdel hv
    have := ih _ _ _ _ _ _ hb
    simp only [codeBound, List.length_append, List.length_cons, List.length_nil]; omega

theorem lenP_atomic {c : Expr} (ih : LenP br c) : LenP br (.atomic c) := by
  intro hard pc nsv gix code n hv
  obtain ⟨body, hb, rfl⟩ := visit_atomic_ok hv
  have := ih _ _ _ _ _ _ hb
  simp only [codeBound, List.length_append, List.length_cons, List.length_nil]; omega

theorem lenP_cond {c y n : Expr} (ihc : LenP br c) (ihy : LenP br y) (ihn : LenP br n) : LenP br (.cond c y n) := by
  intro hard pc nsv gix code n' hv
  obtain ⟨cc, nsv1, yc, nsv2, nc, hb1, hb2, hb3, rfl⟩ := visit_cond_ok hv
  have := ihc _ _ _ _ _ _ hb1
  have := ihy _ _ _ _ _ _ hb2
  have := ihn _ _ _ _ _ _ hb3
  simp only [codeBound, List.length_append, List.length_cons, List.length_nil]; omega

/-- at most three instructions around the body, whatever the layout -/
theorem lenP_repeat {c : Expr} {lo : Nat} {hi : Option Nat} {greedy : Bool} (ih : LenP br c) :
    LenP br (.repeat c lo hi greedy) :=
  lenP_of_hard fun hard pc nsv gix code n hdel hv => by
    by_cases hopt : (lo == 0 && hi == some 1) = true
    · obtain ⟨body, hb, rfl⟩ := visit_opt_ok hdel hopt hv
      have := ih _ _ _ _ _ _ hb
      simp only [codeBound, List.length_cons]; omega
    by_cases heps : (hi == none && minSize c == 0) = true
    · obtain ⟨body, hb, rfl⟩ := visit_repeatEps_ok hdel hopt heps hv
      have := ih _ _ _ _ _ _ hb
      simp only [codeBound, List.length_append, List.length_cons, List.length_nil]; omega
    by_cases hstar : (lo == 0 && hi == none) = true
    · obtain ⟨body, hb, rfl⟩ := visit_star_ok hdel hopt heps hstar hv
      have := ih _ _ _ _ _ _ hb
      simp only [codeBound, List.length_append, List.length_cons, List.length_nil]; omega
    by_cases hplus : (lo == 1 && hi == none) = true
    · obtain ⟨body, hb, rfl⟩ := visit_plus_ok hdel hopt heps hstar hplus hv
      have := ih _ _ _ _ _ _ hb
      simp only [codeBound, List.length_append, List.length_cons, List.length_nil]; omega
    · obtain ⟨body, hb, rfl⟩ := visit_counted_ok hdel hopt heps hstar hplus hv
      have := ih _ _ _ _ _ _ hb
      simp only [codeBound, List.length_append, List.length_cons, List.length_nil]; omega

/-! the companions over lists, given the statement for the members -/

theorem visitMiddle_length_le : ∀ (es : List Expr), (∀ e ∈ es, LenP br e) →
    ∀ (skip take pc nsv gix : Nat) (c : Code) (n : Nat),
    visitMiddle br es skip take pc nsv gix = .ok (c, n) → c.length ≤ codeBoundList es
  | [], _, _, _, _, _, _, c, n, h => by
    simp only [visitMiddle] at h; cases h; exact Nat.zero_le _
  | e :: es, ih, skip + 1, take, pc, nsv, gix, c, n, h => by
    simp only [visitMiddle] at h
    have := visitMiddle_length_le es (fun x hx => ih x (List.mem_cons_of_mem _ hx)) _ _ _ _ _ _ _ h
    simp only [codeBoundList]; omega
  | e :: es, ih, 0, 0, pc, nsv, gix, c, n, h => by
    simp only [visitMiddle] at h; cases h; exact Nat.zero_le _
  | e :: es, ih, 0, take + 1, pc, nsv, gix, c, n, h => by
    obtain ⟨c1, nsv1, c2, hb1, hb2, rfl⟩ := visitMiddle_cons_ok h
    have h1 := ih e (List.mem_cons_self ..) _ _ _ _ _ _ hb1
    have h2 := visitMiddle_length_le es (fun x hx => ih x (List.mem_cons_of_mem _ hx)) _ _ _ _ _ _ _ hb2
    simp only [codeBoundList, List.length_append]; omega

theorem visitAlt_length_le : ∀ (es : List Expr), (∀ e ∈ es, LenP br e) →
    ∀ (hard : Bool) (pc nsv gix : Nat) (f : Nat → Code) (endPc n : Nat),
    visitAlt br es hard pc nsv gix = .ok (f, endPc, n) → ∀ t, (f t).length ≤ codeBoundList es
  | [], _, _, _, _, _, f, endPc, n, h, t => by
    simp only [visitAlt] at h; cases h; exact Nat.zero_le _
  | [e], ih, hard, pc, nsv, gix, f, endPc, n, h, t => by
    obtain ⟨c, hb, rfl, rfl⟩ := visitAlt_single_ok h
    have h1 := ih e (List.mem_cons_self ..) _ _ _ _ _ _ hb
    simp only [codeBoundList]; omega
  | e :: e2 :: es, ih, hard, pc, nsv, gix, f, endPc, n, h, t => by
    obtain ⟨c, nsv1, f2, hb1, hb2, rfl⟩ := visitAlt_cons_ok h
    have h1 := ih e (List.mem_cons_self ..) _ _ _ _ _ _ hb1
    have h2 := visitAlt_length_le (e2 :: es) (fun x hx => ih x (List.mem_cons_of_mem _ hx)) _ _ _ _ _ _ _ hb2 t
    simp only [codeBoundList, List.length_append, List.length_cons, List.length_nil] at h2 ⊢; omega

theorem lookBehindAlts_length_le : ∀ (es : List Expr), (∀ e ∈ es, LenP br e) →
    ∀ (pc nsv gix : Nat) (f : Nat → Code) (endPc n : Nat),
    lookBehindAlts br es pc nsv gix = .ok (f, endPc, n) → ∀ t, (f t).length ≤ codeBoundList es
  | [], _, _, _, _, f, endPc, n, h, t => by
    simp only [lookBehindAlts] at h; cases h; exact Nat.zero_le _
  | [e], ih, pc, nsv, gix, f, endPc, n, h, t => by
    obtain ⟨_, body, hb, rfl, rfl⟩ := lookBehindAlts_single_ok h
    have h1 := ih e (List.mem_cons_self ..) _ _ _ _ _ _ hb
    have h3 := wrapPosLook_length_le (isHard br e) true nsv (minSize e) body
    simp only [codeBoundList]; omega
  | e :: e2 :: es, ih, pc, nsv, gix, f, endPc, n, h, t => by
    obtain ⟨_, body, nsv1, f2, hb1, hb2, rfl⟩ := lookBehindAlts_cons_ok h
    have h1 := ih e (List.mem_cons_self ..) _ _ _ _ _ _ hb1
    have h2 := lookBehindAlts_length_le (e2 :: es) (fun x hx => ih x (List.mem_cons_of_mem _ hx)) _ _ _ _ _ _ hb2 t
    have h3 := wrapPosLook_length_le (isHard br e) true nsv (minSize e) body
    simp only [codeBoundList, List.length_append, List.length_cons, List.length_nil] at h2 ⊢; omega

theorem lookBehindNegAlts_length_le : ∀ (es : List Expr), (∀ e ∈ es, LenP br e) →
    ∀ (pc nsv gix : Nat) (c : Code) (n : Nat),
    lookBehindNegAlts br es pc nsv gix = .ok (c, n) → c.length ≤ codeBoundList es
  | [], _, _, _, _, c, n, h => by
    simp only [lookBehindNegAlts] at h; cases h; exact Nat.zero_le _
  | e :: es, ih, pc, nsv, gix, c, n, h => by
    obtain ⟨_, body, nsv1, c2, hb1, hb2, rfl⟩ := lookBehindNegAlts_cons_ok h
    have h1 := ih e (List.mem_cons_self ..) _ _ _ _ _ _ hb1
    have h2 := lookBehindNegAlts_length_le es (fun x hx => ih x (List.mem_cons_of_mem _ hx)) _ _ _ _ _ hb2
    have h3 := wrapNegLook_length_le true pc (minSize e) body
    simp only [codeBoundList, List.length_append] at h2 ⊢; omega

theorem lenP_concat {es : List Expr} (ih : ∀ e ∈ es, LenP br e) : LenP br (.concat es) :=
  lenP_of_hard fun hard pc nsv gix code n hdel hv => by
    obtain ⟨mid, hb, rfl⟩ := visit_concat_ok hdel hv
    rw [← visitMiddle_skip] at hb
    have h1 := visitMiddle_length_le es ih _ _ _ _ _ _ _ hb
    have h2 := compileDelegates_length_le (es.take (concatSplit br es hard).1) gix
    have h3 := compileDelegates_length_le (es.drop (concatSplit br es hard).2)
      (gix + groupCountList (es.take (concatSplit br es hard).2))
    simp only [codeBound, List.length_append]; omega

theorem lenP_alt {es : List Expr} (ih : ∀ e ∈ es, LenP br e) : LenP br (.alt es) :=
  lenP_of_hard fun hard pc nsv gix code n hdel hv => by
    obtain ⟨f, endPc, hb, rfl⟩ := visit_alt_ok hdel hv
    have := visitAlt_length_le es ih _ _ _ _ _ _ _ hb endPc
    simp only [codeBound]; omega

theorem visitAltBody_length_le (es : List Expr) (ih : ∀ e ∈ es, LenP br e) (pc nsv gix : Nat) (c : Code) (n : Nat)
    (h : visitAltBody br es pc nsv gix = .ok (c, n)) : c.length ≤ codeBoundList es + 8 := by
  rw [visitAltBody_eq_visit] at h
  simpa only [codeBound] using lenP_alt ih _ _ _ _ _ _ h

/-- `ihl`: the statement for the alternatives when the body is an alternation -/
theorem lenP_look {c : Expr} {la : Look} (ih : LenP br c) (ihl : ∀ es, c = .alt es → ∀ e ∈ es, LenP br e) :
    LenP br (.look c la) := by
  intro hard pc nsv gix code n hv
  have pos : ∀ {a b pc' nsv1 s k body}, visit br c false pc' nsv1 gix = .ok (body, n) →
      (wrapPosLook a b s k body).length ≤ codeBound (.look c la) := fun {a b _ _ s k body} hb => by
    have := ih _ _ _ _ _ _ hb
    have := wrapPosLook_length_le a b s k body
    simp only [codeBound]; omega
  have neg : ∀ {b pc' k body}, visit br c false pc' nsv gix = .ok (body, n) →
      (wrapNegLook b pc k body).length ≤ codeBound (.look c la) := fun {b _ k body} hb => by
    have := ih _ _ _ _ _ _ hb
    have := wrapNegLook_length_le b pc k body
    simp only [codeBound]; omega
  cases la with
  | ahead => obtain ⟨body, hb, rfl⟩ := visit_ahead_ok hv; exact pos hb
  | aheadNeg => obtain ⟨body, hb, rfl⟩ := visit_aheadNeg_ok hv; exact neg hb
  | behind =>
    cases hcs : constSize c
    · obtain ⟨es, f, endPc, rfl, hb, rfl⟩ := visit_behind_var_ok hcs hv
      have := lookBehindAlts_length_le es (ihl es rfl) _ _ _ _ _ _ hb endPc
      simp only [codeBound, List.length_append, List.length_cons, List.length_nil]; omega
    · obtain ⟨body, hb, rfl⟩ := visit_behind_const_ok hcs hv
      exact pos hb
  | behindNeg =>
    cases hcs : constSize c
    · obtain ⟨es, rfl, hb⟩ := visit_behindNeg_var_ok hcs hv
      have := lookBehindNegAlts_length_le es (ihl es rfl) _ _ _ _ _ hb
      simp only [codeBound]; omega
    · obtain ⟨body, hb, rfl⟩ := visit_behindNeg_const_ok hcs hv
      exact neg hb

end Arms

theorem lenP_all (br : Nat → Bool) (e : Expr) : LenP br e := by
  induction e using Expr.induct_look with
  | group g c ih => exact lenP_group ih
  | atomic c ih => exact lenP_atomic ih
  | cond c y n ihc ihy ihn => exact lenP_cond ihc ihy ihn
  | «repeat» c lo hi greedy ih => exact lenP_repeat ih
  | concat es ih => exact lenP_concat ih
  | alt es ih => exact lenP_alt ih
  | look c la ih ihl => exact lenP_look ih ihl
  | _ => exact lenP_leaf rfl

theorem visit_length_le (br : Nat → Bool) (e : Expr) (hard : Bool) (pc nsv gix : Nat) (code : Code) (n : Nat)
    (h : Fancy.visit br e hard pc nsv gix = .ok (code, n)) : code.length ≤ codeBound e :=
  lenP_all br e hard pc nsv gix code n h

theorem visitMiddle_length_le' (br : Nat → Bool) (es : List Expr) (skip take pc nsv gix : Nat) (c : Code) (n : Nat)
    (h : visitMiddle br es skip take pc nsv gix = .ok (c, n)) : c.length ≤ codeBoundList es :=
  visitMiddle_length_le es (fun e _ => lenP_all br e) _ _ _ _ _ _ _ h

theorem visitAlt_length_le' (br : Nat → Bool) (es : List Expr) (hard : Bool) (pc nsv gix : Nat)
    (f : Nat → Code) (endPc n : Nat)
    (h : visitAlt br es hard pc nsv gix = .ok (f, endPc, n)) (t : Nat) : (f t).length ≤ codeBoundList es :=
  visitAlt_length_le es (fun e _ => lenP_all br e) _ _ _ _ _ _ _ h t

theorem visitAltBody_length_le' (br : Nat → Bool) (es : List Expr) (pc nsv gix : Nat) (c : Code) (n : Nat)
    (h : visitAltBody br es pc nsv gix = .ok (c, n)) : c.length ≤ codeBoundList es + 8 :=
  visitAltBody_length_le es (fun e _ => lenP_all br e) _ _ _ _ _ h

theorem lookBehindAlts_length_le' (br : Nat → Bool) (es : List Expr) (pc nsv gix : Nat)
    (f : Nat → Code) (endPc n : Nat)
    (h : lookBehindAlts br es pc nsv gix = .ok (f, endPc, n)) (t : Nat) : (f t).length ≤ codeBoundList es :=
  lookBehindAlts_length_le es (fun e _ => lenP_all br e) _ _ _ _ _ _ h t

theorem lookBehindNegAlts_length_le' (br : Nat → Bool) (es : List Expr) (pc nsv gix : Nat) (c : Code) (n : Nat)
    (h : lookBehindNegAlts br es pc nsv gix = .ok (c, n)) : c.length ≤ codeBoundList es :=
  lookBehindNegAlts_length_le es (fun e _ => lenP_all br e) _ _ _ _ _ h

end Fancy

