import FancyModel.Lemmas.StateRefine
import FancyModel.Model.VM
/-!
# The auxiliary stack inside the slot vector

`vm::State` keeps the auxiliary stack of `BeginAtomic` / `EndAtomic` inside the `saves` vector:
cell `nS = explicit_sp` holds the stack pointer, the entries live in the cells `nS+1 .. sp-1`.
This file adds a second abstraction layer above `abs` (Lemmas/StateRefine.lean): an `SState` has the
`nS` ordinary slots, the auxiliary stack as a separate list, and a branch stack of whole copies of
both. `Rep` relates a flat slot vector to `(slots, astk)`; `RepA` relates a whole-copy state to an
`SState`; `Inv2` bundles everything that is preserved by the operations of `State`.
-/
namespace Fancy
open State

structure SBranch where
  pc : Nat
  ix : Nat
  slots : List Nat      -- the first nS cells: capture slots and loop counters
  astk : List Nat       -- auxiliary stack, top at the head
deriving DecidableEq, Repr

structure SState where
  slots : List Nat
  astk : List Nat
  stack : List SBranch  -- top at the head
deriving DecidableEq, Repr

/-- `flat` (a slot vector of the concrete / `AState` level) represents `(slots, astk)`.
    Cells above the stack pointer are unconstrained (growth is never undone). -/
def Rep (nS : Nat) (flat slots astk : List Nat) : Prop :=
  slots.length = nS ∧ flat.take nS = slots ∧
  ((flat.length = nS ∧ astk = []) ∨
   (nS < flat.length ∧ flat[nS]? = some (nS + 1 + astk.length) ∧ nS + 1 + astk.length ≤ flat.length ∧
    ∀ i, i < astk.length → flat[nS + 1 + i]? = astk.reverse[i]?))

/-- pointwise relation between the whole-copy branch stack and the `SBranch` stack -/
def RepStack (nS : Nat) : List ABranch → List SBranch → Prop
  | [], [] => True
  | a :: as, b :: bs => a.pc = b.pc ∧ a.ix = b.ix ∧ Rep nS a.saves b.slots b.astk ∧ RepStack nS as bs
  | _, _ => False

/-- the whole-copy state `a` represents `σ` -/
def RepA (nS : Nat) (a : AState) (σ : SState) : Prop :=
  Rep nS a.saves σ.slots σ.astk ∧ RepStack nS a.stack σ.stack

/-- everything the operations preserve -/
structure Inv2 (nS : Nat) (s : State) (σ : SState) : Prop where
  inv : Inv s
  sp : s.explicitSp = nS
  rep : RepA nS (abs s) σ

/-! ## `Rep` -/

theorem Rep.len_ge {nS : Nat} {flat sl ak : List Nat} (h : Rep nS flat sl ak) : nS ≤ flat.length := by
  obtain ⟨h1, h2, _⟩ := h
  have := congrArg List.length h2
  simp only [List.length_take] at this
  omega

theorem Rep.get {nS : Nat} {flat sl ak : List Nat} (h : Rep nS flat sl ak) (slot : Nat) (hs : slot < nS) :
    flat[slot]? = sl[slot]? := by
  obtain ⟨_, h2, _⟩ := h
  rw [← h2, List.getElem?_take, if_pos hs]

/-- writing any cell other than the stack pointer and the cells of the auxiliary stack -/
theorem Rep.set_off {nS : Nat} {flat sl ak : List Nat} (h : Rep nS flat sl ak) (j v : Nat)
    (hj : j < nS ∨ nS + 1 + ak.length ≤ j) : Rep nS (flat.set j v) (sl.set j v) ak := by
  obtain ⟨h1, h2, h3⟩ := h
  refine ⟨by simpa using h1, by rw [List.take_set, h2], ?_⟩
  rcases h3 with ⟨a, b⟩ | ⟨a, b, c, d⟩
  · left; exact ⟨by simpa using a, b⟩
  · right
    refine ⟨by simpa using a, ?_, by simpa using c, ?_⟩
    · rw [List.getElem?_set_ne (by omega)]; exact b
    · intro i hi
      rw [List.getElem?_set_ne (by omega)]; exact d i hi

/-- the `nS` ordinary slots: writing one of them -/
theorem Rep.set_low {nS : Nat} {flat sl ak : List Nat} (h : Rep nS flat sl ak) (slot v : Nat) (hs : slot < nS) :
    Rep nS (flat.set slot v) (sl.set slot v) ak :=
  h.set_off slot v (.inl hs)

/-- writing a cell at or above the stack pointer changes nothing -/
theorem Rep.set_above {nS : Nat} {flat sl ak : List Nat} (h : Rep nS flat sl ak) (j v : Nat)
    (hj : nS + 1 + ak.length ≤ j) : Rep nS (flat.set j v) sl ak := by
  have := h.set_off j v (.inr hj)
  rwa [List.set_eq_of_length_le (l := sl) (by rw [h.1]; omega)] at this

/-- unlogged growth by one cell: the first new cell is the stack pointer, any later one is free -/
theorem Rep.append {nS : Nat} {flat sl ak : List Nat} (h : Rep nS flat sl ak) (x : Nat)
    (hx : flat.length = nS → x = nS + 1) : Rep nS (flat ++ [x]) sl ak := by
  obtain ⟨h1, h2, h3⟩ := h
  refine ⟨h1, by rw [List.take_append_of_le_length (by omega)]; exact h2, .inr ?_⟩
  rcases h3 with ⟨a, b⟩ | ⟨a, b, c, d⟩
  · subst b
    refine ⟨by simp; omega, ?_, by simp; omega, by intro i hi; simp at hi⟩
    rw [List.getElem?_append_right (by omega), hx a]
    simp [a]
  · refine ⟨by simp; omega, ?_, by simp; omega, ?_⟩
    · rw [List.getElem?_append_left (by omega)]; exact b
    · intro i hi
      rw [List.getElem?_append_left (by omega)]; exact d i hi

/-- the logged write of the stack pointer that completes a `stack_push` -/
theorem Rep.commit_push {nS : Nat} {flat sl ak : List Nat} (h : Rep nS flat sl ak) (v : Nat)
    (hv : flat[nS + 1 + ak.length]? = some v) :
    Rep nS (flat.set nS (nS + 1 + ak.length + 1)) sl (v :: ak) := by
  have hlen : nS + 1 + ak.length < flat.length := by
    rcases Nat.lt_or_ge (nS + 1 + ak.length) flat.length with h | h
    · exact h
    · rw [List.getElem?_eq_none h] at hv; cases hv
  obtain ⟨h1, h2, h3⟩ := h
  refine ⟨h1, by rw [List.take_set_of_le (Nat.le_refl _)]; exact h2, ?_⟩
  rcases h3 with ⟨a, _⟩ | ⟨a, b, c, d⟩
  · omega
  · right
    refine ⟨by simpa using a, ?_, by simp; omega, ?_⟩
    · rw [List.getElem?_set_self a]; simp; omega
    · intro i hi
      rw [List.getElem?_set_ne (by omega)]
      simp only [List.length_cons] at hi
      simp only [List.reverse_cons]
      by_cases hi' : i < ak.length
      · rw [List.getElem?_append_left (by simpa using hi')]; exact d i hi'
      · have : i = ak.length := by omega
        subst this
        rw [List.getElem?_append_right (by simp)]
        simpa using hv

/-- what a non-empty auxiliary stack looks like, and the logged write that completes `stack_pop` -/
theorem Rep.commit_pop {nS : Nat} {flat sl rest : List Nat} {v : Nat} (h : Rep nS flat sl (v :: rest)) :
    flat[nS]? = some (nS + 1 + rest.length + 1) ∧ flat[nS + 1 + rest.length]? = some v ∧
    nS < flat.length ∧
    Rep nS (flat.set nS (nS + 1 + rest.length)) sl rest := by
  obtain ⟨h1, h2, h3⟩ := h
  rcases h3 with ⟨_, b⟩ | ⟨a, b, c, d⟩
  · cases b
  · simp only [List.length_cons] at b c d
    refine ⟨by rw [b]; rfl, ?_, a, h1, by rw [List.take_set_of_le (Nat.le_refl _)]; exact h2, ?_⟩
    · have := d rest.length (by omega)
      rw [this, List.reverse_cons, List.getElem?_append_right (by simp)]
      simp
    · right
      refine ⟨by simpa using a, by rw [List.getElem?_set_self a], by simp; omega, ?_⟩
      intro i hi
      rw [List.getElem?_set_ne (by omega), d i (by omega), List.reverse_cons,
        List.getElem?_append_left (by simpa using hi)]

/-- an empty auxiliary stack: either the pointer cell does not exist yet, or it holds `nS + 1` -/
theorem Rep.empty {nS : Nat} {flat sl : List Nat} (h : Rep nS flat sl []) :
    flat.length = nS ∨ (nS < flat.length ∧ flat[nS]? = some (nS + 1)) := by
  obtain ⟨_, _, h3⟩ := h
  rcases h3 with ⟨a, _⟩ | ⟨a, b, _, _⟩
  · left; exact a
  · right; exact ⟨a, by simpa using b⟩

/-! ## `RepStack` -/

theorem RepStack.length_eq {nS : Nat} : ∀ {as : List ABranch} {bs : List SBranch},
    RepStack nS as bs → as.length = bs.length
  | [], [], _ => rfl
  | _ :: _, _ :: _, h => by simp [RepStack.length_eq h.2.2.2]
  | [], _ :: _, h => h.elim
  | _ :: _, [], h => h.elim

theorem RepStack.drop {nS : Nat} : ∀ (k : Nat) {as : List ABranch} {bs : List SBranch},
    RepStack nS as bs → RepStack nS (as.drop k) (bs.drop k)
  | 0, _, _, h => by simpa using h
  | _ + 1, [], [], _ => by simp [RepStack]
  | k + 1, _ :: _, _ :: _, h => by simpa using RepStack.drop k h.2.2.2
  | _ + 1, [], _ :: _, h => h.elim
  | _ + 1, _ :: _, [], h => h.elim

/-- growing every copy by one cell -/
theorem RepStack.map_append {nS : Nat} (x : Nat) : ∀ {as : List ABranch} {bs : List SBranch},
    RepStack nS as bs →
    (∀ a ∈ as, ∀ sl ak, Rep nS a.saves sl ak → Rep nS (a.saves ++ [x]) sl ak) →
    RepStack nS (as.map fun a => ⟨a.pc, a.ix, a.saves ++ [x]⟩) bs
  | [], [], _, _ => by simp [RepStack]
  | a :: as, b :: bs, h, hp => by
    simp only [List.map_cons, RepStack]
    exact ⟨h.1, h.2.1, hp a (by simp) _ _ h.2.2.1,
      RepStack.map_append x h.2.2.2 (fun a' ha' => hp a' (by simp [ha']))⟩
  | [], _ :: _, h, _ => h.elim
  | _ :: _, [], h, _ => h.elim

/-! ## unlogged growth and `abs` -/

theorem undo_grow (cur : List Nat) (x : Nat) (log : List (Nat × Nat)) (h : ∀ e ∈ log, e.1 < cur.length) :
    undo (cur ++ [x]) log = undo cur log ++ [x] := by
  induction log generalizing cur with
  | nil => rfl
  | cons e es ih =>
    simp only [undo_cons]
    rw [List.set_append_left _ _ (h e (by simp))]
    exact ih _ (fun e' he' => by simpa using h e' (by simp [he']))

theorem absStack_grow (x : Nat) (cur : List Nat) (n : Nat) (log : List (Nat × Nat)) (bs : List Branch)
    (h : ∀ e ∈ log, e.1 < cur.length) :
    absStack (cur ++ [x]) n log bs = (absStack cur n log bs).map fun a => ⟨a.pc, a.ix, a.saves ++ [x]⟩ := by
  induction bs generalizing cur n log with
  | nil => rfl
  | cons b bs ih =>
    simp only [absStack, List.map_cons]
    rw [undo_grow cur x (log.take n) (fun e he => h e (List.mem_of_mem_take he))]
    rw [ih (undo cur (log.take n)) b.nsave (log.drop n)
      (fun e he => by simpa using h e (List.mem_of_mem_drop he))]

theorem absStack_saves_length (cur : List Nat) (n : Nat) (log : List (Nat × Nat)) (bs : List Branch) :
    ∀ a ∈ absStack cur n log bs, a.saves.length = cur.length := by
  induction bs generalizing cur n log with
  | nil => simp [absStack]
  | cons b bs ih =>
    intro a ha
    simp only [absStack, List.mem_cons] at ha
    rcases ha with rfl | ha
    · simp
    · simpa using ih _ _ _ a ha

/-- every whole copy has the length of the current vector -/
theorem abs_saves_length (s : State) : ∀ a ∈ (abs s).stack, a.saves.length = s.saves.length :=
  absStack_saves_length _ _ _ _

/-- the unlogged `self.saves.push(x)` -/
def grow (s : State) (x : Nat) : State := { s with saves := s.saves ++ [x] }

theorem abs_grow (s : State) (hi : Inv s) (x : Nat) :
    abs (grow s x) = ⟨s.saves ++ [x], (abs s).stack.map fun a => ⟨a.pc, a.ix, a.saves ++ [x]⟩⟩ := by
  simp only [abs, grow]
  rw [absStack_grow x s.saves s.nsave s.oldsave s.stack hi.slots]

theorem inv_grow (s : State) (hi : Inv s) (x : Nat) : Inv (grow s x) :=
  ⟨hi.len, fun e he => by have := hi.slots e he; simp only [grow, List.length_append]; simp; omega⟩

theorem inv2_grow {nS : Nat} {s : State} {σ : SState} (h : Inv2 nS s σ) (x : Nat)
    (hx : s.saves.length = nS → x = nS + 1) : Inv2 nS (grow s x) σ := by
  refine ⟨inv_grow s h.inv _, h.sp, ?_⟩
  rw [abs_grow s h.inv]
  refine ⟨h.rep.1.append x hx, RepStack.map_append _ h.rep.2 ?_⟩
  intro a ha sl ak hr
  exact hr.append x (by rw [abs_saves_length s a ha]; exact hx)

/-! ## fields the operations do not touch -/

theorem save_fields (s s' : State) (slot v : Nat) (h : s.save slot v = some s') :
    s'.explicitSp = s.explicitSp ∧ s'.stack = s.stack ∧ s'.maxStack = s.maxStack ∧
    s'.saves = s.saves.set slot v := by
  unfold State.save at h
  split at h
  · cases h
  · split at h
    · cases h
    · split at h <;> (cases h; exact ⟨rfl, rfl, rfl, rfl⟩)

theorem pop_fields (s s' : State) (pc ix : Nat) (h : s.pop = some (s', pc, ix)) :
    s'.explicitSp = s.explicitSp ∧ s'.maxStack = s.maxStack ∧ s.stack.length = s'.stack.length + 1 := by
  unfold State.pop at h
  split at h
  · cases h
  · split at h
    · cases h
    · rename_i hst
      cases h
      exact ⟨rfl, rfl, by simp [hst]⟩

theorem cut_fields (s s' : State) (count : Nat) (h : s.backtrackCut count = some s') :
    s'.explicitSp = s.explicitSp ∧ s'.maxStack = s.maxStack ∧ s'.saves = s.saves := by
  unfold State.backtrackCut at h
  split at h
  · cases h; exact ⟨rfl, rfl, rfl⟩
  · split at h
    · cases h
    · simp only at h
      split at h
      · cases h
      · split at h
        · cases h
        · cases h; exact ⟨rfl, rfl, rfl⟩

/-! ## the operations -/

theorem Inv2.stack_length {nS : Nat} {s : State} {σ : SState} (h : Inv2 nS s σ) :
    σ.stack.length = s.stack.length := by
  rw [← RepStack.length_eq h.rep.2, abs_stack_length_eq]

theorem Inv2.len_ge {nS : Nat} {s : State} {σ : SState} (h : Inv2 nS s σ) : nS ≤ s.saves.length :=
  h.rep.1.len_ge

/-- a logged write anywhere in the vector, given what the new current vector represents -/
theorem inv2_save_gen {nS : Nat} {s : State} {σ : SState} (h : Inv2 nS s σ) (slot v : Nat)
    (hslot : slot < s.saves.length) (sl' ak' : List Nat) (hr : Rep nS (s.saves.set slot v) sl' ak') :
    ∃ s', s.save slot v = some s' ∧ Inv2 nS s' ⟨sl', ak', σ.stack⟩ ∧ s'.saves = s.saves.set slot v ∧
      s'.stack.length = s.stack.length ∧ s'.maxStack = s.maxStack := by
  obtain ⟨s', h1, h2, h3, h4⟩ := save_spec s h.inv slot v hslot
  obtain ⟨f1, f2, _, f4⟩ := save_fields s s' slot v h1
  refine ⟨s', h1, ⟨h3, by rw [f1, h.sp], ?_⟩, f4, by rw [f2], h4⟩
  rw [h2]
  exact ⟨hr, h.rep.2⟩

theorem inv2_init (nS maxStack : Nat) :
    Inv2 nS (State.new nS maxStack) ⟨List.replicate nS UNSET, [], []⟩ := by
  refine ⟨⟨by simp [State.new, sumNsave], by simp [State.new]⟩, rfl, ?_⟩
  simp [abs, State.new, absStack, RepA, Rep, RepStack]

theorem repA_init (nS maxStack : Nat) :
    RepA nS (abs (State.new nS maxStack)) ⟨List.replicate nS UNSET, [], []⟩ :=
  (inv2_init nS maxStack).rep

theorem rep_get {nS : Nat} {s : State} {σ : SState} (h : Inv2 nS s σ) (slot : Nat) (hs : slot < nS) :
    s.get slot = σ.slots[slot]? :=
  h.rep.1.get slot hs

theorem rep_save {nS : Nat} {s : State} {σ : SState} (h : Inv2 nS s σ) (slot v : Nat) (hs : slot < nS) :
    ∃ s', s.save slot v = some s' ∧ Inv2 nS s' { σ with slots := σ.slots.set slot v } ∧
      s'.stack.length = s.stack.length ∧ s'.maxStack = s.maxStack := by
  obtain ⟨s', h1, h2, _, h4, h5⟩ := inv2_save_gen h slot v (by have := h.len_ge; omega) _ _
    (h.rep.1.set_low slot v hs)
  exact ⟨s', h1, h2, h4, h5⟩

theorem rep_push {nS : Nat} {s s' : State} {σ : SState} (h : Inv2 nS s σ) (pc ix : Nat)
    (hp : s.push pc ix = .ok s') :
    Inv2 nS s' { σ with stack := ⟨pc, ix, σ.slots, σ.astk⟩ :: σ.stack } ∧
      s'.stack.length = s.stack.length + 1 ∧ s'.maxStack = s.maxStack ∧ s.stack.length < s.maxStack := by
  have h1 := abs_push s s' pc ix hp
  have h2 := inv_push s s' pc ix h.inv hp
  unfold State.push at hp
  split at hp
  · rename_i hlt
    cases hp
    refine ⟨⟨h2, h.sp, ?_⟩, by simp, rfl, hlt⟩
    rw [h1]
    exact ⟨h.rep.1, rfl, rfl, h.rep.1, h.rep.2⟩
  · cases hp

/-- `push` succeeds exactly below the cap -/
theorem rep_push_ok {nS : Nat} {s : State} {σ : SState} (h : Inv2 nS s σ) (pc ix : Nat)
    (hlt : σ.stack.length < s.maxStack) :
    ∃ s', s.push pc ix = .ok s' ∧ Inv2 nS s' { σ with stack := ⟨pc, ix, σ.slots, σ.astk⟩ :: σ.stack } ∧
      s'.stack.length = s.stack.length + 1 ∧ s'.maxStack = s.maxStack := by
  rw [h.stack_length] at hlt
  have : s.push pc ix = .ok { s with stack := ⟨pc, ix, s.nsave⟩ :: s.stack, nsave := 0 } := by
    simp [State.push, hlt]
  obtain ⟨a, b, c, _⟩ := rep_push h pc ix this
  exact ⟨_, this, a, b, c⟩

theorem rep_push_overflow {nS : Nat} {s : State} {σ : SState} (h : Inv2 nS s σ) (pc ix : Nat) :
    s.push pc ix = .overflow ↔ s.maxStack ≤ σ.stack.length := by
  rw [h.stack_length]
  unfold State.push
  split
  · constructor
    · intro h; cases h
    · intro h; omega
  · constructor
    · intro _; omega
    · intro _; rfl

theorem rep_pop {nS : Nat} {s : State} {σ : SState} (h : Inv2 nS s σ) (b : SBranch) (rest : List SBranch)
    (hs : σ.stack = b :: rest) :
    ∃ s', s.pop = some (s', b.pc, b.ix) ∧ Inv2 nS s' ⟨b.slots, b.astk, rest⟩ ∧
      s.stack.length = s'.stack.length + 1 ∧ s'.maxStack = s.maxStack := by
  have hl := h.stack_length
  rw [hs] at hl
  obtain ⟨b0, rest0, hst⟩ : ∃ b0 rest0, s.stack = b0 :: rest0 := by
    cases hs0 : s.stack with
    | nil => rw [hs0] at hl; simp at hl
    | cons b0 r0 => exact ⟨b0, r0, rfl⟩
  obtain ⟨s', h1, h2, h3, h4⟩ := pop_spec s h.inv b0 rest0 hst
  obtain ⟨f1, _, f3⟩ := pop_fields s s' _ _ h1
  have hr := h.rep
  obtain ⟨_, hr2⟩ := hr
  rw [hs] at hr2
  cases hab : (abs s).stack with
  | nil => rw [hab] at hr2; exact hr2.elim
  | cons a as =>
    rw [hab] at hr2
    simp only [AState.pop, hab, Option.some.injEq, Prod.mk.injEq] at h2
    obtain ⟨e1, e2, e3⟩ := h2
    obtain ⟨r1, r2, r3, r4⟩ := hr2
    refine ⟨s', ?_, ⟨h3, by rw [f1, h.sp], ?_⟩, f3, h4⟩
    · rw [h1, ← e2, ← e3, r1, r2]
    · rw [← e1]; exact ⟨r3, r4⟩

theorem rep_backtrackCount {nS : Nat} {s : State} {σ : SState} (h : Inv2 nS s σ) :
    s.backtrackCount = σ.stack.length := h.stack_length.symm

theorem rep_cut {nS : Nat} {s : State} {σ : SState} (h : Inv2 nS s σ) (count : Nat)
    (hc : count ≤ σ.stack.length) :
    ∃ s', s.backtrackCut count = some s' ∧
      Inv2 nS s' { σ with stack := σ.stack.drop (σ.stack.length - count) } ∧
      s'.stack.length = count ∧ s'.maxStack = s.maxStack := by
  have hl := h.stack_length
  obtain ⟨s', h1, h2, h3, h4⟩ := cut_spec s h.inv count (by omega)
  obtain ⟨f1, _, _⟩ := cut_fields s s' count h1
  have hrep : RepA nS (abs s') { σ with stack := σ.stack.drop (σ.stack.length - count) } := by
    rw [h2]
    refine ⟨h.rep.1, ?_⟩
    simp only [AState.cut]
    rw [RepStack.length_eq h.rep.2]
    exact RepStack.drop _ h.rep.2
  refine ⟨s', h1, ⟨h3, by rw [f1, h.sp], hrep⟩, ?_, h4⟩
  have := RepStack.length_eq hrep.2
  rw [abs_stack_length_eq] at this
  rw [this]
  simp only [List.length_drop]
  omega

/-! ## `stack_push` / `stack_pop` -/

/-- `stack_push` after its first `if` -/
def stackPushCore (s : State) (val : Nat) : Option State :=
  match s.get s.explicitSp with
  | none => none
  | some sp =>
    let s' := if s.saves.length == sp then some (grow s val) else s.save sp val
    match s' with
    | none => none
    | some s' => s'.save s.explicitSp (sp + 1)

theorem stackPush_eq (s : State) (v : Nat) :
    s.stackPush v =
      stackPushCore (if s.saves.length == s.explicitSp then grow s (s.explicitSp + 1) else s) v := rfl

theorem stackPushCore_spec {nS : Nat} {s : State} {σ : SState} (h : Inv2 nS s σ) (hl : nS < s.saves.length)
    (v : Nat) :
    ∃ s', stackPushCore s v = some s' ∧ Inv2 nS s' { σ with astk := v :: σ.astk } ∧
      s'.stack.length = s.stack.length ∧ s'.maxStack = s.maxStack := by
  have hr : Rep nS s.saves σ.slots σ.astk := h.rep.1
  obtain ⟨_, _, h3⟩ := hr
  rcases h3 with ⟨a, _⟩ | ⟨_, b, c, _⟩
  · omega
  unfold stackPushCore
  simp only [State.get, h.sp, b]
  by_cases hq : s.saves.length = nS + 1 + σ.astk.length
  · -- growth by `v`
    have h2 := inv2_grow h v (fun e => absurd e (Nat.ne_of_gt hl))
    have hv : (grow s v).saves[nS + 1 + σ.astk.length]? = some v := by
      simp only [grow]
      rw [List.getElem?_append_right (by omega)]
      simp [hq]
    have hr2 : Rep nS (grow s v).saves σ.slots σ.astk := h2.rep.1
    obtain ⟨s', e1, e2, _, e4, e5⟩ := inv2_save_gen h2 nS (nS + 1 + σ.astk.length + 1)
      (by simp only [grow, List.length_append]; omega) σ.slots (v :: σ.astk) (hr2.commit_push v hv)
    refine ⟨s', ?_, e2, e4, e5⟩
    simp only [hq, beq_self_eq_true, ↓reduceIte]
    exact e1
  · -- logged overwrite of a cell left over from an earlier push
    have hlt : nS + 1 + σ.astk.length < s.saves.length := by omega
    obtain ⟨s1, e1, e2, e3, e4, e5⟩ := inv2_save_gen h (nS + 1 + σ.astk.length) v hlt σ.slots σ.astk
      (h.rep.1.set_above _ v (Nat.le_refl _))
    have hv : s1.saves[nS + 1 + σ.astk.length]? = some v := by
      rw [e3, List.getElem?_set_self hlt]
    have hr2 : Rep nS s1.saves σ.slots σ.astk := e2.rep.1
    obtain ⟨s', g1, g2, _, g4, g5⟩ := inv2_save_gen e2 nS (nS + 1 + σ.astk.length + 1)
      (by rw [e3]; simp only [List.length_set]; omega) σ.slots (v :: σ.astk) (hr2.commit_push v hv)
    refine ⟨s', ?_, g2, by rw [g4, e4], by rw [g5, e5]⟩
    have : (s.saves.length == nS + 1 + σ.astk.length) = false := by simp [hq]
    simp only [this, Bool.false_eq_true, ↓reduceIte, e1]
    exact g1

/-- `BeginAtomic`'s `stack_push`: never panics, pushes on the auxiliary stack -/
theorem rep_stackPush {nS : Nat} {s : State} {σ : SState} (h : Inv2 nS s σ) (v : Nat) :
    ∃ s', s.stackPush v = some s' ∧ Inv2 nS s' { σ with astk := v :: σ.astk } ∧
      s'.stack.length = s.stack.length ∧ s'.maxStack = s.maxStack := by
  rw [stackPush_eq, h.sp]
  by_cases hq : s.saves.length = nS
  · simp only [hq, beq_self_eq_true, ↓reduceIte]
    have h2 := inv2_grow h (nS + 1) (fun _ => rfl)
    exact stackPushCore_spec h2 (by simp only [grow, List.length_append]; simp; omega) v
  · have : (s.saves.length == nS) = false := by simp [hq]
    simp only [this, Bool.false_eq_true, ↓reduceIte]
    exact stackPushCore_spec h (by have := h.len_ge; omega) v

/-- `EndAtomic`'s `stack_pop` on a non-empty auxiliary stack -/
theorem rep_stackPop {nS : Nat} {s : State} {σ : SState} (h : Inv2 nS s σ) (v : Nat) (rest : List Nat)
    (hs : σ.astk = v :: rest) :
    ∃ s', s.stackPop = some (s', v) ∧ Inv2 nS s' { σ with astk := rest } ∧
      s'.stack.length = s.stack.length ∧ s'.maxStack = s.maxStack := by
  have hr : Rep nS s.saves σ.slots σ.astk := h.rep.1
  rw [hs] at hr
  obtain ⟨p1, p2, p3, p4⟩ := hr.commit_pop
  obtain ⟨s', e1, e2, _, e4, e5⟩ := inv2_save_gen h nS (nS + 1 + rest.length) p3 σ.slots rest p4
  refine ⟨s', ?_, e2, e4, e5⟩
  unfold State.stackPop
  simp only [State.get, h.sp, p1, p2, e1, Option.map_some]

/-- `stack_pop` on an EMPTY auxiliary stack (the F8 territory). Two cases:
    * the pointer cell was never created (`saves.len() == explicit_sp`): `saves[explicit_sp]` is an
      index panic — `none`;
    * the pointer cell exists and holds `nS + 1`: no panic; `sp - 1 = nS`, so the pop reads the
      pointer cell itself, returns `nS + 1` as the "popped value", and writes `nS` into the pointer
      cell. The resulting vector represents no `(slots, astk)` at all (the pointer is below its base:
      the next `stack_push v` writes `v` into the pointer cell and then overwrites it with `nS + 1`,
      i.e. the pushed value is silently lost and the stack looks empty again). -/
theorem rep_stackPop_empty {nS : Nat} {s : State} {σ : SState} (h : Inv2 nS s σ) (hs : σ.astk = []) :
    (s.saves.length = nS ∧ s.stackPop = none) ∨
    (nS < s.saves.length ∧ ∃ s', s.stackPop = some (s', nS + 1) ∧ s'.saves = s.saves.set nS nS ∧ Inv s' ∧
      s'.explicitSp = nS ∧ s'.stack.length = s.stack.length ∧ s'.maxStack = s.maxStack ∧
      ∀ sl ak, ¬ Rep nS s'.saves sl ak) := by
  have hr : Rep nS s.saves σ.slots σ.astk := h.rep.1
  rw [hs] at hr
  rcases hr.empty with a | ⟨a, b⟩
  · left
    refine ⟨a, ?_⟩
    unfold State.stackPop
    simp only [State.get, h.sp]
    rw [List.getElem?_eq_none (by omega)]
  · right
    refine ⟨a, ?_⟩
    obtain ⟨s', e1, _, e3, e4⟩ := save_spec s h.inv nS nS a
    obtain ⟨f1, f2, _, f4⟩ := save_fields s s' nS nS e1
    refine ⟨s', ?_, f4, e3, by rw [f1, h.sp], by rw [f2], e4, ?_⟩
    · unfold State.stackPop
      simp only [State.get, h.sp, b, e1, Option.map_some]
    · intro sl ak hrep
      rw [f4] at hrep
      obtain ⟨_, _, h3⟩ := hrep
      rcases h3 with ⟨c, _⟩ | ⟨_, c, _, _⟩
      · simp only [List.length_set] at c; omega
      · rw [List.getElem?_set_self a] at c
        simp only [Option.some.injEq] at c
        omega

/-! ## `FailNegativeLookAround` -/

theorem rep_popUntil_gen {nS : Nat} (target : Nat) (pre : List SBranch) :
    ∀ (fuel : Nat) (s : State) (σ : SState) (b : SBranch) (rest : List SBranch),
      Inv2 nS s σ → σ.stack = pre ++ b :: rest → b.pc = target → (∀ x ∈ pre, x.pc ≠ target) →
      pre.length < fuel →
      ∃ s', popUntil target fuel s = some s' ∧ Inv2 nS s' ⟨b.slots, b.astk, rest⟩ ∧
        s'.stack.length = rest.length ∧ s'.maxStack = s.maxStack := by
  induction pre with
  | nil =>
    intro fuel s σ b rest h hs hb _ hf
    obtain ⟨f, rfl⟩ : ∃ f, fuel = f + 1 := ⟨fuel - 1, by omega⟩
    obtain ⟨s', e1, e2, _, e4⟩ := rep_pop h b rest (by simpa using hs)
    refine ⟨s', ?_, e2, e2.stack_length.symm, e4⟩
    simp [popUntil, e1, hb]
  | cons x pre ih =>
    intro fuel s σ b rest h hs hb hpre hf
    obtain ⟨f, rfl⟩ : ∃ f, fuel = f + 1 := ⟨fuel - 1, by omega⟩
    obtain ⟨s1, e1, e2, _, e4⟩ := rep_pop h x (pre ++ b :: rest) (by simpa using hs)
    have hx : x.pc ≠ target := hpre x (by simp)
    obtain ⟨s', g1, g2, g3, g4⟩ := ih f s1 _ b rest e2 rfl hb
      (fun y hy => hpre y (by simp [hy])) (by simp only [List.length_cons] at hf; omega)
    refine ⟨s', ?_, g2, g3, by rw [g4, e4]⟩
    simp [popUntil, e1, hx, g1]

/-- `FailNegativeLookAround`: pop down to (and including) the first entry whose pc is `target` -/
theorem rep_popUntil {nS : Nat} {s : State} {σ : SState} (h : Inv2 nS s σ) (target : Nat)
    (pre : List SBranch) (b : SBranch) (rest : List SBranch)
    (hs : pre ++ b :: rest = σ.stack) (hb : b.pc = target) (hpre : ∀ x ∈ pre, x.pc ≠ target) :
    ∃ s', popUntil target (s.stack.length + 1) s = some s' ∧ Inv2 nS s' ⟨b.slots, b.astk, rest⟩ ∧
      s'.stack.length = rest.length ∧ s'.maxStack = s.maxStack := by
  apply rep_popUntil_gen target pre _ s σ b rest h hs.symm hb hpre
  have := h.stack_length
  rw [← hs] at this
  simp only [List.length_append, List.length_cons] at this
  omega

/-- the decomposition `rep_popUntil` asks for exists as soon as some entry has the pc -/
theorem exists_first_pc (target : Nat) (l : List SBranch) (h : ∃ x ∈ l, x.pc = target) :
    ∃ pre b rest, pre ++ b :: rest = l ∧ b.pc = target ∧ ∀ x ∈ pre, x.pc ≠ target := by
  induction l with
  | nil => obtain ⟨x, hx, _⟩ := h; cases hx
  | cons y ys ih =>
    by_cases hy : y.pc = target
    · exact ⟨[], y, ys, rfl, hy, by simp⟩
    · obtain ⟨x, hx, hxt⟩ := h
      rcases List.mem_cons.mp hx with rfl | hx
      · exact absurd hxt hy
      · obtain ⟨pre, b, rest, e, hb, hp⟩ := ih ⟨x, hx, hxt⟩
        refine ⟨y :: pre, b, rest, by simp [e], hb, ?_⟩
        intro z hz
        rcases List.mem_cons.mp hz with rfl | hz
        · exact hy
        · exact hp z hz

/-- … and without such an entry `popUntil` runs off the stack (`self.stack.pop().unwrap()` panics) -/
theorem rep_popUntil_none {nS : Nat} (target : Nat) (l : List SBranch) :
    ∀ (fuel : Nat) (s : State) (σ : SState), Inv2 nS s σ → σ.stack = l → (∀ x ∈ l, x.pc ≠ target) →
      popUntil target fuel s = none := by
  induction l with
  | nil =>
    intro fuel s σ h hs _
    have hl := h.stack_length
    rw [hs] at hl
    have hst : s.stack = [] := List.eq_nil_of_length_eq_zero (by simpa using hl.symm)
    cases fuel with
    | zero => rfl
    | succ f =>
      have : s.pop = none := by
        unfold State.pop
        split
        · rfl
        · simp [hst]
      simp [popUntil, this]
  | cons x xs ih =>
    intro fuel s σ h hs hne
    cases fuel with
    | zero => rfl
    | succ f =>
      obtain ⟨s1, e1, e2, _, _⟩ := rep_pop h x xs hs
      have hx : x.pc ≠ target := hne x (by simp)
      simp only [popUntil, e1, beq_iff_eq, hx, ↓reduceIte]
      exact ih f s1 _ e2 rfl (fun y hy => hne y (by simp [hy]))

/-! ## a concrete non-trivial instance: the hypotheses of the lemmas are satisfiable

`exS` is the state reached from `State.new 2 10` by `push 5 1` and `stack_push 9` (with slot values
`7, 8` instead of `UNSET`): the pending alternative's copy is `[7, 8, 3, 9]` — it has the grown
length, its pointer cell reverts to `3`, and the `9` is garbage above its (empty) auxiliary stack. -/

def exS : State := ⟨[7, 8, 4, 9], [⟨5, 1, 0⟩], [(2, 3)], 1, 2, 10⟩
def exσ : SState := ⟨[7, 8], [9], [⟨5, 1, [7, 8], []⟩]⟩

theorem exInv2 : Inv2 2 exS exσ := by
  refine ⟨⟨by simp [exS, sumNsave], by simp [exS]⟩, rfl, ?_⟩
  simp [abs, absStack, RepA, Rep, RepStack, exS, exσ, undo]

example : exS.get 1 = some 8 := by rw [rep_get exInv2 1 (by decide)]; rfl
example : ∃ s', exS.save 0 5 = some s' ∧ Inv2 2 s' { exσ with slots := exσ.slots.set 0 5 } :=
  let ⟨s', a, b, _⟩ := rep_save exInv2 0 5 (by decide); ⟨s', a, b⟩
example : ∃ s', exS.push 6 2 = .ok s' ∧
    Inv2 2 s' { exσ with stack := ⟨6, 2, exσ.slots, exσ.astk⟩ :: exσ.stack } :=
  let ⟨s', a, b, _⟩ := rep_push_ok exInv2 6 2 (by decide); ⟨s', a, b⟩
example : ∃ s', exS.pop = some (s', 5, 1) ∧ Inv2 2 s' ⟨[7, 8], [], []⟩ :=
  let ⟨s', a, b, _⟩ := rep_pop exInv2 ⟨5, 1, [7, 8], []⟩ [] rfl; ⟨s', a, b⟩
example : ∃ s', exS.stackPush 1 = some s' ∧ Inv2 2 s' { exσ with astk := [1, 9] } :=
  let ⟨s', a, b, _⟩ := rep_stackPush exInv2 1; ⟨s', a, b⟩
example : ∃ s', exS.stackPop = some (s', 9) ∧ Inv2 2 s' { exσ with astk := [] } :=
  let ⟨s', a, b, _⟩ := rep_stackPop exInv2 9 [] rfl; ⟨s', a, b⟩
example : ∃ s', exS.backtrackCut 0 = some s' ∧ Inv2 2 s' { exσ with stack := [] } :=
  let ⟨s', a, b, _⟩ := rep_cut exInv2 0 (by decide); ⟨s', a, b⟩
example : ∃ s', popUntil 5 (exS.stack.length + 1) exS = some s' ∧ Inv2 2 s' ⟨[7, 8], [], []⟩ :=
  let ⟨s', a, b, _⟩ := rep_popUntil exInv2 5 [] ⟨5, 1, [7, 8], []⟩ [] rfl rfl (by simp); ⟨s', a, b⟩
/-- both cases of `rep_stackPop_empty` occur on reachable states -/
example : (State.new 2 10).stackPop = none := by decide
example : ((((State.new 2 10).stackPush 9).bind (fun s => s.stackPop)).bind
    (fun p => p.1.stackPop)).map (·.2) = some 3 := by decide

end Fancy
