import FancyModel.Lemmas.VMBytesInv
import FancyModel.Lemmas.AVM2
/-!
# Tameness from the structured machine

`tameLoop` (Lemmas/VMBytesInv.lean) is the residual run-time monitor of the byte-level refinement: no
`Restore` of a value outside the text, the auxiliary-stack pointer above the ordinary slots at
`BeginAtomic`/`EndAtomic`, a `Delegate`'s group slots present. The structured whole-copy machine
`sstep` (Lemmas/AVM2Defs.lean) is partial exactly there: `Restore` demands `v ≤ len`, `EndAtomic` a
non-empty auxiliary stack, and `DelegOK` bounds the delegates' groups. Hence wherever `Big2` reaches
an answer, the interpreter's run — which follows it (`step_sim2`, as in `link2`) — is tame:
`big2_tame`, `big2_tame_initial`.
-/
namespace Fancy
open State

/-- what `tameLoop` does after a failed instruction -/
def tameAfterFail (c : Ctx) (τ : Nat → Bool) (nS : Nat) (prog : List Insn) (op : VMOpts) (fuel : Nat) (s' : State)
    (bt : Nat) : Bool :=
  if s'.stack.isEmpty then true else
  if bt + 1 > op.backtrackLimit then true else
  match s'.pop with
  | none => true
  | some (s'', pc', ix') => tameLoop c τ nS prog op fuel pc' ix' s'' (bt + 1)

theorem tameLoop_succ (c : Ctx) (τ : Nat → Bool) (nS : Nat) (prog : List Insn) (op : VMOpts)
    (fuel pc ix : Nat) (s : State) (bt : Nat) :
    tameLoop c τ nS prog op (fuel + 1) pc ix s bt =
      ((match prog[pc]? with | none => true | some insn => tameOK τ nS c insn s) &&
      match step c prog pc ix s with
      | .done _ => true
      | .cont pc' ix' s' => tameLoop c τ nS prog op fuel pc' ix' s' bt
      | .fail s' => tameAfterFail c τ nS prog op fuel s' bt) := by
  simp only [tameLoop, tameAfterFail]
  cases step c prog pc ix s <;> rfl

/-- the pointer cell of the auxiliary stack, read off the representation -/
theorem rep_pointer {nS : Nat} {flat sl ak : List Nat} (h : Rep nS flat sl ak) (hne : flat.length ≠ nS) :
    flat[nS]? = some (nS + 1 + ak.length) := by
  obtain ⟨_, _, h3 | h3⟩ := h
  · exact absurd h3.1 hne
  · exact h3.2.1

theorem sstep_some_insn {c : Ctx} {prog : List Insn} {nS pc ix : Nat} {slots astk : List Nat} {stack : List SBranch}
    {cfg' : SCfg} (hs : sstep c prog nS pc ix slots astk stack = some cfg') : ∃ insn, prog[pc]? = some insn := by
  cases hp : prog[pc]? with
  | none => simp only [sstep, hp, reduceCtorEq] at hs
  | some insn => exact ⟨insn, rfl⟩

theorem step_end_done (c : Ctx) (prog : List Insn) (pc ix : Nat) (s : State) (h : prog[pc]? = some .end_) :
    ∃ out, step c prog pc ix s = .done out := by
  unfold step
  simp only [h]
  split <;> exact ⟨_, rfl⟩

/-- **where the structured machine is defined, the residual facts hold** of the state representing
    its configuration -/
theorem tameOK_of_sstep (c : Ctx) (τ : Nat → Bool) (prog : List Insn) (nS pc ix : Nat) (s : State) (σ : SState)
    (h : Inv2 nS s σ) (hd : DelegOK c prog nS) (cfg' : SCfg)
    (hs : sstep c prog nS pc ix σ.slots σ.astk σ.stack = some cfg') (insn : Insn) (hpc : prog[pc]? = some insn) :
    tameOK τ nS c insn s = true := by
  have hrep : Rep nS s.saves σ.slots σ.astk := h.rep.1
  cases insn with
  | restore slot =>
    simp only [tameOK]
    by_cases hlt : slot < nS
    · rw [rep_get h slot hlt]
      cases hv : σ.slots[slot]? with
      | none => rfl
      | some v =>
        refine decide_eq_true (Decidable.byContradiction fun hle => ?_)
        simp only [sstep, hpc, hlt, if_true, hv, hle, if_false, reduceCtorEq] at hs
    · simp only [sstep, hpc, hlt, if_false, reduceCtorEq] at hs
  | beginAtomic =>
    simp only [tameOK, Bool.and_eq_true, decide_eq_true_eq]
    refine ⟨h.sp, ?_⟩
    rw [h.sp]
    by_cases hl : s.saves.length = nS
    · simp [hl, optAll]
    · simp only [hl, if_false]
      have := rep_pointer hrep hl
      simp only [State.get, this, optAll, decide_eq_true_eq]
      omega
  | endAtomic =>
    simp only [tameOK, Bool.and_eq_true, decide_eq_true_eq]
    refine ⟨h.sp, ?_⟩
    rw [h.sp]
    cases hak : σ.astk with
    | nil => simp only [sstep, hpc, hak, reduceCtorEq] at hs
    | cons count rest =>
      have hl : s.saves.length ≠ nS := by
        intro hl
        obtain ⟨_, _, h3 | h3⟩ := hrep
        · rw [hak] at h3; cases h3.2
        · omega
      have := rep_pointer hrep hl
      simp only [State.get, this, optAll, decide_eq_true_eq]
      omega
  | delegate es sg eg =>
    simp only [tameOK, decide_eq_true_eq]
    have := (hd pc es sg eg hpc).1
    have := h.len_ge
    omega
  | _ => rfl

/-- what "the run is tame" means for each kind of configuration -/
def FollowsT (c : Ctx) (τ : Nat → Bool) (prog : List Insn) (nS : Nat) (op : VMOpts) : SCfg → Prop
  | .run pc ix slots astk stack =>
    ∀ (s : State) (σ : SState), Inv2 nS s σ → σ = ⟨slots, astk, stack⟩ → ∀ (fuel bt : Nat),
      tameLoop c τ nS prog op fuel pc ix s bt = true
  | .fail stack =>
    ∀ (s : State) (σ : SState), Inv2 nS s σ → σ.stack = stack → ∀ (fuel bt : Nat),
      tameAfterFail c τ nS prog op fuel s bt = true

/-- **the interpreter's run is tame wherever the structured machine reaches an answer** -/
theorem big2_tame (c : Ctx) (τ : Nat → Bool) (prog : List Insn) (nS : Nat) (op : VMOpts) (hd : DelegOK c prog nS)
    (cfg : SCfg) (a : Ans) (h : Big2 c prog nS cfg a) : FollowsT c τ prog nS op cfg := by
  induction h with
  | done pc ix slots astk stack k hend hk hkn hlen =>
    intro s σ hi hσ fuel bt
    cases fuel with
    | zero => rfl
    | succ fuel =>
      rw [tameLoop_succ]
      simp only [hend, tameOK, Bool.true_and]
      obtain ⟨out, ho⟩ := step_end_done c prog pc ix s hend
      rw [ho]
  | step pc ix slots astk stack cfg' a hstep hbig ih =>
    intro s σ hi hσ fuel bt
    cases fuel with
    | zero => rfl
    | succ fuel =>
      rw [tameLoop_succ]
      subst hσ
      obtain ⟨insn, hpc⟩ := sstep_some_insn hstep
      have ht := tameOK_of_sstep c τ prog nS pc ix s _ hi hd cfg' hstep insn hpc
      simp only [hpc, ht, Bool.true_and]
      have hrel := step_sim2 c prog nS pc ix s _ hi hd cfg' hstep
      generalize hst : step c prog pc ix s = sr at hrel
      cases hrel with
      | cont pc' ix' s' σ' hi' => exact ih s' σ' hi' rfl fuel bt
      | fail s' σ' hi' => exact ih s' σ' hi' rfl fuel bt
      | overflow _ => rfl
  | failEmpty =>
    intro s σ hi hσ fuel bt
    unfold tameAfterFail
    have hl := hi.stack_length
    rw [hσ] at hl
    have : s.stack = [] := List.eq_nil_of_length_eq_zero (by simpa using hl.symm)
    simp [this]
  | failPop b rest a hbig ih =>
    intro s σ hi hσ fuel bt
    unfold tameAfterFail
    obtain ⟨s'', h1, h2, _, _⟩ := rep_pop hi b rest hσ
    split
    · rfl
    · split
      · rfl
      · simp only [h1]
        exact ih s'' _ h2 rfl fuel (bt + 1)

theorem big2_tame_initial (c : Ctx) (τ : Nat → Bool) (p : Prog) (op : VMOpts) (hd : DelegOK c p.body p.nSaves) (a : Ans)
    (h : Big2 c p.body p.nSaves (.run 0 c.pos (List.replicate p.nSaves UNSET) [] []) a) (fuel : Nat) :
    tameLoop c τ p.nSaves p.body op fuel 0 c.pos (State.new p.nSaves op.maxStack) 0 = true :=
  big2_tame c τ p.body p.nSaves op hd _ a h _ _ (inv2_init p.nSaves op.maxStack) rfl fuel 0

end Fancy
