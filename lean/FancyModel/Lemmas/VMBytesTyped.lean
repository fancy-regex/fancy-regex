import FancyModel.Lemmas.VMBytesRefine
import FancyModel.Lemmas.ProgDelegAll
/-!
# Compiled programs are well typed (slot typing of `Model/VMBytesCheck.lean`)

`tauOf prog nG` is the computable slot typing of a compiled program: slot `i` is a POSITION slot iff
it is a capture slot (`i < 2 * nG`) or some `Save i` / `Restore i` / `RepeatEpsilon* { check := i }`
occurs in the program; everything else (repetition counters, the auxiliary stack) is a number slot.

`CodeOK G lo hi code` is the invariant of the compiler (`visit_codeOK` and its companions, by induction
over `visit` as in `Lemmas/ProgDelegAll.lean`): in the code of an expression whose slot indices are
below `2 * G` (`slotsBelow`), compiled with the auxiliary slots `[lo, hi)`,
* every slot used as a position is a capture slot or an auxiliary slot of the range,
* every repetition counter is an auxiliary slot of the range,
* no counter is used as a position anywhere in the code (the compiler allocates every auxiliary slot
  afresh from `nsv`),
* every `Backref` reads capture slots.

`build_wellTyped`: for every program `build` returns, `wellTyped (tauOf prog.body b.nGroups) prog.body`,
with the side facts the refinement needs (`tauOf_high`: nothing at or above `prog.nSaves` is a
position slot; `tauOf_group`: the capture slots are).
-/
namespace Fancy

def Insn.cntSlots : Insn → List Nat
  | .repeatGr _ _ _ r | .repeatNg _ _ _ r | .repeatEpsGr _ _ r _ | .repeatEpsNg _ _ r _ => [r]
  | _ => []

def Insn.brefOK (G : Nat) : Insn → Bool
  | .backref s => decide (s + 1 < 2 * G)
  | _ => true

structure CodeOK (G lo hi : Nat) (code : Code) : Prop where
  pos : ∀ i ∈ code, ∀ p ∈ i.posSlots, p < 2 * G ∨ (lo ≤ p ∧ p < hi)
  cnt : ∀ i ∈ code, ∀ r ∈ i.cntSlots, lo ≤ r ∧ r < hi
  disj : ∀ i ∈ code, ∀ r ∈ i.cntSlots, ∀ j ∈ code, r ∉ j.posSlots
  bref : ∀ i ∈ code, i.brefOK G = true

theorem CodeOK.mono {G lo hi lo' hi' : Nat} {code : Code} (h : CodeOK G lo hi code) (h1 : lo' ≤ lo) (h2 : hi ≤ hi') :
    CodeOK G lo' hi' code :=
  ⟨fun i hi p hp => by rcases h.pos i hi p hp with h | h <;> omega,
   fun i hi r hr => by have := h.cnt i hi r hr; omega, h.disj, h.bref⟩

/-- the code `c` is made of the instructions of `a` (auxiliary slots `[lo, mid)`) and of `b`
    (auxiliary slots `[mid, hi)`) -/
theorem CodeOK.of_parts {G lo mid hi : Nat} {a b c : Code} (ha : CodeOK G lo mid a) (hb : CodeOK G mid hi b)
    (hG : 2 * G ≤ lo) (h1 : lo ≤ mid) (h2 : mid ≤ hi) (hsub : ∀ i ∈ c, i ∈ a ∨ i ∈ b) : CodeOK G lo hi c := by
  refine ⟨?_, ?_, ?_, ?_⟩
  · intro i hi p hp
    rcases hsub i hi with h | h
    · rcases ha.pos i h p hp with h | h <;> omega
    · rcases hb.pos i h p hp with h | h <;> omega
  · intro i hi r hr
    rcases hsub i hi with h | h
    · have := ha.cnt i h r hr; omega
    · have := hb.cnt i h r hr; omega
  · intro i hi r hr j hj hmem
    rcases hsub i hi with h | h <;> rcases hsub j hj with h' | h'
    · exact ha.disj i h r hr j h' hmem
    · have := ha.cnt i h r hr
      rcases hb.pos j h' r hmem with h3 | h3 <;> omega
    · have := hb.cnt i h r hr
      rcases ha.pos j h' r hmem with h3 | h3 <;> omega
    · exact hb.disj i h r hr j h' hmem
  · intro i hi
    rcases hsub i hi with h | h
    · exact ha.bref i h
    · exact hb.bref i h

theorem CodeOK.nil (G lo : Nat) : CodeOK G lo lo [] := by
  refine ⟨?_, ?_, ?_, ?_⟩ <;> simp

theorem CodeOK.append {G lo mid hi : Nat} {a b : Code} (ha : CodeOK G lo mid a) (hb : CodeOK G mid hi b)
    (hG : 2 * G ≤ lo) (h1 : lo ≤ mid) (h2 : mid ≤ hi) : CodeOK G lo hi (a ++ b) :=
  CodeOK.of_parts ha hb hG h1 h2 (fun i hi => by simpa [List.mem_append] using hi)

/-- the instruction touches no slot -/
def Insn.plain : Insn → Bool
  | .save _ | .restore _ | .repeatGr .. | .repeatNg .. | .repeatEpsGr .. | .repeatEpsNg .. | .backref _ => false
  | _ => true

theorem Insn.plain_spec (G : Nat) {i : Insn} (h : i.plain = true) :
    i.posSlots = [] ∧ i.cntSlots = [] ∧ i.brefOK G = true := by
  cases i <;> first | exact ⟨rfl, rfl, rfl⟩ | cases h

/-- instructions that touch no slot may be added anywhere -/
theorem CodeOK.of_plain {G lo hi : Nat} {b c : Code} (hb : CodeOK G lo hi b)
    (h : ∀ i ∈ c, i.plain = true ∨ i ∈ b) : CodeOK G lo hi c := by
  refine ⟨fun i hi p hp => ?_, fun i hi r hr => ?_, fun i hi r hr j hj hm => ?_, fun i hi => ?_⟩
  · rcases h i hi with hp' | hi'
    · rw [(Insn.plain_spec G hp').1] at hp; cases hp
    · exact hb.pos i hi' p hp
  · rcases h i hi with hp' | hi'
    · rw [(Insn.plain_spec G hp').2.1] at hr; cases hr
    · exact hb.cnt i hi' r hr
  · rcases h i hi with hp' | hi'
    · rw [(Insn.plain_spec G hp').2.1] at hr; cases hr
    · rcases h j hj with hp' | hj'
      · rw [(Insn.plain_spec G hp').1] at hm; cases hm
      · exact hb.disj i hi' r hr j hj' hm
  · rcases h i hi with hp' | hi'
    · exact (Insn.plain_spec G hp').2.2
    · exact hb.bref i hi'

theorem CodeOK.plain_append {G lo hi : Nat} {a b : Code} (ha : a.all Insn.plain = true) (hb : CodeOK G lo hi b) :
    CodeOK G lo hi (a ++ b) :=
  hb.of_plain fun i hi => (List.mem_append.mp hi).imp_left (List.all_eq_true.mp ha i)

theorem CodeOK.append_plain {G lo hi : Nat} {a b : Code} (hb : CodeOK G lo hi b) (ha : a.all Insn.plain = true) :
    CodeOK G lo hi (b ++ a) :=
  hb.of_plain fun i hi => (List.mem_append.mp hi).symm.imp_left (List.all_eq_true.mp ha i)

theorem CodeOK.plain {G lo : Nat} {a : Code} (ha : a.all Insn.plain = true) : CodeOK G lo lo a :=
  (CodeOK.nil G lo).of_plain fun i hi => .inl (List.all_eq_true.mp ha i hi)

/-- one instruction: its position slots are capture slots or in the range, its counter is in the range and not
    one of its own position slots -/
theorem CodeOK.single {G lo hi : Nat} {i : Insn} (hp : ∀ p ∈ i.posSlots, p < 2 * G ∨ (lo ≤ p ∧ p < hi))
    (hc : ∀ r ∈ i.cntSlots, (lo ≤ r ∧ r < hi) ∧ r ∉ i.posSlots) (hb : i.brefOK G = true) : CodeOK G lo hi [i] := by
  refine ⟨fun j hj => ?_, fun j hj r hr => ?_, fun j hj r hr k hk => ?_, fun j hj => ?_⟩
  · cases List.mem_singleton.mp hj; exact hp
  · cases List.mem_singleton.mp hj; exact (hc r hr).1
  · cases List.mem_singleton.mp hj; cases List.mem_singleton.mp hk; exact (hc r hr).2
  · cases List.mem_singleton.mp hj; exact hb

theorem codeOK_save {G lo s : Nat} (h : s < 2 * G) : CodeOK G lo lo [.save s] :=
  .single (fun p hp => by cases List.mem_singleton.mp hp; exact .inl h) (fun _ hr => nomatch hr) rfl

theorem codeOK_compileDelegate (G lo : Nat) (e : Expr) (gix : Nat) : CodeOK G lo lo (compileDelegate e gix) := by
  unfold compileDelegate
  split <;> exact CodeOK.plain rfl

theorem codeOK_compileDelegates (G lo : Nat) (es : List Expr) (gix : Nat) : CodeOK G lo lo (compileDelegates es gix) := by
  unfold compileDelegates
  split
  · exact CodeOK.nil G lo
  · split <;> exact CodeOK.plain rfl

/-- the position is saved in the slot `s` just below the slots of the body -/
theorem codeOK_wrapPosLook {G s hi : Nat} {body : Code} (atomic behind : Bool) (k : Nat)
    (h : CodeOK G (s + 1) hi body) (hG : 2 * G ≤ s) (hle : s + 1 ≤ hi) :
    CodeOK G s hi (wrapPosLook atomic behind s k body) := by
  have hsave : CodeOK G s (s + 1) [.save s, .restore s] := by
    refine ⟨?_, ?_, ?_, ?_⟩ <;> simp [Insn.posSlots, Insn.cntSlots, Insn.brefOK]
  have hcore : CodeOK G s hi
      ([Insn.save s] ++ (if behind then [Insn.goBack k] else []) ++ body ++ [Insn.restore s]) :=
    CodeOK.of_parts hsave (h.plain_append (a := if behind then [Insn.goBack k] else []) (by cases behind <;> rfl))
      hG (by omega) hle (by
        intro i hi
        simp only [List.mem_append, List.mem_cons, List.not_mem_nil, or_false] at hi ⊢
        rcases hi with ((hi | hi) | hi) | hi
        · exact .inl (.inl hi)
        · exact .inr (.inl hi)
        · exact .inr (.inr hi)
        · exact .inl (.inr hi))
  unfold wrapPosLook
  cases atomic
  · exact hcore
  · exact (hcore.plain_append (a := [.beginAtomic]) rfl).append_plain rfl

theorem codeOK_wrapNegLook {G lo hi : Nat} {body : Code} (behind : Bool) (pc k : Nat) (h : CodeOK G lo hi body) :
    CodeOK G lo hi (wrapNegLook behind pc k body) :=
  ((h.plain_append (a := if behind then [Insn.goBack k] else []) (by cases behind <;> rfl)).plain_append
    (a := [Insn.split _ _]) rfl).append_plain rfl

theorem slotsBelowAll_cons' {n : Nat} {e : Expr} {es : List Expr} (h : slotsBelowAll n (e :: es) = true) :
    slotsBelow n e = true ∧ slotsBelowAll n es = true := by
  simpa [slotsBelowAll] using h

/-! ## Induction over the compiler -/

/-- the invariant for the code of one expression: it uses the auxiliary slots `[nsv, nsv')` -/
def CodeOKP (G : Nat) (br : Nat → Bool) (e : Expr) : Prop :=
  ∀ (hard : Bool) (pc nsv gix : Nat) (code : Code) (nsv' : Nat),
    slotsBelow (2 * G) e = true → 2 * G ≤ nsv → visit br e hard pc nsv gix = .ok (code, nsv') →
    CodeOK G nsv nsv' code ∧ nsv ≤ nsv'

section Arms
variable {G : Nat} {br : Nat → Bool}

theorem codeOK_leaf {nsv nsv' : Nat} {c code : Code} (hc : CodeOK G nsv nsv c)
    (hv : (.ok (c, nsv) : CRes) = .ok (code, nsv')) : CodeOK G nsv nsv' code ∧ nsv ≤ nsv' := by
  cases hv; exact ⟨hc, Nat.le_refl _⟩

/-- whatever is handed over to the automata engine is one `Delegate`, so every arm needs to look only at
    the case where the node is compiled for the VM -/
theorem codeOKP_of_hard {e : Expr}
    (h : ∀ (hard : Bool) (pc nsv gix : Nat) (code : Code) (nsv' : Nat), ¬(!hard && !isHard br e) = true →
      slotsBelow (2 * G) e = true → 2 * G ≤ nsv → visit br e hard pc nsv gix = .ok (code, nsv') →
      CodeOK G nsv nsv' code ∧ nsv ≤ nsv') : CodeOKP G br e := by
  intro hard pc nsv gix code nsv' hn hG hv
  by_cases hdel : (!hard && !isHard br e) = true
  · rw [visit_easy_eq br _ hard pc nsv gix hdel] at hv
    exact codeOK_leaf (codeOK_compileDelegate G nsv _ gix) hv
  · exact h hard pc nsv gix code nsv' hdel hn hG hv

theorem codeOK_leafCode {lo : Nat} {e : Expr} (hn : slotsBelow (2 * G) e = true) : CodeOK G lo lo (leafCode e) := by
  cases e with
  | any nl => cases nl <;> exact CodeOK.plain rfl
  | backref g =>
    simp only [slotsBelow, decide_eq_true_eq] at hn
    exact .single (fun _ hp => nomatch hp) (fun _ hr => nomatch hr) (decide_eq_true (by omega))
  | keepOut =>
    simp only [slotsBelow, decide_eq_true_eq] at hn
    exact codeOK_save hn
  | _ => exact CodeOK.plain rfl

theorem codeOKP_leaf {e : Expr} (hl : e.isLeaf = true) : CodeOKP G br e := by
  intro hard pc nsv gix code nsv' hn hG hv
  obtain ⟨rfl, ⟨rfl, -⟩ | rfl⟩ := visit_leaf_ok hl hv
  · exact ⟨codeOK_compileDelegate G _ e gix, Nat.le_refl _⟩
  · exact ⟨codeOK_leafCode hn, Nat.le_refl _⟩

theorem codeOKP_group {g : Nat} {c : Expr} (ih : CodeOKP G br c) : CodeOKP G br (.group g c) :=
  codeOKP_of_hard fun hard pc nsv gix code nsv' hdel hn hG hv => by
    obtain ⟨body, hb, rfl⟩ := visit_group_ok hdel hv
    simp only [slotsBelow, Bool.and_eq_true, decide_eq_true_eq] at hn
    obtain ⟨ihb, hle⟩ := ih _ _ _ _ _ _ hn.2 hG hb
    exact ⟨CodeOK.append (CodeOK.append (codeOK_save (by omega)) ihb hG (Nat.le_refl _) hle) (codeOK_save (by omega))
      hG hle (Nat.le_refl _), hle⟩

theorem codeOKP_atomic {c : Expr} (ih : CodeOKP G br c) : CodeOKP G br (.atomic c) := by
  intro hard pc nsv gix code nsv' hn hG hv
  obtain ⟨body, hb, rfl⟩ := visit_atomic_ok hv
  obtain ⟨ihb, hle⟩ := ih _ _ _ _ _ _ (by simpa [slotsBelow] using hn) hG hb
  exact ⟨(ihb.plain_append (a := [.beginAtomic]) rfl).append_plain rfl, hle⟩

theorem codeOKP_cond {c y n : Expr} (ihc : CodeOKP G br c) (ihy : CodeOKP G br y) (ihn : CodeOKP G br n) :
    CodeOKP G br (.cond c y n) := by
  intro hard pc nsv gix code nsv' hn hG hv
  simp only [slotsBelow, Bool.and_eq_true] at hn
  obtain ⟨⟨hnc, hny⟩, hnn⟩ := hn
  obtain ⟨cc, nsv1, yc, nsv2, nc, hb1, hb2, hb3, rfl⟩ := visit_cond_ok hv
  obtain ⟨ih1, hle1⟩ := ihc _ _ _ _ _ _ hnc hG hb1
  obtain ⟨ih2, hle2⟩ := ihy _ _ _ _ _ _ hny (by omega) hb2
  obtain ⟨ih3, hle3⟩ := ihn _ _ _ _ _ _ hnn (by omega) hb3
  refine ⟨CodeOK.append (CodeOK.append_plain (CodeOK.append (CodeOK.append_plain (CodeOK.plain_append ?_ ih1) ?_)
    ih2 hG hle1 hle2) ?_) ih3 hG (by omega) hle3, by omega⟩ <;> rfl

/-- the five layouts of a repetition: `Split`/`Jmp` touch no slot, `RepeatEpsilon*` and `Repeat*` take their
    slots just below those of the body -/
theorem codeOKP_repeat {c : Expr} {lo : Nat} {hi : Option Nat} {greedy : Bool} (ih : CodeOKP G br c) :
    CodeOKP G br (.repeat c lo hi greedy) :=
  codeOKP_of_hard fun hard pc nsv gix code nsv' hdel hn hG hv => by
    have hne : slotsBelow (2 * G) c = true := by simpa [slotsBelow] using hn
    by_cases hopt : (lo == 0 && hi == some 1) = true
    · obtain ⟨body, hb, rfl⟩ := visit_opt_ok hdel hopt hv
      obtain ⟨ihb, hle⟩ := ih _ _ _ _ _ _ hne hG hb
      exact ⟨ihb.plain_append (a := [_]) (by cases greedy <;> rfl), hle⟩
    by_cases heps : (hi == none && minSize c == 0) = true
    · obtain ⟨body, hb, rfl⟩ := visit_repeatEps_ok hdel hopt heps hv
      obtain ⟨ihb, hle⟩ := ih _ _ _ _ _ _ hne (by omega) hb
      have hrep : CodeOK G nsv (nsv + 2)
          [if greedy then Insn.repeatEpsGr lo (pc + 2 + body.length + 1) nsv (nsv + 1)
           else Insn.repeatEpsNg lo (pc + 2 + body.length + 1) nsv (nsv + 1)] := by
        cases greedy <;> exact .single (fun p hp => by cases List.mem_singleton.mp hp; omega)
          (fun r hr => by cases List.mem_singleton.mp hr; exact ⟨by omega, fun h => by cases List.mem_singleton.mp h⟩) rfl
      exact ⟨((CodeOK.append hrep ihb hG (by omega) hle).plain_append (a := [.save0 nsv]) rfl).append_plain rfl,
        by omega⟩
    by_cases hstar : (lo == 0 && hi == none) = true
    · obtain ⟨body, hb, rfl⟩ := visit_star_ok hdel hopt heps hstar hv
      obtain ⟨ihb, hle⟩ := ih _ _ _ _ _ _ hne hG hb
      exact ⟨(ihb.plain_append (a := [_]) (by cases greedy <;> rfl)).append_plain rfl, hle⟩
    by_cases hplus : (lo == 1 && hi == none) = true
    · obtain ⟨body, hb, rfl⟩ := visit_plus_ok hdel hopt heps hstar hplus hv
      obtain ⟨ihb, hle⟩ := ih _ _ _ _ _ _ hne hG hb
      exact ⟨ihb.append_plain (a := [_]) (by cases greedy <;> rfl), hle⟩
    · obtain ⟨body, hb, rfl⟩ := visit_counted_ok hdel hopt heps hstar hplus hv
      obtain ⟨ihb, hle⟩ := ih _ _ _ _ _ _ hne (by omega) hb
      have hrep : CodeOK G nsv (nsv + 1)
          [if greedy then Insn.repeatGr lo hi (pc + 2 + body.length + 1) nsv
           else Insn.repeatNg lo hi (pc + 2 + body.length + 1) nsv] := by
        cases greedy <;> exact .single (fun _ hp => nomatch hp)
          (fun r hr => by cases List.mem_singleton.mp hr; exact ⟨by omega, fun h => nomatch h⟩) rfl
      exact ⟨((CodeOK.append hrep ihb hG (by omega) hle).plain_append (a := [.save0 nsv]) rfl).append_plain rfl,
        by omega⟩

/-! the companions over lists, given the invariant for the members -/

theorem codeOK_visitMiddle : ∀ (es : List Expr), (∀ e ∈ es, CodeOKP G br e) →
    ∀ (take pc nsv gix : Nat) (code : Code) (nsv' : Nat),
      slotsBelowAll (2 * G) es = true → 2 * G ≤ nsv → visitMiddle br es 0 take pc nsv gix = .ok (code, nsv') →
      CodeOK G nsv nsv' code ∧ nsv ≤ nsv'
  | [], _, take, pc, nsv, gix, code, nsv', _, _, hv => by
    simp only [visitMiddle] at hv; exact codeOK_leaf (CodeOK.nil G nsv) hv
  | e :: es, _, 0, pc, nsv, gix, code, nsv', _, _, hv => by
    simp only [visitMiddle] at hv; exact codeOK_leaf (CodeOK.nil G nsv) hv
  | e :: es, ih, take + 1, pc, nsv, gix, code, nsv', hn, hG, hv => by
    obtain ⟨c1, nsv1, c2, hb1, hb2, rfl⟩ := visitMiddle_cons_ok hv
    obtain ⟨hne, hns⟩ := slotsBelowAll_cons' hn
    obtain ⟨ih1, hle1⟩ := ih e (List.mem_cons_self ..) _ _ _ _ _ _ hne hG hb1
    obtain ⟨ih2, hle2⟩ := codeOK_visitMiddle es (fun x hx => ih x (List.mem_cons_of_mem _ hx)) _ _ _ _ _ _ hns
      (by omega) hb2
    exact ⟨CodeOK.append ih1 ih2 hG hle1 hle2, by omega⟩

theorem codeOK_visitAlt : ∀ (es : List Expr), (∀ e ∈ es, CodeOKP G br e) →
    ∀ (hard : Bool) (pc nsv gix : Nat) (f : Nat → Code) (endPc nsv' : Nat),
      slotsBelowAll (2 * G) es = true → 2 * G ≤ nsv → visitAlt br es hard pc nsv gix = .ok (f, endPc, nsv') →
      (∀ t, CodeOK G nsv nsv' (f t)) ∧ nsv ≤ nsv'
  | [], _, hard, pc, nsv, gix, f, endPc, nsv', _, _, hv => by
    simp only [visitAlt] at hv; cases hv
    exact ⟨fun _ => CodeOK.nil G nsv, Nat.le_refl _⟩
  | [e], ih, hard, pc, nsv, gix, f, endPc, nsv', hn, hG, hv => by
    obtain ⟨c, hb, rfl, rfl⟩ := visitAlt_single_ok hv
    obtain ⟨ih1, hle⟩ := ih e (List.mem_cons_self ..) _ _ _ _ _ _ (slotsBelowAll_cons' hn).1 hG hb
    exact ⟨fun _ => ih1, hle⟩
  | e :: e2 :: es, ih, hard, pc, nsv, gix, f, endPc, nsv', hn, hG, hv => by
    obtain ⟨c, nsv1, f2, hb1, hb2, rfl⟩ := visitAlt_cons_ok hv
    obtain ⟨hne, hns⟩ := slotsBelowAll_cons' hn
    obtain ⟨ih1, hle1⟩ := ih e (List.mem_cons_self ..) _ _ _ _ _ _ hne hG hb1
    obtain ⟨ih2, hle2⟩ := codeOK_visitAlt (e2 :: es) (fun x hx => ih x (List.mem_cons_of_mem _ hx)) _ _ _ _ _ _ _ hns
      (by omega) hb2
    exact ⟨fun t => CodeOK.append ((ih1.plain_append (a := [.split _ _]) rfl).append_plain (a := [.jmp t]) rfl)
      (ih2 t) hG hle1 hle2, by omega⟩

theorem codeOK_lookBehindAlts : ∀ (es : List Expr), (∀ e ∈ es, CodeOKP G br e) →
    ∀ (pc nsv gix : Nat) (f : Nat → Code) (endPc nsv' : Nat),
      slotsBelowAll (2 * G) es = true → 2 * G ≤ nsv → lookBehindAlts br es pc nsv gix = .ok (f, endPc, nsv') →
      (∀ t, CodeOK G nsv nsv' (f t)) ∧ nsv ≤ nsv'
  | [], _, pc, nsv, gix, f, endPc, nsv', _, _, hv => by
    simp only [lookBehindAlts] at hv; cases hv
    exact ⟨fun _ => CodeOK.nil G nsv, Nat.le_refl _⟩
  | [e], ih, pc, nsv, gix, f, endPc, nsv', hn, hG, hv => by
    obtain ⟨_, body, hb, rfl, rfl⟩ := lookBehindAlts_single_ok hv
    obtain ⟨ih1, hle⟩ := ih e (List.mem_cons_self ..) _ _ _ _ _ _ (slotsBelowAll_cons' hn).1 (by omega) hb
    exact ⟨fun _ => codeOK_wrapPosLook _ _ _ ih1 hG hle, by omega⟩
  | e :: e2 :: es, ih, pc, nsv, gix, f, endPc, nsv', hn, hG, hv => by
    obtain ⟨_, body, nsv1, f2, hb1, hb2, rfl⟩ := lookBehindAlts_cons_ok hv
    obtain ⟨hne, hns⟩ := slotsBelowAll_cons' hn
    obtain ⟨ih1, hle1⟩ := ih e (List.mem_cons_self ..) _ _ _ _ _ _ hne (by omega) hb1
    obtain ⟨ih2, hle2⟩ := codeOK_lookBehindAlts (e2 :: es) (fun x hx => ih x (List.mem_cons_of_mem _ hx)) _ _ _ _ _ _
      hns (by omega) hb2
    have hw := codeOK_wrapPosLook (isHard br e) true (minSize e) ih1 hG hle1
    exact ⟨fun t => CodeOK.append ((hw.plain_append (a := [.split _ _]) rfl).append_plain (a := [.jmp t]) rfl)
      (ih2 t) hG (by omega) hle2, by omega⟩

theorem codeOK_lookBehindNegAlts : ∀ (es : List Expr), (∀ e ∈ es, CodeOKP G br e) →
    ∀ (pc nsv gix : Nat) (code : Code) (nsv' : Nat),
      slotsBelowAll (2 * G) es = true → 2 * G ≤ nsv → lookBehindNegAlts br es pc nsv gix = .ok (code, nsv') →
      CodeOK G nsv nsv' code ∧ nsv ≤ nsv'
  | [], _, pc, nsv, gix, code, nsv', _, _, hv => by
    simp only [lookBehindNegAlts] at hv; exact codeOK_leaf (CodeOK.nil G nsv) hv
  | e :: es, ih, pc, nsv, gix, code, nsv', hn, hG, hv => by
    obtain ⟨_, body, nsv1, c2, hb1, hb2, rfl⟩ := lookBehindNegAlts_cons_ok hv
    obtain ⟨hne, hns⟩ := slotsBelowAll_cons' hn
    obtain ⟨ih1, hle1⟩ := ih e (List.mem_cons_self ..) _ _ _ _ _ _ hne hG hb1
    obtain ⟨ih2, hle2⟩ := codeOK_lookBehindNegAlts es (fun x hx => ih x (List.mem_cons_of_mem _ hx)) _ _ _ _ _ hns
      (by omega) hb2
    exact ⟨CodeOK.append (codeOK_wrapNegLook true pc (minSize e) ih1) ih2 hG hle1 hle2, by omega⟩

theorem codeOKP_concat {es : List Expr} (ih : ∀ e ∈ es, CodeOKP G br e) : CodeOKP G br (.concat es) :=
  codeOKP_of_hard fun hard pc nsv gix code nsv' hdel hn hG hv => by
    obtain ⟨mid, hb, rfl⟩ := visit_concat_ok hdel hv
    have hL : slotsBelowAll (2 * G) es = true := by simpa [slotsBelow] using hn
    obtain ⟨ihm, hle⟩ := codeOK_visitMiddle _ (fun e he => ih e (List.mem_of_mem_drop he)) _ _ _ _ _ _
      (slotsBelowAll_drop _ es _ hL) hG hb
    exact ⟨CodeOK.append (CodeOK.append (codeOK_compileDelegates G nsv _ gix) ihm hG (Nat.le_refl _) hle)
      (codeOK_compileDelegates G nsv' _ _) hG hle (Nat.le_refl _), hle⟩

theorem codeOKP_alt {es : List Expr} (ih : ∀ e ∈ es, CodeOKP G br e) : CodeOKP G br (.alt es) :=
  codeOKP_of_hard fun hard pc nsv gix code nsv' hdel hn hG hv => by
    obtain ⟨f, endPc, hb, rfl⟩ := visit_alt_ok hdel hv
    obtain ⟨ihf, hle⟩ := codeOK_visitAlt es ih _ _ _ _ _ _ _ (by simpa [slotsBelow] using hn) hG hb
    exact ⟨ihf endPc, hle⟩

/-- `ihl`: the invariant for the alternatives when the body is an alternation (a look-behind compiles them
    one by one unless they all have the same size) -/
theorem codeOKP_look {c : Expr} {la : Look} (ih : CodeOKP G br c)
    (ihl : ∀ es, c = .alt es → ∀ e ∈ es, CodeOKP G br e) : CodeOKP G br (.look c la) := by
  intro hard pc nsv gix code nsv' hn hG hv
  have hne : slotsBelow (2 * G) c = true := by simpa [slotsBelow] using hn
  have pos : ∀ {a b k body}, visit br c false (posLookBodyPc a b pc) (nsv + 1) gix = .ok (body, nsv') →
      CodeOK G nsv nsv' (wrapPosLook a b nsv k body) ∧ nsv ≤ nsv' := fun hb =>
    have ⟨ihb, hle⟩ := ih _ _ _ _ _ _ hne (by omega) hb
    ⟨codeOK_wrapPosLook _ _ _ ihb hG hle, by omega⟩
  have neg : ∀ {b k body}, visit br c false (negLookBodyPc b pc) nsv gix = .ok (body, nsv') →
      CodeOK G nsv nsv' (wrapNegLook b pc k body) ∧ nsv ≤ nsv' := fun hb =>
    have ⟨ihb, hle⟩ := ih _ _ _ _ _ _ hne hG hb
    ⟨codeOK_wrapNegLook _ _ _ ihb, hle⟩
  cases la with
  | ahead => obtain ⟨body, hb, rfl⟩ := visit_ahead_ok hv; exact pos hb
  | aheadNeg => obtain ⟨body, hb, rfl⟩ := visit_aheadNeg_ok hv; exact neg hb
  | behind =>
    cases hcs : constSize c
    · obtain ⟨es, f, endPc, rfl, hb, rfl⟩ := visit_behind_var_ok hcs hv
      obtain ⟨ihf, hle⟩ := codeOK_lookBehindAlts es (ihl es rfl) _ _ _ _ _ _ (by simpa [slotsBelow] using hne) hG hb
      exact ⟨((ihf endPc).plain_append (a := [.beginAtomic]) rfl).append_plain rfl, hle⟩
    · obtain ⟨body, hb, rfl⟩ := visit_behind_const_ok hcs hv
      exact pos hb
  | behindNeg =>
    cases hcs : constSize c
    · obtain ⟨es, rfl, hb⟩ := visit_behindNeg_var_ok hcs hv
      exact codeOK_lookBehindNegAlts es (ihl es rfl) _ _ _ _ _ (by simpa [slotsBelow] using hne) hG hb
    · obtain ⟨body, hb, rfl⟩ := visit_behindNeg_const_ok hcs hv
      exact neg hb

end Arms

theorem codeOKP_all (G : Nat) (br : Nat → Bool) (e : Expr) : CodeOKP G br e := by
  induction e using Expr.induct_look with
  | group g c ih => exact codeOKP_group ih
  | atomic c ih => exact codeOKP_atomic ih
  | cond c y n ihc ihy ihn => exact codeOKP_cond ihc ihy ihn
  | «repeat» c lo hi greedy ih => exact codeOKP_repeat ih
  | concat es ih => exact codeOKP_concat ih
  | alt es ih => exact codeOKP_alt ih
  | look c la ih ihl => exact codeOKP_look ih ihl
  | _ => exact codeOKP_leaf rfl

theorem visit_codeOK (G : Nat) (br : Nat → Bool) (e : Expr) (hard : Bool) (pc nsv gix : Nat) (code : Code) (nsv' : Nat) :
    slotsBelow (2 * G) e = true → 2 * G ≤ nsv → visit br e hard pc nsv gix = .ok (code, nsv') →
    CodeOK G nsv nsv' code ∧ nsv ≤ nsv' :=
  codeOKP_all G br e hard pc nsv gix code nsv'

theorem visitMiddle_codeOK (G : Nat) (br : Nat → Bool) :
    ∀ (es : List Expr) (take pc nsv gix : Nat) (code : Code) (nsv' : Nat),
      slotsBelowAll (2 * G) es = true → 2 * G ≤ nsv → visitMiddle br es 0 take pc nsv gix = .ok (code, nsv') →
      CodeOK G nsv nsv' code ∧ nsv ≤ nsv' :=
  fun es => codeOK_visitMiddle es fun e _ => codeOKP_all G br e

theorem visitAlt_codeOK (G : Nat) (br : Nat → Bool) :
    ∀ (es : List Expr) (hard : Bool) (pc nsv gix : Nat) (f : Nat → Code) (endPc nsv' : Nat),
      slotsBelowAll (2 * G) es = true → 2 * G ≤ nsv → visitAlt br es hard pc nsv gix = .ok (f, endPc, nsv') →
      (∀ t, CodeOK G nsv nsv' (f t)) ∧ nsv ≤ nsv' :=
  fun es => codeOK_visitAlt es fun e _ => codeOKP_all G br e

theorem lookBehindAlts_codeOK (G : Nat) (br : Nat → Bool) :
    ∀ (es : List Expr) (pc nsv gix : Nat) (f : Nat → Code) (endPc nsv' : Nat),
      slotsBelowAll (2 * G) es = true → 2 * G ≤ nsv → lookBehindAlts br es pc nsv gix = .ok (f, endPc, nsv') →
      (∀ t, CodeOK G nsv nsv' (f t)) ∧ nsv ≤ nsv' :=
  fun es => codeOK_lookBehindAlts es fun e _ => codeOKP_all G br e

theorem lookBehindNegAlts_codeOK (G : Nat) (br : Nat → Bool) :
    ∀ (es : List Expr) (pc nsv gix : Nat) (code : Code) (nsv' : Nat),
      slotsBelowAll (2 * G) es = true → 2 * G ≤ nsv → lookBehindNegAlts br es pc nsv gix = .ok (code, nsv') →
      CodeOK G nsv nsv' code ∧ nsv ≤ nsv' :=
  fun es => codeOK_lookBehindNegAlts es fun e _ => codeOKP_all G br e

/-! ## From the invariant to the typing -/

theorem tauOf_pos {prog : List Insn} {nG : Nat} {insn : Insn} {p : Nat} (hi : insn ∈ prog) (hp : p ∈ insn.posSlots) :
    tauOf prog nG p = true := by
  simp only [tauOf, Bool.or_eq_true, decide_eq_true_eq, List.any_eq_true]
  exact Or.inr ⟨insn, hi, by simpa using hp⟩

theorem tauOf_group (prog : List Insn) (nG i : Nat) (h : i < 2 * nG) : tauOf prog nG i = true := by
  simp [tauOf, h]

theorem tauOf_false {prog : List Insn} {nG i : Nat} (h1 : 2 * nG ≤ i)
    (h2 : ∀ insn ∈ prog, i ∉ insn.posSlots) : tauOf prog nG i = false := by
  simp only [tauOf, Bool.or_eq_false_iff, decide_eq_false_iff_not, List.any_eq_false]
  exact ⟨by omega, fun insn hi => by simpa using h2 insn hi⟩

/-- nothing at or above the auxiliary range is a position slot -/
theorem tauOf_high {G lo hi : Nat} {prog : List Insn} (h : CodeOK G lo hi prog) (hG : 2 * G ≤ lo) (hle : lo ≤ hi)
    (i : Nat) (hi' : hi ≤ i) : tauOf prog G i = false :=
  tauOf_false (by omega) (fun insn hin hmem => by rcases h.pos insn hin i hmem with h | h <;> omega)

/-- **a program satisfying the compiler's invariant is well typed for `tauOf`** -/
theorem wellTyped_of_codeOK {G lo hi : Nat} {prog : List Insn} (h : CodeOK G lo hi prog) (hG : 2 * G ≤ lo)
    (hG1 : 1 ≤ G)
    (hdel : ∀ es sg eg, Insn.delegate es sg eg ∈ prog → eg ≤ G ∧ slotsBelowAll (2 * eg) es = true) :
    wellTyped (tauOf prog G) prog = true := by
  simp only [wellTyped, List.all_eq_true]
  intro insn hin
  have hnum : ∀ r, r ∈ insn.cntSlots → tauOf prog G r = false := fun r hr =>
    tauOf_false (by have := h.cnt insn hin r hr; omega) (fun j hj => h.disj insn hin r hr j hj)
  cases insn with
  | save s => exact tauOf_pos hin (by simp [Insn.posSlots])
  | restore s => exact tauOf_pos hin (by simp [Insn.posSlots])
  | repeatGr lo' hi' next rep => simp [Insn.typed, hnum rep (by simp [Insn.cntSlots])]
  | repeatNg lo' hi' next rep => simp [Insn.typed, hnum rep (by simp [Insn.cntSlots])]
  | repeatEpsGr lo' next rep check =>
    simp [Insn.typed, hnum rep (by simp [Insn.cntSlots]), tauOf_pos hin (show check ∈ _ by simp [Insn.posSlots])]
  | repeatEpsNg lo' next rep check =>
    simp [Insn.typed, hnum rep (by simp [Insn.cntSlots]), tauOf_pos hin (show check ∈ _ by simp [Insn.posSlots])]
  | backref s =>
    have := h.bref _ hin
    simp only [Insn.brefOK, decide_eq_true_eq] at this
    simp [Insn.typed, tauOf_group prog G s (by omega), tauOf_group prog G (s + 1) this]
  | end_ => simp [Insn.typed, tauOf_group prog G 0 (by omega), tauOf_group prog G 1 (by omega)]
  | delegate es sg eg =>
    obtain ⟨h1, h2⟩ := hdel es sg eg hin
    simp only [Insn.typed, h2, Bool.true_and, List.all_eq_true, List.mem_range]
    intro i hi'
    exact tauOf_group prog G i (by omega)
  | _ => rfl

/-- what `build` establishes about a compiled program: the invariant on the whole body, with `G` the
    number of groups and the auxiliary range `[2 * G, prog.nSaves)` -/
theorem build_codeOK (tree : Expr) (backrefs : List Nat) (b : Built) (prog : Prog)
    (hb : build tree backrefs = .ok b) (hk : b.kind = .fancy prog) :
    CodeOK b.nGroups (2 * b.nGroups) prog.nSaves prog.body ∧ 2 * b.nGroups ≤ prog.nSaves ∧ 1 ≤ b.nGroups ∧
      ∀ es sg eg, Insn.delegate es sg eg ∈ prog.body → eg ≤ b.nGroups ∧ slotsBelowAll (2 * eg) es = true := by
  obtain ⟨hshape, hwr, hchk, _, hcomp⟩ := build_fancy tree backrefs b prog hb hk
  have hcount := checkRefs_count _ _ _ hchk
  have hG1 : 1 ≤ b.nGroups := by
    rw [hcount, hshape]; simp [groupCount, groupCountList]; try omega
  have hsb : slotsBelow (2 * b.nGroups) b.wrapped = true := by
    have := slotsBelow_renumber b.nGroups hG1 (wrapTree tree) 0 b.nGroups (by rw [← hwr]; exact hchk) (Nat.le_refl _)
    rw [← hwr] at this; exact this
  have hnum : numbered 0 b.wrapped := by rw [hwr]; exact numbered_renumber _ _
  generalize (fun g => backrefs.contains g) = br at hcomp
  unfold compile at hcomp
  simp only at hcomp
  cases hv : visit br b.wrapped false 0 (groupCount b.wrapped * 2) 0 with
  | error err => simp [hv] at hcomp
  | ok p =>
    obtain ⟨code, nsv⟩ := p
    simp only [hv, Except.ok.injEq] at hcomp
    subst hcomp
    have hgc : groupCount b.wrapped * 2 = 2 * b.nGroups := by omega
    rw [hgc] at hv
    obtain ⟨hok, hle⟩ := visit_codeOK b.nGroups _ b.wrapped false 0 (2 * b.nGroups) 0 code nsv hsb (Nat.le_refl _) hv
    obtain ⟨hdl, _⟩ := visit_delegIn _ b.wrapped false 0 (2 * b.nGroups) 0 code nsv hnum hv
    have hend : CodeOK b.nGroups nsv nsv [Insn.end_] := CodeOK.plain rfl
    refine ⟨CodeOK.append hok hend (Nat.le_refl _) hle (Nat.le_refl _), hle, hG1, ?_⟩
    intro es sg eg hmem
    simp only [List.mem_append, List.mem_cons, List.not_mem_nil, or_false, reduceCtorEq] at hmem
    obtain ⟨_, _, h3, h4⟩ := (delegIn_iff _ _ _).mp hdl es sg eg hmem
    exact ⟨by omega, h4⟩

/-- **every program `build` returns is well typed for the computable typing `tauOf`**; the capture
    slots are position slots and nothing at or above `prog.nSaves` (the auxiliary stack) is -/
theorem build_wellTyped (tree : Expr) (backrefs : List Nat) (b : Built) (prog : Prog)
    (hb : build tree backrefs = .ok b) (hk : b.kind = .fancy prog) :
    wellTyped (tauOf prog.body b.nGroups) prog.body = true ∧
    (∀ i, prog.nSaves ≤ i → tauOf prog.body b.nGroups i = false) ∧
    (∀ i, i < 2 * b.nGroups → tauOf prog.body b.nGroups i = true) ∧ 1 ≤ b.nGroups := by
  obtain ⟨hok, hle, hG1, hdel⟩ := build_codeOK tree backrefs b prog hb hk
  exact ⟨wellTyped_of_codeOK hok (Nat.le_refl _) hG1 hdel, tauOf_high hok (Nat.le_refl _) hle,
    fun i hi => tauOf_group _ _ i hi, hG1⟩

end Fancy
