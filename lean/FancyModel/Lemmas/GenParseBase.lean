import FancyModel.GeneratedParse
/-!
# Equalities in the `Res` monad, for Proofs/C06d (the generated parser = the parser model)

Generated and model code mostly run the same steps in the same order, so an equality between them is shown by
walking down the common structure: `bind_congr` (same first computation, continuations equal pointwise),
`ite_ext` with its tactic `nxt` (same test, arms equal), and `bind_congr_mapv` where the first computations
agree only up to a map of their values (`Res.mapv`).  What is left are the places where the two differ.
The last lemmas say that the generated code's `Str` view of the whole pattern (`⟨re, 0⟩`) reads the bytes `re`.
-/
namespace Fancy.GenParse
open Fancy.Parse

@[simp] theorem res_pure {α : Type} (a : α) : (pure a : Res α) = .ok a := rfl
@[simp] theorem res_bind_ok {α β : Type} (a : α) (f : α → Res β) : (Res.ok a >>= f) = f a := rfl
@[simp] theorem res_bind_err {α β : Type} (k : PErr) (p : Nat) (f : α → Res β) : ((Res.err k p : Res α) >>= f) = .err k p := rfl
@[simp] theorem res_bind_cerr {α β : Type} (f : α → Res β) : ((Res.cerr : Res α) >>= f) = .cerr := rfl
@[simp] theorem res_bind_panic {α β : Type} (s : String) (f : α → Res β) : ((Res.panic s : Res α) >>= f) = .panic s := rfl
@[simp] theorem res_bind_fuel {α β : Type} (f : α → Res β) : ((Res.outOfFuel : Res α) >>= f) = .outOfFuel := rfl
theorem res_bind_def {α β : Type} (x : Res α) (f : α → Res β) : (x >>= f) = Res.bind x f := rfl

theorem bind_congr {α β : Type} {x y : Res α} {F G : α → Res β} (hxy : x = y) (h : ∀ a, F a = G a) :
    (x >>= F) = (y >>= G) := by
  subst hxy
  cases x <;> first | rfl | exact h _

theorem ite_ext {α : Sort _} {c : Prop} [Decidable c] {a a' b b' : α} (h1 : c → a = a') (h2 : ¬c → b = b') :
    (if c then a else b) = (if c then a' else b') := by
  by_cases h : c
  · simp only [h, if_true]; exact h1 h
  · simp only [h, if_false]; exact h2 h

theorem ite_bind' {α β : Type} (c : Prop) [Decidable c] (a b : Res α) (f : α → Res β) :
    ((if c then a else b) >>= f) = if c then a >>= f else b >>= f := by
  split <;> rfl

theorem ite_pure {α : Type} (c : Prop) [Decidable c] (a b : α) :
    (if c then pure a else pure b : Res α) = .ok (if c then a else b) := by
  split <;> rfl

theorem ite_or {α : Sort _} (p q : Bool) (a b : α) :
    (if (p || q) = true then a else b) = if p = true then a else if q = true then a else b := by
  cases p <;> cases q <;> rfl

/-- next branch of an `if` chain: the `then` arms are goal 1, the rest of the chain goal 2 -/
macro "nxt" : tactic => `(tactic| (refine ite_ext (fun _ => ?_) (fun _ => ?_)))

theorem res_bind_eta3 {α β γ : Type} (x : Res (α × β × γ)) :
    (x >>= fun p => Res.ok (p.1, p.2.1, p.2.2)) = x := by
  cases x <;> rfl

/-- mapping the value of a result -/
def Res.mapv {α β : Type} (g : α → β) : Res α → Res β
  | .ok a => .ok (g a)
  | .err k p => .err k p
  | .cerr => .cerr
  | .panic s => .panic s
  | .outOfFuel => .outOfFuel

theorem mapv_ite {α β : Type} (g : α → β) (c : Prop) [Decidable c] (a b : Res α) :
    Res.mapv g (if c then a else b) = if c then Res.mapv g a else Res.mapv g b := by
  split <;> rfl

theorem mapv_bind {α β γ : Type} (g : β → γ) (x : Res α) (f : α → Res β) :
    Res.mapv g (x >>= f) = x >>= fun a => Res.mapv g (f a) := by
  cases x <;> rfl

/-- two computations that agree up to `g` / `h`, followed by continuations that agree on such results -/
theorem bind_congr_mapv {α β γ δ : Type} {x : Res α} {m : Res γ} {g : α → δ} {h : γ → δ}
    (hx : Res.mapv g x = Res.mapv h m) {F : α → Res β} {G : γ → Res β}
    (hk : ∀ a c, m = .ok c → g a = h c → F a = G c) : (x >>= F) = (m >>= G) := by
  cases x <;> cases m <;> simp only [Res.mapv, reduceCtorEq, Res.err.injEq, Res.panic.injEq] at hx
  · exact hk _ _ rfl (Res.ok.inj hx)
  · rw [hx.1, hx.2]; rfl
  · rfl
  · rw [hx]; rfl
  · rfl

theorem byteAt_some {re : Bytes} {i b : Nat} (s : String) (h : re[i]? = some b) : byteAt re i s = .ok b := by
  simp [byteAt, h]
theorem byteAt_none {re : Bytes} {i : Nat} (s : String) (h : re[i]? = none) : byteAt re i s = .panic s := by
  simp [byteAt, h]

@[simp] theorem str_len_whole (re : Bytes) : (⟨re, 0⟩ : Str).len = re.size := by simp [Str.len]
@[simp] theorem str_byteAt_whole (re : Bytes) (i : Nat) (s : String) : (⟨re, 0⟩ : Str).byteAt i s = byteAt re i s := by
  simp [Str.byteAt]
@[simp] theorem str_slice_whole (re : Bytes) (a b : Nat) (s : String) : (⟨re, 0⟩ : Str).slice a b s = slice re a b s := by
  simp [Str.slice]

end Fancy.GenParse
