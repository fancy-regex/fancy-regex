import FancyModel.Lemmas.DelegSpec
import FancyModel.Lemmas.SimCompile
import FancyModel.Lemmas.SemGood
import FancyModel.Proofs.C13b
import FancyModel.Proofs.C16
import FancyModel.Spec.Domain
/-!
# Bookkeeping lemmas for stage S3 of the engine refinement

* **A. numbering**: `numbered g e` (`e` is its own renumbering from `g`): what it says of the
  children, of `take`/`drop` of a list, and that it bounds the group numbers (`groupsInE`/`groupsIn`);
* **B. the split of a concatenation** (`concatSplit`): the prefix and the suffix consist of easy
  (and, where the compiler asks for it, constant-size) children; predicates pass to `take`/`drop`;
* **C. one state**: a group-free, constant-size, pure piece has at most one result state
  (`same_of_const_groupfree`: the `hsame` hypothesis of `sim2_delegate_same`);
* **D. well-shapedness passes to children**.
-/
namespace Fancy

/-! ## A. Numbering -/

/-- `e` carries the numbers the analyzer gives it when `g` groups have been opened before it -/
def numbered (g : Nat) (e : Expr) : Prop := (renumber e g).1 = e
def numberedList (g : Nat) (es : List Expr) : Prop := (renumberList es g).1 = es

theorem numbered_group (g k : Nat) (e : Expr) : numbered g (.group k e) ↔ k = g ∧ numbered (g + 1) e := by
  simp only [numbered, renumber, Expr.group.injEq]
  exact ⟨fun h => ⟨h.1.symm, h.2⟩, fun h => ⟨h.1.symm, h.2⟩⟩

theorem numbered_concat (g : Nat) (es : List Expr) : numbered g (.concat es) ↔ numberedList g es := by
  simp only [numbered, numberedList, renumber, Expr.concat.injEq]

theorem numbered_alt (g : Nat) (es : List Expr) : numbered g (.alt es) ↔ numberedList g es := by
  simp only [numbered, numberedList, renumber, Expr.alt.injEq]

theorem numbered_look (g : Nat) (e : Expr) (la : Look) : numbered g (.look e la) ↔ numbered g e := by
  simp only [numbered, renumber, Expr.look.injEq, and_true]

theorem numbered_repeat (g : Nat) (e : Expr) (lo : Nat) (hi : Option Nat) (gr : Bool) :
    numbered g (.repeat e lo hi gr) ↔ numbered g e := by
  simp only [numbered, renumber, Expr.repeat.injEq, and_true]

theorem numbered_atomic (g : Nat) (e : Expr) : numbered g (.atomic e) ↔ numbered g e := by
  simp only [numbered, renumber, Expr.atomic.injEq]

theorem numbered_cond (g : Nat) (c y n : Expr) :
    numbered g (.cond c y n) ↔
      numbered g c ∧ numbered (g + groupCount c) y ∧ numbered (g + groupCount c + groupCount y) n := by
  simp only [numbered, renumber, Expr.cond.injEq, renumber_snd]

theorem numberedList_nil (g : Nat) : numberedList g [] := by
  simp [numberedList, renumberList]

theorem numberedList_cons (g : Nat) (e : Expr) (es : List Expr) :
    numberedList g (e :: es) ↔ numbered g e ∧ numberedList (g + groupCount e) es := by
  simp only [numberedList, numbered, renumberList, List.cons.injEq, renumber_snd]

theorem numberedList_append (g : Nat) (a b : List Expr) :
    numberedList g (a ++ b) ↔ numberedList g a ∧ numberedList (g + groupCountList a) b := by
  induction a generalizing g with
  | nil => simp [numberedList_nil, groupCountList]
  | cons e a ih =>
    simp only [List.cons_append, numberedList_cons, ih, groupCountList, Nat.add_assoc, and_assoc]

theorem groupCountList_take_add_drop (es : List Expr) (k : Nat) :
    groupCountList (es.take k) + groupCountList (es.drop k) = groupCountList es := by
  rw [← groupCountList_append, List.take_append_drop]

theorem groupCountList_take_le (es : List Expr) (k : Nat) :
    groupCountList (es.take k) ≤ groupCountList es := by
  have := groupCountList_take_add_drop es k; omega

theorem groupCountList_take_mono (es : List Expr) {j k : Nat} (h : j ≤ k) :
    groupCountList (es.take j) ≤ groupCountList (es.take k) := by
  have : es.take j = (es.take k).take j := by rw [List.take_take, Nat.min_eq_left h]
  rw [this]; exact groupCountList_take_le _ _

theorem numberedList_take_drop (g : Nat) (es : List Expr) (k : Nat) (h : numberedList g es) :
    numberedList g (es.take k) ∧ numberedList (g + groupCountList (es.take k)) (es.drop k) := by
  rw [← List.take_append_drop k es] at h
  exact (numberedList_append g _ _).mp h

theorem numberedList_take (g : Nat) (es : List Expr) (k : Nat) (h : numberedList g es) :
    numberedList g (es.take k) := (numberedList_take_drop g es k h).1

theorem numberedList_drop (g : Nat) (es : List Expr) (k : Nat) (h : numberedList g es) :
    numberedList (g + groupCountList (es.take k)) (es.drop k) := (numberedList_take_drop g es k h).2

/-- a member of a numbered list is numbered from the count of the groups before it -/
theorem numberedList_getElem (g : Nat) (es : List Expr) (k : Nat) (hk : k < es.length) (h : numberedList g es) :
    numbered (g + groupCountList (es.take k)) es[k] := by
  have := numberedList_drop g es k h
  rw [List.drop_eq_getElem_cons hk, numberedList_cons] at this
  exact this.1

mutual
theorem groupsInE_mono {sg sg' eg eg' : Nat} (h1 : sg' ≤ sg) (h2 : eg ≤ eg') :
    ∀ (e : Expr), groupsInE sg eg e = true → groupsInE sg' eg' e = true
  | .group g e, h => by
    simp only [groupsInE, Bool.and_eq_true, decide_eq_true_eq] at h ⊢
    exact ⟨⟨by omega, by omega⟩, groupsInE_mono h1 h2 e h.2⟩
  | .concat es, h => by simp only [groupsInE] at h ⊢; exact groupsIn_mono h1 h2 es h
  | .alt es, h => by simp only [groupsInE] at h ⊢; exact groupsIn_mono h1 h2 es h
  | .look e _, h => by simp only [groupsInE] at h ⊢; exact groupsInE_mono h1 h2 e h
  | .repeat e _ _ _, h => by simp only [groupsInE] at h ⊢; exact groupsInE_mono h1 h2 e h
  | .atomic e, h => by simp only [groupsInE] at h ⊢; exact groupsInE_mono h1 h2 e h
  | .cond c y n, h => by
    simp only [groupsInE, Bool.and_eq_true] at h ⊢
    exact ⟨⟨groupsInE_mono h1 h2 c h.1.1, groupsInE_mono h1 h2 y h.1.2⟩, groupsInE_mono h1 h2 n h.2⟩
  | .empty, _ => by simp [groupsInE]
  | .any _, _ => by simp [groupsInE]
  | .assertion _, _ => by simp [groupsInE]
  | .literal _ _, _ => by simp [groupsInE]
  | .delegate _ _ _, _ => by simp [groupsInE]
  | .backref _, _ => by simp [groupsInE]
  | .keepOut, _ => by simp [groupsInE]
  | .contPrev, _ => by simp [groupsInE]
  | .backrefExists _, _ => by simp [groupsInE]
  | .subroutine _, _ => by simp [groupsInE]
theorem groupsIn_mono {sg sg' eg eg' : Nat} (h1 : sg' ≤ sg) (h2 : eg ≤ eg') :
    ∀ (es : List Expr), groupsIn sg eg es = true → groupsIn sg' eg' es = true
  | [], _ => by simp [groupsIn]
  | e :: es, h => by
    simp only [groupsIn, Bool.and_eq_true] at h ⊢
    exact ⟨groupsInE_mono h1 h2 e h.1, groupsIn_mono h1 h2 es h.2⟩
end

mutual
/-- a numbered expression has its groups in `g .. g + groupCount e` -/
theorem numbered_groupsIn : ∀ (e : Expr) (g : Nat), numbered g e → groupsInE g (g + groupCount e) e = true
  | .group k e, g, h => by
    obtain ⟨rfl, h⟩ := (numbered_group g k e).mp h
    have h2 : k < k + groupCount (.group k e) := by simp only [groupCount]; omega
    have hin : groupsInE k (k + groupCount (.group k e)) e = true :=
      groupsInE_mono (by omega) (by simp only [groupCount]; omega) e (numbered_groupsIn e (k + 1) h)
    simp only [groupsInE, hin, Bool.and_true, Bool.and_eq_true, decide_eq_true_eq]
    exact ⟨Nat.le_refl _, h2⟩
  | .concat es, g, h => by
    simp only [groupsInE, groupCount]; exact numberedList_groupsIn es g ((numbered_concat g es).mp h)
  | .alt es, g, h => by
    simp only [groupsInE, groupCount]; exact numberedList_groupsIn es g ((numbered_alt g es).mp h)
  | .look e la, g, h => by
    simp only [groupsInE, groupCount]; exact numbered_groupsIn e g ((numbered_look g e la).mp h)
  | .repeat e lo hi gr, g, h => by
    simp only [groupsInE, groupCount]; exact numbered_groupsIn e g ((numbered_repeat g e lo hi gr).mp h)
  | .atomic e, g, h => by
    simp only [groupsInE, groupCount]; exact numbered_groupsIn e g ((numbered_atomic g e).mp h)
  | .cond c y n, g, h => by
    obtain ⟨hc, hy, hn⟩ := (numbered_cond g c y n).mp h
    simp only [groupsInE, groupCount, Bool.and_eq_true]
    exact ⟨⟨groupsInE_mono (Nat.le_refl _) (by omega) c (numbered_groupsIn c g hc),
      groupsInE_mono (by omega) (by omega) y (numbered_groupsIn y _ hy)⟩,
      groupsInE_mono (by omega) (by omega) n (numbered_groupsIn n _ hn)⟩
  | .empty, _, _ => by simp [groupsInE]
  | .any _, _, _ => by simp [groupsInE]
  | .assertion _, _, _ => by simp [groupsInE]
  | .literal _ _, _, _ => by simp [groupsInE]
  | .delegate _ _ _, _, _ => by simp [groupsInE]
  | .backref _, _, _ => by simp [groupsInE]
  | .keepOut, _, _ => by simp [groupsInE]
  | .contPrev, _, _ => by simp [groupsInE]
  | .backrefExists _, _, _ => by simp [groupsInE]
  | .subroutine _, _, _ => by simp [groupsInE]
theorem numberedList_groupsIn : ∀ (es : List Expr) (g : Nat), numberedList g es →
    groupsIn g (g + groupCountList es) es = true
  | [], _, _ => by simp [groupsIn]
  | e :: es, g, h => by
    obtain ⟨he, hes⟩ := (numberedList_cons g e es).mp h
    simp only [groupsIn, groupCountList, Bool.and_eq_true]
    exact ⟨groupsInE_mono (Nat.le_refl _) (by omega) e (numbered_groupsIn e g he),
      groupsIn_mono (by omega) (by omega) es (numberedList_groupsIn es _ hes)⟩
end

/-- the analyzer's output is numbered -/
theorem numbered_renumber (e : Expr) (g : Nat) : numbered g (renumber e g).1 :=
  congrArg Prod.fst (renumber_idem e g)

theorem numberedList_renumberList (es : List Expr) (g : Nat) : numberedList g (renumberList es g).1 :=
  congrArg Prod.fst (renumberList_idem es g)

/-- non-vacuity: `(a)((b))` numbered from 1; its groups are `1 .. 3` -/
example :
    let es : List Expr := [.group 1 (.literal ['a'] false), .group 2 (.group 3 (.literal ['b'] false))]
    numberedList 1 es ∧ numbered 1 (.concat es) ∧ groupCountList es = 3 ∧ groupsIn 1 (1 + 3) es = true ∧
      numberedList 1 (es.take 1) ∧ numberedList (1 + groupCountList (es.take 1)) (es.drop 1) := by
  simp [numberedList, numbered, renumber, renumberList, groupCountList, groupCount, groupsIn, groupsInE]

/-! ## B. The split of a concatenation -/

theorem take_split {α : Type} (l : List α) {a b : Nat} (h : a ≤ b) :
    l.take b = l.take a ++ (l.drop a).take (b - a) := by
  have h1 : l.take a = (l.take b).take a := by rw [List.take_take, Nat.min_eq_left h]
  have h2 : (l.drop a).take (b - a) = (l.take b).drop a := by rw [List.drop_take]
  rw [h1, h2, List.take_append_drop]

theorem list_split3 {α : Type} (l : List α) {a b : Nat} (h : a ≤ b) :
    l = l.take a ++ (l.drop a).take (b - a) ++ l.drop b := by
  rw [← take_split l h, List.take_append_drop]

/-- the group count before the suffix = the count before the middle + the count of the middle -/
theorem groupCountList_take_split (es : List Expr) {a b : Nat} (h : a ≤ b) :
    groupCountList (es.take b) = groupCountList (es.take a) + groupCountList ((es.drop a).take (b - a)) := by
  rw [take_split es h, groupCountList_append]

/-- the middle of a numbered list is numbered from the count of the prefix -/
theorem numberedList_middle (g : Nat) (es : List Expr) (a k : Nat) (h : numberedList g es) :
    numberedList (g + groupCountList (es.take a)) ((es.drop a).take k) :=
  numberedList_take _ _ k (numberedList_drop g es a h)

/-! ### list predicates as `∀ … ∈` -/

theorem wellShapedAll_iff (es : List Expr) : wellShapedAll es = true ↔ ∀ e ∈ es, wellShaped e = true := by
  induction es with
  | nil => simp [wellShapedAll]
  | cons e es ih => simp [wellShapedAll, ih]

theorem noBareEndZAll_iff (es : List Expr) : noBareEndZAll es = true ↔ ∀ e ∈ es, noBareEndZ e = true := by
  induction es with
  | nil => simp [noBareEndZAll]
  | cons e es ih => simp [noBareEndZAll, ih]

theorem constSizeAll_iff (es : List Expr) : constSizeAll es = true ↔ ∀ e ∈ es, constSize e = true := by
  induction es with
  | nil => simp [constSizeAll]
  | cons e es ih => simp [constSizeAll, ih]

theorem groupCountList_eq_zero_iff (es : List Expr) : groupCountList es = 0 ↔ ∀ e ∈ es, groupCount e = 0 := by
  induction es with
  | nil => simp [groupCountList]
  | cons e es ih => simp [groupCountList, ih]

/-! ### … and over `++` -/

theorem wellShapedAll_append : ∀ (a b : List Expr), wellShapedAll (a ++ b) = (wellShapedAll a && wellShapedAll b)
  | [], b => by simp [wellShapedAll]
  | e :: a, b => by simp [wellShapedAll, wellShapedAll_append a b, Bool.and_assoc]

theorem constSizeAll_append : ∀ (a b : List Expr), constSizeAll (a ++ b) = (constSizeAll a && constSizeAll b)
  | [], b => by simp [constSizeAll]
  | e :: a, b => by simp [constSizeAll, constSizeAll_append a b, Bool.and_assoc]

theorem noBareEndZAll_append : ∀ (a b : List Expr), noBareEndZAll (a ++ b) = (noBareEndZAll a && noBareEndZAll b)
  | [], b => by simp [noBareEndZAll]
  | e :: a, b => by simp [noBareEndZAll, noBareEndZAll_append a b, Bool.and_assoc]

theorem minSizeSum_append : ∀ (a b : List Expr), minSizeSum (a ++ b) = satAdd (minSizeSum a) (minSizeSum b)
  | [], b => (satAdd_zero_left (minSizeSum_le b)).symm
  | e :: a, b => by simp only [List.cons_append, minSizeSum, minSizeSum_append a b, satAdd_assoc]

/-! ### predicates pass to `take` / `drop` -/

theorem wellShapedAll_take (es : List Expr) (k : Nat) (h : wellShapedAll es = true) :
    wellShapedAll (es.take k) = true :=
  (wellShapedAll_iff _).mpr fun e he => (wellShapedAll_iff es).mp h e (List.mem_of_mem_take he)
theorem wellShapedAll_drop (es : List Expr) (k : Nat) (h : wellShapedAll es = true) :
    wellShapedAll (es.drop k) = true :=
  (wellShapedAll_iff _).mpr fun e he => (wellShapedAll_iff es).mp h e (List.mem_of_mem_drop he)

theorem noBareEndZAll_take (es : List Expr) (k : Nat) (h : noBareEndZAll es = true) :
    noBareEndZAll (es.take k) = true :=
  (noBareEndZAll_iff _).mpr fun e he => (noBareEndZAll_iff es).mp h e (List.mem_of_mem_take he)
theorem noBareEndZAll_drop (es : List Expr) (k : Nat) (h : noBareEndZAll es = true) :
    noBareEndZAll (es.drop k) = true :=
  (noBareEndZAll_iff _).mpr fun e he => (noBareEndZAll_iff es).mp h e (List.mem_of_mem_drop he)

theorem pureAll_take (es : List Expr) (k : Nat) (h : pureAll es = true) : pureAll (es.take k) = true :=
  (pureAll_iff _).mpr fun e he => (pureAll_iff es).mp h e (List.mem_of_mem_take he)
theorem pureAll_drop (es : List Expr) (k : Nat) (h : pureAll es = true) : pureAll (es.drop k) = true :=
  (pureAll_iff _).mpr fun e he => (pureAll_iff es).mp h e (List.mem_of_mem_drop he)

theorem constSizeAll_take (es : List Expr) (k : Nat) (h : constSizeAll es = true) :
    constSizeAll (es.take k) = true :=
  (constSizeAll_iff _).mpr fun e he => (constSizeAll_iff es).mp h e (List.mem_of_mem_take he)
theorem constSizeAll_drop (es : List Expr) (k : Nat) (h : constSizeAll es = true) :
    constSizeAll (es.drop k) = true :=
  (constSizeAll_iff _).mpr fun e he => (constSizeAll_iff es).mp h e (List.mem_of_mem_drop he)

theorem isHardAny_take (br : Nat → Bool) (es : List Expr) (k : Nat) (h : isHardAny br es = false) :
    isHardAny br (es.take k) = false :=
  (isHardAny_false_iff br _).mpr fun e he => (isHardAny_false_iff br es).mp h e (List.mem_of_mem_take he)
theorem isHardAny_drop (br : Nat → Bool) (es : List Expr) (k : Nat) (h : isHardAny br es = false) :
    isHardAny br (es.drop k) = false :=
  (isHardAny_false_iff br _).mpr fun e he => (isHardAny_false_iff br es).mp h e (List.mem_of_mem_drop he)

/-! ### `takeWhile` facts -/

theorem take_length_takeWhile {α : Type} (p : α → Bool) (l : List α) :
    l.take (l.takeWhile p).length = l.takeWhile p := by
  induction l with
  | nil => simp
  | cons a as ih =>
    simp only [List.takeWhile_cons]
    split
    · simp [ih]
    · simp

theorem mem_takeWhile_sat {α : Type} (p : α → Bool) (l : List α) (x : α) (h : x ∈ l.takeWhile p) :
    p x = true := by
  induction l with
  | nil => simp at h
  | cons a as ih =>
    simp only [List.takeWhile_cons] at h
    split at h
    · rcases List.mem_cons.mp h with rfl | h
      · assumption
      · exact ih h
    · simp at h

/-- the last `(l.reverse.takeWhile p).length` elements of `l` satisfy `p` -/
theorem mem_drop_of_reverse_takeWhile {α : Type} (p : α → Bool) (l : List α) (x : α)
    (hx : x ∈ l.drop (l.length - (l.reverse.takeWhile p).length)) : p x = true := by
  have h1 : (l.reverse.take (l.reverse.takeWhile p).length).reverse =
      l.drop (l.length - (l.reverse.takeWhile p).length) := by
    rw [List.take_reverse, List.reverse_reverse]
  rw [← h1, List.mem_reverse, take_length_takeWhile] at hx
  exact mem_takeWhile_sat p _ x hx

/-- every child in the prefix of the split is easy and constant-size -/
theorem concatSplit_prefix (br : Nat → Bool) (es : List Expr) (hard : Bool) :
    ∀ c ∈ es.take (concatSplit br es hard).1, constSize c = true ∧ isHard br c = false := by
  intro c hc
  simp only [concatSplit] at hc
  rw [take_length_takeWhile] at hc
  have := mem_takeWhile_sat _ _ c hc
  simpa using this

theorem concatSplit_suffix_aux (br : Nat → Bool) (es : List Expr) (q : Expr → Bool) (c : Expr) :
    let p := (es.takeWhile (fun c => constSize c && !isHard br c)).length
    c ∈ es.drop (es.length - ((es.drop p).reverse.takeWhile q).length) → q c = true := by
  intro p hc
  have hp : p ≤ es.length := (List.takeWhile_prefix _).length_le
  have hL : ((es.drop p).reverse.takeWhile q).length ≤ es.length - p := by
    have := (List.takeWhile_prefix q (l := (es.drop p).reverse)).length_le
    simpa using this
  apply mem_drop_of_reverse_takeWhile q (es.drop p) c
  rw [List.drop_drop, List.length_drop]
  have : p + (es.length - p - ((es.drop p).reverse.takeWhile q).length) =
      es.length - ((es.drop p).reverse.takeWhile q).length := by omega
  rw [this]
  exact hc

/-- in a hard context every child in the suffix of the split is easy and constant-size -/
theorem concatSplit_suffix_hard (br : Nat → Bool) (es : List Expr) :
    ∀ c ∈ es.drop (concatSplit br es true).2, constSize c = true ∧ isHard br c = false := by
  intro c hc
  simp only [concatSplit, Bool.not_true, Bool.false_eq_true, ↓reduceIte] at hc
  have := concatSplit_suffix_aux br es (fun c => constSize c && !isHard br c) c hc
  simpa using this

/-- in a non-hard context every child in the suffix of the split is easy -/
theorem concatSplit_suffix_easy (br : Nat → Bool) (es : List Expr) :
    ∀ c ∈ es.drop (concatSplit br es false).2, isHard br c = false := by
  intro c hc
  simp only [concatSplit, Bool.not_false, ↓reduceIte] at hc
  have := concatSplit_suffix_aux br es (fun c => !isHard br c) c hc
  simpa using this

/-- whatever the context, every child in the suffix of the split is easy -/
theorem concatSplit_suffix (br : Nat → Bool) (es : List Expr) (hard : Bool) :
    ∀ c ∈ es.drop (concatSplit br es hard).2, isHard br c = false := by
  cases hard with
  | false => exact concatSplit_suffix_easy br es
  | true => exact fun c hc => (concatSplit_suffix_hard br es c hc).2

theorem concatSplit_prefix_isHardAny (br : Nat → Bool) (es : List Expr) (hard : Bool) :
    isHardAny br (es.take (concatSplit br es hard).1) = false :=
  (isHardAny_false_iff br _).mpr fun c hc => (concatSplit_prefix br es hard c hc).2

theorem concatSplit_prefix_constSizeAll (br : Nat → Bool) (es : List Expr) (hard : Bool) :
    constSizeAll (es.take (concatSplit br es hard).1) = true :=
  (constSizeAll_iff _).mpr fun c hc => (concatSplit_prefix br es hard c hc).1

theorem concatSplit_prefix_pureAll (br : Nat → Bool) (es : List Expr) (hard : Bool) :
    pureAll (es.take (concatSplit br es hard).1) = true :=
  pureAll_of_not_hard br _ (concatSplit_prefix_isHardAny br es hard)

theorem concatSplit_suffix_isHardAny (br : Nat → Bool) (es : List Expr) (hard : Bool) :
    isHardAny br (es.drop (concatSplit br es hard).2) = false :=
  (isHardAny_false_iff br _).mpr (concatSplit_suffix br es hard)

theorem concatSplit_suffix_constSizeAll (br : Nat → Bool) (es : List Expr) :
    constSizeAll (es.drop (concatSplit br es true).2) = true :=
  (constSizeAll_iff _).mpr fun c hc => (concatSplit_suffix_hard br es c hc).1

theorem concatSplit_suffix_pureAll (br : Nat → Bool) (es : List Expr) (hard : Bool) :
    pureAll (es.drop (concatSplit br es hard).2) = true :=
  pureAll_of_not_hard br _ (concatSplit_suffix_isHardAny br es hard)

/-- non-vacuity: `a(b)\1c` with group 1 back-referenced, in a hard context: prefix `a`, middle
    `(b)\1`, suffix `c` -/
example :
    let br : Nat → Bool := fun g => g == 1
    let es : List Expr := [.literal ['a'] false, .group 1 (.literal ['b'] false), .backref 1, .literal ['c'] false]
    concatSplit br es true = (1, 3) ∧ isHardAny br (es.take 1) = false ∧ constSizeAll (es.drop 3) = true := by
  simp [concatSplit, constSize, constSizeAll, isHard, isHardAny]

/-! ## C. One state -/

mutual
/-- a pure expression without groups writes no slot -/
theorem ownSlots_nil_of_groupfree : ∀ (e : Expr), pureExpr e = true → groupCount e = 0 → ownSlots e = []
  | .group g e, _, h0 => by simp [groupCount] at h0
  | .concat es, hp, h0 => by
    simp only [pureExpr] at hp; simp only [groupCount] at h0; simp only [ownSlots]
    exact ownSlotsList_nil_of_groupfree es hp h0
  | .alt es, hp, h0 => by
    simp only [pureExpr] at hp; simp only [groupCount] at h0; simp only [ownSlots]
    exact ownSlotsList_nil_of_groupfree es hp h0
  | .repeat e _ _ _, hp, h0 => by
    simp only [pureExpr] at hp; simp only [groupCount] at h0; simp only [ownSlots]
    exact ownSlots_nil_of_groupfree e hp h0
  | .look _ _, hp, _ => by simp [pureExpr] at hp
  | .atomic _, hp, _ => by simp [pureExpr] at hp
  | .cond _ _ _, hp, _ => by simp [pureExpr] at hp
  | .keepOut, hp, _ => by simp [pureExpr] at hp
  | .backref _, hp, _ => by simp [pureExpr] at hp
  | .contPrev, hp, _ => by simp [pureExpr] at hp
  | .backrefExists _, hp, _ => by simp [pureExpr] at hp
  | .empty, _, _ => by simp [ownSlots]
  | .any _, _, _ => by simp [ownSlots]
  | .assertion _, _, _ => by simp [ownSlots]
  | .literal _ _, _, _ => by simp [ownSlots]
  | .delegate _ _ _, _, _ => by simp [ownSlots]
  | .subroutine _, _, _ => by simp [ownSlots]
theorem ownSlotsList_nil_of_groupfree : ∀ (es : List Expr), pureAll es = true → groupCountList es = 0 →
    ownSlotsList es = []
  | [], _, _ => by simp [ownSlotsList]
  | e :: es, hp, h0 => by
    simp only [pureAll, Bool.and_eq_true] at hp
    simp only [groupCountList] at h0
    simp only [ownSlotsList]
    rw [ownSlots_nil_of_groupfree e hp.1 (by omega), ownSlotsList_nil_of_groupfree es hp.2 (by omega)]
    rfl
end

theorem St.ext' {a b : St} (h1 : a.ix = b.ix) (h2 : a.slots = b.slots) : a = b := by
  cases a; cases b; simp only at h1 h2; subst h1; subst h2; rfl

/-- a pure, group-free piece leaves the slots as they were -/
theorem semConcat_slots_of_groupfree (c : Ctx) (es : List Expr) (hp : pureAll es = true)
    (hg0 : groupCountList es = 0) (st r : St) (hr : r ∈ semConcat c es st) : r.slots = st.slots := by
  have hf := semConcat_frame c es st r hr
  rw [ownSlotsList_nil_of_groupfree es hp hg0] at hf
  exact List.ext_getElem? fun i => hf.2 i (by simp)

/-- the only possible result of a group-free, constant-size, pure piece -/
theorem semConcat_const_groupfree_eq (c : Ctx) (n : Nat) (es : List Expr) (hw : wellShapedAll es = true)
    (hc : constSizeAll es = true) (hz : noBareEndZAll es = true) (hp : pureAll es = true)
    (hg0 : groupCountList es = 0) (hlen : c.len < UNSET) (st : St) (hg : st.Good c n) (r : St)
    (hr : r ∈ semConcat c es st) : r = ⟨st.ix + minSizeSum es, st.slots⟩ := by
  have hgood := semConcat_good c n es st r hg hr
  have hix := const_exact_concat c es hw hc hz st r hr (by have := hgood.ix; omega)
  exact St.ext' hix (semConcat_slots_of_groupfree c es hp hg0 st r hr)

/-- **one state**: all results of a group-free, constant-size, pure piece are the same state
    (the `hsame` hypothesis of `sim2_delegate_same`) -/
theorem same_of_const_groupfree (c : Ctx) (n : Nat) (es : List Expr) (hw : wellShapedAll es = true)
    (hc : constSizeAll es = true) (hz : noBareEndZAll es = true) (hp : pureAll es = true)
    (hg0 : groupCountList es = 0) (hlen : c.len < UNSET) (st : St) (hg : st.Good c n) (r q : St)
    (hr : r ∈ semConcat c es st) (hq : q ∈ semConcat c es st) : r = q := by
  rw [semConcat_const_groupfree_eq c n es hw hc hz hp hg0 hlen st hg r hr,
    semConcat_const_groupfree_eq c n es hw hc hz hp hg0 hlen st hg q hq]

theorem semConcat_singleton (c : Ctx) (e : Expr) (st : St) : semConcat c [e] st = sem c e st := by
  simp only [semConcat]
  induction sem c e st with
  | nil => rfl
  | cons a as ih => simp only [List.flatMap_cons, ih, semConcat]; rfl

theorem sem_const_groupfree_eq (c : Ctx) (n : Nat) (e : Expr) (hw : wellShaped e = true)
    (hc : constSize e = true) (hz : noBareEndZ e = true) (hp : pureExpr e = true)
    (hg0 : groupCount e = 0) (hlen : c.len < UNSET) (st : St) (hg : st.Good c n) (r : St)
    (hr : r ∈ sem c e st) : r = ⟨st.ix + minSize e, st.slots⟩ := by
  have := semConcat_const_groupfree_eq c n [e] (by simp [wellShapedAll, hw]) (by simp [constSizeAll, hc])
    (by simp [noBareEndZAll, hz]) (by simp [pureAll, hp]) (by simp [groupCountList, hg0]) hlen st hg r
    (by rw [semConcat_singleton]; exact hr)
  have hgood := sem_good c n e st r hg hr
  have hix := C13_const_exact c e hw hc hz st r hr (by have := hgood.ix; omega)
  rw [this]
  exact St.ext' (by simp only []; rw [← hix, this]) rfl

theorem same_of_const_groupfree_one (c : Ctx) (n : Nat) (e : Expr) (hw : wellShaped e = true)
    (hc : constSize e = true) (hz : noBareEndZ e = true) (hp : pureExpr e = true)
    (hg0 : groupCount e = 0) (hlen : c.len < UNSET) (st : St) (hg : st.Good c n) (r q : St)
    (hr : r ∈ sem c e st) (hq : q ∈ sem c e st) : r = q := by
  rw [sem_const_groupfree_eq c n e hw hc hz hp hg0 hlen st hg r hr,
    sem_const_groupfree_eq c n e hw hc hz hp hg0 hlen st hg q hq]

/-- non-vacuity: `a.` on the text `ab` from a good state with one group: all hypotheses of
    `same_of_const_groupfree` hold and there is a result -/
example :
    let es : List Expr := [.literal ['a'] false, .any true]
    let st : St := ⟨0, [some 0, none]⟩
    wellShapedAll es = true ∧ constSizeAll es = true ∧ noBareEndZAll es = true ∧ pureAll es = true ∧
      groupCountList es = 0 ∧ (exCtx ['a', 'b']).len < UNSET ∧ st.Good (exCtx ['a', 'b']) 2 ∧
      semConcat (exCtx ['a', 'b']) es st = [⟨2, [some 0, none]⟩] := by
  refine ⟨by simp [wellShapedAll, wellShaped], by simp [constSizeAll, constSize],
    by simp [noBareEndZAll, noBareEndZ], by simp [pureAll, pureExpr], by simp [groupCountList, groupCount],
    by simp [exCtx, Ctx.len, UNSET], ⟨by simp, rfl, ?_⟩, ?_⟩
  · intro v hv; simp at hv; subst hv; simp
  · simp [semConcat, sem, exCtx, Ctx.litAt, Ctx.at?]

/-! ## D. Well-shapedness passes to children -/

theorem wellShaped_group {g : Nat} {e : Expr} (h : wellShaped (.group g e) = true) : wellShaped e = true := by
  simpa [wellShaped] using h
theorem wellShaped_concat {es : List Expr} (h : wellShaped (.concat es) = true) : wellShapedAll es = true := by
  simpa [wellShaped] using h
theorem wellShaped_alt {es : List Expr} (h : wellShaped (.alt es) = true) :
    es ≠ [] ∧ wellShapedAll es = true := by
  simpa [wellShaped] using h
theorem wellShaped_look {e : Expr} {la : Look} (h : wellShaped (.look e la) = true) : wellShaped e = true := by
  simpa [wellShaped] using h
theorem wellShaped_repeat {e : Expr} {lo : Nat} {hi : Option Nat} {gr : Bool}
    (h : wellShaped (.repeat e lo hi gr) = true) : wellShaped e = true := by
  simpa [wellShaped] using h
theorem wellShaped_atomic {e : Expr} (h : wellShaped (.atomic e) = true) : wellShaped e = true := by
  simpa [wellShaped] using h
theorem wellShaped_cond {c y n : Expr} (h : wellShaped (.cond c y n) = true) :
    wellShaped c = true ∧ wellShaped y = true ∧ wellShaped n = true := by
  simpa [wellShaped, and_assoc] using h
theorem wellShapedAll_cons {e : Expr} {es : List Expr} (h : wellShapedAll (e :: es) = true) :
    wellShaped e = true ∧ wellShapedAll es = true := by
  simpa [wellShapedAll] using h

end Fancy
