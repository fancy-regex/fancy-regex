import FancyModel.Lemmas.SimCompile
import FancyModel.Proofs.C16
import FancyModel.Proofs.C01
/-!
# From the simulation to the search result (top level of the engine refinement)

* `slotsBelow_renumber`: a numbered tree that passes the analyzer's reference check only touches
  capture slots below `2 * n_groups`.
* `scanFrom_findSome`, `sem_wrapped_head`: the reference search and the first result of the wrapped tree
  `(?s:.)*?(e)` are the same "first start position with a result".
* `finish_eq`: the slot vector the VM reports at `End` (after the start caps) is the reference's
  `finish`.
* `CoreNsv`, `coreNsv_all`: the code of an expression of the interpreted core allocates no auxiliary slot.
-/
namespace Fancy

/-! ## Slots of a numbered, checked tree -/

/-- where the numbering of a checked sub-tree ends is what the reference check returns -/
theorem renumber_snd_of_checkRefs {e : Expr} {n n1 : Nat} (h : checkRefs (renumber e n).1 n = .ok n1) :
    (renumber e n).2 = n1 := by
  have e1 := checkRefs_count _ _ _ h
  rw [groupCount_renumber] at e1
  have := renumber_snd e n
  omega

theorem slotsBelowAll_renumber_of (M : Nat) : ∀ (es : List Expr),
    (∀ e ∈ es, ∀ n m, checkRefs (renumber e n).1 n = .ok m → m ≤ M → slotsBelow (2 * M) (renumber e n).1 = true) →
    ∀ (n m : Nat), checkRefsList (renumberList es n).1 n = .ok m → m ≤ M →
      slotsBelowAll (2 * M) (renumberList es n).1 = true
  | [], _, _, _, _, _ => by simp [renumberList, slotsBelowAll]
  | e :: es, ih, n, m, h, hm => by
    simp only [renumberList, checkRefsList] at h
    simp only [renumberList, slotsBelowAll, Bool.and_eq_true]
    split at h
    · cases h
    · rename_i n1 h1
      rw [renumber_snd_of_checkRefs h1] at h ⊢
      have := checkRefsList_count _ _ _ h
      exact ⟨ih e List.mem_cons_self n n1 h1 (by omega),
        slotsBelowAll_renumber_of M es (fun x hx => ih x (List.mem_cons_of_mem _ hx)) n1 m h hm⟩

theorem slotsBelow_renumber (M : Nat) (hM : 0 < M) : ∀ (e : Expr) (n m : Nat),
    checkRefs (renumber e n).1 n = .ok m → m ≤ M → slotsBelow (2 * M) (renumber e n).1 = true := by
  intro e
  induction e using Expr.induct with
  | group g c ih =>
    intro n m h hm
    simp only [renumber, checkRefs] at h
    have hc := checkRefs_count _ _ _ h
    simp only [renumber, slotsBelow, Bool.and_eq_true, decide_eq_true_eq]
    exact ⟨by omega, ih (n + 1) m h hm⟩
  | concat es ih =>
    intro n m h hm
    simp only [renumber, checkRefs] at h
    simp only [renumber, slotsBelow]
    exact slotsBelowAll_renumber_of M es ih n m h hm
  | alt es ih =>
    intro n m h hm
    simp only [renumber, checkRefs] at h
    simp only [renumber, slotsBelow]
    exact slotsBelowAll_renumber_of M es ih n m h hm
  | look c la ih | «repeat» c lo hi g ih | atomic c ih =>
    intro n m h hm
    simp only [renumber, checkRefs] at h
    simp only [renumber, slotsBelow]
    exact ih n m h hm
  | backref g | backrefExists g =>
    intro n m h hm
    simp only [renumber, checkRefs] at h
    simp only [renumber, slotsBelow, decide_eq_true_eq]
    split at h
    · cases h
    · cases h; omega
  | cond c y f ihc ihy ihf =>
    intro n m h hm
    simp only [renumber, checkRefs] at h
    simp only [renumber, slotsBelow, Bool.and_eq_true]
    split at h
    · cases h
    · rename_i n1 h1
      rw [renumber_snd_of_checkRefs h1] at h ⊢
      split at h
      · cases h
      · rename_i n2 h2
        rw [renumber_snd_of_checkRefs h2] at h ⊢
        have e2 := checkRefs_count _ _ _ h2
        have e3 := checkRefs_count _ _ _ h
        exact ⟨⟨ihc n n1 h1 (by omega), ihy n1 n2 h2 (by omega)⟩, ihf n2 m h hm⟩
  | keepOut => intro n m h hm; simp only [renumber, slotsBelow, decide_eq_true_eq]; omega
  | empty | any _ | assertion _ | literal _ _ | delegate _ _ _ | contPrev | subroutine _ =>
    intro n m h hm; simp [renumber, slotsBelow]

theorem slotsBelowAll_renumber (M : Nat) (hM : 0 < M) : ∀ (es : List Expr) (n m : Nat),
    checkRefsList (renumberList es n).1 n = .ok m → m ≤ M → slotsBelowAll (2 * M) (renumberList es n).1 = true :=
  fun es => slotsBelowAll_renumber_of M es fun e _ => slotsBelow_renumber M hM e

/-! ## The reference search as "first start position with a result" -/

theorem scanFrom_findSome (c : Ctx) (e : Expr) (nGroups : Nat) (n start : Nat) :
    scanFrom c e nGroups n start =
      (List.range n).findSome? fun k =>
        ((sem c e ⟨start + k, (initSlots nGroups).set 0 (some (start + k))⟩).head?).map (finish c) := by
  induction n generalizing start with
  | zero => simp [scanFrom]
  | succ n ih =>
    rw [List.range_succ_eq_map]
    simp only [scanFrom, List.findSome?_cons, Nat.add_zero, List.findSome?_map]
    cases hh : (sem c e ⟨start, (initSlots nGroups).set 0 (some start)⟩).head? with
    | some r => simp
    | none =>
      simp only [Option.map_none]
      rw [ih (start + 1)]
      congr 1
      funext k
      simp only [Function.comp, Nat.succ_eq_add_one]
      have : start + 1 + k = start + (k + 1) := by omega
      rw [this]

/-- first result of the wrapped tree from the initial state of a search -/
theorem sem_wrapped_head (c : Ctx) (raw : Expr) (nGroups : Nat) (hpos : c.pos ≤ c.len) :
    (sem c (.concat [.repeat (.any true) 0 none false, .group 0 raw]) ⟨c.pos, initSlots nGroups⟩).head? =
      (List.range (c.len - c.pos + 1)).findSome? fun k =>
        ((sem c raw ⟨c.pos + k, (initSlots nGroups).set 0 (some (c.pos + k))⟩).head?).map
          fun r => r.setSlot 1 (some r.ix) := by
  simp only [sem, semConcat]
  have h1 := C01_lazy_any_star c ⟨c.pos, initSlots nGroups⟩ hpos
  simp only [sem] at h1
  rw [h1]
  simp only [List.flatMap_map, List.head?_flatMap]
  congr 1
  funext k
  have : ∀ (l : List St), (l.flatMap fun a => [a]) = l := by
    intro l; induction l with
    | nil => rfl
    | cons a as ih => simp [ih]
  have h2 : semConcat c [] = fun a => [a] := by funext a; simp [semConcat]
  simp only [semConcat, sem, h2, this, St.setSlot, List.head?_map, Nat.mul_zero, Nat.zero_add]

/-! ## What `End` reports is the reference's `finish` -/

theorem finish_eq (c : Ctx) (r : St) (n : Nat) (hg : r.Good c n) (hn : 1 < n) (hlen : c.len < UNSET)
    (hpos : c.pos ≤ c.len) :
    (viewSlots (capSaves (unview (r.setSlot 1 (some r.ix)).slots) c.pos)).take n = (finish c r).slots := by
  have hl : r.slots.length = n := hg.len
  have h1 : (unview (r.slots.set 1 (some r.ix)))[1]? = some r.ix := by
    rw [unview_getElem?, List.getElem?_set_self (by omega)]; rfl
  have h0 : (unview (r.slots.set 1 (some r.ix)))[0]? = some ((r.slot 0).getD UNSET) := by
    rw [unview_getElem?, List.getElem?_set_ne (by omega)]
    simp only [St.slot]
    rw [List.getElem?_eq_getElem (by omega)]
    simp
  simp only [St.setSlot, capSaves, h1, h0, finish]
  -- the capped start
  have hcap : (if (if (r.slot 0).getD UNSET > r.ix then r.ix else (r.slot 0).getD UNSET) < c.pos then c.pos
        else (if (r.slot 0).getD UNSET > r.ix then r.ix else (r.slot 0).getD UNSET)) =
      (if (if (r.slot 0).getD r.ix > r.ix then r.ix else (r.slot 0).getD r.ix) < c.pos then c.pos
        else (if (r.slot 0).getD r.ix > r.ix then r.ix else (r.slot 0).getD r.ix)) := by
    cases h : r.slot 0 with
    | none =>
      have := hg.ix
      simp only [Option.getD_none]
      have h2 : UNSET > r.ix := by omega
      simp [h2]
    | some v => simp
  rw [hcap]
  have hs0 : (if (if (r.slot 0).getD r.ix > r.ix then r.ix else (r.slot 0).getD r.ix) < c.pos then c.pos
        else (if (r.slot 0).getD r.ix > r.ix then r.ix else (r.slot 0).getD r.ix)) ≤ c.len := by
    have := hg.ix
    split <;> (try split) <;> omega
  generalize (if (if (r.slot 0).getD r.ix > r.ix then r.ix else (r.slot 0).getD r.ix) < c.pos then c.pos
        else (if (r.slot 0).getD r.ix > r.ix then r.ix else (r.slot 0).getD r.ix)) = s0 at hs0
  rw [← unview_set, viewSlots_unview]
  · rw [List.take_of_length_le (by simp [hl])]
    rw [List.set_comm _ _ (by omega : (1:Nat) ≠ 0)]
  · intro v hv
    have hv' : v ≤ c.len := by
      rcases List.mem_or_eq_of_mem_set hv with hm | he
      · rcases List.mem_or_eq_of_mem_set hm with hm2 | he2
        · exact hg.vals v hm2
        · cases he2; exact hg.ix
      · cases he; exact hs0
    omega

end Fancy

namespace Fancy

/-! ## Core programs allocate no auxiliary slots -/

def CoreNsv (br : Nat → Bool) (e : Expr) : Prop :=
  ∀ (pc nsv gix : Nat) (code : Code) (nsv' : Nat),
    isCore e = true → visit br e true pc nsv gix = .ok (code, nsv') → nsv' = nsv

theorem visitMiddle_core_nsv (br : Nat → Bool) : ∀ (es : List Expr), (∀ e ∈ es, CoreNsv br e) →
    ∀ (take pc nsv gix : Nat) (code : Code) (nsv' : Nat),
      isCoreAll es = true → visitMiddle br es 0 take pc nsv gix = .ok (code, nsv') → nsv' = nsv
  | [], _, take, pc, nsv, gix, code, nsv', _, hv => by
    simp only [visitMiddle, Except.ok.injEq, Prod.mk.injEq] at hv
    exact hv.2.symm
  | e :: es, _, 0, pc, nsv, gix, code, nsv', _, hv => by
    simp only [visitMiddle, Except.ok.injEq, Prod.mk.injEq] at hv
    exact hv.2.symm
  | e :: es, ih, take + 1, pc, nsv, gix, code, nsv', hcore, hv => by
    obtain ⟨c1, nsv1, c2, hb, hb2, rfl⟩ := visitMiddle_cons_ok hv
    simp only [isCoreAll, Bool.and_eq_true] at hcore
    have h1 := ih e List.mem_cons_self _ _ _ _ _ hcore.1 hb
    have h2 := visitMiddle_core_nsv br es (fun x hx => ih x (List.mem_cons_of_mem _ hx)) _ _ _ _ _ _ hcore.2 hb2
    omega

theorem visitAlt_core_nsv_of (br : Nat → Bool) : ∀ (es : List Expr), (∀ e ∈ es, CoreNsv br e) →
    ∀ (pc nsv gix : Nat) (f : Nat → Code) (endPc nsv' : Nat),
      isCoreAll es = true → visitAlt br es true pc nsv gix = .ok (f, endPc, nsv') → nsv' = nsv
  | [], _, pc, nsv, gix, f, endPc, nsv', _, hv => by
    simp only [visitAlt, Except.ok.injEq, Prod.mk.injEq] at hv
    exact hv.2.2.symm
  | [e], ih, pc, nsv, gix, f, endPc, nsv', hcore, hv => by
    obtain ⟨c1, hb, _, _⟩ := visitAlt_single_ok hv
    simp only [isCoreAll, Bool.and_eq_true] at hcore
    exact ih e List.mem_cons_self _ _ _ _ _ hcore.1 hb
  | e :: e2 :: es, ih, pc, nsv, gix, f, endPc, nsv', hcore, hv => by
    obtain ⟨c1, nsv1, f2, hb, hb2, _⟩ := visitAlt_cons_ok hv
    simp only [isCoreAll, Bool.and_eq_true] at hcore
    have h1 := ih e List.mem_cons_self _ _ _ _ _ hcore.1 hb
    have h2 := visitAlt_core_nsv_of br (e2 :: es) (fun x hx => ih x (List.mem_cons_of_mem _ hx)) _ _ _ _ _ _
      (by simp [isCoreAll, hcore.2.1, hcore.2.2]) hb2
    omega

theorem coreNsv_all (br : Nat → Bool) : ∀ e, CoreNsv br e := by
  intro e
  induction e using Expr.induct with
  | empty => intro pc nsv gix code nsv' _ hv; rw [visit_empty (not_easy_hard br _)] at hv; cases hv; rfl
  | any nl =>
    intro pc nsv gix code nsv' _ hv
    cases nl with
    | true => rw [visit_any_true (not_easy_hard br _)] at hv; cases hv; rfl
    | false => rw [visit_any_false (not_easy_hard br _)] at hv; cases hv; rfl
  | assertion a => intro pc nsv gix code nsv' _ hv; rw [visit_assertion (not_easy_hard br _)] at hv; cases hv; rfl
  | literal v ci =>
    intro pc nsv gix code nsv' hcore hv
    simp only [isCore, Bool.and_eq_true, Bool.not_eq_true'] at hcore
    obtain rfl : ci = false := hcore.1
    rw [visit_literal_cs (not_easy_hard br _)] at hv; cases hv; rfl
  | backref g => intro pc nsv gix code nsv' _ hv; rw [visit_backref] at hv; cases hv; rfl
  | keepOut => intro pc nsv gix code nsv' _ hv; rw [visit_keepOut] at hv; cases hv; rfl
  | contPrev => intro pc nsv gix code nsv' _ hv; rw [visit_contPrev] at hv; cases hv; rfl
  | group g e ih =>
    intro pc nsv gix code nsv' hcore hv
    obtain ⟨body, hb, _⟩ := visit_group_ok (not_easy_hard br _) hv
    exact ih _ _ _ _ _ (by simpa only [isCore] using hcore) hb
  | concat es ih =>
    intro pc nsv gix code nsv' hcore hv
    obtain ⟨mid, hb, _⟩ := visit_concat_ok (not_easy_hard br _) hv
    simp only [isCore] at hcore
    exact visitMiddle_core_nsv br _ (fun e he => ih e (List.mem_of_mem_drop he)) _ _ _ _ _ _
      (isCoreAll_drop es _ hcore) hb
  | alt es ih =>
    intro pc nsv gix code nsv' hcore hv
    obtain ⟨f, endPc, hb, _⟩ := visit_alt_ok (not_easy_hard br _) hv
    simp only [isCore, Bool.and_eq_true] at hcore
    exact visitAlt_core_nsv_of br es ih _ _ _ _ _ _ hcore.2 hb
  | «repeat» e lo hi greedy ih =>
    intro pc nsv gix code nsv' hcore hv
    simp only [isCore, Bool.and_eq_true, Bool.or_eq_true, beq_iff_eq, decide_eq_true_eq] at hcore
    obtain ⟨hce, hshape⟩ := hcore
    rcases hshape with ⟨rfl, rfl⟩ | ⟨⟨rfl, rfl | rfl⟩, hm⟩
    · obtain ⟨body, hb, _⟩ := visit_opt_ok (not_easy_hard br _) (by simp) hv
      exact ih _ _ _ _ _ hce hb
    · obtain ⟨body, hb, _⟩ := visit_star_ok (not_easy_hard br _) (by simp) (by simp; omega) (by simp) hv
      exact ih _ _ _ _ _ hce hb
    · obtain ⟨body, hb, _⟩ := visit_plus_ok (not_easy_hard br _) (by simp) (by simp; omega) (by simp) (by simp) hv
      exact ih _ _ _ _ _ hce hb
  | look _ _ _ | delegate _ _ _ | atomic _ _ | backrefExists _ | cond _ _ _ _ _ _ | subroutine _ =>
    intro _ _ _ _ _ h; simp [isCore] at h

theorem visit_core_nsv (br : Nat → Bool) : ∀ (e : Expr) (pc nsv gix : Nat) (code : Code) (nsv' : Nat),
    isCore e = true → visit br e true pc nsv gix = .ok (code, nsv') → nsv' = nsv :=
  coreNsv_all br

theorem visitAlt_core_nsv (br : Nat → Bool) : ∀ (es : List Expr) (pc nsv gix : Nat) (f : Nat → Code) (endPc nsv' : Nat),
    isCoreAll es = true → visitAlt br es true pc nsv gix = .ok (f, endPc, nsv') → nsv' = nsv :=
  fun es => visitAlt_core_nsv_of br es fun e _ => coreNsv_all br e

end Fancy
