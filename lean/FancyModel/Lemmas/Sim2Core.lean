import FancyModel.Lemmas.Sim2
import FancyModel.Lemmas.SimCompile
/-!
# Stage S2 of the engine refinement: leaves, groups, optionals and unbounded loops against the full machine

The lemmas of stage S1 (`Lemmas/Sim.lean`, `Lemmas/SimCompile.lean`) for `Sim2`
(`Lemmas/Sim2.lean`): the structured whole-copy machine with auxiliary slots, the auxiliary stack and
the pc-range condition on the branches left behind. None of the constructs here touches an auxiliary
slot or the auxiliary stack itself; optionals and loops leave branches, all inside their own range.
The loops generalise over the auxiliary slots and the auxiliary stack, since an unbalanced body
(`bal = false`) hands back more junk at every iteration and changes the slots it owns.
-/
namespace Fancy

/-! ## The machine's slot vector `unview sl ++ aux` -/

theorem unview_append_set_lt (sl : List (Option Nat)) (aux : List Nat) (j v : Nat) (hj : j < sl.length) :
    (unview sl ++ aux).set j v = unview (sl.set j (some v)) ++ aux := by
  rw [unview_set, List.set_append_left j v (by simpa using hj)]

theorem unview_append_set_ge (sl : List (Option Nat)) (aux : List Nat) (j v : Nat) (hj : sl.length ≤ j) :
    (unview sl ++ aux).set j v = unview sl ++ aux.set (j - sl.length) v := by
  rw [List.set_append_right j v (by simpa using hj)]
  simp

theorem unview_append_getElem?_lt (sl : List (Option Nat)) (aux : List Nat) (j : Nat) (hj : j < sl.length) :
    (unview sl ++ aux)[j]? = (unview sl)[j]? :=
  List.getElem?_append_left (by simpa using hj)

theorem unview_append_getElem?_ge (sl : List (Option Nat)) (aux : List Nat) (j : Nat) (hj : sl.length ≤ j) :
    (unview sl ++ aux)[j]? = aux[j - sl.length]? := by
  rw [List.getElem?_append_right (by simpa using hj)]
  simp

/-- writing an auxiliary slot of the machine's slot vector -/
theorem set_aux_slot (sl : List (Option Nat)) (aux : List Nat) (n j v : Nat) (hn : sl.length = n) (hj : n ≤ j) :
    (unview sl ++ aux).set j v = unview sl ++ aux.set (j - n) v :=
  hn ▸ unview_append_set_ge sl aux j v (hn ▸ hj)

/-- reading an auxiliary slot of the machine's slot vector -/
theorem get_aux_slot (sl : List (Option Nat)) (aux : List Nat) (n j : Nat) (hn : sl.length = n) (hj : n ≤ j) :
    (unview sl ++ aux)[j]? = aux[j - n]? :=
  hn ▸ unview_append_getElem?_ge sl aux j (hn ▸ hj)

theorem Par.id : Par (fun _ acc => acc) := fun _ => Or.inl (fun _ => rfl)

/-! ## Leaves -/

theorem sim2_any (c : Ctx) (n nS : Nat) (prog : List Insn) (lo hi : Nat) (bal cm : Bool) (a : Nat)
    (h : prog[a]? = some .any) :
    Sim2 c n nS prog lo hi bal cm (sem c (.any true)) a (a + 1) :=
  (Sim2.test1 (fun st => (c.at? st.ix).isSome) (fun st => { st with ix := st.ix + 1 }) fun st aux astk X _ _ => by
      simp only [sstep, h]
      cases c.at? st.ix <;> simp).congr
    fun st => (sem_any c st).symm

theorem sim2_anyNoNL (c : Ctx) (n nS : Nat) (prog : List Insn) (lo hi : Nat) (bal cm : Bool) (a : Nat)
    (h : prog[a]? = some .anyNoNL) :
    Sim2 c n nS prog lo hi bal cm (sem c (.any false)) a (a + 1) :=
  (Sim2.test1 (fun st => match c.at? st.ix with | some ch => ch != '\n' | none => false)
      (fun st => { st with ix := st.ix + 1 }) fun st aux astk X _ _ => by
      simp only [sstep, h]
      cases c.at? st.ix with
      | none => simp
      | some ch => by_cases hq : (ch != '\n') = true <;> simp [hq]).congr
    fun st => (sem_anyNoNL c st).symm

theorem sim2_assertion (c : Ctx) (n nS : Nat) (prog : List Insn) (lo hi : Nat) (bal cm : Bool) (a : Nat)
    (x : Assertion) (h : prog[a]? = some (.assertion x)) :
    Sim2 c n nS prog lo hi bal cm (sem c (.assertion x)) a (a + 1) :=
  (Sim2.test1 (fun st => c.assertion x st.ix) (fun st => st) fun st aux astk X _ _ => by
      simp only [sstep, h]
      by_cases hq : c.assertion x st.ix = true <;> simp [hq]).congr
    fun st => by simp [sem]

theorem sim2_lit (c : Ctx) (n nS : Nat) (prog : List Insn) (lo hi : Nat) (bal cm : Bool) (a : Nat)
    (val : List Char) (h : prog[a]? = some (.lit val)) :
    Sim2 c n nS prog lo hi bal cm
      (fun st => if c.litAt false val st.ix then [{ st with ix := st.ix + val.length }] else []) a (a + 1) :=
  Sim2.test1 (fun st => c.litAt false val st.ix) (fun st => { st with ix := st.ix + val.length })
    fun st aux astk X _ _ => by
      simp only [sstep, h]
      by_cases hq : c.litAt false val st.ix = true <;> simp [hq]

theorem sim2_contPrev (c : Ctx) (n nS : Nat) (prog : List Insn) (lo hi : Nat) (bal cm : Bool) (a : Nat)
    (h : prog[a]? = some .contPrev) :
    Sim2 c n nS prog lo hi bal cm (sem c .contPrev) a (a + 1) :=
  (Sim2.test1 (fun st => st.ix == c.pos && !c.skipped) (fun st => st) fun st aux astk X _ _ => by
      simp only [sstep, h]
      by_cases h1 : st.ix = c.pos <;> by_cases h2 : c.skipped = true <;> simp [h1, h2]).congr
    fun st => by simp [sem]

/-- `GoBack(k)`: step `k` positions to the left, fail at the start of the text -/
theorem sim2_goBack (c : Ctx) (n nS : Nat) (prog : List Insn) (lo hi : Nat) (bal cm : Bool) (a k : Nat)
    (h : prog[a]? = some (.goBack k)) :
    Sim2 c n nS prog lo hi bal cm (fun st => if k ≤ st.ix then [{ st with ix := st.ix - k }] else []) a (a + 1) :=
  (Sim2.test1 (fun st => decide (k ≤ st.ix)) (fun st => { st with ix := st.ix - k }) fun st aux astk X _ _ => by
      simp only [sstep, h, goBack]
      by_cases hq : k ≤ st.ix <;> simp [hq]).congr
    fun st => by simp

/-- `Save(slot)` records the current position in a capture slot -/
theorem sim2_save (c : Ctx) (n nS : Nat) (prog : List Insn) (lo hi : Nat) (bal cm : Bool) (a slot : Nat)
    (h : prog[a]? = some (.save slot)) (hslot : slot < n) :
    Sim2 c n nS prog lo hi bal cm (fun st => [st.setSlot slot (some st.ix)]) a (a + 1) :=
  Sim2.ofAt fun st aux hg hl => Sim2At.step (st' := st.setSlot slot (some st.ix))
    (fun astk X => by
      have h1 : slot < nS := by omega
      simp only [sstep, h, h1, ↓reduceIte, St.setSlot,
        unview_append_set_lt _ _ _ _ (show slot < st.slots.length by rw [hg.len]; exact hslot)])
    (AuxAgree.refl _ _ _ _) Sim2At.ret

theorem sim2_backref (c : Ctx) (n nS : Nat) (prog : List Insn) (lo hi : Nat) (bal cm : Bool) (a g : Nat)
    (hlen : c.len < UNSET) (h : prog[a]? = some (.backref (g * 2))) (hgn : 2 * g + 1 < n) :
    Sim2 c n nS prog lo hi bal cm (sem c (.backref g)) a (a + 1) :=
  (Sim2.test1 (backrefOK c g) (backrefUpd g) fun st aux astk X hg hl => by
      have hnS : 2 * g + 1 < nS := by omega
      simp only [sstep, h, Nat.mul_comm g 2, hnS, ↓reduceIte,
        unview_append_getElem?_lt _ aux _ (show 2 * g < st.slots.length by rw [hg.len]; omega),
        unview_append_getElem?_lt _ aux _ (show 2 * g + 1 < st.slots.length by rw [hg.len]; omega)]
      exact backref_insn hg hlen hgn (SCfg.fail X) (fun r => .run (a + 1) r.ix (unview r.slots ++ aux) astk X)).congr
    fun st => (sem_backref c g st).symm

theorem sim2_backrefExists (c : Ctx) (n nS : Nat) (prog : List Insn) (lo hi : Nat) (bal cm : Bool) (a g : Nat)
    (hlen : c.len < UNSET) (h : prog[a]? = some (.backrefExists g)) (hgn : 2 * g + 1 < n) :
    Sim2 c n nS prog lo hi bal cm (sem c (.backrefExists g)) a (a + 1) :=
  (Sim2.test1 (fun st => (st.slot (2 * g)).isSome) (fun st => st) fun st aux astk X hg hl => by
      have e1 := slot_unview hg hlen (2 * g) (by omega)
      have hnS : 2 * g < nS := by omega
      simp only [sstep, h, Nat.mul_comm g 2, hnS, ↓reduceIte, e1.1,
        unview_append_getElem?_lt _ aux _ (show 2 * g < st.slots.length by rw [hg.len]; omega)]
      cases h1 : st.slot (2 * g) with
      | none => simp
      | some lo =>
        have n1 : (lo == UNSET) = false := by simpa using e1.2 lo h1
        simp [n1]).congr
    fun st => by simp [sem]

/-- an unconditional jump (no branch is left behind, so the pc-range condition is vacuous and no
    relation between `a` and `b` is needed) -/
theorem sim2_jmp (c : Ctx) (n nS : Nat) (prog : List Insn) (lo hi : Nat) (bal cm : Bool) (a b : Nat)
    (h : prog[a]? = some (.jmp b)) :
    Sim2 c n nS prog lo hi bal cm (fun st => [st]) a b :=
  Sim2.ofAt fun _ _ _ _ => Sim2At.jmp h Sim2At.ret

/-! ## Capture group -/

/-- `a: Save(2g); <body> [a+1, b); b: Save(2g+1)`. The closing `Save` always succeeds with one result,
    so the body is used with the group's own continuation class. -/
theorem Sim2.group {c : Ctx} {n nS : Nat} {prog : List Insn} {lo hi : Nat} {bal cm : Bool} {e : Expr} {a b g : Nat}
    (h1 : prog[a]? = some (.save (g * 2))) (h2 : prog[b]? = some (.save (g * 2 + 1)))
    (hbody : Sim2 c n nS prog lo hi bal cm (sem c e) (a + 1) b) (hgn : 2 * g + 1 < n) (hab : a + 1 ≤ b) :
    Sim2 c n nS prog lo hi bal cm (sem c (.group g e)) a (b + 1) := by
  rw [Nat.mul_comm g 2] at h1 h2
  have s12 := Sim2.seqIn (sim2_save c n nS prog lo hi bal false a (2 * g) h1 (by omega)) hbody (keepsGood_saveIx c n _)
    (fun succ hsucc => by simpa [SuccOK] using hsucc.par.foldr (sem c e))
    (Nat.le_refl _) (Nat.le_refl _) (Nat.le_succ _) hab
  exact (Sim2.seqIn s12 (sim2_save c n nS prog lo hi bal cm b (2 * g + 1) h2 hgn) (keepsGood_saveIx_sem c n _ e)
    (fun succ hsucc => by simpa using hsucc.comp _)
    (Nat.le_refl _) (Nat.le_refl _) (by omega) (Nat.le_succ _)).congr fun st => (sem_group c g e st).symm

theorem sim2_group {c : Ctx} {n nS : Nat} {prog : List Insn} {lo hi : Nat} {bal cm : Bool} {e : Expr} {a b g : Nat}
    (h1 : prog[a]? = some (.save (g * 2))) (h2 : prog[b]? = some (.save (g * 2 + 1)))
    (hbody : Sim2 c n nS prog lo hi bal false (sem c e) (a + 1) b) (hgn : 2 * g + 1 < n) (hab : a + 1 ≤ b) :
    Sim2 c n nS prog lo hi bal cm (sem c (.group g e)) a (b + 1) :=
  Sim2.group h1 h2 hbody.toCommit hgn hab

/-! ## Optional -/

/-- greedy `x?`: `Split(a+1, b); <f>` -/
theorem Sim2.optG {c : Ctx} {n nS : Nat} {prog : List Insn} {lo hi : Nat} {bal cm : Bool} {f : St → List St} {a b : Nat}
    (hsplit : prog[a]? = some (.split (a + 1) b)) (h1 : Sim2 c n nS prog lo hi bal cm f (a + 1) b)
    (hab : a + 1 ≤ b) :
    Sim2 c n nS prog lo hi bal cm (fun st => f st ++ [st]) a b :=
  Sim2.ofAt fun _ _ hg hl => Sim2At.split hsplit (by omega)
    ((h1.at hg hl).mono (Nat.le_refl _) (Nat.le_refl _) (Nat.le_succ _) (Nat.le_refl _)) Sim2At.ret

/-- lazy `x??`: `Split(b, a+1); <f>` -/
theorem Sim2.optL {c : Ctx} {n nS : Nat} {prog : List Insn} {lo hi : Nat} {bal cm : Bool} {f : St → List St} {a b : Nat}
    (hsplit : prog[a]? = some (.split b (a + 1))) (h1 : Sim2 c n nS prog lo hi bal cm f (a + 1) b)
    (hab : a + 1 ≤ b) :
    Sim2 c n nS prog lo hi bal cm (fun st => st :: f st) a b :=
  Sim2.ofAt fun _ _ hg hl => Sim2At.split (l1 := [_]) hsplit (by omega) Sim2At.ret
    ((h1.at hg hl).mono (Nat.le_refl _) (Nat.le_refl _) (Nat.le_succ _) (Nat.le_refl _))

/-! ## Unbounded loops -/

/-- unbounded loop with head `h`: `h: Split(bs, next)` (greedy) or `Split(next, bs)` (lazy), body at
    `[bs, e)`, and control flowing from `e` back to `h`. Everything left on the branch stack lies in
    `[pa, pb]`, an address range that contains the body's range `[bs, e]` and the exit `next`. -/
theorem loop2 {c : Ctx} {n nS : Nat} {prog : List Insn} {lo hi : Nat} {bal greedy : Bool} {body : St → List St}
    {h bs e next lo' pa pb : Nat}
    (hsplit : prog[h]? = some (if greedy then .split bs next else .split next bs))
    (hbody : Sim2 c n nS prog lo hi bal false body bs e)
    (hflow : ∀ st aux l, Sim2At c n nS prog lo hi bal false pa pb st aux l h next →
      Sim2At c n nS prog lo hi bal false pa pb st aux l e next)
    (hadv : Advances body) (hkg : KeepsGood c n body)
    (hr1 : pa ≤ bs) (hr2 : bs ≤ pb) (hr3 : e ≤ pb) (hr4 : pa ≤ next) (hr5 : next ≤ pb) :
    ∀ (fuel count : Nat) (st : St) (aux : List Nat),
      st.Good c n → n + aux.length = nS → lo' ≤ count → c.len - st.ix < fuel →
      Sim2At c n nS prog lo hi bal false pa pb st aux (repLoop body lo' none greedy fuel count st) h next := by
  intro fuel
  induction fuel with
  | zero => intro count st aux _ _ _ hfuel; omega
  | succ fuel ih =>
    intro count st aux hg hl hlo hfuel
    rw [repLoop_succ_of (Or.inr hadv), if_neg (by simp), if_neg (Nat.not_lt.mpr hlo)]
    have hiter : Sim2At c n nS prog lo hi bal false pa pb st aux
        ((body st).flatMap (repLoop body lo' none greedy fuel (count + 1))) bs next :=
      ((hbody.at hg hl).mono (Nat.le_refl _) (Nat.le_refl _) hr1 hr3).bindPar (Nat.le_refl _) (Nat.le_refl _) fun r hr aux' hag =>
        have hgr := hkg st r hg hr
        hflow _ _ _ (ih (count + 1) r aux' hgr (hag.1 ▸ hl) (by omega)
          (by have := hadv st r hr; have := hgr.ix; omega))
    cases greedy with
    | true => exact Sim2At.split hsplit ⟨hr4, hr5⟩ hiter Sim2At.ret
    | false => exact Sim2At.split (l1 := [_]) hsplit ⟨hr1, hr2⟩ Sim2At.ret hiter

/-! ## `*` and `+` -/

/-- `e*` / `e*?`: `pc: Split(pc+1, m+1)` (greedy) or `Split(m+1, pc+1)` (lazy); body at `[pc+1, m)`;
    `m: Jmp pc` -/
theorem sim2_star {c : Ctx} {n nS : Nat} {prog : List Insn} {lo hi : Nat} {bal cm : Bool} {e : Expr} {pc m : Nat}
    {greedy : Bool}
    (hsplit : prog[pc]? = some (if greedy then .split (pc + 1) (m + 1) else .split (m + 1) (pc + 1)))
    (hjmp : prog[m]? = some (.jmp pc))
    (hbody : Sim2 c n nS prog lo hi bal false (sem c e) (pc + 1) m)
    (hw : wellShaped e = true) (hm : 0 < minSize e) (hpm : pc + 1 ≤ m) :
    Sim2 c n nS prog lo hi bal cm (sem c (.repeat e 0 none greedy)) pc (m + 1) :=
  Sim2.toCommit <| Sim2.ofAt fun st aux hg hl => by
    simp only [sem]
    exact loop2 hsplit hbody (fun _ _ _ => Sim2At.jmp hjmp) (advances_of_minSize c e hw hm) (keepsGood_sem c n e)
      (by omega) (by omega) (by omega) (by omega) (by omega) _ 0 st aux hg hl (Nat.le_refl _) (by omega)

/-- `e+` / `e+?`: body at `[pc, m)`; `m: Split(pc, m+1)` (greedy) or `Split(m+1, pc)` (lazy) -/
theorem sim2_plus {c : Ctx} {n nS : Nat} {prog : List Insn} {lo hi : Nat} {bal cm : Bool} {e : Expr} {pc m : Nat}
    {greedy : Bool}
    (hsplit : prog[m]? = some (if greedy then .split pc (m + 1) else .split (m + 1) pc))
    (hbody : Sim2 c n nS prog lo hi bal false (sem c e) pc m)
    (hw : wellShaped e = true) (hm : 0 < minSize e) (hpm : pc ≤ m) :
    Sim2 c n nS prog lo hi bal cm (sem c (.repeat e 1 none greedy)) pc (m + 1) :=
  Sim2.toCommit <| Sim2.ofAt fun st aux hg hl => by
    rw [sem_plus]
    refine ((hbody.at hg hl).mono (Nat.le_refl _) (Nat.le_refl _) (Nat.le_refl _) (Nat.le_succ _)).bindPar
      (Nat.le_refl _) (Nat.le_refl _) fun r hr aux' hag => ?_
    have hgr := keepsGood_sem c n e st r hg hr
    exact loop2 hsplit hbody (fun _ _ _ h => h) (advances_of_minSize c e hw hm) (keepsGood_sem c n e)
      (Nat.le_refl _) (by omega) (by omega) (by omega) (Nat.le_refl _) _ 1 r aux' hgr (hag.1 ▸ hl) (Nat.le_refl _)
      (by have := hgr.ix; omega)

/-! ## Literal runs -/

/-- `compile_delegates` of an all-literal run is a single `Lit` (or nothing) and simulates the run -/
theorem sim2_literal_run (c : Ctx) (n nS : Nat) (prog : List Insn) (lo hi : Nat) (bal cm : Bool) (es : List Expr)
    (gix a : Nat) (hl : isLiteralAll es = true) (hc : CodeAt prog a (compileDelegates es gix)) :
    Sim2 c n nS prog lo hi bal cm (semConcat c es) a (a + (compileDelegates es gix).length) := by
  unfold compileDelegates at hc ⊢
  by_cases he : es.isEmpty = true
  · simp only [he, ↓reduceIte, List.length_nil, Nat.add_zero]
    have : es = [] := by simpa using he
    subst this
    exact (Sim2.nil c n nS prog lo hi bal cm a).congr (fun st => by simp [semConcat])
  · simp only [he, Bool.false_eq_true, ↓reduceIte, hl, List.length_cons, List.length_nil, Nat.zero_add] at hc ⊢
    have := sim2_lit c n nS prog lo hi bal cm a (pushLiteralAll es) hc.head
    exact this.congr (fun st => (semConcat_isLiteralAll c es hl st).symm)

theorem sim2_delegates_run (c : Ctx) (n nS : Nat) (prog : List Insn) (lo hi : Nat) (bal cm : Bool) (es : List Expr)
    (gix a : Nat) (hn : noDeleg (compileDelegates es gix) = true) (hc : CodeAt prog a (compileDelegates es gix)) :
    Sim2 c n nS prog lo hi bal cm (semConcat c es) a (a + (compileDelegates es gix).length) := by
  rcases compileDelegates_noDeleg es gix hn with he | hl
  · have : es = [] := by simpa using he
    subst this
    simpa [compileDelegates, semConcat] using
      (Sim2.nil c n nS prog lo hi bal cm a).congr (fun st => by simp [semConcat])
  · exact sim2_literal_run c n nS prog lo hi bal cm es gix a hl hc

/-- a literal sub-tree compiled by `compile_delegate` (the non-hard-context case): one `Lit` -/
theorem sim2_isLiteral (c : Ctx) (n nS : Nat) (prog : List Insn) (lo hi : Nat) (bal cm : Bool) (e : Expr) (a : Nat)
    (hl : isLiteral e = true) (h : prog[a]? = some (.lit (pushLiteral e))) :
    Sim2 c n nS prog lo hi bal cm (sem c e) a (a + 1) :=
  (sim2_lit c n nS prog lo hi bal cm a (pushLiteral e) h).congr (fun st => (sem_isLiteral c e hl st).symm)


/-! ## The hypotheses are satisfiable: concrete programs -/

/-- `(.)` as group 1 with 4 capture slots and 2 auxiliary slots: `Save 2; Any; Save 3` -/
example (c : Ctx) (bal cm : Bool) :
    Sim2 c 4 6 [.save 2, .any, .save 3] 4 6 bal cm (sem c (.group 1 (.any true))) 0 3 :=
  sim2_group (g := 1) (a := 0) (b := 2) (by simp) (by simp)
    (sim2_any c 4 6 _ 4 6 bal false 1 (by simp)) (by omega) (by omega)

/-- `.?` and `.??` -/
example (c : Ctx) (bal cm : Bool) :
    Sim2 c 2 3 [.split 1 2, .any] 2 3 bal cm (fun st => sem c (.any true) st ++ [st]) 0 2 :=
  Sim2.optG (a := 0) (b := 2) (by simp) (sim2_any c 2 3 _ 2 3 bal cm 1 (by simp)) (by omega)

example (c : Ctx) (bal cm : Bool) :
    Sim2 c 2 3 [.split 2 1, .any] 2 3 bal cm (fun st => st :: sem c (.any true) st) 0 2 :=
  Sim2.optL (a := 0) (b := 2) (by simp) (sim2_any c 2 3 _ 2 3 bal cm 1 (by simp)) (by omega)

/-- `.*` and `.*?`: `Split(1,3); Any; Jmp 0` -/
example (c : Ctx) (bal cm : Bool) :
    Sim2 c 2 3 [.split 1 3, .any, .jmp 0] 2 3 bal cm (sem c (.repeat (.any true) 0 none true)) 0 3 :=
  sim2_star (pc := 0) (m := 2) (greedy := true) (by simp) (by simp) (sim2_any c 2 3 _ 2 3 bal false 1 (by simp))
    (by simp [wellShaped]) (by simp [minSize]) (by omega)

example (c : Ctx) (bal cm : Bool) :
    Sim2 c 2 3 [.split 3 1, .any, .jmp 0] 2 3 bal cm (sem c (.repeat (.any true) 0 none false)) 0 3 :=
  sim2_star (pc := 0) (m := 2) (greedy := false) (by simp) (by simp) (sim2_any c 2 3 _ 2 3 bal false 1 (by simp))
    (by simp [wellShaped]) (by simp [minSize]) (by omega)

/-- `.+` and `.+?`: `Any; Split(0,2)` -/
example (c : Ctx) (bal cm : Bool) :
    Sim2 c 2 3 [.any, .split 0 2] 2 3 bal cm (sem c (.repeat (.any true) 1 none true)) 0 2 :=
  sim2_plus (pc := 0) (m := 1) (greedy := true) (by simp) (sim2_any c 2 3 _ 2 3 bal false 0 (by simp))
    (by simp [wellShaped]) (by simp [minSize]) (by omega)

example (c : Ctx) (bal cm : Bool) :
    Sim2 c 2 3 [.any, .split 2 0] 2 3 bal cm (sem c (.repeat (.any true) 1 none false)) 0 2 :=
  sim2_plus (pc := 0) (m := 1) (greedy := false) (by simp) (sim2_any c 2 3 _ 2 3 bal false 0 (by simp))
    (by simp [wellShaped]) (by simp [minSize]) (by omega)

/-- the literal run `ab` compiled by `compile_delegates` -/
example (c : Ctx) (bal cm : Bool) :
    Sim2 c 2 2 (compileDelegates [.literal ['a'] false, .literal ['b'] false] 0) 2 2 bal cm
      (semConcat c [.literal ['a'] false, .literal ['b'] false]) 0
      (0 + (compileDelegates [.literal ['a'] false, .literal ['b'] false] 0).length) :=
  sim2_delegates_run c 2 2 _ 2 2 bal cm _ 0 0 (by simp [compileDelegates, isLiteralAll, isLiteral, noDeleg, Insn.isDelegate])
    ⟨[], [], by simp, rfl⟩

example (c : Ctx) (bal cm : Bool) :
    Sim2 c 2 2 [.lit ['a', 'b']] 2 2 bal cm (sem c (.concat [.literal ['a'] false, .literal ['b'] false])) 0 1 :=
  sim2_isLiteral c 2 2 _ 2 2 bal cm _ 0 (by simp [isLiteral, isLiteralAll])
    (by simp [pushLiteral, pushLiteralAll])

/-- back-reference to group 1 and group test, 4 capture slots -/
example (c : Ctx) (bal cm : Bool) (hlen : c.len < UNSET) :
    Sim2 c 4 4 [.backref 2, .backrefExists 1] 4 4 bal cm
      (fun st => (sem c (.backref 1) st).flatMap (sem c (.backrefExists 1))) 0 2 :=
  Sim2.seq (m := 1) (sim2_backref c 4 4 _ 4 4 bal false 0 1 hlen (by simp) (by omega))
    (sim2_backrefExists c 4 4 _ 4 4 bal cm 1 1 hlen (by simp) (by omega)) (keepsGood_sem c 4 _)
    (Nat.le_refl _) (Nat.le_refl _) (by omega) (by omega)

/-- the remaining leaves on a concrete program -/
example (c : Ctx) (bal cm : Bool) :
    Sim2 c 2 3 [.anyNoNL, .assertion .wordB, .lit ['x'], .contPrev, .goBack 2, .save 0, .jmp 9] 2 3 bal cm
      (sem c (.any false)) 0 1 ∧
    Sim2 c 2 3 [.anyNoNL, .assertion .wordB, .lit ['x'], .contPrev, .goBack 2, .save 0, .jmp 9] 2 3 bal cm
      (sem c (.assertion .wordB)) 1 2 ∧
    Sim2 c 2 3 [.anyNoNL, .assertion .wordB, .lit ['x'], .contPrev, .goBack 2, .save 0, .jmp 9] 2 3 bal cm
      (sem c .contPrev) 3 4 ∧
    Sim2 c 2 3 [.anyNoNL, .assertion .wordB, .lit ['x'], .contPrev, .goBack 2, .save 0, .jmp 9] 2 3 bal cm
      (fun st => if 2 ≤ st.ix then [{ st with ix := st.ix - 2 }] else []) 4 5 ∧
    Sim2 c 2 3 [.anyNoNL, .assertion .wordB, .lit ['x'], .contPrev, .goBack 2, .save 0, .jmp 9] 2 3 bal cm
      (fun st => [st.setSlot 0 (some st.ix)]) 5 6 ∧
    Sim2 c 2 3 [.anyNoNL, .assertion .wordB, .lit ['x'], .contPrev, .goBack 2, .save 0, .jmp 9] 2 3 bal cm
      (fun st => [st]) 6 9 :=
  ⟨sim2_anyNoNL c 2 3 _ 2 3 bal cm 0 (by simp), sim2_assertion c 2 3 _ 2 3 bal cm 1 _ (by simp),
    sim2_contPrev c 2 3 _ 2 3 bal cm 3 (by simp), sim2_goBack c 2 3 _ 2 3 bal cm 4 2 (by simp),
    sim2_save c 2 3 _ 2 3 bal cm 5 0 (by simp) (by omega), sim2_jmp c 2 3 _ 2 3 bal cm 6 9 (by simp)⟩

end Fancy
