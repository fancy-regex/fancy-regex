import FancyModel.Lemmas.AVM
import FancyModel.Lemmas.SemGood
/-!
# Simulation: compiled code enumerates the reference results (interpreted core, stage S1)

`Sim c prog e a b`: with the code of `e` at addresses `[a, b)` of `prog`, the abstract machine
started at `a` in (the machine image of) state `st`, above a branch stack `X`, computes

    (sem c e st).foldr succ failA

where `failA` is what failing into `X` yields and `succ r acc` is what running on from `b` in state
`r` yields when failing back (into the alternatives the code of `e` left above `X`) yields `acc`.
Because `foldr` over the *ordered* result list is exactly "try the results in priority order", this
one statement covers match existence, the choice of the winning path and all captures.
-/
namespace Fancy

/-- the machine's slot vector for semantic slots (`none` ↦ the unset sentinel) -/
def unview (sl : List (Option Nat)) : List Nat := sl.map (·.getD UNSET)

@[simp] theorem unview_length (sl : List (Option Nat)) : (unview sl).length = sl.length := by simp [unview]

theorem unview_set (sl : List (Option Nat)) (i v : Nat) : unview (sl.set i (some v)) = (unview sl).set i v := by
  simp [unview, List.map_set]

theorem unview_getElem? (sl : List (Option Nat)) (i : Nat) : (unview sl)[i]? = (sl[i]?).map (·.getD UNSET) := by
  simp [unview]

theorem viewSlots_unview (sl : List (Option Nat)) (h : ∀ v, some v ∈ sl → v ≠ UNSET) :
    viewSlots (unview sl) = sl := by
  induction sl with
  | nil => rfl
  | cons a as ih =>
    simp only [viewSlots, unview, List.map_cons, List.map_map, List.cons.injEq]
    constructor
    · cases a with
      | none => simp
      | some v =>
        have := h v (by simp)
        simp [this]
    · have := ih (fun v hv => h v (by simp [hv]))
      simpa [viewSlots, unview] using this

def Sim (c : Ctx) (n : Nat) (prog : List Insn) (sm : St → List St) (a b : Nat) : Prop :=
  ∀ (st : St) (X : List ABranch) (succ : St → Ans → Ans) (failA : Ans),
    st.Good c n →
    Big c prog (.fail X) failA →
    (∀ r, r ∈ sm st → ∀ S acc, Big c prog (.fail (S ++ X)) acc →
        Big c prog (.run b r.ix (unview r.slots) (S ++ X)) (succ r acc)) →
    Big c prog (.run a st.ix (unview st.slots) X) ((sm st).foldr succ failA)

/-- the results of `sm` stay inside the text -/
def KeepsGood (c : Ctx) (n : Nat) (sm : St → List St) : Prop := ∀ st r, st.Good c n → r ∈ sm st → r.Good c n

theorem keepsGood_firstOnly {c : Ctx} {n : Nat} {f : St → List St} (h : KeepsGood c n f) :
    KeepsGood c n (fun st => firstOnly (f st)) :=
  fun st r hg hr => h st r hg (firstOnly_mem _ r hr)

def CodeAt (prog : List Insn) (a : Nat) (code : List Insn) : Prop :=
  ∃ pre post, prog = pre ++ code ++ post ∧ pre.length = a

theorem CodeAt.get {prog : List Insn} {a : Nat} {code : List Insn} (h : CodeAt prog a code) (i : Nat)
    (hi : i < code.length) : prog[a + i]? = code[i]? := by
  obtain ⟨pre, post, rfl, rfl⟩ := h
  rw [List.append_assoc, List.getElem?_append_right (by omega)]
  simp only [Nat.add_sub_cancel_left]
  rw [List.getElem?_append_left hi]

theorem CodeAt.left {prog : List Insn} {a : Nat} {c1 c2 : List Insn} (h : CodeAt prog a (c1 ++ c2)) :
    CodeAt prog a c1 := by
  obtain ⟨pre, post, rfl, rfl⟩ := h
  exact ⟨pre, c2 ++ post, by simp [List.append_assoc], rfl⟩

theorem CodeAt.right {prog : List Insn} {a : Nat} {c1 c2 : List Insn} (h : CodeAt prog a (c1 ++ c2)) :
    CodeAt prog (a + c1.length) c2 := by
  obtain ⟨pre, post, rfl, rfl⟩ := h
  exact ⟨pre ++ c1, post, by simp [List.append_assoc], by simp⟩

theorem CodeAt.head {prog : List Insn} {a : Nat} {i : Insn} {rest : List Insn} (h : CodeAt prog a (i :: rest)) :
    prog[a]? = some i := by
  have := h.get 0 (by simp)
  simpa using this

theorem CodeAt.tail {prog : List Insn} {a : Nat} {i : Insn} {rest : List Insn} (h : CodeAt prog a (i :: rest)) :
    CodeAt prog (a + 1) rest := by
  have : i :: rest = [i] ++ rest := rfl
  rw [this] at h
  simpa using h.right

theorem foldr_flatMap {α β : Type} (l : List α) (f : α → List α) (succ : α → β → β) (z : β) :
    (l.flatMap f).foldr succ z = l.foldr (fun r acc => (f r).foldr succ acc) z := by
  induction l with
  | nil => rfl
  | cons a as ih => simp [List.foldr_append, ih]

/-! ## The relation at one state

`SimAt` is `Sim` for one start state `st` and the list `l` of results tried from there. Machine steps
are taken in `step`/`fail`/`split` only; the structural rules and the loops compose these with `ret`
and `bind`. -/

def SimAt (c : Ctx) (prog : List Insn) (st : St) (l : List St) (a b : Nat) : Prop :=
  ∀ (X : List ABranch) (succ : St → Ans → Ans) (failA : Ans), Big c prog (.fail X) failA →
    (∀ r, r ∈ l → ∀ S acc, Big c prog (.fail (S ++ X)) acc →
      Big c prog (.run b r.ix (unview r.slots) (S ++ X)) (succ r acc)) →
    Big c prog (.run a st.ix (unview st.slots) X) (l.foldr succ failA)

section At
variable {c : Ctx} {n : Nat} {prog : List Insn} {st : St} {a b : Nat}

theorem Sim.at {sm : St → List St} (h : Sim c n prog sm a b) (hg : st.Good c n) : SimAt c prog st (sm st) a b :=
  fun X succ failA => h st X succ failA hg

theorem Sim.ofAt {sm : St → List St} (h : ∀ st, st.Good c n → SimAt c prog st (sm st) a b) : Sim c n prog sm a b :=
  fun st X succ failA hg => h st hg X succ failA

theorem SimAt.ret : SimAt c prog st [st] a a :=
  fun X succ failA hf hs => by simpa using hs st (by simp) [] failA (by simpa using hf)

theorem SimAt.step {st' : St} {l : List St} {a' : Nat}
    (hstep : ∀ X, astep c prog a st.ix (unview st.slots) X = some (.run a' st'.ix (unview st'.slots) X))
    (h : SimAt c prog st' l a' b) : SimAt c prog st l a b :=
  fun X succ failA hf hs => Big.step _ _ _ _ _ _ (hstep X) (h X succ failA hf hs)

theorem SimAt.fail (hstep : ∀ X, astep c prog a st.ix (unview st.slots) X = some (.fail X)) :
    SimAt c prog st [] a b :=
  fun X _ _ hf _ => Big.step _ _ _ _ _ _ (hstep X) hf

/-- `Split(x, y)`: the results from `x` are tried first, then, through the branch left, those from `y` -/
theorem SimAt.split {l1 l2 : List St} {x y : Nat} (hsplit : prog[a]? = some (.split x y))
    (h1 : SimAt c prog st l1 x b) (h2 : SimAt c prog st l2 y b) : SimAt c prog st (l1 ++ l2) a b := by
  intro X succ failA hf hs
  rw [List.foldr_append]
  have hstep : astep c prog a st.ix (unview st.slots) X =
      some (.run x st.ix (unview st.slots) (⟨y, st.ix, unview st.slots⟩ :: X)) := by
    simp only [astep, hsplit]
  apply Big.step _ _ _ _ _ _ hstep
  apply h1 (⟨y, st.ix, unview st.slots⟩ :: X) succ _
  · exact Big.failPop _ _ _ (h2 X succ failA hf (fun r hr => hs r (List.mem_append_right _ hr)))
  · intro r hr S acc hacc
    have := hs r (List.mem_append_left _ hr) (S ++ [⟨y, st.ix, unview st.slots⟩]) acc
      (by simpa [List.append_assoc] using hacc)
    simpa [List.append_assoc] using this

theorem SimAt.jmp {l : List St} {t : Nat} (hjmp : prog[a]? = some (.jmp t)) (h : SimAt c prog st l t b) :
    SimAt c prog st l a b :=
  SimAt.step (fun X => by simp only [astep, hjmp]) h

theorem SimAt.bind {l : List St} {g : St → List St} {m : Nat} (h1 : SimAt c prog st l a m)
    (h2 : ∀ r, r ∈ l → SimAt c prog r (g r) m b) : SimAt c prog st (l.flatMap g) a b := by
  intro X succ failA hf hs
  rw [foldr_flatMap]
  apply h1 X (fun r acc => (g r).foldr succ acc) failA hf
  intro r1 hr1 S1 acc1 hf1
  apply h2 r1 hr1 (S1 ++ X) succ acc1 hf1
  intro r2 hr2 S2 acc2 hf2
  have := hs r2 (List.mem_flatMap.mpr ⟨r1, hr1, hr2⟩) (S2 ++ S1) acc2 (by simpa [List.append_assoc] using hf2)
  simpa [List.append_assoc] using this

end At

/-! ## Structural rules -/

/-- empty code simulates the identity -/
theorem Sim.nil (c : Ctx) (n : Nat) (prog : List Insn) (a : Nat) : Sim c n prog (fun st => [st]) a a :=
  Sim.ofAt fun _ _ => SimAt.ret

theorem Sim.seq {c : Ctx} {n : Nat} {prog : List Insn} {f g : St → List St} {a m b : Nat}
    (h1 : Sim c n prog f a m) (h2 : Sim c n prog g m b) (hk : KeepsGood c n f) :
    Sim c n prog (fun st => (f st).flatMap g) a b :=
  Sim.ofAt fun st hg => (h1.at hg).bind fun r hr => h2.at (hk st r hg hr)

/-- a semantics equal pointwise simulates the same -/
theorem Sim.congr {c : Ctx} {n : Nat} {prog : List Insn} {f g : St → List St} {a b : Nat}
    (h : Sim c n prog f a b) (hfg : ∀ st, f st = g st) : Sim c n prog g a b := by
  have : f = g := funext hfg
  rwa [this] at h

/-- a single instruction that either advances (one result) or fails (no result) -/
theorem Sim.test1 {c : Ctx} {n : Nat} {prog : List Insn} {a : Nat} (cond : St → Bool) (upd : St → St)
    (hstep : ∀ (st : St) X, st.Good c n →
      astep c prog a st.ix (unview st.slots) X =
        some (if cond st then .run (a + 1) (upd st).ix (unview (upd st).slots) X else .fail X)) :
    Sim c n prog (fun st => if cond st then [upd st] else []) a (a + 1) := by
  refine Sim.ofAt fun st hg => ?_
  have h := fun X => hstep st X hg
  cases hc : cond st <;> simp only [hc, Bool.false_eq_true, ↓reduceIte] at h ⊢
  · exact SimAt.fail h
  · exact SimAt.step h SimAt.ret

/-- alternation of two pieces of code: `Split(a+1, m+1); <f>; Jmp b; <g>` with `<f>` at `[a+1, m)` -/
theorem Sim.alt2 {c : Ctx} {n : Nat} {prog : List Insn} {f g : St → List St} {a m b : Nat}
    (hsplit : prog[a]? = some (.split (a + 1) (m + 1))) (hjmp : prog[m]? = some (.jmp b))
    (h1 : Sim c n prog f (a + 1) m) (h2 : Sim c n prog g (m + 1) b) :
    Sim c n prog (fun st => f st ++ g st) a b :=
  Sim.ofAt fun st hg => by
    have hf := (h1.at hg).bind (g := fun r => [r]) fun _ _ => SimAt.jmp hjmp SimAt.ret
    rw [List.flatMap_singleton'] at hf
    exact SimAt.split hsplit hf (h2.at hg)

/-! ## Leaves -/

/-- `.` with and without newline as a test and an update (both machines have these instructions) -/
theorem sem_any (c : Ctx) (st : St) :
    sem c (.any true) st = if (c.at? st.ix).isSome then [{ st with ix := st.ix + 1 }] else [] := by
  simp only [sem]
  cases c.at? st.ix <;> simp

theorem sem_anyNoNL (c : Ctx) (st : St) :
    sem c (.any false) st =
      if (match c.at? st.ix with | some ch => ch != '\n' | none => false) then [{ st with ix := st.ix + 1 }] else [] := by
  simp only [sem]
  cases c.at? st.ix with
  | none => simp
  | some ch => by_cases hq : (ch != '\n') = true <;> simp [hq]

theorem sim_any (c : Ctx) (n : Nat) (prog : List Insn) (a : Nat) (h : prog[a]? = some .any) :
    Sim c n prog (sem c (.any true)) a (a + 1) :=
  (Sim.test1 (fun st => (c.at? st.ix).isSome) (fun st => { st with ix := st.ix + 1 }) fun st X _ => by
      simp only [astep, h]
      cases c.at? st.ix <;> simp).congr
    fun st => (sem_any c st).symm

theorem sim_anyNoNL (c : Ctx) (n : Nat) (prog : List Insn) (a : Nat) (h : prog[a]? = some .anyNoNL) :
    Sim c n prog (sem c (.any false)) a (a + 1) :=
  (Sim.test1 (fun st => match c.at? st.ix with | some ch => ch != '\n' | none => false)
      (fun st => { st with ix := st.ix + 1 }) fun st X _ => by
      simp only [astep, h]
      cases c.at? st.ix with
      | none => simp
      | some ch => by_cases hq : (ch != '\n') = true <;> simp [hq]).congr
    fun st => (sem_anyNoNL c st).symm

theorem sim_assertion (c : Ctx) (n : Nat) (prog : List Insn) (a : Nat) (x : Assertion)
    (h : prog[a]? = some (.assertion x)) : Sim c n prog (sem c (.assertion x)) a (a + 1) :=
  (Sim.test1 (fun st => c.assertion x st.ix) (fun st => st) fun st X _ => by
      simp only [astep, h]
      by_cases hq : c.assertion x st.ix = true <;> simp [hq]).congr
    fun st => by simp [sem]

theorem sim_lit (c : Ctx) (n : Nat) (prog : List Insn) (a : Nat) (val : List Char)
    (h : prog[a]? = some (.lit val)) :
    Sim c n prog (fun st => if c.litAt false val st.ix then [{ st with ix := st.ix + val.length }] else []) a (a + 1) :=
  Sim.test1 (fun st => c.litAt false val st.ix) (fun st => { st with ix := st.ix + val.length }) fun st X _ => by
    simp only [astep, h]
    by_cases hq : c.litAt false val st.ix = true <;> simp [hq]

theorem sim_contPrev (c : Ctx) (n : Nat) (prog : List Insn) (a : Nat) (h : prog[a]? = some .contPrev) :
    Sim c n prog (sem c .contPrev) a (a + 1) :=
  (Sim.test1 (fun st => st.ix == c.pos && !c.skipped) (fun st => st) fun st X _ => by
      simp only [astep, h]
      by_cases h1 : st.ix = c.pos <;> by_cases h2 : c.skipped = true <;> simp [h1, h2]).congr
    fun st => by simp [sem]

/-- `Save(slot)` records the current position in a capture slot -/
theorem sim_save (c : Ctx) (n : Nat) (prog : List Insn) (a slot : Nat) (h : prog[a]? = some (.save slot))
    (hslot : slot < n) :
    Sim c n prog (fun st => [st.setSlot slot (some st.ix)]) a (a + 1) :=
  Sim.ofAt fun st hg => SimAt.step (st' := st.setSlot slot (some st.ix))
    (fun X => by simp only [astep, h, unview_length, hg.len, hslot, ↓reduceIte, St.setSlot, unview_set]) SimAt.ret

/-! ## Optional and loops -/

/-- greedy `x?`: `Split(a+1, b); <f>` -/
theorem Sim.optG {c : Ctx} {n : Nat} {prog : List Insn} {f : St → List St} {a b : Nat}
    (hsplit : prog[a]? = some (.split (a + 1) b)) (h1 : Sim c n prog f (a + 1) b) :
    Sim c n prog (fun st => f st ++ [st]) a b :=
  Sim.ofAt fun _ hg => SimAt.split hsplit (h1.at hg) SimAt.ret

/-- lazy `x??`: `Split(b, a+1); <f>` -/
theorem Sim.optL {c : Ctx} {n : Nat} {prog : List Insn} {f : St → List St} {a b : Nat}
    (hsplit : prog[a]? = some (.split b (a + 1))) (h1 : Sim c n prog f (a + 1) b) :
    Sim c n prog (fun st => st :: f st) a b :=
  Sim.ofAt fun _ hg => SimAt.split (l1 := [_]) hsplit SimAt.ret (h1.at hg)

/-- every result of `body` lies strictly to the right of where it started -/
def Advances (body : St → List St) : Prop := ∀ st r, r ∈ body st → st.ix < r.ix

theorem flatMap_congr_mem {α β : Type} (l : List α) (f g : α → List β) (h : ∀ r, r ∈ l → f r = g r) :
    l.flatMap f = l.flatMap g := by
  induction l with
  | nil => rfl
  | cons a as ih =>
    simp only [List.flatMap_cons]
    rw [h a (by simp), ih (fun r hr => h r (by simp [hr]))]

/-- when the bound is finite or the body always advances, the empty-iteration clause of `repLoop`
    never fires: one unrolling is plain counted unrolling -/
theorem repLoop_succ_of {body : St → List St} {lo : Nat} {hi : Option Nat} {greedy : Bool}
    (hne : hi ≠ none ∨ Advances body) (fuel count : Nat) (st : St) :
    repLoop body lo hi greedy (fuel + 1) count st =
      if hi = some count then [st] else
        if count < lo then (body st).flatMap (repLoop body lo hi greedy fuel (count + 1))
        else if greedy then (body st).flatMap (repLoop body lo hi greedy fuel (count + 1)) ++ [st]
        else st :: (body st).flatMap (repLoop body lo hi greedy fuel (count + 1)) := by
  have hit : ((body st).flatMap fun r =>
        if hi.isNone && decide (lo ≤ count) && r.ix == st.ix then [r]
        else repLoop body lo hi greedy fuel (count + 1) r) =
      (body st).flatMap (repLoop body lo hi greedy fuel (count + 1)) := by
    apply flatMap_congr_mem
    intro r hr
    rcases hne with h | h
    · cases hi with
      | none => exact absurd rfl h
      | some x => simp
    · have h1 := h st r hr
      have h2 : (r.ix == st.ix) = false := by simp; omega
      simp [h2]
  conv => lhs; unfold repLoop
  simp only [hit]

/-- unbounded loop with head `h`: `h: Split(bs, next)` (greedy) or `Split(next, bs)` (lazy), body at
    `[bs, e)`, and control flowing from `e` back to `h` -/
theorem loop1 {c : Ctx} {n : Nat} {prog : List Insn} {body : St → List St} {h bs e next lo : Nat} {greedy : Bool}
    (hsplit : prog[h]? = some (if greedy then .split bs next else .split next bs)) (hbody : Sim c n prog body bs e)
    (hflow : ∀ ix saves X a, Big c prog (.run h ix saves X) a → Big c prog (.run e ix saves X) a)
    (hadv : Advances body) (hkg : KeepsGood c n body) :
    ∀ (fuel count : Nat) (st : St), st.Good c n → lo ≤ count → c.len - st.ix < fuel →
      SimAt c prog st (repLoop body lo none greedy fuel count st) h next := by
  intro fuel
  induction fuel with
  | zero => intro count st _ _ hfuel; omega
  | succ fuel ih =>
    intro count st hg hlo hfuel
    rw [repLoop_succ_of (Or.inr hadv), if_neg (by simp), if_neg (Nat.not_lt.mpr hlo)]
    have hiter : SimAt c prog st ((body st).flatMap (repLoop body lo none greedy fuel (count + 1))) bs next :=
      (hbody.at hg).bind fun r hr X succ failA hf hs =>
        have hgr := hkg st r hg hr
        hflow _ _ _ _ (ih (count + 1) r hgr (by omega) (by have := hadv st r hr; have := hgr.ix; omega) X succ failA hf hs)
    cases greedy with
    | true => exact SimAt.split hsplit hiter SimAt.ret
    | false => exact SimAt.split (l1 := [_]) hsplit SimAt.ret hiter

/-- unbounded greedy loop with head `h`: `h: Split(bs, next)`, body at `[bs, e)`, and control
    flowing from `e` back to `h` -/
theorem loop_greedy {c : Ctx} {n : Nat} {prog : List Insn} {body : St → List St} {h bs e next lo : Nat}
    (hsplit : prog[h]? = some (.split bs next)) (hbody : Sim c n prog body bs e)
    (hflow : ∀ ix saves X a, Big c prog (.run h ix saves X) a → Big c prog (.run e ix saves X) a)
    (hadv : Advances body) (hkg : KeepsGood c n body) :
    ∀ (k : Nat) (st : St) (X : List ABranch) (succ : St → Ans → Ans) (failA : Ans) (fuel count : Nat),
      c.len - st.ix ≤ k → st.Good c n → lo ≤ count → c.len - st.ix < fuel →
      Big c prog (.fail X) failA →
      (∀ r, r ∈ repLoop body lo none true fuel count st → ∀ S acc, Big c prog (.fail (S ++ X)) acc →
          Big c prog (.run next r.ix (unview r.slots) (S ++ X)) (succ r acc)) →
      Big c prog (.run h st.ix (unview st.slots) X) ((repLoop body lo none true fuel count st).foldr succ failA) :=
  fun _ st X succ failA fuel count _ hg hlo hfuel =>
    loop1 (greedy := true) hsplit hbody hflow hadv hkg fuel count st hg hlo hfuel X succ failA

/-- unbounded lazy loop with head `h`: `h: Split(next, bs)` -/
theorem loop_lazy {c : Ctx} {n : Nat} {prog : List Insn} {body : St → List St} {h bs e next lo : Nat}
    (hsplit : prog[h]? = some (.split next bs)) (hbody : Sim c n prog body bs e)
    (hflow : ∀ ix saves X a, Big c prog (.run h ix saves X) a → Big c prog (.run e ix saves X) a)
    (hadv : Advances body) (hkg : KeepsGood c n body) :
    ∀ (k : Nat) (st : St) (X : List ABranch) (succ : St → Ans → Ans) (failA : Ans) (fuel count : Nat),
      c.len - st.ix ≤ k → st.Good c n → lo ≤ count → c.len - st.ix < fuel →
      Big c prog (.fail X) failA →
      (∀ r, r ∈ repLoop body lo none false fuel count st → ∀ S acc, Big c prog (.fail (S ++ X)) acc →
          Big c prog (.run next r.ix (unview r.slots) (S ++ X)) (succ r acc)) →
      Big c prog (.run h st.ix (unview st.slots) X) ((repLoop body lo none false fuel count st).foldr succ failA) :=
  fun _ st X succ failA fuel count _ hg hlo hfuel =>
    loop1 (greedy := false) hsplit hbody hflow hadv hkg fuel count st hg hlo hfuel X succ failA

/-! ## Back-reference and group -/

theorem slot_unview {c : Ctx} {n : Nat} {st : St} (hg : st.Good c n) (hlen : c.len < UNSET) (i : Nat) (hi : i < n) :
    (unview st.slots)[i]? = some (match st.slot i with | some v => v | none => UNSET) ∧
      (∀ v, st.slot i = some v → v ≠ UNSET) := by
  have hl : i < st.slots.length := by rw [hg.len]; exact hi
  constructor
  · rw [unview_getElem?, List.getElem?_eq_getElem hl]
    simp only [Option.map_some, St.slot, List.getElem?_eq_getElem hl, Option.join_some]
    cases st.slots[i] <;> rfl
  · intro v hv
    simp only [St.slot, List.getElem?_eq_getElem hl, Option.join_some] at hv
    have := hg.vals v (by rw [← hv]; exact List.getElem_mem hl)
    omega

/-- the test and the update that make up a back-reference to group `g` in the reference semantics -/
def backrefOK (c : Ctx) (g : Nat) (st : St) : Bool :=
  match st.slot (2 * g), st.slot (2 * g + 1) with
  | some lo, some hi => decide (lo ≤ hi) && c.sameAt lo hi st.ix
  | _, _ => false

def backrefUpd (g : Nat) (st : St) : St :=
  match st.slot (2 * g), st.slot (2 * g + 1) with
  | some lo, some hi => { st with ix := st.ix + (hi - lo) }
  | _, _ => st

theorem sem_backref (c : Ctx) (g : Nat) (st : St) :
    sem c (.backref g) st = if backrefOK c g st then [backrefUpd g st] else [] := by
  cases h1 : st.slot (2 * g) with
  | none => simp [sem, backrefOK, h1]
  | some lo => cases h2 : st.slot (2 * g + 1) <;> simp [sem, backrefOK, backrefUpd, h1, h2]

/-- The `Backref` instruction has the same form in both machines (`fl`: fail, `run r`: go on in `r`);
    on the slots of a good state it is the back-reference of the reference semantics. -/
theorem backref_insn {α : Type} {c : Ctx} {n : Nat} {st : St} (hg : st.Good c n) (hlen : c.len < UNSET) {g : Nat}
    (hgn : 2 * g + 1 < n) (fl : α) (run : St → α) :
    (match (unview st.slots)[2 * g]?, (unview st.slots)[2 * g + 1]? with
      | some lo, some hi =>
        if lo == UNSET || hi == UNSET then some fl
        else if lo > hi then some fl
        else if c.sameAt lo hi st.ix then some (run { st with ix := st.ix + (hi - lo) }) else some fl
      | _, _ => none) =
    some (if backrefOK c g st then run (backrefUpd g st) else fl) := by
  have e1 := slot_unview hg hlen (2 * g) (by omega)
  have e2 := slot_unview hg hlen (2 * g + 1) hgn
  rw [e1.1, e2.1]
  cases h1 : st.slot (2 * g) with
  | none => simp [backrefOK, h1]
  | some lo =>
    cases h2 : st.slot (2 * g + 1) with
    | none => simp [backrefOK, h1, h2]
    | some hi =>
      have n1 : (lo == UNSET) = false := by simpa using e1.2 lo h1
      have n2 : (hi == UNSET) = false := by simpa using e2.2 hi h2
      by_cases hle : lo ≤ hi
      · have hgt : ¬ lo > hi := by omega
        by_cases hsm : c.sameAt lo hi st.ix = true <;> simp [backrefOK, backrefUpd, h1, h2, n1, n2, hle, hgt, hsm]
      · have hgt : lo > hi := by omega
        simp [backrefOK, h1, h2, n1, n2, hle, hgt]

theorem sim_backref (c : Ctx) (n : Nat) (prog : List Insn) (a g : Nat) (hlen : c.len < UNSET)
    (h : prog[a]? = some (.backref (g * 2))) (hgn : 2 * g + 1 < n) :
    Sim c n prog (sem c (.backref g)) a (a + 1) :=
  (Sim.test1 (backrefOK c g) (backrefUpd g) fun st X hg => by
      simp only [astep, h, Nat.mul_comm g 2]
      exact backref_insn hg hlen hgn (ACfg.fail X) (fun r => .run (a + 1) r.ix (unview r.slots) X)).congr
    fun st => (sem_backref c g st).symm

/-- a capture group in the reference semantics: record the start, run the body, record the end -/
theorem sem_group (c : Ctx) (g : Nat) (e : Expr) (st : St) :
    sem c (.group g e) st =
      ([st.setSlot (2 * g) (some st.ix)].flatMap (sem c e)).flatMap fun r => [r.setSlot (2 * g + 1) (some r.ix)] := by
  simp only [sem, List.flatMap_cons, List.flatMap_nil, List.append_nil]
  induction sem c e (st.setSlot (2 * g) (some st.ix)) with
  | nil => rfl
  | cons x xs ih => simp [ih]

theorem keepsGood_saveIx (c : Ctx) (n i : Nat) : KeepsGood c n (fun st => [st.setSlot i (some st.ix)]) := by
  intro st r hg hr
  simp only [List.mem_singleton] at hr; subst hr
  exact hg.setSlot _ _ hg.ix

theorem keepsGood_saveIx_sem (c : Ctx) (n i : Nat) (e : Expr) :
    KeepsGood c n (fun st => ([st.setSlot i (some st.ix)]).flatMap (sem c e)) := by
  intro st r hg hr
  simp only [List.flatMap_cons, List.flatMap_nil, List.append_nil] at hr
  exact sem_good c n e _ r (hg.setSlot _ _ hg.ix) hr

theorem sim_group {c : Ctx} {n : Nat} {prog : List Insn} {e : Expr} {a b g : Nat}
    (h1 : prog[a]? = some (.save (g * 2))) (h2 : prog[b]? = some (.save (g * 2 + 1)))
    (hbody : Sim c n prog (sem c e) (a + 1) b) (hgn : 2 * g + 1 < n) :
    Sim c n prog (sem c (.group g e)) a (b + 1) := by
  rw [Nat.mul_comm g 2] at h1 h2
  exact (((sim_save c n prog a (2 * g) h1 (by omega)).seq hbody (keepsGood_saveIx c n _)).seq
    (sim_save c n prog b (2 * g + 1) h2 hgn) (keepsGood_saveIx_sem c n _ e)).congr fun st => (sem_group c g e st).symm

end Fancy
