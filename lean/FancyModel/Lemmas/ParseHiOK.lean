import FancyModel.Lemmas.ParseShape
import FancyModel.Proofs.C03d
/-!
# The parser never writes `some usize::MAX` as an upper bound (`hiOK`), and its alternations are non-empty
(`analyzable`): the domain conditions of the translated analyzer / compiler hold of every parsed tree

`hiOK` (Proofs/C03d.lean): no `Repeat` carries `hi = some usize::MAX`. The parser reads bounds into a
`usize` and builds the node with `hiOf hi` (`usize::MAX ↦ none`), so `{n,18446744073709551615}` IS `{n,}`,
in the crate and in the model. The proof is the recursive-descent induction (`descent`, Proofs/C16b.lean)
with the predicate `hiOK`.
-/
namespace Fancy.Parse
open Fancy.Utf8 (codepointLen isLead)
open Fancy

theorem hiOf_ne (h : Nat) : (hiOf h != some UNSET) = true := by
  unfold hiOf
  split
  · rfl
  · rename_i hne
    have : h ≠ UNSET := by intro e; apply hne; simp [e, usizeMax, UNSET]
    simp [this]

/-- the returned node is of the parser's shape -/
def ShpH (r : Nat × Expr × PState) : Prop := hiOK r.2.1 = true

/-- the returned children are of the parser's shape -/
def ShpHL (r : Nat × List Expr × PState) : Prop := hiOKAll r.2.1 = true

@[simp] theorem ShpH_mk (ix : Nat) (e : Expr) (st : PState) :
    ShpH (ix, e, st) = (hiOK e = true) := rfl

@[simp] theorem ShpHL_mk (ix : Nat) (es : List Expr) (st : PState) :
    ShpHL (ix, es, st) = (hiOKAll es = true) := rfl

theorem hiOK_of_isLeaf {e : Expr} (h : isLeaf e = true) : hiOK e = true := by
  cases e <;> first | rfl | cases h

theorem hiOK_condInner {c inner : Expr} (h : CondInner c inner) (hc : hiOK c = true) :
    hiOK inner = true := by
  rcases h with rfl | ⟨g, rfl, rfl⟩
  · exact hc
  · rfl

theorem hiOK_condSplit {child b1 b2 : Expr} (h : CondSplit child b1 b2)
    (hc : hiOK child = true) : hiOK b1 = true ∧ hiOK b2 = true := by
  rcases h with ⟨rfl, rfl⟩ | ⟨rest, rfl, rfl | ⟨rfl, _⟩⟩
  · exact ⟨hc, rfl⟩
  · simp only [hiOK, hiOKAll, Bool.and_eq_true] at hc
    exact ⟨hc.1, hc.2.1⟩
  · simp only [hiOK, hiOKAll, Bool.and_eq_true] at hc
    exact ⟨hc.1, hc.2⟩

/-- every construction of the parser keeps `hiOK`: the one `Repeat` it builds has `hi = hiOf _` -/
theorem preservedH (re : Bytes) :
    Preserved re (fun _ _ => ShpH) (fun _ _ => ShpHL) (fun _ _ => ShpHL) where
  leaf := fun _ h _ => hiOK_of_isLeaf h
  endZ := fun _ _ => rfl
  moved := fun h _ _ _ _ => h
  alt := fun {_ _ _ _ _ _ _ _ child r1 rs} hc _ ha _ => by
    have hc' : hiOK child = true := hc
    have ha' : hiOKAll (r1 :: rs) = true := ha
    simp only [ShpH_mk, hiOK, hiOKAll, Bool.and_eq_true] at ha' ⊢
    exact ⟨hc', ha'⟩
  altNil := rfl
  altCons := fun {_ _ _ _ _ _ _ child rest} _ hc _ ha => by
    have hc' : hiOK child = true := hc
    have ha' : hiOKAll rest = true := ha
    simp only [ShpHL_mk, hiOKAll, Bool.and_eq_true]
    exact ⟨hc', ha'⟩
  brNil := fun _ => rfl
  brOne := fun {_ _ _ _ c} h => by
    have h' : hiOKAll [c] = true := h
    simpa [hiOKAll] using h'
  brCat := fun h => h
  blNil := rfl
  blDrop := fun _ => rfl
  blCons := fun {_ _ _ _ _ _ child rest} _ hc _ hb => by
    have hc' : hiOK child = true := hc
    have hb' : hiOKAll rest = true := hb
    simp only [ShpHL_mk]
    split
    · exact hb'
    · simp only [hiOKAll, Bool.and_eq_true]; exact ⟨hc', hb'⟩
  rep := fun {_ _ _ _ _ _ child} lo hi g h _ _ _ => by
    have hc : hiOK child = true := h
    simp only [ShpH_mk, hiOK, Bool.and_eq_true]
    exact ⟨hiOf_ne hi, hc⟩
  possessive := fun {_ _ _ _ _ _ child} lo hi g h _ _ _ => by
    have hc : hiOK child = true := h
    simp only [ShpH_mk, hiOK, Bool.and_eq_true]
    exact ⟨hiOf_ne hi, hc⟩
  look := fun _ _ _ h _ => h
  atomic := fun _ _ h _ => h
  group := fun _ _ h _ => h
  named := fun _ _ _ h _ => h
  condDrop := fun _ _ _ _ => rfl
  condOnly := fun hc _ _ _ _ hin => hiOK_condInner hin hc
  cond := fun {_ _ _ _ _ _ _ _ c inner child b1 b2} _ hc _ _ hb _ hin hsp => by
    have hi := hiOK_condInner hin hc
    have hs := hiOK_condSplit hsp hb
    simp only [ShpH_mk, hiOK, Bool.and_eq_true]
    exact ⟨⟨hi, hs.1⟩, hs.2⟩

/-- `parse_re` returns a tree of the parser's shape: any bytes, fuel, state, index, depth -/
theorem parseRe_hiOK (isAlnum : Char → Bool) (re : Bytes) (f : Nat) (st st' : PState)
    (ix d ix' : Nat) (e : Expr) (h : parseRe isAlnum f re st ix d = .ok (ix', e, st')) :
    hiOK e = true :=
  ((descent (preservedH re) isAlnum f).re_ st ix d).of_eq h

/-- the same for `parseBytes` (any byte string, valid UTF-8 or not) -/
theorem parseBytes_hiOK (isAlnum : Char → Bool) (re : Bytes) (casei : Bool) (t : Tree)
    (h : parseBytes isAlnum re casei = .ok t) : hiOK t.expr = true := by
  obtain ⟨ix, st, hre, _, _⟩ := parseBytes_ok h
  exact parseRe_hiOK isAlnum _ _ _ _ _ _ _ _ hre

/-- **every tree the parser returns satisfies `hiOK`**: no upper bound `some usize::MAX` -/
theorem parse_hiOK (isAlnum : Char → Bool) (cs : List Char) (casei : Bool) (t : Tree)
    (h : parseStr isAlnum cs casei = .ok t) : hiOK t.expr = true :=
  parseBytes_hiOK isAlnum _ casei t h

mutual
/-- the parser's shape gives the analyzer's domain: an alternation with at least two children is non-empty -/
theorem analyzable_of_parsedOK : ∀ (e : Expr), parsedOK e = true → analyzable e = true
  | .concat es, h => by
    simp only [parsedOK] at h; simp only [analyzable]; exact analyzableAll_of_parsedOKAll es h
  | .alt es, h => by
    simp only [parsedOK, Bool.and_eq_true, decide_eq_true_eq] at h
    simp only [analyzable, Bool.and_eq_true, Bool.not_eq_true', List.isEmpty_eq_false_iff]
    exact ⟨by intro he; rw [he] at h; simp at h, analyzableAll_of_parsedOKAll es h.2⟩
  | .group _ e, h => by simp only [parsedOK] at h; simp only [analyzable]; exact analyzable_of_parsedOK e h
  | .look e _, h => by simp only [parsedOK] at h; simp only [analyzable]; exact analyzable_of_parsedOK e h
  | .repeat e _ _ _, h => by simp only [parsedOK] at h; simp only [analyzable]; exact analyzable_of_parsedOK e h
  | .atomic e, h => by simp only [parsedOK] at h; simp only [analyzable]; exact analyzable_of_parsedOK e h
  | .cond c y n, h => by
    simp only [parsedOK, Bool.and_eq_true] at h
    simp only [analyzable, Bool.and_eq_true]
    exact ⟨⟨analyzable_of_parsedOK c h.1.1, analyzable_of_parsedOK y h.1.2⟩, analyzable_of_parsedOK n h.2⟩
  | .empty, _ => rfl
  | .any _, _ => rfl
  | .assertion _, _ => rfl
  | .literal _ _, _ => rfl
  | .delegate _ _ _, _ => rfl
  | .backref _, _ => rfl
  | .keepOut, _ => rfl
  | .contPrev, _ => rfl
  | .backrefExists _, _ => rfl
  | .subroutine _, _ => rfl
theorem analyzableAll_of_parsedOKAll : ∀ (es : List Expr), parsedOKAll es = true → analyzableAll es = true
  | [], _ => rfl
  | e :: es, h => by
    simp only [parsedOKAll, Bool.and_eq_true] at h
    simp only [analyzableAll, Bool.and_eq_true]
    exact ⟨analyzable_of_parsedOK e h.1, analyzableAll_of_parsedOKAll es h.2⟩
end

/-- every parsed tree is in the analyzer's domain -/
theorem parse_analyzable (isAlnum : Char → Bool) (cs : List Char) (casei : Bool) (t : Tree)
    (h : parseStr isAlnum cs casei = .ok t) : analyzable t.expr = true :=
  analyzable_of_parsedOK t.expr (parse_parsedOK isAlnum cs casei t h)

end Fancy.Parse
