import FancyModel.Lemmas.SimCompile3
import FancyModel.Lemmas.CompileLen
import FancyModel.Proofs.C01b
/-!
# Every `Delegate` instruction the compiler emits stays inside the ordinary slots

The stage-S3 engine theorems (`C01_vm_correct_s3`, …) take the decidable hypothesis
`progDelegOK prog.nSaves prog.body` (Spec/Stage.lean). Here it is *proved* for every program the compiler
model emits from a numbered tree, hence for every program `build` returns:

* `visit_delegIn` (with its companions for `visitMiddle`, `visitAlt`, `lookBehindAlts`,
  `lookBehindNegAlts`): in the code of an expression numbered from `gix`, every `Delegate es sg eg` has
  `gix ≤ sg ≤ eg ≤ gix + groupCount e` and `slotsBelowAll (2 * eg) es`; besides, the compiler only ever
  allocates auxiliary slots (`nsv ≤ nsv'`). The pieces handed to the automata engine are never hard, so
  they contain no back-reference, `\K`, look-around, … (`pure_of_not_hard`): the only slots they touch
  are those of their own groups, which the numbering bounds (`numbered_groupsIn`);
* `visit_delegates` : the same in `∀ … ∈ code` form;
* `compile_progDelegOK`, `build_progDelegOK`: no hypothesis besides the numbering, which `build`
  establishes itself (`numbered_renumber`).
-/
namespace Fancy

/-! ## `slotsBelow` is monotone; a pure piece touches only the slots of its own groups -/

mutual
theorem slotsBelow_mono {n m : Nat} (h : n ≤ m) : ∀ (e : Expr), slotsBelow n e = true → slotsBelow m e = true
  | .group g e, hs => by
    simp only [slotsBelow, Bool.and_eq_true, decide_eq_true_eq] at hs ⊢
    exact ⟨by omega, slotsBelow_mono h e hs.2⟩
  | .backref g, hs => by simp only [slotsBelow, decide_eq_true_eq] at hs ⊢; omega
  | .backrefExists g, hs => by simp only [slotsBelow, decide_eq_true_eq] at hs ⊢; omega
  | .keepOut, hs => by simp only [slotsBelow, decide_eq_true_eq] at hs ⊢; omega
  | .concat es, hs => by simp only [slotsBelow] at hs ⊢; exact slotsBelowAll_mono h es hs
  | .alt es, hs => by simp only [slotsBelow] at hs ⊢; exact slotsBelowAll_mono h es hs
  | .repeat e _ _ _, hs => by simp only [slotsBelow] at hs ⊢; exact slotsBelow_mono h e hs
  | .look e _, hs => by simp only [slotsBelow] at hs ⊢; exact slotsBelow_mono h e hs
  | .atomic e, hs => by simp only [slotsBelow] at hs ⊢; exact slotsBelow_mono h e hs
  | .cond c y f, hs => by
    simp only [slotsBelow, Bool.and_eq_true] at hs ⊢
    exact ⟨⟨slotsBelow_mono h c hs.1.1, slotsBelow_mono h y hs.1.2⟩, slotsBelow_mono h f hs.2⟩
  | .empty, _ => by simp [slotsBelow]
  | .any _, _ => by simp [slotsBelow]
  | .assertion _, _ => by simp [slotsBelow]
  | .literal _ _, _ => by simp [slotsBelow]
  | .delegate _ _ _, _ => by simp [slotsBelow]
  | .contPrev, _ => by simp [slotsBelow]
  | .subroutine _, _ => by simp [slotsBelow]
theorem slotsBelowAll_mono {n m : Nat} (h : n ≤ m) : ∀ (es : List Expr), slotsBelowAll n es = true →
    slotsBelowAll m es = true
  | [], _ => by simp [slotsBelowAll]
  | e :: es, hs => by
    simp only [slotsBelowAll, Bool.and_eq_true] at hs ⊢
    exact ⟨slotsBelow_mono h e hs.1, slotsBelowAll_mono h es hs.2⟩
end

mutual
/-- a pure expression (no back-reference, `\K`, look-around, atomic group, conditional) whose groups are
    numbered below `eg` touches only slots below `2 * eg` -/
theorem slotsBelow_of_pure_groupsIn {sg eg : Nat} : ∀ (e : Expr), pureExpr e = true → groupsInE sg eg e = true →
    slotsBelow (2 * eg) e = true
  | .group g e, hp, hg => by
    simp only [pureExpr] at hp
    simp only [groupsInE, Bool.and_eq_true, decide_eq_true_eq] at hg
    simp only [slotsBelow, Bool.and_eq_true, decide_eq_true_eq]
    exact ⟨by omega, slotsBelow_of_pure_groupsIn e hp hg.2⟩
  | .concat es, hp, hg => by
    simp only [pureExpr] at hp; simp only [groupsInE] at hg; simp only [slotsBelow]
    exact slotsBelowAll_of_pure_groupsIn es hp hg
  | .alt es, hp, hg => by
    simp only [pureExpr] at hp; simp only [groupsInE] at hg; simp only [slotsBelow]
    exact slotsBelowAll_of_pure_groupsIn es hp hg
  | .repeat e _ _ _, hp, hg => by
    simp only [pureExpr] at hp; simp only [groupsInE] at hg; simp only [slotsBelow]
    exact slotsBelow_of_pure_groupsIn e hp hg
  | .look _ _, hp, _ => by simp [pureExpr] at hp
  | .atomic _, hp, _ => by simp [pureExpr] at hp
  | .cond _ _ _, hp, _ => by simp [pureExpr] at hp
  | .keepOut, hp, _ => by simp [pureExpr] at hp
  | .backref _, hp, _ => by simp [pureExpr] at hp
  | .contPrev, hp, _ => by simp [pureExpr] at hp
  | .backrefExists _, hp, _ => by simp [pureExpr] at hp
  | .empty, _, _ => by simp [slotsBelow]
  | .any _, _, _ => by simp [slotsBelow]
  | .assertion _, _, _ => by simp [slotsBelow]
  | .literal _ _, _, _ => by simp [slotsBelow]
  | .delegate _ _ _, _, _ => by simp [slotsBelow]
  | .subroutine _, _, _ => by simp [slotsBelow]
theorem slotsBelowAll_of_pure_groupsIn {sg eg : Nat} : ∀ (es : List Expr), pureAll es = true →
    groupsIn sg eg es = true → slotsBelowAll (2 * eg) es = true
  | [], _, _ => by simp [slotsBelowAll]
  | e :: es, hp, hg => by
    simp only [pureAll, Bool.and_eq_true] at hp
    simp only [groupsIn, Bool.and_eq_true] at hg
    simp only [slotsBelowAll, Bool.and_eq_true]
    exact ⟨slotsBelow_of_pure_groupsIn e hp.1 hg.1, slotsBelowAll_of_pure_groupsIn es hp.2 hg.2⟩
end

/-- an easy (not hard) expression numbered from `g` touches only the slots of its own groups -/
theorem slotsBelow_of_easy (br : Nat → Bool) (e : Expr) (g : Nat) (hn : numbered g e) (hh : isHard br e = false) :
    slotsBelow (2 * (g + groupCount e)) e = true :=
  slotsBelow_of_pure_groupsIn e (pure_of_not_hard br e hh) (numbered_groupsIn e g hn)

theorem slotsBelowAll_of_easy (br : Nat → Bool) (es : List Expr) (g : Nat) (hn : numberedList g es)
    (hh : isHardAny br es = false) : slotsBelowAll (2 * (g + groupCountList es)) es = true :=
  slotsBelowAll_of_pure_groupsIn es (pureAll_of_not_hard br es hh) (numberedList_groupsIn es g hn)

/-! ## The invariant of the compiler -/

/-- a `Delegate` instruction owns groups within `lo .. hi` and its expressions touch only slots below
    its own end group -/
def delegInsnIn (lo hi : Nat) : Insn → Bool
  | .delegate es sg eg =>
    decide (lo ≤ sg) && decide (sg ≤ eg) && decide (eg ≤ hi) && slotsBelowAll (2 * eg) es
  | _ => true

def delegIn (lo hi : Nat) (code : List Insn) : Bool := code.all (delegInsnIn lo hi)

theorem delegIn_nil (lo hi : Nat) : delegIn lo hi [] = true := rfl

theorem delegIn_cons (lo hi : Nat) (i : Insn) (code : List Insn) :
    delegIn lo hi (i :: code) = (delegInsnIn lo hi i && delegIn lo hi code) := by
  simp only [delegIn, List.all_cons]

theorem delegIn_append (lo hi : Nat) (a b : List Insn) :
    delegIn lo hi (a ++ b) = (delegIn lo hi a && delegIn lo hi b) := by
  simp only [delegIn, List.all_append]

theorem delegInsnIn_mono {lo lo' hi hi' : Nat} (h1 : lo' ≤ lo) (h2 : hi ≤ hi') (i : Insn) :
    delegInsnIn lo hi i = true → delegInsnIn lo' hi' i = true := by
  cases i with
  | delegate es sg eg =>
    simp only [delegInsnIn, Bool.and_eq_true, decide_eq_true_eq]
    rintro ⟨⟨⟨a, b⟩, c⟩, d⟩
    exact ⟨⟨⟨by omega, b⟩, by omega⟩, d⟩
  | _ => intro _; rfl

theorem delegIn_mono {lo lo' hi hi' : Nat} {code : List Insn} (h1 : lo' ≤ lo) (h2 : hi ≤ hi')
    (h : delegIn lo hi code = true) : delegIn lo' hi' code = true := by
  simp only [delegIn, List.all_eq_true] at h ⊢
  exact fun i hi => delegInsnIn_mono h1 h2 i (h i hi)

theorem delegIn_iff (lo hi : Nat) (code : List Insn) :
    delegIn lo hi code = true ↔
      ∀ es sg eg, Insn.delegate es sg eg ∈ code →
        lo ≤ sg ∧ sg ≤ eg ∧ eg ≤ hi ∧ slotsBelowAll (2 * eg) es = true := by
  simp only [delegIn, List.all_eq_true]
  constructor
  · intro h es sg eg hm
    have := h _ hm
    simp only [delegInsnIn, Bool.and_eq_true, decide_eq_true_eq] at this
    exact ⟨this.1.1.1, this.1.1.2, this.1.2, this.2⟩
  · intro h i hm
    cases i with
    | delegate es sg eg =>
      have := h es sg eg hm
      simp only [delegInsnIn, Bool.and_eq_true, decide_eq_true_eq]
      exact ⟨⟨⟨this.1, this.2.1⟩, this.2.2.1⟩, this.2.2.2⟩
    | _ => rfl

theorem delegIn_wrapPosLook (lo hi : Nat) (atomic behind : Bool) (slot k : Nat) (body : Code) :
    delegIn lo hi (wrapPosLook atomic behind slot k body) = delegIn lo hi body := by
  cases atomic <;> cases behind <;>
    simp [wrapPosLook, delegIn_append, delegIn_cons, delegIn_nil, delegInsnIn]

theorem delegIn_wrapNegLook (lo hi : Nat) (behind : Bool) (pc k : Nat) (body : Code) :
    delegIn lo hi (wrapNegLook behind pc k body) = delegIn lo hi body := by
  cases behind <;> simp [wrapNegLook, delegIn_append, delegIn_cons, delegIn_nil, delegInsnIn]

/-- `compile_delegate` of an easy expression -/
theorem delegIn_compileDelegate (br : Nat → Bool) (e : Expr) (gix : Nat) (hn : numbered gix e)
    (hh : isHard br e = false) : delegIn gix (gix + groupCount e) (compileDelegate e gix) = true := by
  unfold compileDelegate
  split
  · simp [delegIn_cons, delegIn_nil, delegInsnIn]
  · simp only [delegIn_cons, delegIn_nil, Bool.and_true, delegInsnIn, Bool.and_eq_true, decide_eq_true_eq,
      slotsBelowAll]
    exact ⟨⟨⟨Nat.le_refl _, by omega⟩, Nat.le_refl _⟩, slotsBelow_of_easy br e gix hn hh⟩

/-- `compile_delegates` of a run of easy expressions -/
theorem delegIn_compileDelegates (br : Nat → Bool) (es : List Expr) (gix : Nat) (hn : numberedList gix es)
    (hh : isHardAny br es = false) :
    delegIn gix (gix + groupCountList es) (compileDelegates es gix) = true := by
  unfold compileDelegates
  split
  · rfl
  · split
    · simp [delegIn_cons, delegIn_nil, delegInsnIn]
    · simp only [delegIn_cons, delegIn_nil, Bool.and_true, delegInsnIn, Bool.and_eq_true, decide_eq_true_eq]
      exact ⟨⟨⟨Nat.le_refl _, by omega⟩, Nat.le_refl _⟩, slotsBelowAll_of_easy br es gix hn hh⟩

/-! ## Induction over the compiler -/

def DelegInP (br : Nat → Bool) (e : Expr) : Prop :=
  ∀ (hard : Bool) (pc nsv gix : Nat) (code : Code) (nsv' : Nat),
    numbered gix e → visit br e hard pc nsv gix = .ok (code, nsv') →
    delegIn gix (gix + groupCount e) code = true ∧ nsv ≤ nsv'

section Arms
variable {br : Nat → Bool}

theorem delegIn_leaf {lo hi nsv nsv' : Nat} {c code : Code} (hc : delegIn lo hi c = true)
    (hv : (.ok (c, nsv) : CRes) = .ok (code, nsv')) : delegIn lo hi code = true ∧ nsv ≤ nsv' := by
  cases hv; exact ⟨hc, Nat.le_refl _⟩

/-- the whole expression handed over (non-hard context, easy expression): every arm needs to look only at
    the case where the node is compiled for the VM -/
theorem delegInP_of_hard {e : Expr}
    (h : ∀ (hard : Bool) (pc nsv gix : Nat) (code : Code) (nsv' : Nat), ¬(!hard && !isHard br e) = true →
      numbered gix e → visit br e hard pc nsv gix = .ok (code, nsv') →
      delegIn gix (gix + groupCount e) code = true ∧ nsv ≤ nsv') : DelegInP br e := by
  intro hard pc nsv gix code nsv' hn hv
  by_cases hdel : (!hard && !isHard br e) = true
  · rw [visit_easy_eq br e hard pc nsv gix hdel] at hv
    simp only [Bool.and_eq_true, Bool.not_eq_true'] at hdel
    exact delegIn_leaf (delegIn_compileDelegate br e gix hn hdel.2) hv
  · exact h hard pc nsv gix code nsv' hdel hn hv

theorem delegIn_leafCode (lo hi : Nat) (e : Expr) : delegIn lo hi (leafCode e) = true := by
  unfold leafCode
  split <;> rfl

theorem delegInP_leaf {e : Expr} (hl : e.isLeaf = true) : DelegInP br e := by
  intro hard pc nsv gix code nsv' hn hv
  obtain ⟨rfl, ⟨rfl, hh⟩ | rfl⟩ := visit_leaf_ok hl hv
  · exact ⟨delegIn_compileDelegate br e gix hn hh, Nat.le_refl _⟩
  · exact ⟨delegIn_leafCode _ _ e, Nat.le_refl _⟩

theorem delegInP_group {g : Nat} {c : Expr} (ih : DelegInP br c) : DelegInP br (.group g c) :=
  delegInP_of_hard fun hard pc nsv gix code nsv' hdel hn hv => by
    obtain ⟨body, hb, rfl⟩ := visit_group_ok hdel hv
    obtain ⟨ihb, hle⟩ := ih _ _ _ _ _ _ ((numbered_group gix g c).mp hn).2 hb
    have ih' : delegIn gix (gix + groupCount (.group g c)) body = true :=
      delegIn_mono (by omega) (by simp only [groupCount]; omega) ihb
    exact ⟨by simp only [delegIn_append, delegIn_cons, delegIn_nil, delegInsnIn, ih', Bool.and_true], hle⟩

theorem delegInP_atomic {c : Expr} (ih : DelegInP br c) : DelegInP br (.atomic c) := by
  intro hard pc nsv gix code nsv' hn hv
  obtain ⟨body, hb, rfl⟩ := visit_atomic_ok hv
  obtain ⟨ihb, hle⟩ := ih _ _ _ _ _ _ ((numbered_atomic gix c).mp hn) hb
  exact ⟨by simp only [groupCount, delegIn_append, delegIn_cons, delegIn_nil, delegInsnIn, ihb, Bool.and_true], hle⟩

theorem delegInP_cond {c y n : Expr} (ihc : DelegInP br c) (ihy : DelegInP br y) (ihn : DelegInP br n) :
    DelegInP br (.cond c y n) := by
  intro hard pc nsv gix code nsv' hn hv
  obtain ⟨hnc, hny, hnn⟩ := (numbered_cond gix c y n).mp hn
  obtain ⟨cc, nsv1, yc, nsv2, nc, hb1, hb2, hb3, rfl⟩ := visit_cond_ok hv
  obtain ⟨ih1, hle1⟩ := ihc _ _ _ _ _ _ hnc hb1
  obtain ⟨ih2, hle2⟩ := ihy _ _ _ _ _ _ hny hb2
  obtain ⟨ih3, hle3⟩ := ihn _ _ _ _ _ _ hnn hb3
  have k1 : delegIn gix (gix + groupCount (.cond c y n)) cc = true :=
    delegIn_mono (Nat.le_refl _) (by simp only [groupCount]; omega) ih1
  have k2 : delegIn gix (gix + groupCount (.cond c y n)) yc = true :=
    delegIn_mono (by omega) (by simp only [groupCount]; omega) ih2
  have k3 : delegIn gix (gix + groupCount (.cond c y n)) nc = true :=
    delegIn_mono (by omega) (by simp only [groupCount]; omega) ih3
  exact ⟨by simp only [delegIn_append, delegIn_cons, delegIn_nil, delegInsnIn, k1, k2, k3, Bool.and_true], by omega⟩

theorem delegInP_repeat {c : Expr} {lo : Nat} {hi : Option Nat} {greedy : Bool} (ih : DelegInP br c) :
    DelegInP br (.repeat c lo hi greedy) :=
  delegInP_of_hard fun hard pc nsv gix code nsv' hdel hn hv => by
    have hne := (numbered_repeat gix c lo hi greedy).mp hn
    simp only [groupCount]
    by_cases hopt : (lo == 0 && hi == some 1) = true
    · obtain ⟨body, hb, rfl⟩ := visit_opt_ok hdel hopt hv
      obtain ⟨ihb, hle⟩ := ih _ _ _ _ _ _ hne hb
      exact ⟨by cases greedy <;> simp [delegIn_cons, delegInsnIn, ihb], hle⟩
    by_cases heps : (hi == none && minSize c == 0) = true
    · obtain ⟨body, hb, rfl⟩ := visit_repeatEps_ok hdel hopt heps hv
      obtain ⟨ihb, hle⟩ := ih _ _ _ _ _ _ hne hb
      exact ⟨by cases greedy <;> simp [delegIn_append, delegIn_cons, delegIn_nil, delegInsnIn, ihb], by omega⟩
    by_cases hstar : (lo == 0 && hi == none) = true
    · obtain ⟨body, hb, rfl⟩ := visit_star_ok hdel hopt heps hstar hv
      obtain ⟨ihb, hle⟩ := ih _ _ _ _ _ _ hne hb
      exact ⟨by cases greedy <;> simp [delegIn_append, delegIn_cons, delegIn_nil, delegInsnIn, ihb], hle⟩
    by_cases hplus : (lo == 1 && hi == none) = true
    · obtain ⟨body, hb, rfl⟩ := visit_plus_ok hdel hopt heps hstar hplus hv
      obtain ⟨ihb, hle⟩ := ih _ _ _ _ _ _ hne hb
      exact ⟨by cases greedy <;> simp [delegIn_append, delegIn_cons, delegIn_nil, delegInsnIn, ihb], hle⟩
    · obtain ⟨body, hb, rfl⟩ := visit_counted_ok hdel hopt heps hstar hplus hv
      obtain ⟨ihb, hle⟩ := ih _ _ _ _ _ _ hne hb
      exact ⟨by cases greedy <;> simp [delegIn_append, delegIn_cons, delegIn_nil, delegInsnIn, ihb], by omega⟩

/-! the companions over lists, given the invariant for the members -/

theorem delegIn_visitMiddle : ∀ (es : List Expr), (∀ e ∈ es, DelegInP br e) →
    ∀ (take pc nsv gix : Nat) (code : Code) (nsv' : Nat),
      numberedList gix es → visitMiddle br es 0 take pc nsv gix = .ok (code, nsv') →
      delegIn gix (gix + groupCountList es) code = true ∧ nsv ≤ nsv'
  | [], _, take, pc, nsv, gix, code, nsv', _, hv => by
    simp only [visitMiddle] at hv; exact delegIn_leaf rfl hv
  | e :: es, _, 0, pc, nsv, gix, code, nsv', _, hv => by
    simp only [visitMiddle] at hv; exact delegIn_leaf rfl hv
  | e :: es, ih, take + 1, pc, nsv, gix, code, nsv', hn, hv => by
    obtain ⟨c1, nsv1, c2, hb1, hb2, rfl⟩ := visitMiddle_cons_ok hv
    obtain ⟨hne, hns⟩ := (numberedList_cons gix e es).mp hn
    obtain ⟨ih1, hle1⟩ := ih e (List.mem_cons_self ..) _ _ _ _ _ _ hne hb1
    obtain ⟨ih2, hle2⟩ := delegIn_visitMiddle es (fun x hx => ih x (List.mem_cons_of_mem _ hx)) _ _ _ _ _ _ hns hb2
    refine ⟨?_, by omega⟩
    simp only [groupCountList, delegIn_append, Bool.and_eq_true]
    exact ⟨delegIn_mono (Nat.le_refl _) (by omega) ih1, delegIn_mono (by omega) (by omega) ih2⟩

theorem delegIn_visitAlt : ∀ (es : List Expr), (∀ e ∈ es, DelegInP br e) →
    ∀ (hard : Bool) (pc nsv gix : Nat) (f : Nat → Code) (endPc nsv' : Nat),
      numberedList gix es → visitAlt br es hard pc nsv gix = .ok (f, endPc, nsv') →
      (∀ t, delegIn gix (gix + groupCountList es) (f t) = true) ∧ nsv ≤ nsv'
  | [], _, hard, pc, nsv, gix, f, endPc, nsv', _, hv => by
    simp only [visitAlt] at hv; cases hv
    exact ⟨fun _ => rfl, Nat.le_refl _⟩
  | [e], ih, hard, pc, nsv, gix, f, endPc, nsv', hn, hv => by
    obtain ⟨c, hb, rfl, rfl⟩ := visitAlt_single_ok hv
    obtain ⟨ih1, hle⟩ := ih e (List.mem_cons_self ..) _ _ _ _ _ _ ((numberedList_cons gix e []).mp hn).1 hb
    exact ⟨fun _ => by simpa only [groupCountList, Nat.add_zero] using ih1, hle⟩
  | e :: e2 :: es, ih, hard, pc, nsv, gix, f, endPc, nsv', hn, hv => by
    obtain ⟨c, nsv1, f2, hb1, hb2, rfl⟩ := visitAlt_cons_ok hv
    obtain ⟨hne, hns⟩ := (numberedList_cons gix e (e2 :: es)).mp hn
    obtain ⟨ih1, hle1⟩ := ih e (List.mem_cons_self ..) _ _ _ _ _ _ hne hb1
    obtain ⟨ih2, hle2⟩ := delegIn_visitAlt (e2 :: es) (fun x hx => ih x (List.mem_cons_of_mem _ hx)) _ _ _ _ _ _ _ hns hb2
    refine ⟨fun t => ?_, by omega⟩
    have k1 : delegIn gix (gix + groupCountList (e :: e2 :: es)) c = true :=
      delegIn_mono (Nat.le_refl _) (by simp only [groupCountList]; omega) ih1
    have k2 : delegIn gix (gix + groupCountList (e :: e2 :: es)) (f2 t) = true :=
      delegIn_mono (by omega) (by simp only [groupCountList]; omega) (ih2 t)
    simp only [delegIn_append, delegIn_cons, delegIn_nil, delegInsnIn, k1, k2, Bool.and_true]

theorem delegIn_lookBehindAlts : ∀ (es : List Expr), (∀ e ∈ es, DelegInP br e) →
    ∀ (pc nsv gix : Nat) (f : Nat → Code) (endPc nsv' : Nat),
      numberedList gix es → lookBehindAlts br es pc nsv gix = .ok (f, endPc, nsv') →
      (∀ t, delegIn gix (gix + groupCountList es) (f t) = true) ∧ nsv ≤ nsv'
  | [], _, pc, nsv, gix, f, endPc, nsv', _, hv => by
    simp only [lookBehindAlts] at hv; cases hv
    exact ⟨fun _ => rfl, Nat.le_refl _⟩
  | [e], ih, pc, nsv, gix, f, endPc, nsv', hn, hv => by
    obtain ⟨_, body, hb, rfl, rfl⟩ := lookBehindAlts_single_ok hv
    obtain ⟨ih1, hle⟩ := ih e (List.mem_cons_self ..) _ _ _ _ _ _ ((numberedList_cons gix e []).mp hn).1 hb
    refine ⟨fun _ => ?_, by omega⟩
    simp only [groupCountList, Nat.add_zero, delegIn_wrapPosLook]
    exact ih1
  | e :: e2 :: es, ih, pc, nsv, gix, f, endPc, nsv', hn, hv => by
    obtain ⟨_, body, nsv1, f2, hb1, hb2, rfl⟩ := lookBehindAlts_cons_ok hv
    obtain ⟨hne, hns⟩ := (numberedList_cons gix e (e2 :: es)).mp hn
    obtain ⟨ih1, hle1⟩ := ih e (List.mem_cons_self ..) _ _ _ _ _ _ hne hb1
    obtain ⟨ih2, hle2⟩ := delegIn_lookBehindAlts (e2 :: es) (fun x hx => ih x (List.mem_cons_of_mem _ hx)) _ _ _ _ _ _
      hns hb2
    refine ⟨fun t => ?_, by omega⟩
    have k1 : delegIn gix (gix + groupCountList (e :: e2 :: es)) body = true :=
      delegIn_mono (Nat.le_refl _) (by simp only [groupCountList]; omega) ih1
    have k2 : delegIn gix (gix + groupCountList (e :: e2 :: es)) (f2 t) = true :=
      delegIn_mono (by omega) (by simp only [groupCountList]; omega) (ih2 t)
    simp only [delegIn_append, delegIn_cons, delegIn_nil, delegInsnIn, delegIn_wrapPosLook, k1, k2, Bool.and_true]

theorem delegIn_lookBehindNegAlts : ∀ (es : List Expr), (∀ e ∈ es, DelegInP br e) →
    ∀ (pc nsv gix : Nat) (code : Code) (nsv' : Nat),
      numberedList gix es → lookBehindNegAlts br es pc nsv gix = .ok (code, nsv') →
      delegIn gix (gix + groupCountList es) code = true ∧ nsv ≤ nsv'
  | [], _, pc, nsv, gix, code, nsv', _, hv => by
    simp only [lookBehindNegAlts] at hv; exact delegIn_leaf rfl hv
  | e :: es, ih, pc, nsv, gix, code, nsv', hn, hv => by
    obtain ⟨_, body, nsv1, c2, hb1, hb2, rfl⟩ := lookBehindNegAlts_cons_ok hv
    obtain ⟨hne, hns⟩ := (numberedList_cons gix e es).mp hn
    obtain ⟨ih1, hle1⟩ := ih e (List.mem_cons_self ..) _ _ _ _ _ _ hne hb1
    obtain ⟨ih2, hle2⟩ := delegIn_lookBehindNegAlts es (fun x hx => ih x (List.mem_cons_of_mem _ hx)) _ _ _ _ _ hns hb2
    refine ⟨?_, by omega⟩
    simp only [groupCountList, delegIn_append, delegIn_wrapNegLook, Bool.and_eq_true]
    exact ⟨delegIn_mono (Nat.le_refl _) (by omega) ih1, delegIn_mono (by omega) (by omega) ih2⟩

theorem delegInP_concat {es : List Expr} (ih : ∀ e ∈ es, DelegInP br e) : DelegInP br (.concat es) :=
  delegInP_of_hard fun hard pc nsv gix code nsv' hdel hn hv => by
    obtain ⟨mid, hb, rfl⟩ := visit_concat_ok hdel hv
    have hL := (numbered_concat gix es).mp hn
    have hle := concatSplit_le br es hard
    obtain ⟨ihm, hle2⟩ := delegIn_visitMiddle _ (fun e he => ih e (List.mem_of_mem_drop he)) _ _ _ _ _ _
      (numberedList_drop gix es _ hL) hb
    have hpre := delegIn_compileDelegates br _ gix (numberedList_take gix es _ hL)
      (concatSplit_prefix_isHardAny br es hard)
    have hsuf := delegIn_compileDelegates br _ _ (numberedList_drop gix es _ hL)
      (concatSplit_suffix_isHardAny br es hard)
    have e1 := groupCountList_take_add_drop es (concatSplit br es hard).1
    have e2 := groupCountList_take_add_drop es (concatSplit br es hard).2
    refine ⟨?_, hle2⟩
    simp only [groupCount, delegIn_append, Bool.and_eq_true]
    exact ⟨⟨delegIn_mono (Nat.le_refl _) (by omega) hpre, delegIn_mono (by omega) (by omega) ihm⟩,
      delegIn_mono (by omega) (by omega) hsuf⟩

theorem delegInP_alt {es : List Expr} (ih : ∀ e ∈ es, DelegInP br e) : DelegInP br (.alt es) :=
  delegInP_of_hard fun hard pc nsv gix code nsv' hdel hn hv => by
    obtain ⟨f, endPc, hb, rfl⟩ := visit_alt_ok hdel hv
    obtain ⟨ihf, hle⟩ := delegIn_visitAlt es ih _ _ _ _ _ _ _ ((numbered_alt gix es).mp hn) hb
    exact ⟨by simpa only [groupCount] using ihf endPc, hle⟩

/-- `ihl`: the invariant for the alternatives when the body is an alternation -/
theorem delegInP_look {c : Expr} {la : Look} (ih : DelegInP br c)
    (ihl : ∀ es, c = .alt es → ∀ e ∈ es, DelegInP br e) : DelegInP br (.look c la) := by
  intro hard pc nsv gix code nsv' hn hv
  have hne := (numbered_look gix c la).mp hn
  have pos : ∀ {a b k body}, visit br c false (posLookBodyPc a b pc) (nsv + 1) gix = .ok (body, nsv') →
      delegIn gix (gix + groupCount (.look c la)) (wrapPosLook a b nsv k body) = true ∧ nsv ≤ nsv' := fun hb =>
    have ⟨ihb, hle⟩ := ih _ _ _ _ _ _ hne hb
    ⟨by simpa only [groupCount, delegIn_wrapPosLook] using ihb, by omega⟩
  have neg : ∀ {b k body}, visit br c false (negLookBodyPc b pc) nsv gix = .ok (body, nsv') →
      delegIn gix (gix + groupCount (.look c la)) (wrapNegLook b pc k body) = true ∧ nsv ≤ nsv' := fun hb =>
    have ⟨ihb, hle⟩ := ih _ _ _ _ _ _ hne hb
    ⟨by simpa only [groupCount, delegIn_wrapNegLook] using ihb, hle⟩
  cases la with
  | ahead => obtain ⟨body, hb, rfl⟩ := visit_ahead_ok hv; exact pos hb
  | aheadNeg => obtain ⟨body, hb, rfl⟩ := visit_aheadNeg_ok hv; exact neg hb
  | behind =>
    cases hcs : constSize c
    · obtain ⟨es, f, endPc, rfl, hb, rfl⟩ := visit_behind_var_ok hcs hv
      obtain ⟨ihf, hle⟩ := delegIn_lookBehindAlts es (ihl es rfl) _ _ _ _ _ _ ((numbered_alt gix es).mp hne) hb
      exact ⟨by simp only [groupCount, delegIn_append, delegIn_cons, delegIn_nil, delegInsnIn, ihf endPc,
        Bool.and_true], hle⟩
    · obtain ⟨body, hb, rfl⟩ := visit_behind_const_ok hcs hv
      exact pos hb
  | behindNeg =>
    cases hcs : constSize c
    · obtain ⟨es, rfl, hb⟩ := visit_behindNeg_var_ok hcs hv
      obtain ⟨ihc, hle⟩ := delegIn_lookBehindNegAlts es (ihl es rfl) _ _ _ _ _ ((numbered_alt gix es).mp hne) hb
      exact ⟨by simpa only [groupCount] using ihc, hle⟩
    · obtain ⟨body, hb, rfl⟩ := visit_behindNeg_const_ok hcs hv
      exact neg hb

end Arms

theorem delegInP_all (br : Nat → Bool) (e : Expr) : DelegInP br e := by
  induction e using Expr.induct_look with
  | group g c ih => exact delegInP_group ih
  | atomic c ih => exact delegInP_atomic ih
  | cond c y n ihc ihy ihn => exact delegInP_cond ihc ihy ihn
  | «repeat» c lo hi greedy ih => exact delegInP_repeat ih
  | concat es ih => exact delegInP_concat ih
  | alt es ih => exact delegInP_alt ih
  | look c la ih ihl => exact delegInP_look ih ihl
  | _ => exact delegInP_leaf rfl

theorem visit_delegIn (br : Nat → Bool) (e : Expr) (hard : Bool) (pc nsv gix : Nat) (code : Code) (nsv' : Nat) :
    numbered gix e → visit br e hard pc nsv gix = .ok (code, nsv') →
    delegIn gix (gix + groupCount e) code = true ∧ nsv ≤ nsv' :=
  delegInP_all br e hard pc nsv gix code nsv'

theorem visitMiddle_delegIn (br : Nat → Bool) :
    ∀ (es : List Expr) (take pc nsv gix : Nat) (code : Code) (nsv' : Nat),
      numberedList gix es → visitMiddle br es 0 take pc nsv gix = .ok (code, nsv') →
      delegIn gix (gix + groupCountList es) code = true ∧ nsv ≤ nsv' :=
  fun es => delegIn_visitMiddle es fun e _ => delegInP_all br e

theorem visitAlt_delegIn (br : Nat → Bool) :
    ∀ (es : List Expr) (hard : Bool) (pc nsv gix : Nat) (f : Nat → Code) (endPc nsv' : Nat),
      numberedList gix es → visitAlt br es hard pc nsv gix = .ok (f, endPc, nsv') →
      (∀ t, delegIn gix (gix + groupCountList es) (f t) = true) ∧ nsv ≤ nsv' :=
  fun es => delegIn_visitAlt es fun e _ => delegInP_all br e

theorem lookBehindAlts_delegIn (br : Nat → Bool) :
    ∀ (es : List Expr) (pc nsv gix : Nat) (f : Nat → Code) (endPc nsv' : Nat),
      numberedList gix es → lookBehindAlts br es pc nsv gix = .ok (f, endPc, nsv') →
      (∀ t, delegIn gix (gix + groupCountList es) (f t) = true) ∧ nsv ≤ nsv' :=
  fun es => delegIn_lookBehindAlts es fun e _ => delegInP_all br e

theorem lookBehindNegAlts_delegIn (br : Nat → Bool) :
    ∀ (es : List Expr) (pc nsv gix : Nat) (code : Code) (nsv' : Nat),
      numberedList gix es → lookBehindNegAlts br es pc nsv gix = .ok (code, nsv') →
      delegIn gix (gix + groupCountList es) code = true ∧ nsv ≤ nsv' :=
  fun es => delegIn_lookBehindNegAlts es fun e _ => delegInP_all br e

/-- **1. the general lemma over the compiler**: in the code of an expression numbered from `gix` every
    `Delegate es sg eg` owns groups of the expression and `es` touches only their slots; the compiler
    only allocates auxiliary slots -/
theorem visit_delegates (br : Nat → Bool) (e : Expr) (hard : Bool) (pc nsv gix : Nat) (code : Code) (nsv' : Nat)
    (hn : numbered gix e) (hv : visit br e hard pc nsv gix = .ok (code, nsv')) :
    (∀ es sg eg, Insn.delegate es sg eg ∈ code →
      gix ≤ sg ∧ sg ≤ eg ∧ eg ≤ gix + groupCount e ∧ slotsBelowAll (2 * eg) es = true ∧
        slotsBelowAll (2 * (gix + groupCount e)) es = true) ∧ nsv ≤ nsv' := by
  obtain ⟨h, hle⟩ := visit_delegIn br e hard pc nsv gix code nsv' hn hv
  refine ⟨fun es sg eg hm => ?_, hle⟩
  obtain ⟨h1, h2, h3, h4⟩ := (delegIn_iff _ _ _).mp h es sg eg hm
  exact ⟨h1, h2, h3, h4, slotsBelowAll_mono (by omega) es h4⟩

/-- the invariant gives the decidable condition of the stage-S3 theorems -/
theorem progDelegOK_of_delegIn {lo hi nS : Nat} {code : List Insn} (h : delegIn lo hi code = true)
    (hn : hi * 2 ≤ nS) : progDelegOK nS code = true := by
  simp only [delegIn, progDelegOK, List.all_eq_true] at h ⊢
  intro i hi'
  have := h i hi'
  cases i with
  | delegate es sg eg =>
    simp only [delegInsnIn, Bool.and_eq_true, decide_eq_true_eq] at this ⊢
    exact ⟨⟨by omega, this.1.1.2⟩, slotsBelowAll_mono (by omega) es this.2⟩
  | _ => rfl

/-- **2.** every program compiled from a numbered tree satisfies `progDelegOK` -/
theorem compile_progDelegOK (br : Nat → Bool) (e : Expr) (prog : Prog) (hn : numbered 0 e)
    (hc : compile br e = .ok prog) : progDelegOK prog.nSaves prog.body = true := by
  unfold compile at hc
  simp only at hc
  cases hv : visit br e false 0 (groupCount e * 2) 0 with
  | error err => simp [hv] at hc
  | ok p =>
    obtain ⟨code, nsv⟩ := p
    simp only [hv, Except.ok.injEq] at hc
    subst hc
    obtain ⟨h, hle⟩ := visit_delegIn br e false 0 (groupCount e * 2) 0 code nsv hn hv
    have h' : delegIn 0 (0 + groupCount e) (code ++ [Insn.end_]) = true := by
      simp only [delegIn_append, delegIn_cons, delegIn_nil, delegInsnIn, h, Bool.and_true]
    exact progDelegOK_of_delegIn h' (show (0 + groupCount e) * 2 ≤ nsv by omega)

/-- **3.** every program `build` returns satisfies `progDelegOK`: the hypothesis `hdok` of
    `C01_vm_correct_s3` / `C07_terminates_s3` / `C05_no_panic_s3` always holds -/
theorem build_progDelegOK (tree : Expr) (backrefs : List Nat) (b : Built) (prog : Prog)
    (hb : build tree backrefs = .ok b) (hk : b.kind = .fancy prog) :
    progDelegOK prog.nSaves prog.body = true := by
  obtain ⟨_, hwr, _, _, hcomp⟩ := build_fancy tree backrefs b prog hb hk
  exact compile_progDelegOK _ b.wrapped prog (by rw [hwr]; exact numbered_renumber _ _) hcomp

/-! ## Non-vacuity: `(?=(a|b)c)x` — the body of the look-ahead, capture group 1 included, is handed to the
automata engine as `Delegate [(a|b)c] 1 2` -/
def exDelegGroupTree : Expr :=
  .concat [.look (.concat [.group 0 (.alt [.literal ['a'] false, .literal ['b'] false]), .literal ['c'] false]) .ahead,
    .literal ['x'] false]

set_option linter.unusedSimpArgs false in
example : ∃ b prog, build exDelegGroupTree [] = .ok b ∧ b.kind = .fancy prog ∧
    Insn.delegate [.concat [.group 1 (.alt [.literal ['a'] false, .literal ['b'] false]), .literal ['c'] false]] 1 2
      ∈ prog.body ∧ prog.nSaves = 5 ∧
    progDelegOK prog.nSaves prog.body = true := by
  have hb : build exDelegGroupTree [] = .ok
      ⟨.concat [.look (.concat [.group 1 (.alt [.literal ['a'] false, .literal ['b'] false]), .literal ['c'] false]) .ahead,
          .literal ['x'] false],
        .concat [.repeat (.any true) 0 none false, .group 0 (.concat [.look (.concat [.group 1 (.alt [.literal ['a'] false,
          .literal ['b'] false]), .literal ['c'] false]) .ahead, .literal ['x'] false])],
        2, [], .fancy ⟨[.split 3 1, .any, .jmp 0, .save 0, .save 4,
          .delegate [.concat [.group 1 (.alt [.literal ['a'] false, .literal ['b'] false]), .literal ['c'] false]] 1 2,
          .restore 4, .lit ['x'], .save 1, .end_], 5⟩⟩ := by
    simp [build, exDelegGroupTree, wrapTree, renumber, renumberList, checkRefs, checkRefsList, isHard, isHardAny,
      compile, visit, visitMiddle, visitAlt, concatSplit, groupCount, groupCountList, constSize, constSizeAll, minSize,
      minSizeMin, minSizeSum, allMinSize, compileDelegates, compileDelegate, isLiteral, isLiteralAll, boundsEq, satMul,
      satAdd, sureReps, UNSET, wrapPosLook, posLookBodyPc, pushLiteral, pushLiteralAll]
  exact ⟨_, _, hb, rfl, by simp, rfl, build_progDelegOK _ _ _ _ hb rfl⟩

end Fancy
