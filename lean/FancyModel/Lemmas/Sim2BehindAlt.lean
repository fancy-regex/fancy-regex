import FancyModel.Lemmas.SimCompile2
/-!
# Look-behinds over an alternation body: the reference semantics in the shape the code computes

The compiler has four layouts for `(?<=a|b…)` / `(?<!a|b…)` (Model/Compile.lean):

* alternatives of different sizes, positive: an atomic group around an *alternation of complete
  positive look-behinds*, one per alternative (`lookBehindAlts`). The `i`-th look-behind yields
  `posBehindOne c e_i st`, the alternation concatenates (`posBehindAlts`), the atomic group keeps the
  first: `sem_behind_alt_diff`.
* alternatives of different sizes, negative: a *sequence of negative look-behinds* (`lookBehindNegAlts`),
  `negBehindSeq`: `sem_behindNeg_alt_diff`.
* all alternatives of one size: the ordinary look-behind layout around the code of the alternation,
  going back `minSizeMin es = minSize (.alt es)`: `sem_behind_const`, `sem_behindNeg_const`, which also cover a
  body that is not an alternation.

Everything here is about lists of results; the machine side is in Lemmas/SimCompile3.lean.
-/
namespace Fancy

/-- what one positive look-behind layout around the code of `e` computes: go back `minSize e`, run
    `e`, keep the first result, put the position back -/
def posBehindOne (c : Ctx) (e : Expr) (st : St) : List St :=
  (firstOnly ((if minSize e ≤ st.ix then [({ st with ix := st.ix - minSize e } : St)] else []).flatMap (sem c e))).map
    fun r => { r with ix := st.ix }

/-- an alternation of positive look-behinds, one per alternative -/
def posBehindAlts (c : Ctx) : List Expr → St → List St
  | [], _ => []
  | e :: es, st => posBehindOne c e st ++ posBehindAlts c es st

/-- what one negative look-behind layout around the code of `e` computes -/
def negBehindOne (c : Ctx) (e : Expr) (st : St) : List St :=
  if ((if minSize e ≤ st.ix then [({ st with ix := st.ix - minSize e } : St)] else []).flatMap (sem c e)).isEmpty
  then [st] else []

/-- a sequence of negative look-behinds, one per alternative -/
def negBehindSeq (c : Ctx) : List Expr → St → List St
  | [], st => [st]
  | e :: es, st => (negBehindOne c e st).flatMap (negBehindSeq c es)

theorem goBackAlts_cons (c : Ctx) (e : Expr) (es : List Expr) (st : St) :
    goBackAlts c (e :: es) st =
      (if minSize e ≤ st.ix then sem c e { st with ix := st.ix - minSize e } else []) ++ goBackAlts c es st := by
  simp [goBackAlts, List.flatMap_cons]

/-- "`firstOnly` of a concatenation of `firstOnly`s": the atomic group around the alternation of
    look-behinds keeps the first result of the first alternative that has one -/
theorem firstOnly_posBehindAlts (c : Ctx) : ∀ (es : List Expr) (st : St),
    firstOnly (posBehindAlts c es st) = (firstOnly (goBackAlts c es st)).map fun r => { r with ix := st.ix }
  | [], st => by simp [posBehindAlts, goBackAlts, firstOnly]
  | e :: es, st => by
    rw [goBackAlts_cons, posBehindAlts, posBehindOne, back_flatMap]
    cases hA : (if minSize e ≤ st.ix then sem c e { st with ix := st.ix - minSize e } else []) with
    | nil =>
      simp only [firstOnly, List.head?_nil, Option.toList_none, List.map_nil, List.nil_append]
      exact firstOnly_posBehindAlts c es st
    | cons x xs => simp [firstOnly]

theorem negBehindSeq_eq (c : Ctx) : ∀ (es : List Expr) (st : St),
    negBehindSeq c es st = if (goBackAlts c es st).isEmpty then [st] else []
  | [], st => by simp [negBehindSeq, goBackAlts]
  | e :: es, st => by
    rw [goBackAlts_cons, negBehindSeq, negBehindOne, back_flatMap]
    cases hA : (if minSize e ≤ st.ix then sem c e { st with ix := st.ix - minSize e } else []) with
    | nil =>
      simp only [List.isEmpty_nil, ↓reduceIte, List.flatMap_cons, List.flatMap_nil, List.append_nil, List.nil_append]
      exact negBehindSeq_eq c es st
    | cons x xs => simp

/-- all alternatives of one size: the per-alternative go-backs are one go-back in front of the
    alternation -/
theorem goBackAlts_allMinSize (c : Ctx) (m : Nat) : ∀ (es : List Expr) (st : St), allMinSize m es = true →
    goBackAlts c es st = if m ≤ st.ix then semAlt c es { st with ix := st.ix - m } else []
  | [], st, _ => by simp [goBackAlts, semAlt]
  | e :: es, st, h => by
    simp only [allMinSize, Bool.and_eq_true, beq_iff_eq] at h
    rw [goBackAlts_cons, goBackAlts_allMinSize c m es st h.2, h.1]
    by_cases hm : m ≤ st.ix <;> simp [hm, semAlt]

theorem constSize_alt_minSizeMin (es : List Expr) (h : constSize (.alt es) = true) :
    allMinSize (minSizeMin es) es = true := by
  simp only [constSize, Bool.and_eq_true] at h
  cases es with
  | nil => simp at h
  | cons e rest =>
    have h2 : allMinSize (minSize e) (e :: rest) = true := h.2
    rw [allMinSize_minSizeMin (minSize e) (e :: rest) (by simp) h2]
    exact h2

theorem minSize_alt (es : List Expr) : minSize (.alt es) = minSizeMin es := by simp only [minSize]

theorem isAlt_true (e : Expr) (h : isAlt e = true) : ∃ es, e = .alt es := by
  cases e <;> simp [isAlt] at h
  exact ⟨_, rfl⟩

/-! ## The semantic equations -/

theorem sem_behind_alt_diff (c : Ctx) (n : Nat) (es : List Expr) (hw : wellShapedAll es = true)
    (hc : constSizeAll es = true) (hz : noBareEndZAll es = true) (st : St) (hg : st.Good c n) (hlen : c.len ≤ UNSET) :
    firstOnly (posBehindAlts c es st) = sem c (.look (.alt es) .behind) st := by
  rw [C13_lookbehind_pos_alt c n es hw hc hz st hg hlen, firstOnly_posBehindAlts]

theorem sem_behindNeg_alt_diff (c : Ctx) (n : Nat) (es : List Expr) (hw : wellShapedAll es = true)
    (hc : constSizeAll es = true) (hz : noBareEndZAll es = true) (st : St) (hg : st.Good c n) (hlen : c.len ≤ UNSET) :
    negBehindSeq c es st = sem c (.look (.alt es) .behindNeg) st := by
  rw [C13_lookbehind_neg_alt c n es hw hc hz st hg hlen, negBehindSeq_eq]

/-- a body of constant size, alternation (all alternatives of one size: going back `minSizeMin es = minSize (.alt es)`
    serves them all) or not: the layout with one `GoBack` computes the look-behind -/
theorem sem_behind_const (c : Ctx) (n : Nat) (e : Expr) (hw : wellShaped e = true) (hcs : constSize e = true)
    (hz : noBareEndZ e = true) (st : St) (hg : st.Good c n) (hlen : c.len ≤ UNSET) :
    posBehindOne c e st = sem c (.look e .behind) st := by
  cases hia : isAlt e with
  | false => rw [C13_lookbehind_pos c n e (isAlt_false_ne e hia) hw hcs hz st hg hlen, posBehindOne, back_flatMap]
  | true =>
    obtain ⟨es, rfl⟩ := isAlt_true e hia
    simp only [wellShaped, Bool.and_eq_true] at hw
    rw [C13_lookbehind_pos_alt c n es hw.2 (constSize_alt_all es hcs) (by simpa only [noBareEndZ] using hz)
      st hg hlen, goBackAlts_allMinSize c (minSizeMin es) es st (constSize_alt_minSizeMin es hcs), posBehindOne, back_flatMap,
      minSize_alt]
    simp only [sem]

theorem sem_behindNeg_const (c : Ctx) (n : Nat) (e : Expr) (hw : wellShaped e = true) (hcs : constSize e = true)
    (hz : noBareEndZ e = true) (st : St) (hg : st.Good c n) (hlen : c.len ≤ UNSET) :
    negBehindOne c e st = sem c (.look e .behindNeg) st := by
  cases hia : isAlt e with
  | false => rw [C13_lookbehind_neg c n e (isAlt_false_ne e hia) hw hcs hz st hg hlen, negBehindOne, back_flatMap]
  | true =>
    obtain ⟨es, rfl⟩ := isAlt_true e hia
    simp only [wellShaped, Bool.and_eq_true] at hw
    rw [C13_lookbehind_neg_alt c n es hw.2 (constSize_alt_all es hcs) (by simpa only [noBareEndZ] using hz)
      st hg hlen, goBackAlts_allMinSize c (minSizeMin es) es st (constSize_alt_minSizeMin es hcs), negBehindOne, back_flatMap,
      minSize_alt]
    simp only [sem]

/-! ## Good states are kept -/

theorem keepsGood_posBehindOne (c : Ctx) (n : Nat) (e : Expr) : KeepsGood c n (posBehindOne c e) := by
  intro st r hg hr
  simp only [posBehindOne, List.mem_map] at hr
  obtain ⟨q, hq, rfl⟩ := hr
  have hq' : q ∈ (if minSize e ≤ st.ix then [({ st with ix := st.ix - minSize e } : St)] else []).flatMap (sem c e) := by
    cases hl : (if minSize e ≤ st.ix then [({ st with ix := st.ix - minSize e } : St)] else []).flatMap (sem c e) with
    | nil => simp [hl, firstOnly] at hq
    | cons x xs => simp only [hl, firstOnly, List.head?_cons, Option.toList_some, List.mem_singleton] at hq; subst hq; simp
  have hqg : q.Good c n := keepsGood_back (minSize e) (fun st r hg hr => sem_good c n e st r hg hr) st q hg hq'
  exact hqg.withIx _ hg.ix

theorem keepsGood_negBehindOne (c : Ctx) (n : Nat) (e : Expr) : KeepsGood c n (negBehindOne c e) := by
  intro st r hg hr
  unfold negBehindOne at hr
  by_cases hE : ((if minSize e ≤ st.ix then [({ st with ix := st.ix - minSize e } : St)] else []).flatMap (sem c e)).isEmpty = true
  · rw [if_pos hE] at hr
    simp only [List.mem_singleton] at hr; subst hr; exact hg
  · rw [if_neg hE] at hr
    simp at hr

/-! ## The compiler's view of an alternation body of one size -/

theorem lookBehindAlts_len (br : Nat → Bool) : ∀ (es : List Expr) (pc nsv gix : Nat) (f : Nat → Code) (endPc nsv' : Nat),
    lookBehindAlts br es pc nsv gix = .ok (f, endPc, nsv') → ∀ t, pc + (f t).length = endPc
  | [], pc, nsv, gix, f, endPc, nsv', hv, t => by
    simp only [lookBehindAlts, Except.ok.injEq, Prod.mk.injEq] at hv
    obtain ⟨rfl, rfl, _⟩ := hv
    simp
  | [e], pc, nsv, gix, f, endPc, nsv', hv, t => by
    obtain ⟨_, body, _, rfl, rfl⟩ := lookBehindAlts_single_ok hv
    rfl
  | e :: e2 :: es, pc, nsv, gix, f, endPc, nsv', hv, t => by
    obtain ⟨_, body, nsv1, f2, _, hb2, rfl⟩ := lookBehindAlts_cons_ok hv
    have := lookBehindAlts_len br (e2 :: es) _ nsv1 _ f2 endPc nsv' hb2 t
    simp only [List.length_append, List.length_cons, List.length_nil]
    omega

end Fancy
