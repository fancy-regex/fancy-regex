import FancyModel.Spec.SemK
import FancyModel.Lemmas.ExprInduct
/-!
# Induction over the reference semantics, and first-result evaluation

What the inductions over `sem` share: the induction principle `Expr.inductBehind`, the shape of a
result of each leaf and of each one-step construct (`mem_sem_*`), and the combinators through which a
relation between start state and result passes (`repLoop_rel`, `semConcat_rel_of`, …).

Then `semK c e st k = (sem c e st).findSome? k` for every expression, state and continuation — so the
executable oracle (`refSearchK`, `delegateOracle`) computes exactly what the specification
(`refSearch`, `delegateOracleSpec`) says.
-/
namespace Fancy

/-- the alternatives a look-behind tries in turn: those of a top-level alternation, else the body -/
def Expr.behindAlts : Expr → List Expr
  | .alt es => es
  | e => [e]

/-- `Expr.induct_look` for facts about `sem`: the hypothesis for the top-level alternatives of the body of a
    look-around, which `semBehind` evaluates one by one, is stated over `behindAlts`. -/
@[elab_as_elim]
theorem Expr.inductBehind {P : Expr → Prop}
    (empty : P .empty) (any : ∀ nl, P (.any nl)) (assertion : ∀ a, P (.assertion a))
    (literal : ∀ val casei, P (.literal val casei))
    (concat : ∀ es, (∀ e ∈ es, P e) → P (.concat es))
    (alt : ∀ es, (∀ e ∈ es, P e) → P (.alt es))
    (group : ∀ g e, P e → P (.group g e))
    (look : ∀ e la, P e → (∀ e' ∈ e.behindAlts, P e') → P (.look e la))
    («repeat» : ∀ e lo hi greedy, P e → P (.repeat e lo hi greedy))
    (delegate : ∀ inner size casei, P (.delegate inner size casei))
    (backref : ∀ g, P (.backref g))
    (atomic : ∀ e, P e → P (.atomic e))
    (keepOut : P .keepOut) (contPrev : P .contPrev)
    (backrefExists : ∀ g, P (.backrefExists g))
    (cond : ∀ c y n, P c → P y → P n → P (.cond c y n))
    (subroutine : ∀ g, P (.subroutine g)) (e : Expr) : P e :=
  Expr.induct_look empty any assertion literal concat alt group
    (fun e la ih iha => look e la ih (by
      cases e with
      | alt es => exact iha es rfl
      | _ => exact fun e' he' => List.mem_singleton.1 he' ▸ ih))
    «repeat» delegate backref atomic keepOut contPrev backrefExists cond subroutine e

theorem semBehind_eq_alts (c : Ctx) (e : Expr) (st : St) :
    semBehind c e st = semBehindAlts c e.behindAlts st := by
  cases e <;> simp only [semBehind, Expr.behindAlts, semBehindAlts, List.append_nil]

theorem semBehind_of_not_alt (c : Ctx) {e : Expr} (he : ∀ es, e ≠ .alt es) (st : St) :
    semBehind c e st = behindOne (sem c e) st := by
  cases e with
  | alt es => exact absurd rfl (he es)
  | _ => simp only [semBehind]

theorem semKBehind_eq_alts {γ : Type} (c : Ctx) (e : Expr) (st : St) (k : St → Option γ) :
    semKBehind c e st k = semKBehindAlts c e.behindAlts st k := by
  cases e <;> simp only [semKBehind, Expr.behindAlts, semKBehindAlts] <;>
    cases behindOneK _ st k (st.ix + 1) 0 <;> rfl

theorem at_some_lt (c : Ctx) (ix : Nat) (ch : Char) (h : c.at? ix = some ch) : ix < c.len := by
  unfold Ctx.at? Ctx.len at *
  rcases Nat.lt_or_ge ix c.text.length with h1 | h1
  · exact h1
  · rw [List.getElem?_eq_none h1] at h; cases h

theorem firstOnly_mem (l : List St) (r : St) (h : r ∈ firstOnly l) : r ∈ l := by
  cases l with
  | nil => cases h
  | cons x xs => exact List.mem_singleton.1 h ▸ List.mem_cons_self

theorem firstOnly_cons (r : St) (rest : List St) : firstOnly (r :: rest) = [r] := rfl
theorem firstOnly_nil : firstOnly ([] : List St) = [] := rfl

theorem firstOnly_length_le_one (l : List St) : (firstOnly l).length ≤ 1 := by
  cases l <;> simp [firstOnly]

theorem firstOnly_of_length_le_one (l : List St) (h : l.length ≤ 1) : firstOnly l = l := by
  match l, h with
  | [], _ => rfl
  | [_], _ => rfl

theorem firstOnly_idem (l : List St) : firstOnly (firstOnly l) = firstOnly l := by
  cases l <;> rfl

theorem firstOnly_map (f : St → St) (l : List St) : firstOnly (l.map f) = (firstOnly l).map f := by
  cases l <;> rfl

theorem head_flatMap_firstOnly (L : List St) (f : St → List St) :
    (L.flatMap fun r => firstOnly (f r)).head? = (L.flatMap f).head? := by
  induction L with
  | nil => rfl
  | cons x xs ih =>
    simp only [List.flatMap_cons]
    cases hf : f x with
    | nil => simpa [firstOnly] using ih
    | cons y ys => simp [firstOnly]

/-! ## What a result of a leaf looks like -/

theorem mem_ite_singleton {p : Prop} [Decidable p] {a r : St} (h : r ∈ if p then [a] else []) : p ∧ r = a := by
  split at h
  · exact ⟨‹p›, List.mem_singleton.1 h⟩
  · cases h

theorem mem_sem_empty {c : Ctx} {st r : St} (h : r ∈ sem c .empty st) : r = st := by
  simp only [sem] at h; exact List.mem_singleton.1 h

theorem mem_sem_any {c : Ctx} {nl : Bool} {st r : St} (h : r ∈ sem c (.any nl) st) :
    r = { st with ix := st.ix + 1 } ∧ st.ix < c.len := by
  simp only [sem] at h
  cases hat : c.at? st.ix with
  | none => rw [hat] at h; cases h
  | some ch => rw [hat] at h; exact ⟨(mem_ite_singleton h).2, at_some_lt c _ _ hat⟩

theorem mem_sem_assertion {c : Ctx} {a : Assertion} {st r : St} (h : r ∈ sem c (.assertion a) st) : r = st := by
  simp only [sem] at h; exact (mem_ite_singleton h).2

theorem mem_sem_literal {c : Ctx} {val : List Char} {casei : Bool} {st r : St}
    (h : r ∈ sem c (.literal val casei) st) :
    r = { st with ix := st.ix + val.length } ∧ c.litAt casei val st.ix = true := by
  simp only [sem] at h; exact (mem_ite_singleton h).symm

/-- a class leaf consumes one character; `\Z` consumes the newlines up to the end of the text -/
theorem mem_sem_delegate {c : Ctx} {inner : List Char} {size : Nat} {casei : Bool} {st r : St}
    (h : r ∈ sem c (.delegate inner size casei) st) :
    ∃ k, r = { st with ix := st.ix + k } ∧ size ≤ k ∧ st.ix + k ≤ c.len := by
  simp only [sem, delegateSem] at h
  split at h
  · rename_i hs
    cases hat : c.at? st.ix with
    | none => rw [hat] at h; cases h
    | some ch =>
      rw [hat] at h
      exact ⟨1, (mem_ite_singleton h).2, Nat.le_of_eq (beq_iff_eq.1 hs), at_some_lt c _ _ hat⟩
  · split at h
    · rename_i hs
      have hk := mem_ite_singleton h
      exact ⟨_, hk.2, Nat.le_trans (Nat.le_of_eq (beq_iff_eq.1 (Bool.and_eq_true_iff.1 hs).1)) (Nat.zero_le _),
        Nat.le_of_eq (beq_iff_eq.1 hk.1)⟩
    · cases h

theorem mem_sem_backref {c : Ctx} {g : Nat} {st r : St} (h : r ∈ sem c (.backref g) st) :
    ∃ k, r = { st with ix := st.ix + k } ∧ st.ix + k ≤ c.len := by
  simp only [sem] at h
  split at h
  · have hk := mem_ite_singleton h
    simp only [Ctx.sameAt, Bool.and_eq_true, decide_eq_true_eq] at hk
    exact ⟨_, hk.2, hk.1.2.1⟩
  · cases h

theorem mem_sem_contPrev {c : Ctx} {st r : St} (h : r ∈ sem c .contPrev st) : r = st := by
  simp only [sem] at h; exact (mem_ite_singleton h).2

theorem mem_sem_backrefExists {c : Ctx} {g : Nat} {st r : St} (h : r ∈ sem c (.backrefExists g) st) : r = st := by
  simp only [sem] at h; exact (mem_ite_singleton h).2

theorem mem_sem_keepOut {c : Ctx} {st r : St} (h : r ∈ sem c .keepOut st) : r = st.setSlot 0 (some st.ix) := by
  simp only [sem] at h; exact List.mem_singleton.1 h

theorem mem_sem_aheadNeg {c : Ctx} {e : Expr} {st r : St} (h : r ∈ sem c (.look e .aheadNeg) st) : r = st := by
  simp only [sem] at h; exact (mem_ite_singleton h).2

theorem mem_sem_behindNeg {c : Ctx} {e : Expr} {st r : St} (h : r ∈ sem c (.look e .behindNeg) st) : r = st := by
  simp only [sem] at h; exact (mem_ite_singleton h).2

theorem not_mem_sem_subroutine {c : Ctx} {g : Nat} {st r : St} : r ∉ sem c (.subroutine g) st := by
  simp only [sem]; exact List.not_mem_nil

theorem mem_sem_group {c : Ctx} {g : Nat} {e : Expr} {st r : St} (h : r ∈ sem c (.group g e) st) :
    ∃ r', r' ∈ sem c e (st.setSlot (2 * g) (some st.ix)) ∧ r = r'.setSlot (2 * g + 1) (some r'.ix) := by
  simp only [sem, List.mem_map] at h
  obtain ⟨r', hr', rfl⟩ := h
  exact ⟨r', hr', rfl⟩

theorem mem_sem_ahead {c : Ctx} {e : Expr} {st r : St} (h : r ∈ sem c (.look e .ahead) st) :
    ∃ r', r' ∈ sem c e st ∧ r = { r' with ix := st.ix } := by
  simp only [sem, List.mem_map] at h
  obtain ⟨r', hr', rfl⟩ := h
  exact ⟨r', firstOnly_mem _ _ hr', rfl⟩

theorem mem_sem_behind {c : Ctx} {e : Expr} {st r : St} (h : r ∈ sem c (.look e .behind) st) :
    ∃ r', r' ∈ semBehindAlts c e.behindAlts st ∧ r = { r' with ix := st.ix } := by
  simp only [sem, List.mem_map] at h
  obtain ⟨r', hr', rfl⟩ := h
  exact ⟨r', semBehind_eq_alts c e st ▸ firstOnly_mem _ _ hr', rfl⟩

theorem mem_sem_atomic {c : Ctx} {e : Expr} {st r : St} (h : r ∈ sem c (.atomic e) st) : r ∈ sem c e st := by
  simp only [sem] at h; exact firstOnly_mem _ _ h

theorem mem_sem_cond {c : Ctx} {cnd y n : Expr} {st r : St} (h : r ∈ sem c (.cond cnd y n) st) :
    (∃ r1, r1 ∈ sem c cnd st ∧ r ∈ sem c y r1) ∨ r ∈ sem c n st := by
  simp only [sem] at h
  split at h
  · exact .inl ⟨_, List.mem_of_mem_head? ‹_›, h⟩
  · exact .inr h

/-! ## One unfolding of the repetition loop -/

/-- the results of one more iteration of the loop body from `st`, each continued by `next` unless the
    iteration consumed nothing in an unbounded loop past `lo` -/
def repStep (body : St → List St) (lo : Nat) (hi : Option Nat) (next : Nat → St → List St) (count : Nat)
    (st : St) : List St :=
  (body st).flatMap fun r =>
    if hi.isNone && decide (lo ≤ count) && r.ix == st.ix then [r] else next (count + 1) r

theorem repLoop_step (body : St → List St) (lo : Nat) (hi : Option Nat) (greedy : Bool) (fuel count : Nat)
    (st : St) :
    repLoop body lo hi greedy (fuel + 1) count st =
      if hi = some count then [st]
      else if count < lo then repStep body lo hi (repLoop body lo hi greedy fuel) count st
      else if greedy then repStep body lo hi (repLoop body lo hi greedy fuel) count st ++ [st]
      else st :: repStep body lo hi (repLoop body lo hi greedy fuel) count st := rfl

/-- one unfolding of `repLoop`, as a case principle -/
theorem repLoop_succ_cases {P : List St → Prop} (body : St → List St) (lo : Nat) (hi : Option Nat)
    (greedy : Bool) (fuel count : Nat) (st : St)
    (stop : hi = some count → P [st])
    (more : hi ≠ some count → count < lo → P (repStep body lo hi (repLoop body lo hi greedy fuel) count st))
    (greedyC : hi ≠ some count → lo ≤ count → greedy = true →
      P (repStep body lo hi (repLoop body lo hi greedy fuel) count st ++ [st]))
    (lazyC : hi ≠ some count → lo ≤ count → greedy = false →
      P (st :: repStep body lo hi (repLoop body lo hi greedy fuel) count st)) :
    P (repLoop body lo hi greedy (fuel + 1) count st) := by
  rw [repLoop_step]
  by_cases h0 : hi = some count
  · rw [if_pos h0]; exact stop h0
  · rw [if_neg h0]
    by_cases h1 : count < lo
    · simp only [if_pos h1]; exact more h0 h1
    · simp only [if_neg h1]
      cases greedy
      · exact lazyC h0 (Nat.le_of_not_lt h1) rfl
      · exact greedyC h0 (Nat.le_of_not_lt h1) rfl

theorem mem_repLoop_succ {body : St → List St} {lo : Nat} {hi : Option Nat} {greedy : Bool} {fuel count : Nat}
    {st r : St} (h : r ∈ repLoop body lo hi greedy (fuel + 1) count st) :
    r = st ∧ (hi = some count ∨ lo ≤ count) ∨
      hi ≠ some count ∧ r ∈ repStep body lo hi (repLoop body lo hi greedy fuel) count st := by
  revert h
  refine repLoop_succ_cases (P := fun l => r ∈ l → _) body lo hi greedy fuel count st ?_ ?_ ?_ ?_
  · exact fun h0 h => .inl ⟨List.mem_singleton.1 h, .inl h0⟩
  · exact fun h0 _ h => .inr ⟨h0, h⟩
  · exact fun h0 h1 _ h => (List.mem_append.1 h).elim (fun h => .inr ⟨h0, h⟩)
      fun h => .inl ⟨List.mem_singleton.1 h, .inr h1⟩
  · exact fun h0 h1 _ h => (List.mem_cons.1 h).elim (fun h => .inl ⟨h, .inr h1⟩) fun h => .inr ⟨h0, h⟩

theorem mem_repStep {body : St → List St} {lo : Nat} {hi : Option Nat} {next : Nat → St → List St}
    {count : Nat} {st q : St} (h : q ∈ repStep body lo hi next count st) :
    ∃ r, r ∈ body st ∧ (q = r ∧ hi = none ∧ lo ≤ count ∧ r.ix = st.ix ∨ q ∈ next (count + 1) r) := by
  obtain ⟨r, hr, hq⟩ := List.mem_flatMap.1 h
  refine ⟨r, hr, ?_⟩
  by_cases hc : (hi.isNone && decide (lo ≤ count) && r.ix == st.ix) = true
  · rw [if_pos hc] at hq
    simp only [Bool.and_eq_true, Option.isNone_iff_eq_none, decide_eq_true_eq, beq_iff_eq] at hc
    exact .inl ⟨List.mem_singleton.1 hq, hc.1.1, hc.1.2, hc.2⟩
  · rw [if_neg hc] at hq; exact .inr hq

/-! ## Relations between the start state and every result -/

section Rel
variable {T : St → St → Prop}

theorem repLoop_rel {T : St → St → Prop} (refl : ∀ st, T st st) (trans : ∀ a b d, T a b → T b d → T a d) (body : St → List St)
    (hb : ∀ st r, r ∈ body st → T st r)
    (lo : Nat) (hi : Option Nat) (greedy : Bool) (fuel count : Nat) (st r : St)
    (h : r ∈ repLoop body lo hi greedy fuel count st) : T st r := by
  induction fuel generalizing count st r with
  | zero => cases h
  | succ fuel ih =>
    rcases mem_repLoop_succ h with ⟨rfl, _⟩ | ⟨_, h⟩
    · exact refl _
    · obtain ⟨r', hr', ⟨rfl, _⟩ | hq⟩ := mem_repStep h
      · exact hb st _ hr'
      · exact trans _ _ _ (hb st r' hr') (ih _ _ _ hq)
theorem semConcat_rel_of (refl : ∀ st, T st st) (trans : ∀ a b d, T a b → T b d → T a d) (c : Ctx)
    (es : List Expr) (h : ∀ e ∈ es, ∀ st r, r ∈ sem c e st → T st r) :
    ∀ st r, r ∈ semConcat c es st → T st r := by
  induction es with
  | nil => intro st r hr; simp only [semConcat] at hr; exact List.mem_singleton.1 hr ▸ refl st
  | cons e es ih =>
    intro st r hr
    simp only [semConcat, List.mem_flatMap] at hr
    obtain ⟨r1, hr1, hr⟩ := hr
    exact trans _ _ _ (h e List.mem_cons_self st r1 hr1)
      (ih (fun e' he' => h e' (List.mem_cons_of_mem _ he')) r1 r hr)

theorem semAlt_rel_of (c : Ctx) (es : List Expr) (h : ∀ e ∈ es, ∀ st r, r ∈ sem c e st → T st r) :
    ∀ st r, r ∈ semAlt c es st → T st r := by
  induction es with
  | nil => intro st r hr; simp only [semAlt] at hr; cases hr
  | cons e es ih =>
    intro st r hr
    simp only [semAlt, List.mem_append] at hr
    rcases hr with hr | hr
    · exact h e List.mem_cons_self st r hr
    · exact ih (fun e' he' => h e' (List.mem_cons_of_mem _ he')) st r hr

/-- a look-behind tries its body from the positions `j ≤ st.ix` and keeps the results that end at `st.ix` -/
theorem semBehindAlts_rel_of (back : ∀ st j r, j ≤ st.ix → T { st with ix := j } r → T st r) (c : Ctx)
    (es : List Expr) (h : ∀ e ∈ es, ∀ st r, r ∈ sem c e st → T st r) :
    ∀ st r, r ∈ semBehindAlts c es st → T st r := by
  induction es with
  | nil => intro st r hr; simp only [semBehindAlts] at hr; cases hr
  | cons e es ih =>
    intro st r hr
    simp only [semBehindAlts, List.mem_append] at hr
    rcases hr with hr | hr
    · simp only [behindOne, List.mem_flatMap, List.mem_filter] at hr
      obtain ⟨k, _, hr, _⟩ := hr
      exact back st _ r (Nat.sub_le _ _) (h e List.mem_cons_self _ r hr)
    · exact ih (fun e' he' => h e' (List.mem_cons_of_mem _ he')) st r hr

end Rel
/-! ## First-result evaluation -/

theorem findSome?_flatMap {α β γ : Type} (l : List α) (f : α → List β) (k : β → Option γ) :
    (l.flatMap f).findSome? k = l.findSome? fun a => (f a).findSome? k := by
  induction l with
  | nil => rfl
  | cons a as ih =>
    simp only [List.flatMap_cons, List.findSome?_append, List.findSome?_cons, ih]
    cases (f a).findSome? k <;> simp

theorem findSome?_ite {α γ : Type} (p : Prop) [Decidable p] (a : α) (k : α → Option γ) :
    (if p then [a] else []).findSome? k = if p then k a else none := by
  split
  · exact List.findSome?_singleton
  · rfl

theorem findSome?_some_eq_head? {α : Type} (l : List α) : l.findSome? some = l.head? := by
  cases l <;> simp [List.findSome?]

theorem findSome?_firstOnly {γ : Type} (l : List St) (k : St → Option γ) :
    (firstOnly l).findSome? k = match l.head? with | some r => k r | none => none := by
  cases l with
  | nil => rfl
  | cons x xs => simp only [firstOnly, List.head?_cons, Option.toList_some]; exact List.findSome?_singleton

theorem findSome?_filter {α γ : Type} (l : List α) (p : α → Bool) (k : α → Option γ) :
    (l.filter p).findSome? k = l.findSome? fun a => if p a then k a else none := by
  induction l with
  | nil => rfl
  | cons a as ih =>
    simp only [List.filter_cons]
    by_cases hp : p a = true
    · simp only [hp, ↓reduceIte, List.findSome?_cons, ih]
    · simp only [hp, Bool.false_eq_true, ↓reduceIte, List.findSome?_cons, ih]

theorem repLoopK_eq {γ : Type} (body : St → List St) (bodyK : St → (St → Option γ) → Option γ)
    (hb : ∀ st k, bodyK st k = (body st).findSome? k)
    (lo : Nat) (hi : Option Nat) (greedy : Bool) (fuel count : Nat) (st : St) (k : St → Option γ) :
    repLoopK bodyK lo hi greedy fuel count st k = (repLoop body lo hi greedy fuel count st).findSome? k := by
  induction fuel generalizing count st with
  | zero => rfl
  | succ fuel ih =>
    have hiters : (bodyK st fun r =>
          if (hi.isNone && decide (lo ≤ count) && r.ix == st.ix) = true then k r
          else repLoopK bodyK lo hi greedy fuel (count + 1) r k) =
        (repStep body lo hi (repLoop body lo hi greedy fuel) count st).findSome? k := by
      rw [hb, repStep, findSome?_flatMap]
      congr 1
      funext r
      by_cases hc : (hi.isNone && decide (lo ≤ count) && r.ix == st.ix) = true
      · rw [if_pos hc, if_pos hc]; exact List.findSome?_singleton.symm
      · rw [if_neg hc, if_neg hc]; exact ih _ _
    unfold repLoopK
    simp only [hiters]
    refine repLoop_succ_cases (P := fun l => _ = l.findSome? k) body lo hi greedy fuel count st ?_ ?_ ?_ ?_
    · intro h0; rw [if_pos h0]; exact List.findSome?_singleton.symm
    · intro h0 h1; rw [if_neg h0, if_pos h1]
    · intro h0 h1 hg
      rw [if_neg h0, if_neg (Nat.not_lt.2 h1), if_pos hg, List.findSome?_append, List.findSome?_singleton]
      cases List.findSome? k _ <;> rfl
    · intro h0 h1 hg
      rw [if_neg h0, if_neg (Nat.not_lt.2 h1), hg, List.findSome?_cons]
      cases k st <;> rfl

theorem behindOneK_eq {γ : Type} (body : St → List St) (bodyK : St → (St → Option γ) → Option γ)
    (hb : ∀ st k, bodyK st k = (body st).findSome? k) (st : St) (k : St → Option γ) (n d : Nat) :
    behindOneK bodyK st k n d =
      ((List.range' d n).flatMap fun j =>
        (body { st with ix := st.ix - j }).filter (fun r => r.ix == st.ix)).findSome? k := by
  induction n generalizing d with
  | zero => rfl
  | succ n ih =>
    unfold behindOneK
    rw [hb, List.range'_succ, List.flatMap_cons, List.findSome?_append, findSome?_filter, ih (d + 1)]
    cases List.findSome? _ (body _) <;> rfl

theorem behindOneK_eq' {γ : Type} (body : St → List St) (bodyK : St → (St → Option γ) → Option γ)
    (hb : ∀ st k, bodyK st k = (body st).findSome? k) (st : St) (k : St → Option γ) :
    behindOneK bodyK st k (st.ix + 1) 0 = (behindOne body st).findSome? k := by
  rw [behindOneK_eq body bodyK hb]
  unfold behindOne
  rw [List.range_eq_range']

theorem semKConcat_eq_of {γ : Type} (c : Ctx) (es : List Expr)
    (h : ∀ e ∈ es, ∀ (st : St) (k : St → Option γ), semK c e st k = (sem c e st).findSome? k) :
    ∀ (st : St) (k : St → Option γ), semKConcat c es st k = (semConcat c es st).findSome? k := by
  induction es with
  | nil => intro st k; simp only [semKConcat, semConcat]; exact List.findSome?_singleton.symm
  | cons e es ih =>
    intro st k
    simp only [semKConcat, semConcat]
    rw [h e List.mem_cons_self, findSome?_flatMap]
    congr 1
    funext r
    exact ih (fun e' he' => h e' (List.mem_cons_of_mem _ he')) r k

theorem semKAlt_eq_of {γ : Type} (c : Ctx) (es : List Expr)
    (h : ∀ e ∈ es, ∀ (st : St) (k : St → Option γ), semK c e st k = (sem c e st).findSome? k) :
    ∀ (st : St) (k : St → Option γ), semKAlt c es st k = (semAlt c es st).findSome? k := by
  induction es with
  | nil => intro st k; simp only [semKAlt, semAlt, List.findSome?_nil]
  | cons e es ih =>
    intro st k
    simp only [semKAlt, semAlt, List.findSome?_append]
    rw [h e List.mem_cons_self, ih (fun e' he' => h e' (List.mem_cons_of_mem _ he'))]
    cases List.findSome? k (sem c e st) <;> rfl

theorem semKBehindAlts_eq_of {γ : Type} (c : Ctx) (es : List Expr)
    (h : ∀ e ∈ es, ∀ (st : St) (k : St → Option γ), semK c e st k = (sem c e st).findSome? k) :
    ∀ (st : St) (k : St → Option γ), semKBehindAlts c es st k = (semBehindAlts c es st).findSome? k := by
  induction es with
  | nil => intro st k; simp only [semKBehindAlts, semBehindAlts, List.findSome?_nil]
  | cons e es ih =>
    intro st k
    simp only [semKBehindAlts, semBehindAlts, List.findSome?_append]
    rw [behindOneK_eq' _ _ (h e List.mem_cons_self), ih (fun e' he' => h e' (List.mem_cons_of_mem _ he'))]
    cases List.findSome? k (behindOne (sem c e) st) <;> rfl

theorem semK_eq {γ : Type} (c : Ctx) : ∀ (e : Expr) (st : St) (k : St → Option γ),
    semK c e st k = (sem c e st).findSome? k := by
  intro e
  induction e using Expr.inductBehind generalizing γ with
  | empty => intro st k; simp only [semK, sem]; exact List.findSome?_singleton.symm
  | any nl =>
    intro st k
    simp only [semK, sem]
    cases c.at? st.ix with
    | none => rfl
    | some ch => simp only; rw [findSome?_ite]
  | assertion a => intro st k; simp only [semK, sem]; rw [findSome?_ite]
  | literal val casei => intro st k; simp only [semK, sem]; rw [findSome?_ite]
  | concat es ih => intro st k; simp only [semK, sem]; exact semKConcat_eq_of c es (fun e he => ih e he) st k
  | alt es ih => intro st k; simp only [semK, sem]; exact semKAlt_eq_of c es (fun e he => ih e he) st k
  | group g e ih =>
    intro st k
    simp only [semK, sem]
    rw [ih, List.findSome?_map]
    rfl
  | look e la ih ihb =>
    intro st k
    have hb : semKBehind c e st some = (semBehind c e st).findSome? some := by
      rw [semKBehind_eq_alts, semBehind_eq_alts]
      exact semKBehindAlts_eq_of c _ (fun e' he' => ihb e' he') st some
    cases la with
    | ahead =>
      simp only [semK, sem]
      rw [ih, findSome?_some_eq_head?, List.findSome?_map, findSome?_firstOnly]
      cases (sem c e st).head? <;> rfl
    | aheadNeg =>
      simp only [semK, sem]
      rw [ih, findSome?_some_eq_head?]
      cases h : sem c e st with
      | nil => simp only [List.head?_nil, List.isEmpty_nil, ↓reduceIte]; exact List.findSome?_singleton.symm
      | cons x xs => simp
    | behind =>
      simp only [semK, sem]
      rw [hb, findSome?_some_eq_head?, List.findSome?_map, findSome?_firstOnly]
      cases (semBehind c e st).head? <;> rfl
    | behindNeg =>
      simp only [semK, sem]
      rw [hb, findSome?_some_eq_head?]
      cases h : semBehind c e st with
      | nil => simp only [List.head?_nil, List.isEmpty_nil, ↓reduceIte]; exact List.findSome?_singleton.symm
      | cons x xs => simp
  | «repeat» e lo hi greedy ih =>
    intro st k
    simp only [semK, sem]
    exact repLoopK_eq (sem c e) (semK c e) ih lo hi greedy _ 0 st k
  | delegate inner size casei => intro st k; simp only [semK, sem]
  | backref g =>
    intro st k
    simp only [semK, sem]
    cases h1 : st.slot (2 * g) with
    | none => rfl
    | some lo =>
      cases h2 : st.slot (2 * g + 1) with
      | none => rfl
      | some hi => simp only; rw [findSome?_ite]
  | atomic e ih =>
    intro st k
    simp only [semK, sem]
    rw [ih, findSome?_some_eq_head?, findSome?_firstOnly]
    cases (sem c e st).head? <;> rfl
  | keepOut => intro st k; simp only [semK, sem]; exact List.findSome?_singleton.symm
  | contPrev => intro st k; simp only [semK, sem]; rw [findSome?_ite]
  | backrefExists g => intro st k; simp only [semK, sem]; rw [findSome?_ite]
  | cond cnd y n ihc ihy ihn =>
    intro st k
    simp only [semK, sem]
    rw [ihc, findSome?_some_eq_head?]
    cases (sem c cnd st).head? with
    | some r => exact ihy r k
    | none => exact ihn st k
  | subroutine g => intro st k; simp [semK, sem]

theorem semKConcat_eq {γ : Type} (c : Ctx) : ∀ (es : List Expr) (st : St) (k : St → Option γ),
    semKConcat c es st k = (semConcat c es st).findSome? k :=
  fun es => semKConcat_eq_of c es fun e _ => semK_eq c e

theorem semKAlt_eq {γ : Type} (c : Ctx) : ∀ (es : List Expr) (st : St) (k : St → Option γ),
    semKAlt c es st k = (semAlt c es st).findSome? k :=
  fun es => semKAlt_eq_of c es fun e _ => semK_eq c e

theorem semKBehindAlts_eq {γ : Type} (c : Ctx) : ∀ (es : List Expr) (st : St) (k : St → Option γ),
    semKBehindAlts c es st k = (semBehindAlts c es st).findSome? k :=
  fun es => semKBehindAlts_eq_of c es fun e _ => semK_eq c e

theorem semKBehind_eq {γ : Type} (c : Ctx) : ∀ (e : Expr) (st : St) (k : St → Option γ),
    semKBehind c e st k = (semBehind c e st).findSome? k
  | e, st, k => by rw [semKBehind_eq_alts, semBehind_eq_alts]; exact semKBehindAlts_eq c _ st k

end Fancy
