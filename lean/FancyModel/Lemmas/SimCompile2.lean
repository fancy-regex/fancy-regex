import FancyModel.Lemmas.Sim2Core
import FancyModel.Lemmas.Sim2Rep
import FancyModel.Lemmas.Sim2Cond
import FancyModel.Lemmas.Sim2Look
import FancyModel.Proofs.C13b
/-!
# The compiler emits simulating code: every construct the VM interprets itself (stage S2)

`s2ok e`: the shapes covered — literals, `.`, assertions, `\K`, `\G`, back-references, group tests,
concatenation, alternation, capture groups, every quantifier whose body cannot match empty when
unbounded (`NoEmptyLoop`: otherwise the compiler emits `RepeatEpsilon`, finding F1), atomic groups
and positive look-aheads over conditional-free bodies (`NoCondLeak`, finding F8), negative look-aheads,
look-behinds over a non-alternation constant-size body, conditionals with a conditional-free
condition. For such `e`, in either compile context, if the emitted code contains no `Delegate`
instruction, it simulates `sem c e` on the full machine (`sim2_visit`).
-/
namespace Fancy

mutual
theorem s2ok_wellShaped : ∀ (e : Expr), s2ok e = true → wellShaped e = true
  | .empty, _ | .any _, _ | .assertion _, _ | .backref _, _ | .keepOut, _ | .contPrev, _ | .backrefExists _, _ => by
    simp [wellShaped]
  | .literal v ci, h => by simp only [s2ok, Bool.and_eq_true] at h; simpa [wellShaped] using h.2
  | .concat es, h => by simp only [s2ok] at h; simpa [wellShaped] using s2okAll_wellShaped es h
  | .alt es, h => by
    simp only [s2ok, Bool.and_eq_true] at h
    simp only [wellShaped, Bool.and_eq_true]
    exact ⟨h.1, s2okAll_wellShaped es h.2⟩
  | .group _ e, h => by simp only [s2ok] at h; simpa [wellShaped] using s2ok_wellShaped e h
  | .repeat e _ _ _, h => by
    simp only [s2ok, Bool.and_eq_true] at h; simpa [wellShaped] using s2ok_wellShaped e h.1
  | .look e .ahead, h => by
    simp only [s2ok, Bool.and_eq_true] at h; simpa [wellShaped] using s2ok_wellShaped e h.1
  | .look e .aheadNeg, h => by
    simp only [s2ok] at h; simpa [wellShaped] using s2ok_wellShaped e h
  | .look e .behind, h => by
    simp only [s2ok, Bool.and_eq_true] at h; simpa [wellShaped] using s2ok_wellShaped e h.1.1.1
  | .look e .behindNeg, h => by
    simp only [s2ok, Bool.and_eq_true] at h; simpa [wellShaped] using s2ok_wellShaped e h.1.1
  | .atomic e, h => by
    simp only [s2ok, Bool.and_eq_true] at h; simpa [wellShaped] using s2ok_wellShaped e h.1
  | .cond c y n, h => by
    simp only [s2ok, Bool.and_eq_true] at h
    simp only [wellShaped, Bool.and_eq_true]
    exact ⟨⟨s2ok_wellShaped c h.1.1.1, s2ok_wellShaped y h.1.2⟩, s2ok_wellShaped n h.2⟩
  | .delegate _ _ _, h | .subroutine _, h => by simp [s2ok] at h
theorem s2okAll_wellShaped : ∀ (es : List Expr), s2okAll es = true → wellShapedAll es = true
  | [], _ => rfl
  | e :: es, h => by
    simp only [s2okAll, Bool.and_eq_true] at h
    simp only [wellShapedAll, Bool.and_eq_true]
    exact ⟨s2ok_wellShaped e h.1, s2okAll_wellShaped es h.2⟩
end

/-- change the balance flag of a simulation to a weaker one -/
theorem Sim2.balTo {c : Ctx} {n nS : Nat} {prog : List Insn} {lo hi : Nat} {b1 b2 cm : Bool} {f : St → List St} {a b : Nat}
    (h : Sim2 c n nS prog lo hi b1 cm f a b) (hb : b2 = true → b1 = true) : Sim2 c n nS prog lo hi b2 cm f a b := by
  cases b2 with
  | true => have := hb rfl; subst this; exact h
  | false =>
    cases b1 with
    | true => exact h.unbal
    | false => exact h

/-- equality of the two semantics is only needed on good states -/
theorem Sim2.congrGood {c : Ctx} {n nS : Nat} {prog : List Insn} {lo hi : Nat} {bal cm : Bool} {f g : St → List St} {a b : Nat}
    (h : Sim2 c n nS prog lo hi bal cm f a b) (hfg : ∀ st, st.Good c n → f st = g st) :
    Sim2 c n nS prog lo hi bal cm g a b := by
  intro st aux astk X succ failA hg hl hsucc hf hs
  have e := hfg st hg
  rw [← e] at hf hs ⊢
  exact h st aux astk X succ failA hg hl hsucc hf hs

/-- `compile_delegate` without a `Delegate` instruction: the expression is a literal run, the code one `Lit` -/
theorem compileDelegate_noDeleg {e : Expr} {gix : Nat} (hn : noDeleg (compileDelegate e gix) = true) :
    isLiteral e = true ∧ compileDelegate e gix = [.lit (pushLiteral e)] := by
  unfold compileDelegate at hn ⊢
  by_cases hl : isLiteral e = true
  · simp [hl]
  · simp [hl, noDeleg, Insn.isDelegate] at hn

theorem length_le_one_of_isLiteral (c : Ctx) (e : Expr) (h : isLiteral e = true) (st : St) : (sem c e st).length ≤ 1 := by
  rw [sem_isLiteral c e h st]
  split <;> simp

def SimOf (c : Ctx) (n nS : Nat) (prog : List Insn) (nsv nsv' : Nat) (bal : Bool) (sm : St → List St) (a b : Nat) : Prop :=
  nsv ≤ nsv' ∧ (nsv' ≤ nS → ∀ cm, Sim2 c n nS prog nsv nsv' bal cm sm a b)

theorem SimOf.leaf {c : Ctx} {n nS : Nat} {prog : List Insn} {nsv : Nat} {bal : Bool} {sm : St → List St} {a b : Nat}
    (h : ∀ cm, Sim2 c n nS prog nsv nsv bal cm sm a b) : SimOf c n nS prog nsv nsv bal sm a b := ⟨Nat.le_refl _, fun _ => h⟩

/-- a non-hard expression in a non-hard context: `compile_delegate`; without `Delegate` it is a literal -/
theorem simOf_easy (c : Ctx) (n nS : Nat) (prog : List Insn) (bal : Bool) (br : Nat → Bool) (e : Expr)
    (hard : Bool) (pc nsv gix : Nat) (code : Code) (nsv' : Nat)
    (hdel : (!hard && !isHard br e) = true) (hv : visit br e hard pc nsv gix = .ok (code, nsv'))
    (hn : noDeleg code = true) (hc : CodeAt prog pc code) :
    SimOf c n nS prog nsv nsv' bal (sem c e) pc (pc + code.length) := by
  rw [visit_easy_eq br e hard pc nsv gix hdel] at hv
  cases hv
  obtain ⟨hl, hcode⟩ := compileDelegate_noDeleg hn
  rw [hcode] at hc ⊢
  exact SimOf.leaf fun cm => sim2_isLiteral c n nS prog nsv nsv bal cm e pc hl hc.head

theorem easy_isLiteral (br : Nat → Bool) (e : Expr) (hard : Bool) (pc nsv gix : Nat) (code : Code) (nsv' : Nat)
    (hdel : (!hard && !isHard br e) = true) (hv : visit br e hard pc nsv gix = .ok (code, nsv'))
    (hn : noDeleg code = true) : isLiteral e = true := by
  rw [visit_easy_eq br e hard pc nsv gix hdel] at hv
  cases hv
  exact (compileDelegate_noDeleg hn).1

theorem isAlt_false_ne (e : Expr) (h : isAlt e = false) : ∀ es, e ≠ .alt es := by
  intro es he; subst he; simp [isAlt] at h

/-- the go-back-then-body semantics of the look-behind layouts, in the form `C13_lookbehind_exact` gives -/
theorem back_flatMap (k : Nat) (body : St → List St) (st : St) :
    (if k ≤ st.ix then [({ st with ix := st.ix - k } : St)] else []).flatMap body =
      if k ≤ st.ix then body { st with ix := st.ix - k } else [] := by
  split <;> simp

def Sim2P (c : Ctx) (n nS : Nat) (br : Nat → Bool) (e : Expr) : Prop :=
  ∀ (hard : Bool) (pc nsv gix : Nat) (code : Code) (nsv' : Nat) (prog : List Insn),
    s2ok e = true → slotsBelow n e = true →
    visit br e hard pc nsv gix = .ok (code, nsv') → noDeleg code = true → CodeAt prog pc code →
    n ≤ nsv →
    SimOf c n nS prog nsv nsv' (condFree e) (sem c e) pc (pc + code.length)

section Arms
variable {c : Ctx} {n nS : Nat} {br : Nat → Bool}

/-- the hand-off to the automata engine is the same for every construct (`simOf_easy`): what is left to show
    is what `visit` does when it lays out the node itself -/
theorem Sim2P.of_hard {e : Expr}
    (h : ∀ (hard : Bool) (pc nsv gix : Nat) (code : Code) (nsv' : Nat) (prog : List Insn),
      ¬(!hard && !isHard br e) = true → s2ok e = true → slotsBelow n e = true →
      visit br e hard pc nsv gix = .ok (code, nsv') → noDeleg code = true → CodeAt prog pc code →
      n ≤ nsv →
      SimOf c n nS prog nsv nsv' (condFree e) (sem c e) pc (pc + code.length)) : Sim2P c n nS br e := by
  intro hard pc nsv gix code nsv' prog hok hs hv hn hc hnn
  by_cases hdel : (!hard && !isHard br e) = true
  · exact simOf_easy c n nS prog _ br e hard pc nsv gix code nsv' hdel hv hn hc
  · exact h hard pc nsv gix code nsv' prog hdel hok hs hv hn hc hnn

theorem sim2P_empty : Sim2P c n nS br .empty :=
  Sim2P.of_hard fun hard pc nsv gix code nsv' prog hdel _ _ hv _ _ _ => by
    rw [visit_empty hdel] at hv
    cases hv
    exact SimOf.leaf fun cm => (Sim2.nil c n nS prog nsv nsv _ cm pc).congr fun st => by simp [sem]

theorem sim2P_any (nl : Bool) : Sim2P c n nS br (.any nl) :=
  Sim2P.of_hard fun hard pc nsv gix code nsv' prog hdel _ _ hv _ hc _ => by
    cases nl with
    | true =>
      rw [visit_any_true hdel] at hv; cases hv
      exact SimOf.leaf fun cm => sim2_any c n nS prog nsv nsv _ cm pc hc.head
    | false =>
      rw [visit_any_false hdel] at hv; cases hv
      exact SimOf.leaf fun cm => sim2_anyNoNL c n nS prog nsv nsv _ cm pc hc.head

theorem sim2P_assertion (a : Assertion) : Sim2P c n nS br (.assertion a) :=
  Sim2P.of_hard fun hard pc nsv gix code nsv' prog hdel _ _ hv _ hc _ => by
    rw [visit_assertion hdel] at hv
    cases hv
    exact SimOf.leaf fun cm => sim2_assertion c n nS prog nsv nsv _ cm pc a hc.head

theorem sim2P_literal (v : List Char) (ci : Bool) : Sim2P c n nS br (.literal v ci) :=
  Sim2P.of_hard fun hard pc nsv gix code nsv' prog hdel hok _ hv _ hc _ => by
    simp only [s2ok, Bool.and_eq_true, Bool.not_eq_true'] at hok
    obtain rfl : ci = false := hok.1
    rw [visit_literal_cs hdel] at hv
    cases hv
    exact SimOf.leaf fun cm => (sim2_lit c n nS prog nsv nsv _ cm pc v hc.head).congr fun st => by simp [sem]

theorem sim2P_backref (hlen : c.len < UNSET) (g : Nat) : Sim2P c n nS br (.backref g) := by
  intro hard pc nsv gix code nsv' prog _ hs hv _ hc _
  rw [visit_backref] at hv
  cases hv
  exact SimOf.leaf fun cm =>
    sim2_backref c n nS prog nsv nsv _ cm pc g hlen hc.head (by simpa [slotsBelow] using hs)

theorem sim2P_backrefExists (hlen : c.len < UNSET) (g : Nat) : Sim2P c n nS br (.backrefExists g) := by
  intro hard pc nsv gix code nsv' prog _ hs hv _ hc _
  rw [visit_backrefExists] at hv
  cases hv
  exact SimOf.leaf fun cm =>
    sim2_backrefExists c n nS prog nsv nsv _ cm pc g hlen hc.head (by simpa [slotsBelow] using hs)

theorem sim2P_keepOut : Sim2P c n nS br .keepOut := by
  intro hard pc nsv gix code nsv' prog _ hs hv _ hc _
  rw [visit_keepOut] at hv
  cases hv
  exact SimOf.leaf fun cm =>
    (sim2_save c n nS prog nsv nsv _ cm pc 0 hc.head (by simpa [slotsBelow] using hs)).congr fun st => by simp [sem]

theorem sim2P_contPrev : Sim2P c n nS br .contPrev := by
  intro hard pc nsv gix code nsv' prog _ _ hv _ hc _
  rw [visit_contPrev] at hv
  cases hv
  exact SimOf.leaf fun cm => sim2_contPrev c n nS prog nsv nsv _ cm pc hc.head

theorem sim2P_group {g : Nat} {e : Expr} (ih : Sim2P c n nS br e) : Sim2P c n nS br (.group g e) :=
  Sim2P.of_hard fun hard pc nsv gix code nsv' prog hdel hok hs hv hn hc hnn => by
    obtain ⟨body, hb, rfl⟩ := visit_group_ok hdel hv
    simp only [s2ok] at hok
    simp only [slotsBelow, Bool.and_eq_true, decide_eq_true_eq] at hs
    obtain ⟨h1, hcb, h2⟩ := hc.split3
    obtain ⟨hle, hbody⟩ := ih _ _ _ _ _ _ prog hok hs.2 hb (noDeleg_mid hn) hcb hnn
    refine ⟨hle, fun hnS cm => ?_⟩
    simp only [condFree]
    exact (sim2_group (cm := cm) (g := g) h1.head h2.head (hbody hnS false) hs.1 (by addr)).cast rfl (by addr)

/-- the children `visitMiddle` compiles one after the other -/
theorem sim2P_visitMiddle : ∀ (es : List Expr), (∀ e ∈ es, Sim2P c n nS br e) →
    ∀ (take pc nsv gix : Nat) (code : Code) (nsv' : Nat) (prog : List Insn),
      s2okAll es = true → slotsBelowAll n es = true →
      visitMiddle br es 0 take pc nsv gix = .ok (code, nsv') → noDeleg code = true → CodeAt prog pc code →
      n ≤ nsv →
      SimOf c n nS prog nsv nsv' (condFreeAll (es.take take)) (semConcat c (es.take take)) pc (pc + code.length)
  | [], _, take, pc, nsv, gix, code, nsv', prog, _, _, hv, _, _, _ => by
    simp only [visitMiddle, Except.ok.injEq, Prod.mk.injEq] at hv
    obtain ⟨rfl, rfl⟩ := hv
    exact SimOf.leaf fun cm => (Sim2.nil c n nS prog nsv nsv _ cm pc).congr fun st => by simp [semConcat]
  | e :: es, _, 0, pc, nsv, gix, code, nsv', prog, _, _, hv, _, _, _ => by
    simp only [visitMiddle, Except.ok.injEq, Prod.mk.injEq] at hv
    obtain ⟨rfl, rfl⟩ := hv
    exact SimOf.leaf fun cm => (Sim2.nil c n nS prog nsv nsv _ cm pc).congr fun st => by simp [semConcat]
  | e :: es, ih, take + 1, pc, nsv, gix, code, nsv', prog, hok, hs, hv, hn, hc, hnn => by
    obtain ⟨c1, nsv1, c2, hb, hb2, rfl⟩ := visitMiddle_cons_ok hv
    simp only [s2okAll, Bool.and_eq_true] at hok
    simp only [slotsBelowAll, Bool.and_eq_true] at hs
    simp only [noDeleg_append, Bool.and_eq_true] at hn
    obtain ⟨hle1, s1⟩ := ih e List.mem_cons_self _ _ _ _ _ _ prog hok.1 hs.1 hb hn.1 hc.left hnn
    obtain ⟨hle2, s2⟩ := sim2P_visitMiddle es (fun x hx => ih x (List.mem_cons_of_mem _ hx)) take _ _ _ _ _ prog
      hok.2 hs.2 hb2 hn.2 hc.right (by omega)
    refine ⟨by omega, fun hnS cm => ?_⟩
    simp only [List.take_succ_cons, condFreeAll]
    have s1' := (s1 (by omega) false).balTo (b2 := condFree e && condFreeAll (es.take take))
      (by intro h; simp only [Bool.and_eq_true] at h; exact h.1)
    have s2' := (s2 hnS cm).balTo (b2 := condFree e && condFreeAll (es.take take))
      (by intro h; simp only [Bool.and_eq_true] at h; exact h.2)
    exact ((s1'.seq s2' (keepsGood_sem c n e) hle1 hle2 (by omega) (by omega)).congr
      fun st => by simp [semConcat]).cast rfl (by addr)

theorem sim2P_concat {es : List Expr} (ih : ∀ e ∈ es, Sim2P c n nS br e) : Sim2P c n nS br (.concat es) :=
  Sim2P.of_hard fun hard pc nsv gix code nsv' prog hdel hok hs hv hn hc hnn => by
    obtain ⟨mid, hb, rfl⟩ := visit_concat_ok hdel hv
    have hle := concatSplit_le br es hard
    generalize concatSplit br es hard = sp at hb hle hn hc ⊢
    simp only [s2ok] at hok
    simp only [slotsBelow] at hs
    simp only [noDeleg_append, Bool.and_eq_true] at hn
    obtain ⟨hcpre, hcmid, hcsuf⟩ := hc.split3
    obtain ⟨hle2, s2⟩ := sim2P_visitMiddle (es.drop sp.1) (fun e he => ih e (List.mem_of_mem_drop he)) _ _ _ _ _ _ prog
      (s2okAll_drop es sp.1 hok) (slotsBelowAll_drop n es sp.1 hs) hb hn.1.2 hcmid hnn
    refine ⟨hle2, fun hnS cm => ?_⟩
    have s1 := sim2_delegates_run c n nS prog nsv nsv (condFree (.concat es)) false (es.take sp.1) gix pc hn.1.1 hcpre
    have s3 := sim2_delegates_run c n nS prog nsv' nsv' (condFree (.concat es)) cm (es.drop sp.2) _ _ hn.2 hcsuf
    have s2' := (s2 hnS false).balTo (b2 := condFree (.concat es)) (by
      intro hb2
      simp only [condFree] at hb2
      exact condFreeAll_take _ _ (condFreeAll_drop es sp.1 hb2))
    have key := s1.seq (s2'.seq s3 (keepsGood_semConcat c n _) hle2 (Nat.le_refl _) (by omega) (by omega))
      (keepsGood_semConcat c n _) (Nat.le_refl _) hle2 (by omega) (by omega)
    exact (key.congr fun st => by simp only [sem]; exact (semConcat_split3 c es hle.1 st).symm).cast rfl (by addr)

/-- the alternatives `visitAlt` lays out as a chain of `Split … Jmp` -/
theorem sim2P_visitAlt : ∀ (es : List Expr), (∀ e ∈ es, Sim2P c n nS br e) →
    ∀ (hard : Bool) (pc nsv gix : Nat) (f : Nat → Code) (endPc nsv' : Nat) (prog : List Insn),
      s2okAll es = true → slotsBelowAll n es = true → es ≠ [] →
      visitAlt br es hard pc nsv gix = .ok (f, endPc, nsv') → n ≤ nsv →
      noDeleg (f endPc) = true → CodeAt prog pc (f endPc) →
      SimOf c n nS prog nsv nsv' (condFreeAll es) (semAlt c es) pc endPc
  | [], _, hard, pc, nsv, gix, f, endPc, nsv', prog, _, _, hne, _, _, _, _ => absurd rfl hne
  | [e], ih, hard, pc, nsv, gix, f, endPc, nsv', prog, hok, hs, _, hv, hnn, hn, hc => by
    obtain ⟨c1, hb, rfl, rfl⟩ := visitAlt_single_ok hv
    simp only [s2okAll, Bool.and_eq_true] at hok
    simp only [slotsBelowAll, Bool.and_eq_true] at hs
    obtain ⟨hle, s1⟩ := ih e List.mem_cons_self _ _ _ _ _ _ prog hok.1 hs.1 hb hn hc hnn
    refine ⟨hle, fun hnS cm => ?_⟩
    simp only [condFreeAll, Bool.and_true]
    exact (s1 hnS cm).congr fun st => by simp [semAlt]
  | e :: e2 :: es, ih, hard, pc, nsv, gix, f, endPc, nsv', prog, hok, hs, _, hv, hnn, hn, hc => by
    obtain ⟨c1, nsv1, f2, hb, hb2, rfl⟩ := visitAlt_cons_ok hv
    simp only [s2okAll, Bool.and_eq_true] at hok
    simp only [slotsBelowAll, Bool.and_eq_true] at hs
    simp only [noDeleg_append, Bool.and_eq_true] at hn
    have hlen2 := visitAlt_len br (e2 :: es) hard _ nsv1 _ f2 endPc nsv' hb2 endPc
    obtain ⟨hsplit, hc1, hcj, hc2⟩ := hc.alt_cons
    obtain ⟨hle1, s1⟩ := ih e List.mem_cons_self _ _ _ _ _ _ prog hok.1 hs.1 hb hn.1.1.2 hc1 hnn
    obtain ⟨hle2, s2⟩ := sim2P_visitAlt (e2 :: es) (fun x hx => ih x (List.mem_cons_of_mem _ hx)) hard _ _ _ _ _ _ prog
      (by simp [s2okAll, hok.2.1, hok.2.2]) (by simp [slotsBelowAll, hs.2.1, hs.2.2]) (by simp) hb2 (by omega) hn.2 hc2
    refine ⟨by omega, fun hnS cm => ?_⟩
    rw [show condFreeAll (e :: e2 :: es) = (condFree e && condFreeAll (e2 :: es)) by simp [condFreeAll]]
    have s1' := ((s1 (by omega) cm).widen (Nat.le_refl nsv) hle2).balTo (b2 := condFree e && condFreeAll (e2 :: es))
      (by intro h; simp only [Bool.and_eq_true] at h; exact h.1)
    have s2' := ((s2 hnS cm).widen hle1 (Nat.le_refl _)).balTo (b2 := condFree e && condFreeAll (e2 :: es))
      (by intro h; simp only [Bool.and_eq_true] at h; exact h.2)
    exact (Sim2.alt2 (m := pc + 1 + c1.length) hsplit hcj s1' s2' (by omega) (by omega)).congr
      fun st => by simp [semAlt]

theorem sim2P_alt {es : List Expr} (ih : ∀ e ∈ es, Sim2P c n nS br e) : Sim2P c n nS br (.alt es) :=
  Sim2P.of_hard fun hard pc nsv gix code nsv' prog hdel hok hs hv hn hc hnn => by
    obtain ⟨f, endPc, hb, rfl⟩ := visit_alt_ok hdel hv
    simp only [s2ok, Bool.and_eq_true] at hok
    simp only [slotsBelow] at hs
    have hne : es ≠ [] := by intro h; simp [h] at hok
    obtain ⟨hle, hsim⟩ := sim2P_visitAlt es ih hard pc nsv gix f endPc nsv' prog hok.2 hs hne hb hnn hn hc
    refine ⟨hle, fun hnS cm => ?_⟩
    simp only [condFree]
    exact ((hsim hnS cm).congr (g := sem c (.alt es)) fun st => by simp only [sem]).cast rfl
      (visitAlt_len br es hard pc nsv gix f endPc nsv' hb endPc)

/-! The layouts of a repetition. `s2ok` excludes `RepeatEpsilon`, the unbounded repeat of a body that may match empty. -/

theorem sim2P_opt {e : Expr} {greedy : Bool} (ih : Sim2P c n nS br e) :
    Sim2P c n nS br (.repeat e 0 (some 1) greedy) :=
  Sim2P.of_hard fun hard pc nsv gix code nsv' prog hdel hok hs hv hn hc hnn => by
    obtain ⟨body, hb, rfl⟩ := visit_opt_ok hdel (by simp) hv
    simp only [s2ok, Bool.and_eq_true] at hok
    simp only [slotsBelow] at hs
    obtain ⟨hle, hbody⟩ := ih _ _ _ _ _ _ prog hok.1 hs hb (noDeleg_tail hn) hc.tail hnn
    refine ⟨hle, fun hnS cm => ?_⟩
    simp only [condFree]
    cases greedy with
    | true =>
      exact ((Sim2.optG hc.head (hbody hnS cm) (by omega)).congr (g := sem c (.repeat e 0 (some 1) true))
        fun st => by rw [sem_opt]; simp).cast rfl (by addr)
    | false =>
      exact ((Sim2.optL hc.head (hbody hnS cm) (by omega)).congr (g := sem c (.repeat e 0 (some 1) false))
        fun st => by rw [sem_opt]; simp).cast rfl (by addr)

theorem sim2P_star {e : Expr} {greedy : Bool} (hm : 0 < minSize e) (ih : Sim2P c n nS br e) :
    Sim2P c n nS br (.repeat e 0 none greedy) :=
  Sim2P.of_hard fun hard pc nsv gix code nsv' prog hdel hok hs hv hn hc hnn => by
    obtain ⟨body, hb, rfl⟩ := visit_star_ok hdel (by simp) (by simp; omega) (by simp) hv
    simp only [s2ok, Bool.and_eq_true] at hok
    simp only [slotsBelow] at hs
    obtain ⟨h1, hcb, h2⟩ := hc.split3
    obtain ⟨hle, hbody⟩ := ih _ _ _ _ _ _ prog hok.1 hs hb (noDeleg_mid hn) hcb hnn
    refine ⟨hle, fun hnS cm => ?_⟩
    simp only [condFree]
    have := sim2_star (cm := cm) (greedy := greedy) (m := pc + 1 + body.length)
      (by cases greedy <;> simpa [Nat.add_assoc] using h1.head) h2.head (hbody hnS false)
      (s2ok_wellShaped e hok.1) hm (by omega)
    exact this.cast rfl (by addr)

theorem sim2P_plus {e : Expr} {greedy : Bool} (hm : 0 < minSize e) (ih : Sim2P c n nS br e) :
    Sim2P c n nS br (.repeat e 1 none greedy) :=
  Sim2P.of_hard fun hard pc nsv gix code nsv' prog hdel hok hs hv hn hc hnn => by
    obtain ⟨body, hb, rfl⟩ := visit_plus_ok hdel (by simp) (by simp; omega) (by simp) (by simp) hv
    simp only [s2ok, Bool.and_eq_true] at hok
    simp only [slotsBelow] at hs
    simp only [noDeleg_append, Bool.and_eq_true] at hn
    obtain ⟨hle, hbody⟩ := ih _ _ _ _ _ _ prog hok.1 hs hb hn.1 hc.left hnn
    refine ⟨hle, fun hnS cm => ?_⟩
    simp only [condFree]
    have := sim2_plus (cm := cm) (greedy := greedy) (m := pc + body.length)
      (by cases greedy <;> simpa using hc.right.head) (hbody hnS false) (s2ok_wellShaped e hok.1) hm (by omega)
    exact this.cast rfl (by addr)

theorem sim2P_counted {e : Expr} {lo : Nat} {hi : Option Nat} {greedy : Bool}
    (hopt : ¬(lo == 0 && hi == some 1) = true) (hstar : ¬(lo == 0 && hi == none) = true)
    (hplus : ¬(lo == 1 && hi == none) = true) (ih : Sim2P c n nS br e) :
    Sim2P c n nS br (.repeat e lo hi greedy) :=
  Sim2P.of_hard fun hard pc nsv gix code nsv' prog hdel hok hs hv hn hc hnn => by
    simp only [s2ok, Bool.and_eq_true, Bool.or_eq_true, bne_iff_ne, ne_eq, decide_eq_true_eq] at hok
    have heps : ¬(hi == none && minSize e == 0) = true := by
      simp only [Bool.and_eq_true, beq_iff_eq]
      rintro ⟨h1, h2⟩
      rcases hok.2 with h | h
      · exact h h1
      · omega
    obtain ⟨body, hb, rfl⟩ := visit_counted_ok hdel hopt heps hstar hplus hv
    simp only [slotsBelow] at hs
    obtain ⟨h1, hcb, h2⟩ := hc.split3
    obtain ⟨hle, hbody⟩ := ih _ _ _ _ _ _ prog hok.1 hs hb (noDeleg_mid hn) hcb (by omega)
    refine ⟨by omega, fun hnS cm => ?_⟩
    simp only [condFree]
    have := sim2_counted (cm := cm) (e := e) (greedy := greedy) (lo := lo) (hi := hi) (m := pc + 2 + body.length)
      h1.head (by cases greedy <;> simpa using h1.tail.head) h2.head (hbody hnS false) hnn (by omega) hle (by omega)
      (s2ok_wellShaped e hok.1) hok.2
    exact this.cast rfl (by addr)

theorem sim2P_repeat {e : Expr} {lo : Nat} {hi : Option Nat} {greedy : Bool} (ih : Sim2P c n nS br e) :
    Sim2P c n nS br (.repeat e lo hi greedy) := by
  intro hard pc nsv gix code nsv' prog hok
  have hshape := hok
  simp only [s2ok, Bool.and_eq_true, Bool.or_eq_true, bne_iff_ne, ne_eq, decide_eq_true_eq] at hshape
  have hm : hi = none → 0 < minSize e := fun h => hshape.2.resolve_left (fun h' => h' h)
  by_cases hopt : (lo == 0 && hi == some 1) = true
  · simp only [Bool.and_eq_true, beq_iff_eq] at hopt
    obtain ⟨rfl, rfl⟩ := hopt
    exact sim2P_opt ih hard pc nsv gix code nsv' prog hok
  by_cases hstar : (lo == 0 && hi == none) = true
  · simp only [Bool.and_eq_true, beq_iff_eq] at hstar
    obtain ⟨rfl, rfl⟩ := hstar
    exact sim2P_star (hm rfl) ih hard pc nsv gix code nsv' prog hok
  by_cases hplus : (lo == 1 && hi == none) = true
  · simp only [Bool.and_eq_true, beq_iff_eq] at hplus
    obtain ⟨rfl, rfl⟩ := hplus
    exact sim2P_plus (hm rfl) ih hard pc nsv gix code nsv' prog hok
  exact sim2P_counted hopt hstar hplus ih hard pc nsv gix code nsv' prog hok

/-! Look-arounds and atomic groups are always hard. The positive ones come in two layouts: around a hard body
    the whole is made atomic; a body that is not hard was compiled in a non-hard context, so without
    `Delegate` it is a literal and has at most one result. -/

theorem sim2P_ahead {e : Expr} (ih : Sim2P c n nS br e) : Sim2P c n nS br (.look e .ahead) := by
  intro hard pc nsv gix code nsv' prog hok hs hv hn hc hnn
  obtain ⟨body, hb, rfl⟩ := visit_ahead_ok hv
  simp only [s2ok, Bool.and_eq_true] at hok
  simp only [slotsBelow] at hs
  rw [noDeleg_wrapPosLook] at hn
  obtain ⟨hle, hbody⟩ := ih false _ (nsv + 1) gix body _ prog hok.1 hs hb hn hc.posLook_body (by omega)
  refine ⟨by omega, fun hnS cm => ?_⟩
  simp only [condFree, hok.2] at hbody ⊢
  cases hh : isHard br e with
  | true =>
    rw [hh] at hc hbody
    obtain ⟨hbegin, hsave, -, hrestore, hend, hlen⟩ := hc.posAhead_atomic
    exact (sim2_sem_ahead_atomic (cm := cm) (m := pc + 2 + body.length) hbegin hsave hrestore hend hnn (by omega)
      (by omega) (hbody hnS true)).cast rfl (by omega)
  | false =>
    rw [hh] at hc hb hbody
    obtain ⟨hsave, -, hrestore, hlen⟩ := hc.posAhead_plain
    have hlit := easy_isLiteral br e false _ (nsv + 1) gix body nsv' (by simp [hh]) hb hn
    exact (sim2_sem_ahead_plain (cm := cm) (m := pc + 1 + body.length) hsave hrestore hnn (by omega) (by omega)
      (hbody hnS cm) (length_le_one_of_isLiteral c e hlit)).cast rfl (by omega)

theorem sim2P_aheadNeg {e : Expr} (ih : Sim2P c n nS br e) : Sim2P c n nS br (.look e .aheadNeg) := by
  intro hard pc nsv gix code nsv' prog hok hs hv hn hc hnn
  obtain ⟨body, hb, rfl⟩ := visit_aheadNeg_ok hv
  simp only [s2ok] at hok
  simp only [slotsBelow] at hs
  rw [noDeleg_wrapNegLook] at hn
  obtain ⟨hle, hbody⟩ := ih false _ nsv gix body _ prog hok hs hb hn hc.negLook_body hnn
  refine ⟨hle, fun hnS cm => ?_⟩
  obtain ⟨hsplit, -, hfail, hlen⟩ := hc.negAhead
  have := sim2_sem_aheadNeg (cm := cm) (m := pc + 1 + body.length) hsplit hfail (hbody hnS true)
  exact (this.balTo (b2 := condFree (.look e .aheadNeg)) fun _ => rfl).cast rfl (by omega)

theorem sim2P_behind (hlen : c.len < UNSET) {e : Expr} (ih : Sim2P c n nS br e) :
    Sim2P c n nS br (.look e .behind) := by
  intro hard pc nsv gix code nsv' prog hok hs hv hn hc hnn
  simp only [s2ok, Bool.and_eq_true, Bool.not_eq_true'] at hok
  simp only [slotsBelow] at hs
  obtain ⟨⟨⟨hoke, hcf⟩, hna⟩, hz⟩ := hok
  have hna' := isAlt_false_ne e hna
  obtain ⟨hcs, body, hb, rfl⟩ := visit_behind_ok hna' hv
  rw [noDeleg_wrapPosLook] at hn
  obtain ⟨hle, hbody⟩ := ih false _ (nsv + 1) gix body _ prog hoke hs hb hn hc.posLook_body (by omega)
  refine ⟨by omega, fun hnS cm => ?_⟩
  simp only [condFree, hcf] at hbody ⊢
  have hsemeq : ∀ st, st.Good c n →
      (firstOnly ((if minSize e ≤ st.ix then [({ st with ix := st.ix - minSize e } : St)] else []).flatMap (sem c e))).map
        (fun r => ({ r with ix := st.ix } : St)) = sem c (.look e .behind) st := by
    intro st hg
    rw [C13_lookbehind_pos c n e hna' (s2ok_wellShaped e hoke) hcs hz st hg (by omega), back_flatMap]
  cases hh : isHard br e with
  | true =>
    rw [hh] at hc hbody
    obtain ⟨hbegin, hsave, hback, -, hrestore, hend, hlen'⟩ := hc.posBehind_atomic
    have := sim2_posbehind_atomic (cm := cm) (m := pc + 3 + body.length) hbegin hsave hback hrestore hend hnn
      (by omega) (by omega) (by omega) (hbody hnS true) (keepsGood_sem c n e)
    exact (this.congrGood hsemeq).cast rfl (by omega)
  | false =>
    rw [hh] at hc hb hbody
    obtain ⟨hsave, hback, -, hrestore, hlen'⟩ := hc.posBehind_plain
    have hlit := easy_isLiteral br e false _ (nsv + 1) gix body nsv' (by simp [hh]) hb hn
    have := sim2_posbehind_plain (cm := cm) (m := pc + 2 + body.length) hsave hback hrestore hnn (by omega) (by omega)
      (by omega) (hbody hnS cm) (keepsGood_sem c n e) (length_le_one_of_isLiteral c e hlit)
    exact (this.congrGood hsemeq).cast rfl (by omega)

theorem sim2P_behindNeg (hlen : c.len < UNSET) {e : Expr} (ih : Sim2P c n nS br e) :
    Sim2P c n nS br (.look e .behindNeg) := by
  intro hard pc nsv gix code nsv' prog hok hs hv hn hc hnn
  simp only [s2ok, Bool.and_eq_true, Bool.not_eq_true'] at hok
  simp only [slotsBelow] at hs
  obtain ⟨⟨hoke, hna⟩, hz⟩ := hok
  have hna' := isAlt_false_ne e hna
  obtain ⟨hcs, body, hb, rfl⟩ := visit_behindNeg_ok hna' hv
  rw [noDeleg_wrapNegLook] at hn
  obtain ⟨hle, hbody⟩ := ih false _ nsv gix body _ prog hoke hs hb hn hc.negLook_body hnn
  refine ⟨hle, fun hnS cm => ?_⟩
  obtain ⟨hsplit, hback, -, hfail, hlen'⟩ := hc.negBehind
  have := sim2_negbehind (cm := cm) (m := pc + 2 + body.length) hsplit hback hfail (by omega) hle (hbody hnS true)
  have hsemeq : ∀ st, st.Good c n →
      (if ((if minSize e ≤ st.ix then [({ st with ix := st.ix - minSize e } : St)] else []).flatMap (sem c e)).isEmpty
        then [st] else []) = sem c (.look e .behindNeg) st := by
    intro st hg
    rw [C13_lookbehind_neg c n e hna' (s2ok_wellShaped e hoke) hcs hz st hg (by omega), back_flatMap]
  exact ((this.congrGood hsemeq).balTo (b2 := condFree (.look e .behindNeg)) fun _ => rfl).cast rfl (by omega)

theorem sim2P_atomic {e : Expr} (ih : Sim2P c n nS br e) : Sim2P c n nS br (.atomic e) := by
  intro hard pc nsv gix code nsv' prog hok hs hv hn hc hnn
  obtain ⟨body, hb, rfl⟩ := visit_atomic_ok hv
  simp only [s2ok, Bool.and_eq_true] at hok
  simp only [slotsBelow] at hs
  obtain ⟨h1, hc1, h2⟩ := hc.split3
  obtain ⟨hle, hbody⟩ := ih false (pc + 1) nsv gix body _ prog hok.1 hs hb (noDeleg_mid hn) hc1 hnn
  refine ⟨hle, fun hnS cm => ?_⟩
  have hbody := hbody hnS true
  rw [hok.2] at hbody
  simp only [condFree, hok.2]
  exact (sim2_sem_atomic (cm := cm) (e := e) (m := pc + 1 + body.length) h1.head h2.head hbody).cast rfl (by addr)

theorem sim2P_cond {cnd y no : Expr} (ihc : Sim2P c n nS br cnd) (ihy : Sim2P c n nS br y)
    (ihn : Sim2P c n nS br no) : Sim2P c n nS br (.cond cnd y no) := by
  intro hard pc nsv gix code nsv' prog hok hs hv hn hc hnn
  obtain ⟨cc, nsv1, yc, nsv2, nc, hb1, hb2, hb3, rfl⟩ := visit_cond_ok hv
  simp only [s2ok, Bool.and_eq_true] at hok
  simp only [slotsBelow, Bool.and_eq_true] at hs
  simp only [noDeleg_append, Bool.and_eq_true] at hn
  obtain ⟨hbegin, hsplit, hcc, hend, hcy, hjmp, hcn, hlen⟩ := hc.cond
  obtain ⟨hle1, ih1⟩ := ihc hard (pc + 2) nsv gix cc _ prog hok.1.1.1 hs.1.1 hb1 hn.1.1.1.1.2 hcc hnn
  obtain ⟨hle2, ih2⟩ := ihy hard _ nsv1 _ yc _ prog hok.1.2 hs.1.2 hb2 hn.1.1.2 hcy (by omega)
  obtain ⟨hle3, ih3⟩ := ihn hard _ nsv2 _ nc _ prog hok.2 hs.2 hb3 hn.2 hcn (by omega)
  refine ⟨by omega, fun hnS cm => ?_⟩
  have hcond := ih1 (by omega) true
  rw [hok.1.1.2] at hcond
  have := sim2_cond_sem (cm := cm) (cnd := cnd) (y := y) (no := no)
    (e1 := pc + 2 + cc.length) (e2 := pc + 2 + cc.length + 1 + yc.length)
    (endPc := pc + 2 + cc.length + 1 + yc.length + 1 + nc.length)
    hbegin hsplit hend hjmp hcond (ih2 (by omega) cm) (ih3 hnS cm)
    (by omega) (by omega) (by omega) hle1 hle2 hle3
  simp only [condFree]
  exact this.cast rfl (by omega)

end Arms

theorem sim2P_all (c : Ctx) (n nS : Nat) (br : Nat → Bool) (hlen : c.len < UNSET) : ∀ e, Sim2P c n nS br e := by
  intro e
  induction e using Expr.induct with
  | empty => exact sim2P_empty
  | any nl => exact sim2P_any nl
  | assertion a => exact sim2P_assertion a
  | literal v ci => exact sim2P_literal v ci
  | concat es ih => exact sim2P_concat ih
  | alt es ih => exact sim2P_alt ih
  | group g e ih => exact sim2P_group ih
  | look e la ih =>
    cases la with
    | ahead => exact sim2P_ahead ih
    | aheadNeg => exact sim2P_aheadNeg ih
    | behind => exact sim2P_behind hlen ih
    | behindNeg => exact sim2P_behindNeg hlen ih
  | «repeat» e lo hi greedy ih => exact sim2P_repeat ih
  | backref g => exact sim2P_backref hlen g
  | atomic e ih => exact sim2P_atomic ih
  | keepOut => exact sim2P_keepOut
  | contPrev => exact sim2P_contPrev
  | backrefExists g => exact sim2P_backrefExists hlen g
  | cond cnd y no ihc ihy ihn => exact sim2P_cond ihc ihy ihn
  | delegate _ _ _ | subroutine _ => intro _ _ _ _ _ _ _ h; simp [s2ok] at h

theorem sim2_visit (c : Ctx) (n nS : Nat) (br : Nat → Bool) (hlen : c.len < UNSET) :
    ∀ (e : Expr) (hard : Bool) (pc nsv gix : Nat) (code : Code) (nsv' : Nat) (prog : List Insn),
      s2ok e = true → slotsBelow n e = true →
      visit br e hard pc nsv gix = .ok (code, nsv') → noDeleg code = true → CodeAt prog pc code →
      n ≤ nsv →
      SimOf c n nS prog nsv nsv' (condFree e) (sem c e) pc (pc + code.length) :=
  sim2P_all c n nS br hlen

theorem sim2_visitAlt (c : Ctx) (n nS : Nat) (br : Nat → Bool) (hlen : c.len < UNSET) :
    ∀ (es : List Expr) (hard : Bool) (pc nsv gix : Nat) (f : Nat → Code) (endPc nsv' : Nat) (prog : List Insn),
      s2okAll es = true → slotsBelowAll n es = true → es ≠ [] →
      visitAlt br es hard pc nsv gix = .ok (f, endPc, nsv') → n ≤ nsv →
      (∀ t, pc + (f t).length = endPc) ∧
        (noDeleg (f endPc) = true → CodeAt prog pc (f endPc) →
          SimOf c n nS prog nsv nsv' (condFreeAll es) (semAlt c es) pc endPc) :=
  fun es hard pc nsv gix f endPc nsv' prog hok hs hne hv hnn =>
    ⟨visitAlt_len br es hard pc nsv gix f endPc nsv' hv,
     sim2P_visitAlt es (fun e _ => sim2P_all c n nS br hlen e) hard pc nsv gix f endPc nsv' prog hok hs hne hv hnn⟩

end Fancy
