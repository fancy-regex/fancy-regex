import FancyModel.Lemmas.SimCompile2
import FancyModel.Lemmas.Sim2Deleg
import FancyModel.Lemmas.S3Glue
import FancyModel.Spec.Stage
import FancyModel.Lemmas.Linear
import FancyModel.Lemmas.Sim2BehindAlt
import FancyModel.Lemmas.ExprInduct
/-!
# The compiler emits simulating code, delegation included (engine refinement, stage S3)

`sim3_visit`: for an expression within `s3ok br · hard` (Spec/Stage.lean), numbered from `gix`, the code
`visit` emits simulates `sem c e` on the full machine — in a hard context for every parametric
continuation, in a non-hard context for committing continuations (the only ones the compiler's
non-hard contexts have: the bodies of atomic groups and look-arounds). `Delegate` instructions are
executed by `delegateOracle` (assumption A-RA) and related to the reference semantics from the
current state by `delegate_step_spec`.

Look-behinds over an alternation body (`(?<=a|bb)`, `(?<!a|b)`) are covered in all four layouts of the
compiler: companions `sim3_lookBehindAlts` (atomic group around an alternation of look-behinds) and
`sim3_lookBehindNegAlts` (sequence of negative look-behinds) for alternatives of different sizes; for
alternatives of one size `visitAltBody` is `visit (Alt es)` in a non-hard context
(`visitAltBody_eq_visit`) and the ordinary layout lemmas `sim3_posBehind_wrap` / `sim3_negBehind_wrap`
apply with `e = .alt es`. The list-level equations are in Lemmas/Sim2BehindAlt.lean.

How the proof is cut. `SimOf3` has its structural rules (`.seq`, `.altCons`, `.balTo`, `.congr`, …) and one lemma
per layout of the compiler, about the code alone: `SimOf3.group`, `.opt`, `.star`, `.plus`, `.counted`, `.atomic`,
`.aheadNeg`, `.ahead`, `.cond`, `.concat`, `.posBehind`, `.negBehind` — the instructions around children that
simulate their semantics simulate the semantics of the node. `SimAs hard e e'` says that the code `visit br e hard`
emits simulates `sem c e'`; its lemma for a constructor (`SimAs.group`, …) inverts `visit`
(Lemmas/CompileInv.lean), applies the hypothesis about the children and the layout lemma, and its companions over
lists are list inductions. The semantic tree `e'` is a variable because stage S5 (Lemmas/SimCompile5.lean) runs the
same proof against the atomized tree. `Sim3P e` is `SimAs hard e e` for every `hard` within `s3ok`: a constructor is
the inversion of `s3ok` (`s3ok_group`, …) and the lemma of `SimAs`; the hand-off to the automata engine is dealt
with once (`Sim3P.of_hard`); `Expr.induct_look` ties the knot (`sim3P_all`).
-/
namespace Fancy

/-- what is known of an expression placed at group index `gix` -/
structure H3 (n : Nat) (e : Expr) (gix : Nat) : Prop where
  ws : wellShaped e = true
  sb : slotsBelow n e = true
  num : numbered gix e
  gn : (gix + groupCount e) * 2 ≤ n

structure H3L (n : Nat) (es : List Expr) (gix : Nat) : Prop where
  ws : wellShapedAll es = true
  sb : slotsBelowAll n es = true
  num : numberedList gix es
  gn : (gix + groupCountList es) * 2 ≤ n

theorem H3.group {n g gix : Nat} {e : Expr} (h : H3 n (.group g e) gix) : g = gix ∧ H3 n e (gix + 1) := by
  obtain ⟨ws, sb, num, gn⟩ := h
  have hn := (numbered_group gix g e).mp num
  simp only [slotsBelow, Bool.and_eq_true] at sb
  simp only [groupCount] at gn
  exact ⟨hn.1, wellShaped_group ws, sb.2, hn.2, by omega⟩

theorem H3.concat {n gix : Nat} {es : List Expr} (h : H3 n (.concat es) gix) : H3L n es gix := by
  obtain ⟨ws, sb, num, gn⟩ := h
  exact ⟨wellShaped_concat ws, by simpa [slotsBelow] using sb, (numbered_concat gix es).mp num, by simpa [groupCount] using gn⟩

theorem H3.alt {n gix : Nat} {es : List Expr} (h : H3 n (.alt es) gix) : H3L n es gix := by
  obtain ⟨ws, sb, num, gn⟩ := h
  exact ⟨(wellShaped_alt ws).2, by simpa [slotsBelow] using sb, (numbered_alt gix es).mp num, by simpa [groupCount] using gn⟩

theorem H3.look {n gix : Nat} {e : Expr} {la : Look} (h : H3 n (.look e la) gix) : H3 n e gix := by
  obtain ⟨ws, sb, num, gn⟩ := h
  exact ⟨wellShaped_look ws, by simpa [slotsBelow] using sb, (numbered_look gix e la).mp num, by simpa [groupCount] using gn⟩

theorem H3.repeat {n gix lo : Nat} {hi : Option Nat} {gr : Bool} {e : Expr} (h : H3 n (.repeat e lo hi gr) gix) : H3 n e gix := by
  obtain ⟨ws, sb, num, gn⟩ := h
  exact ⟨wellShaped_repeat ws, by simpa [slotsBelow] using sb, (numbered_repeat gix e lo hi gr).mp num, by simpa [groupCount] using gn⟩

theorem H3.atomic {n gix : Nat} {e : Expr} (h : H3 n (.atomic e) gix) : H3 n e gix := by
  obtain ⟨ws, sb, num, gn⟩ := h
  exact ⟨wellShaped_atomic ws, by simpa [slotsBelow] using sb, (numbered_atomic gix e).mp num, by simpa [groupCount] using gn⟩

theorem H3.cond {n gix : Nat} {c y f : Expr} (h : H3 n (.cond c y f) gix) :
    H3 n c gix ∧ H3 n y (gix + groupCount c) ∧ H3 n f (gix + groupCount c + groupCount y) := by
  obtain ⟨ws, sb, num, gn⟩ := h
  have hw := wellShaped_cond ws
  have hn := (numbered_cond gix c y f).mp num
  simp only [slotsBelow, Bool.and_eq_true] at sb
  simp only [groupCount] at gn
  exact ⟨⟨hw.1, sb.1.1, hn.1, by omega⟩, ⟨hw.2.1, sb.1.2, hn.2.1, by omega⟩, ⟨hw.2.2, sb.2, hn.2.2, by omega⟩⟩

theorem H3L.cons {n gix : Nat} {e : Expr} {es : List Expr} (h : H3L n (e :: es) gix) :
    H3 n e gix ∧ H3L n es (gix + groupCount e) := by
  obtain ⟨ws, sb, num, gn⟩ := h
  have hw := wellShapedAll_cons ws
  have hn := (numberedList_cons gix e es).mp num
  simp only [slotsBelowAll, Bool.and_eq_true] at sb
  simp only [groupCountList] at gn
  exact ⟨⟨hw.1, sb.1, hn.1, by omega⟩, ⟨hw.2, sb.2, hn.2, by omega⟩⟩

theorem H3L.take {n gix : Nat} {es : List Expr} (h : H3L n es gix) (k : Nat) : H3L n (es.take k) gix := by
  obtain ⟨ws, sb, num, gn⟩ := h
  have := groupCountList_take_le es k
  exact ⟨wellShapedAll_take es k ws, slotsBelowAll_take n es k sb, numberedList_take gix es k num, by omega⟩

theorem H3L.drop {n gix : Nat} {es : List Expr} (h : H3L n es gix) (k : Nat) :
    H3L n (es.drop k) (gix + groupCountList (es.take k)) := by
  obtain ⟨ws, sb, num, gn⟩ := h
  have := groupCountList_take_add_drop es k
  exact ⟨wellShapedAll_drop es k ws, slotsBelowAll_drop n es k sb, numberedList_drop gix es k num, by omega⟩

theorem H3.single {n gix : Nat} {e : Expr} (h : H3 n e gix) : H3L n [e] gix := by
  obtain ⟨ws, sb, num, gn⟩ := h
  exact ⟨by simp [wellShapedAll, ws], by simp [slotsBelowAll, sb],
    (numberedList_cons gix e []).mpr ⟨num, numberedList_nil _⟩, by simpa [groupCountList] using gn⟩

/-! ## Runs handed to the automata engine -/

/-- a run emitted by `compile_delegates` in a position whose continuation may come back: constant
    size, no capture groups -/
theorem sim3_run (c : Ctx) (n nS : Nat) (prog : List Insn) (lo hi : Nat) (bal cm : Bool) (br : Nat → Bool)
    (es : List Expr) (gix a : Nat) (hlen : c.len < UNSET) (h : H3L n es gix) (heasy : isHardAny br es = false)
    (hcs : constSizeAll es = true) (hz : noBareEndZAll es = true)
    (hg0 : groupCountList es = 0 ∨ linearAll es = true)
    (hc : CodeAt prog a (compileDelegates es gix)) :
    Sim2 c n nS prog lo hi bal cm (semConcat c es) a (a + (compileDelegates es gix).length) := by
  by_cases hnd : noDeleg (compileDelegates es gix) = true
  · exact sim2_delegates_run c n nS prog lo hi bal cm es gix a hnd hc
  · unfold compileDelegates at hnd hc ⊢
    by_cases he : es.isEmpty = true
    · simp [he, noDeleg] at hnd
    · by_cases hl : isLiteralAll es = true
      · simp [he, hl, noDeleg, Insn.isDelegate] at hnd
      · simp only [he, hl, Bool.false_eq_true, ↓reduceIte, List.length_cons, List.length_nil, Nat.zero_add] at hc ⊢
        have hp := pureAll_of_not_hard br es heasy
        exact sim2_delegate_same hc.head hlen hp (numberedList_groupsIn es gix h.num) h.gn
          (fun st hg r q hr hq => by
            rcases hg0 with hg0 | hlin
            · exact same_of_const_groupfree c n es h.ws hcs hz hp hg0 hlen st hg r q hr hq
            · exact linearAll_same c n hlen es hlin h.ws hz st hg r q hr hq)

/-- a run emitted by `compile_delegates` in a committing position (the trailing easy children of a
    concatenation in a non-hard context): any easy expressions, capture groups included -/
theorem sim3_run_commit (c : Ctx) (n nS : Nat) (prog : List Insn) (lo hi : Nat) (bal : Bool) (br : Nat → Bool)
    (es : List Expr) (gix a : Nat) (hlen : c.len < UNSET) (h : H3L n es gix) (heasy : isHardAny br es = false)
    (hc : CodeAt prog a (compileDelegates es gix)) :
    Sim2 c n nS prog lo hi bal true (semConcat c es) a (a + (compileDelegates es gix).length) := by
  by_cases hnd : noDeleg (compileDelegates es gix) = true
  · exact sim2_delegates_run c n nS prog lo hi bal true es gix a hnd hc
  · unfold compileDelegates at hnd hc ⊢
    by_cases he : es.isEmpty = true
    · simp [he, noDeleg] at hnd
    · by_cases hl : isLiteralAll es = true
      · simp [he, hl, noDeleg, Insn.isDelegate] at hnd
      · simp only [he, hl, Bool.false_eq_true, ↓reduceIte, List.length_cons, List.length_nil, Nat.zero_add] at hc ⊢
        exact sim2_delegate_commit hc.head hlen (pureAll_of_not_hard br es heasy) (numberedList_groupsIn es gix h.num) h.gn

/-- `compile_delegate e` in a position whose continuation may come back: a single constant-size
    group-free expression (a class, a case-insensitive literal) -/
theorem sim3_one (c : Ctx) (n nS : Nat) (prog : List Insn) (lo hi : Nat) (bal cm : Bool)
    (e : Expr) (gix a : Nat) (hlen : c.len < UNSET) (h : H3 n e gix) (hp : pureExpr e = true)
    (hcs : constSize e = true) (hz : noBareEndZ e = true) (hg0 : groupCount e = 0)
    (hc : CodeAt prog a (compileDelegate e gix)) :
    Sim2 c n nS prog lo hi bal cm (sem c e) a (a + (compileDelegate e gix).length) := by
  unfold compileDelegate at hc ⊢
  by_cases hl : isLiteral e = true
  · simp only [hl, ↓reduceIte, List.length_cons, List.length_nil, Nat.zero_add] at hc ⊢
    exact sim2_isLiteral c n nS prog lo hi bal cm e a hl hc.head
  · simp only [hl, Bool.false_eq_true, ↓reduceIte, List.length_cons, List.length_nil, Nat.zero_add] at hc ⊢
    have hL := h.single
    have := sim2_delegate_same (lo := lo) (hi := hi) (bal := bal) (cm := cm) (nS := nS) hc.head hlen
      (by simp [pureAll, hp]) (numberedList_groupsIn [e] gix hL.num) (by simpa [groupCountList] using hL.gn)
      (fun st hg r q hr hq => same_of_const_groupfree c n [e] hL.ws (by simp [constSizeAll, hcs])
        (by simp [noBareEndZAll, hz]) (by simp [pureAll, hp]) (by simp [groupCountList, hg0]) hlen st hg r q hr hq)
    exact this.congr (fun st => semConcat_singleton c e st)

/-- `compile_delegate e` in a committing position: any easy expression -/
theorem sim3_one_commit (c : Ctx) (n nS : Nat) (prog : List Insn) (lo hi : Nat) (bal : Bool) (br : Nat → Bool)
    (e : Expr) (gix a : Nat) (hlen : c.len < UNSET) (h : H3 n e gix) (heasy : isHard br e = false)
    (hc : CodeAt prog a (compileDelegate e gix)) :
    Sim2 c n nS prog lo hi bal true (sem c e) a (a + (compileDelegate e gix).length) := by
  unfold compileDelegate at hc ⊢
  by_cases hl : isLiteral e = true
  · simp only [hl, ↓reduceIte, List.length_cons, List.length_nil, Nat.zero_add] at hc ⊢
    exact sim2_isLiteral c n nS prog lo hi bal true e a hl hc.head
  · simp only [hl, Bool.false_eq_true, ↓reduceIte, List.length_cons, List.length_nil, Nat.zero_add] at hc ⊢
    have hL := h.single
    have := sim2_delegate_commit (lo := lo) (hi := hi) (bal := bal) (nS := nS) hc.head hlen
      (by simp [pureAll, pure_of_not_hard br e heasy]) (numberedList_groupsIn [e] gix hL.num)
      (by simpa [groupCountList] using hL.gn)
    exact this.congr (fun st => semConcat_singleton c e st)

/-- `compile_delegate e` as the body of a look-around in its plain layout: only the first result -/
theorem sim3_one_first (c : Ctx) (n nS : Nat) (prog : List Insn) (lo hi : Nat) (bal cm : Bool) (br : Nat → Bool)
    (e : Expr) (gix a : Nat) (hlen : c.len < UNSET) (h : H3 n e gix) (heasy : isHard br e = false)
    (hc : CodeAt prog a (compileDelegate e gix)) :
    Sim2 c n nS prog lo hi bal cm (fun st => firstOnly (sem c e st)) a (a + (compileDelegate e gix).length) := by
  unfold compileDelegate at hc ⊢
  by_cases hl : isLiteral e = true
  · simp only [hl, ↓reduceIte, List.length_cons, List.length_nil, Nat.zero_add] at hc ⊢
    have := sim2_isLiteral c n nS prog lo hi bal cm e a hl hc.head
    exact this.congr (fun st => by
      have := length_le_one_of_isLiteral c e hl st
      cases hs : sem c e st with
      | nil => rfl
      | cons x xs =>
        cases xs with
        | nil => rfl
        | cons y ys => rw [hs] at this; simp at this)
  · simp only [hl, Bool.false_eq_true, ↓reduceIte, List.length_cons, List.length_nil, Nat.zero_add] at hc ⊢
    have hL := h.single
    have := sim2_delegate_first (lo := lo) (hi := hi) (bal := bal) (cm := cm) (nS := nS) hc.head hlen
      (by simp [pureAll, pure_of_not_hard br e heasy]) (numberedList_groupsIn [e] gix hL.num)
      (by simpa [groupCountList] using hL.gn)
    exact this.congr (fun st => by rw [semConcat_singleton])

/-- the conclusion of the stage-S3 simulation theorem: in a hard context for every continuation
    class, in a non-hard context for committing continuations -/
def SimOf3 (c : Ctx) (n nS : Nat) (prog : List Insn) (nsv nsv' : Nat) (bal hard : Bool) (sm : St → List St) (a b : Nat) : Prop :=
  nsv ≤ nsv' ∧ (nsv' ≤ nS → ∀ cm, (hard = true ∨ cm = true) → Sim2 c n nS prog nsv nsv' bal cm sm a b)

theorem SimOf3.leaf {c : Ctx} {n nS : Nat} {prog : List Insn} {nsv : Nat} {bal hard : Bool} {sm : St → List St} {a b : Nat}
    (h : ∀ cm, Sim2 c n nS prog nsv nsv bal cm sm a b) : SimOf3 c n nS prog nsv nsv bal hard sm a b :=
  ⟨Nat.le_refl _, fun _ cm _ => h cm⟩

theorem simOf3_easy (c : Ctx) (n nS : Nat) (prog : List Insn) (bal : Bool) (br : Nat → Bool) (e : Expr)
    (hard : Bool) (pc nsv gix : Nat) (code : Code) (nsv' : Nat) (hlen : c.len < UNSET) (h3 : H3 n e gix)
    (hdel : (!hard && !isHard br e) = true) (hv : visit br e hard pc nsv gix = .ok (code, nsv'))
    (hc : CodeAt prog pc code) :
    SimOf3 c n nS prog nsv nsv' bal hard (sem c e) pc (pc + code.length) := by
  rw [visit_easy_eq br e hard pc nsv gix hdel] at hv
  simp only [Except.ok.injEq, Prod.mk.injEq] at hv
  obtain ⟨rfl, rfl⟩ := hv
  simp only [Bool.and_eq_true, Bool.not_eq_true'] at hdel
  refine ⟨Nat.le_refl _, fun _ cm hcm => ?_⟩
  have hcmt : cm = true := by
    rcases hcm with h | h
    · rw [hdel.1] at h; cases h
    · exact h
  subst hcmt
  exact sim3_one_commit c n nS prog nsv nsv bal br e gix pc hlen h3 hdel.2 hc

/-! ## An easy expression is within stage S3 in a non-hard context -/

theorem s3ok_easy (br : Nat → Bool) (e : Expr) (h : isHard br e = false) : s3ok br e false = true := by
  rw [s3ok.eq_def]; simp [h]

theorem s3okAlts_easy (br : Nat → Bool) : ∀ (es : List Expr), isHardAny br es = false → s3okAlts br es false = true
  | [], _ => by simp [s3okAlts]
  | e :: es, h => by
    simp only [isHardAny, Bool.or_eq_false_iff] at h
    simp only [s3okAlts, Bool.and_eq_true]
    exact ⟨s3ok_easy br e h.1, s3okAlts_easy br es h.2⟩

/-- an alternation that is fine in a non-hard context has alternatives that are (whether it is handed
    over whole or compiled alternative by alternative) -/
theorem s3ok_alt_alts (br : Nat → Bool) (es : List Expr) (h : s3ok br (.alt es) false = true) :
    s3okAlts br es false = true := by
  by_cases hh : isHardAny br es = true
  · rw [s3ok] at h
    simp only [isHard, hh, Bool.not_true, Bool.and_false, Bool.false_eq_true, ↓reduceIte, Bool.and_eq_true] at h
    exact h.2
  · exact s3okAlts_easy br es (by simpa using hh)

/-! ## The statement, per expression -/

section
variable {c : Ctx} {n nS : Nat} {br : Nat → Bool} {prog : List Insn} {pc nsv nsv1 nsv' gix : Nat} {bal hard : Bool}
  {sm f g : St → List St} {a m b : Nat}

/-! ### Structural rules of `SimOf3` -/

theorem SimOf3.balTo {b1 b2 : Bool} (h : SimOf3 c n nS prog nsv nsv' b1 hard sm a b) (hb : b2 = true → b1 = true) :
    SimOf3 c n nS prog nsv nsv' b2 hard sm a b :=
  ⟨h.1, fun hS cm hcm => (h.2 hS cm hcm).balTo hb⟩

theorem SimOf3.congr (h : SimOf3 c n nS prog nsv nsv' bal hard f a b) (hfg : ∀ st, f st = g st) :
    SimOf3 c n nS prog nsv nsv' bal hard g a b :=
  ⟨h.1, fun hnS cm hcm => (h.2 hnS cm hcm).congr hfg⟩

theorem SimOf3.congrGood (h : SimOf3 c n nS prog nsv nsv' bal hard f a b) (hfg : ∀ st, st.Good c n → f st = g st) :
    SimOf3 c n nS prog nsv nsv' bal hard g a b :=
  ⟨h.1, fun hnS cm hcm => (h.2 hnS cm hcm).congrGood hfg⟩

theorem SimOf3.cast {a' b' : Nat} (h : SimOf3 c n nS prog nsv nsv' bal hard sm a b) (ha : a' = a) (hb : b' = b) :
    SimOf3 c n nS prog nsv nsv' bal hard sm a' b' := by
  subst ha; subst hb; exact h

/-- code that is right for every continuation is right in every context -/
theorem SimOf3.anyHard (h : SimOf3 c n nS prog nsv nsv' bal true sm a b) : SimOf3 c n nS prog nsv nsv' bal hard sm a b :=
  ⟨h.1, fun hnS cm _ => h.2 hnS cm (Or.inl rfl)⟩

theorem SimOf3.all (h : SimOf3 c n nS prog nsv nsv' bal true sm a b) :
    nsv ≤ nsv' ∧ (nsv' ≤ nS → ∀ cm, Sim2 c n nS prog nsv nsv' bal cm sm a b) :=
  ⟨h.1, fun hnS cm => h.2 hnS cm (Or.inl rfl)⟩

theorem SimOf3.seq (s1 : SimOf3 c n nS prog nsv nsv1 bal true f a m) (s2 : SimOf3 c n nS prog nsv1 nsv' bal hard g m b)
    (hk : KeepsGood c n f) (ham : a ≤ m) (hmb : m ≤ b) :
    SimOf3 c n nS prog nsv nsv' bal hard (fun st => (f st).flatMap g) a b :=
  ⟨Nat.le_trans s1.1 s2.1, fun hnS cm hcm =>
    (s1.2 (Nat.le_trans s2.1 hnS) false (Or.inl rfl)).seq (s2.2 hnS cm hcm) hk s1.1 s2.1 ham hmb⟩

/-- no instruction, no auxiliary slot -/
theorem SimOf3.nil (h : ∀ st, sm st = [st]) : SimOf3 c n nS prog nsv nsv bal hard sm pc (pc + ([] : Code).length) :=
  SimOf3.leaf fun cm => (Sim2.nil c n nS prog nsv nsv bal cm pc).congr (fun st => (h st).symm)

/-! ### One layout at a time: the code around already simulated children

The semantic side is a variable (`sm`, or `sem c e` where the machine-level lemma speaks of an expression): stage
S3 uses these with the compiled tree itself, stage S5 with its atomized image. -/

theorem SimOf3.group {g : Nat} {e : Expr} {body : Code}
    (hc : CodeAt prog pc ([Insn.save (g * 2)] ++ body ++ [Insn.save (g * 2 + 1)])) (hgn : 2 * g + 1 < n)
    (ih : SimOf3 c n nS prog nsv nsv' bal hard (sem c e) (pc + 1) (pc + 1 + body.length)) :
    SimOf3 c n nS prog nsv nsv' bal hard (sem c (.group g e)) pc
      (pc + ([Insn.save (g * 2)] ++ body ++ [Insn.save (g * 2 + 1)]).length) := by
  obtain ⟨h1, _, h2⟩ := hc.bracket
  obtain ⟨hle, s⟩ := ih
  exact ⟨hle, fun hnS cm hcm => (Sim2.group h1 h2 (s hnS cm hcm) hgn (by omega)).cast rfl (by addr)⟩

theorem SimOf3.opt {e : Expr} {greedy : Bool} {body : Code}
    (hc : CodeAt prog pc ((if greedy then Insn.split (pc + 1) (pc + 1 + body.length)
      else Insn.split (pc + 1 + body.length) (pc + 1)) :: body))
    (ih : SimOf3 c n nS prog nsv nsv' bal hard (sem c e) (pc + 1) (pc + 1 + body.length)) :
    SimOf3 c n nS prog nsv nsv' bal hard (sem c (.repeat e 0 (some 1) greedy)) pc
      (pc + ((if greedy then Insn.split (pc + 1) (pc + 1 + body.length)
        else Insn.split (pc + 1 + body.length) (pc + 1)) :: body).length) := by
  obtain ⟨hle, s⟩ := ih
  refine ⟨hle, fun hnS cm hcm => ?_⟩
  have hhead := hc.head
  cases greedy with
  | true =>
    exact ((Sim2.optG (by simpa using hhead) (s hnS cm hcm) (by omega)).congr (g := sem c (.repeat e 0 (some 1) true))
      (fun st => by rw [sem_opt]; simp)).cast rfl (by addr)
  | false =>
    exact ((Sim2.optL (by simpa using hhead) (s hnS cm hcm) (by omega)).congr (g := sem c (.repeat e 0 (some 1) false))
      (fun st => by rw [sem_opt]; simp)).cast rfl (by addr)

/-- the body of a loop is re-entered: it is compiled in a hard context whatever the context of the loop -/
theorem SimOf3.star {e : Expr} {greedy : Bool} {body : Code}
    (hc : CodeAt prog pc ([if greedy then Insn.split (pc + 1) (pc + 1 + body.length + 1)
      else Insn.split (pc + 1 + body.length + 1) (pc + 1)] ++ body ++ [Insn.jmp pc]))
    (hw : wellShaped e = true) (hm : 0 < minSize e)
    (ih : SimOf3 c n nS prog nsv nsv' bal true (sem c e) (pc + 1) (pc + 1 + body.length)) :
    SimOf3 c n nS prog nsv nsv' bal hard (sem c (.repeat e 0 none greedy)) pc
      (pc + ([if greedy then Insn.split (pc + 1) (pc + 1 + body.length + 1)
        else Insn.split (pc + 1 + body.length + 1) (pc + 1)] ++ body ++ [Insn.jmp pc]).length) := by
  obtain ⟨hsplit, _, hjmp⟩ := hc.bracket
  obtain ⟨hle, s⟩ := ih
  exact ⟨hle, fun hnS cm _ => (sim2_star (cm := cm) hsplit hjmp (s hnS false (Or.inl rfl)) hw hm (by omega)).cast rfl (by addr)⟩

theorem SimOf3.plus {e : Expr} {greedy : Bool} {body : Code}
    (hc : CodeAt prog pc (body ++ [if greedy then Insn.split pc (pc + body.length + 1)
      else Insn.split (pc + body.length + 1) pc]))
    (hw : wellShaped e = true) (hm : 0 < minSize e)
    (ih : SimOf3 c n nS prog nsv nsv' bal true (sem c e) pc (pc + body.length)) :
    SimOf3 c n nS prog nsv nsv' bal hard (sem c (.repeat e 1 none greedy)) pc
      (pc + (body ++ [if greedy then Insn.split pc (pc + body.length + 1)
        else Insn.split (pc + body.length + 1) pc]).length) := by
  obtain ⟨hle, s⟩ := ih
  exact ⟨hle, fun hnS cm _ =>
    (sim2_plus (cm := cm) hc.right.head (s hnS false (Or.inl rfl)) hw hm (by omega)).cast rfl (by addr)⟩

/-- a counted repeat owns the auxiliary slot `nsv` (its counter); the body gets the slots above it -/
theorem SimOf3.counted {e : Expr} {lo : Nat} {hi : Option Nat} {greedy : Bool} {body : Code}
    (hc : CodeAt prog pc ([Insn.save0 nsv, if greedy then Insn.repeatGr lo hi (pc + 2 + body.length + 1) nsv
      else Insn.repeatNg lo hi (pc + 2 + body.length + 1) nsv] ++ body ++ [Insn.jmp (pc + 1)]))
    (hw : wellShaped e = true) (hshape : hi ≠ none ∨ 0 < minSize e) (hnn : n ≤ nsv)
    (ih : SimOf3 c n nS prog (nsv + 1) nsv' bal true (sem c e) (pc + 2) (pc + 2 + body.length)) :
    SimOf3 c n nS prog nsv nsv' bal hard (sem c (.repeat e lo hi greedy)) pc
      (pc + ([Insn.save0 nsv, if greedy then Insn.repeatGr lo hi (pc + 2 + body.length + 1) nsv
        else Insn.repeatNg lo hi (pc + 2 + body.length + 1) nsv] ++ body ++ [Insn.jmp (pc + 1)]).length) := by
  obtain ⟨hle, s⟩ := ih
  refine ⟨by omega, fun hnS cm _ => ?_⟩
  have hjmp : prog[pc + 2 + body.length]? = some (.jmp (pc + 1)) := hc.right.head_at (by addr)
  exact (sim2_counted (cm := cm) hc.left.left.head hc.left.left.tail.head hjmp (s hnS false (Or.inl rfl)) hnn (by omega) hle
    (by omega) hw hshape).cast rfl (by addr)

/-- `Split; c1; Jmp; c2`: the step of `visitAlt` and of `lookBehindAlts` -/
theorem SimOf3.altCons {c1 c2 : Code} {endPc : Nat}
    (hc : CodeAt prog pc ([Insn.split (pc + 1) (pc + 1 + c1.length + 1)] ++ c1 ++ [Insn.jmp endPc] ++ c2))
    (hend : pc + 1 + c1.length + 1 + c2.length = endPc)
    (s1 : SimOf3 c n nS prog nsv nsv1 bal hard f (pc + 1) (pc + 1 + c1.length))
    (s2 : SimOf3 c n nS prog nsv1 nsv' bal hard g (pc + 1 + c1.length + 1) endPc) :
    SimOf3 c n nS prog nsv nsv' bal hard (fun st => f st ++ g st) pc endPc := by
  obtain ⟨hsplit, _, hjmp, _⟩ := hc.alt_cons
  exact ⟨Nat.le_trans s1.1 s2.1, fun hnS cm hcm =>
    Sim2.alt2 hsplit hjmp ((s1.2 (Nat.le_trans s2.1 hnS) cm hcm).widen (Nat.le_refl _) s2.1)
      ((s2.2 hnS cm hcm).widen s1.1 (Nat.le_refl _)) (by omega) (by omega)⟩

/-- `BeginAtomic; body; EndAtomic` keeps the first result of the body -/
theorem SimOf3.atomic {body : Code} (hc : CodeAt prog pc ([Insn.beginAtomic] ++ body ++ [Insn.endAtomic]))
    (ih : SimOf3 c n nS prog nsv nsv' true false sm (pc + 1) (pc + 1 + body.length)) :
    SimOf3 c n nS prog nsv nsv' true hard (fun st => firstOnly (sm st)) pc
      (pc + ([Insn.beginAtomic] ++ body ++ [Insn.endAtomic]).length) := by
  obtain ⟨hbegin, _, hend⟩ := hc.bracket
  exact ⟨ih.1, fun hnS cm _ => (sim2_atomic (cm := cm) hbegin hend (ih.2 hnS true (Or.inr rfl))).cast rfl (by addr)⟩

theorem SimOf3.aheadNeg {e : Expr} {body : Code} {bal2 : Bool} (hc : CodeAt prog pc (wrapNegLook false pc 0 body))
    (ih : SimOf3 c n nS prog nsv nsv' bal false (sem c e) (negLookBodyPc false pc) (negLookBodyPc false pc + body.length)) :
    SimOf3 c n nS prog nsv nsv' bal2 hard (sem c (.look e .aheadNeg)) pc (pc + (wrapNegLook false pc 0 body).length) := by
  simp only [wrapNegLook, negLookBodyPc, Bool.false_eq_true, ↓reduceIte, List.nil_append, Nat.add_zero] at hc ih ⊢
  obtain ⟨hsplit, _, hfail⟩ := hc.bracket
  exact ⟨ih.1, fun hnS cm _ => ((sim2_sem_aheadNeg (cm := cm) hsplit hfail (ih.2 hnS true (Or.inr rfl))).balTo
    (fun _ => rfl)).cast rfl (by addr)⟩

/-- the positive look-ahead layout (`wrapPosLook … false`) around the code `visit` emits for `e` in a non-hard
    context, against the semantics of `e'`: atomic layout when `e` is hard; otherwise the plain layout around a
    `Delegate`, of which only the first result is used (and then `e' = e`: nothing below a `Delegate` changes) -/
theorem SimOf3.ahead (hlen : c.len < UNSET) {e e' : Expr} {body : Code} (h3e : H3 n e gix)
    (heq : isHard br e = false → e' = e)
    (hb : visit br e false (posLookBodyPc (isHard br e) false pc) (nsv + 1) gix = .ok (body, nsv'))
    (hc : CodeAt prog pc (wrapPosLook (isHard br e) false nsv 0 body)) (hnn : n ≤ nsv)
    (ih : SimOf3 c n nS prog (nsv + 1) nsv' true false (sem c e')
      (posLookBodyPc (isHard br e) false pc) (posLookBodyPc (isHard br e) false pc + body.length)) :
    SimOf3 c n nS prog nsv nsv' true hard (sem c (.look e' .ahead)) pc
      (pc + (wrapPosLook (isHard br e) false nsv 0 body).length) := by
  obtain ⟨hle, s⟩ := ih
  by_cases hh : isHard br e = true
  · rw [hh] at hc s ⊢
    obtain ⟨hbegin, hsave, _, hrestore, hend, hl⟩ := hc.posAhead_atomic
    simp only [posLookBodyPc, ↓reduceIte, Bool.false_eq_true, Nat.add_zero] at s
    exact ⟨by omega, fun hnS cm _ => (sim2_sem_ahead_atomic (cm := cm) hbegin hsave hrestore hend hnn (by omega) (by omega)
      ((s hnS true (Or.inr rfl)).cast (by omega) (by omega))).cast rfl (by omega)⟩
  · have hh' : isHard br e = false := by simpa using hh
    obtain rfl := heq hh'
    rw [hh'] at hc hb ⊢
    simp only [posLookBodyPc, ↓reduceIte, Bool.false_eq_true, Nat.add_zero] at hb
    rw [visit_easy_eq br e' false (pc + 1) (nsv + 1) gix (by simp [hh'])] at hb
    cases hb
    obtain ⟨hsave, hc1, hrestore, hl⟩ := hc.posAhead_plain
    refine ⟨by omega, fun hnS cm _ => ?_⟩
    have hbody := sim3_one_first c n nS prog (nsv + 1) (nsv + 1) true cm br e' gix (pc + 1) hlen h3e hh' hc1
    have := sim2_poslook_plain (cm := cm) (m := pc + 1 + (compileDelegate e' gix).length)
      hsave hrestore hnn (by omega) (by omega) hbody (keepsGood_firstOnly (keepsGood_sem c n e'))
      (fun st => firstOnly_length_le_one _)
    exact (this.congr (g := sem c (.look e' .ahead)) (fun st => by simp only [sem, firstOnly_idem])).cast rfl (by omega)

theorem SimOf3.cond {cnd y no : Expr} {cc yc nc : Code} {nsv2 : Nat} {balY balN : Bool}
    (hc : CodeAt prog pc ([Insn.beginAtomic, Insn.split (pc + 2) (pc + 2 + cc.length + 1 + yc.length + 1)] ++ cc ++
      [Insn.endAtomic] ++ yc ++ [Insn.jmp (pc + 2 + cc.length + 1 + yc.length + 1 + nc.length)] ++ nc))
    (ih1 : SimOf3 c n nS prog nsv nsv1 true hard (sem c cnd) (pc + 2) (pc + 2 + cc.length))
    (ih2 : SimOf3 c n nS prog nsv1 nsv2 balY hard (sem c y) (pc + 2 + cc.length + 1) (pc + 2 + cc.length + 1 + yc.length))
    (ih3 : SimOf3 c n nS prog nsv2 nsv' balN hard (sem c no) (pc + 2 + cc.length + 1 + yc.length + 1)
      (pc + 2 + cc.length + 1 + yc.length + 1 + nc.length)) :
    SimOf3 c n nS prog nsv nsv' false hard (sem c (.cond cnd y no)) pc
      (pc + ([Insn.beginAtomic, Insn.split (pc + 2) (pc + 2 + cc.length + 1 + yc.length + 1)] ++ cc ++
        [Insn.endAtomic] ++ yc ++ [Insn.jmp (pc + 2 + cc.length + 1 + yc.length + 1 + nc.length)] ++ nc).length) := by
  obtain ⟨hle1, s1⟩ := ih1
  obtain ⟨hle2, s2⟩ := ih2
  obtain ⟨hle3, s3⟩ := ih3
  refine ⟨by omega, fun hnS cm hcm => ?_⟩
  obtain ⟨hbegin, hsplit, _, hend, _, hjmp, _, _⟩ := hc.cond
  exact (sim2_cond_sem (cm := cm) (e1 := pc + 2 + cc.length) (e2 := pc + 2 + cc.length + 1 + yc.length)
    hbegin hsplit hend hjmp (s1 (by omega) true (Or.inr rfl))
    (s2 (by omega) cm hcm) (s3 hnS cm hcm) (by omega) (by omega) (by omega) hle1 hle2 hle3).cast rfl (by addr)

/-- a concatenation in three parts: a delegated run, children compiled one by one, a delegated run -/
theorem SimOf3.concat {l1 l2 l3 : List Expr} {pre mid suf : Code} {bal2 : Bool} (hbal : bal = true → bal2 = true)
    (hpre : Sim2 c n nS prog nsv nsv bal false (semConcat c l1) pc (pc + pre.length))
    (hmid : SimOf3 c n nS prog nsv nsv' bal2 true (semConcat c l2) (pc + pre.length) (pc + pre.length + mid.length))
    (hsuf : ∀ cm, hard = true ∨ cm = true → Sim2 c n nS prog nsv' nsv' bal cm (semConcat c l3)
      (pc + pre.length + mid.length) (pc + pre.length + mid.length + suf.length)) :
    SimOf3 c n nS prog nsv nsv' bal hard (sem c (.concat (l1 ++ (l2 ++ l3)))) pc (pc + (pre ++ mid ++ suf).length) := by
  obtain ⟨hle, s2⟩ := hmid
  refine ⟨hle, fun hnS cm hcm => ?_⟩
  have key := hpre.seq (((s2 hnS false (Or.inl rfl)).balTo hbal).seq (hsuf cm hcm) (keepsGood_semConcat c n _) hle
    (Nat.le_refl _) (by omega) (by omega)) (keepsGood_semConcat c n _) (Nat.le_refl _) hle (by omega) (by omega)
  exact (key.congr (g := sem c (.concat (l1 ++ (l2 ++ l3)))) (fun st => by
    simp only [sem]
    rw [semConcat_append]
    congr 1; funext r; rw [semConcat_append])).cast rfl (by addr)

/-! ### Look-behind layouts around the code of `e`, against the semantics of a tree `e'` of the same minimum size -/

/-- the positive look-behind layout (`wrapPosLook … true`) around the code `visit` emits for `e` in a
    non-hard context: atomic layout when `e` is hard, plain layout around the `Delegate` otherwise.
    Used for a body of constant size (with `e = .alt es` for an alternation) and for every alternative of
    `lookBehindAlts`. -/
theorem SimOf3.posBehind (hlen : c.len < UNSET) {e e' : Expr} {body : Code} (h3e : H3 n e gix) (hcf : condFree e = true)
    (hm : minSize e' = minSize e) (heq : isHard br e = false → e' = e)
    (hb : visit br e false (posLookBodyPc (isHard br e) true pc) (nsv + 1) gix = .ok (body, nsv'))
    (hc : CodeAt prog pc (wrapPosLook (isHard br e) true nsv (minSize e) body)) (hnn : n ≤ nsv)
    (ih : SimOf3 c n nS prog (nsv + 1) nsv' (condFree e) false (sem c e')
      (posLookBodyPc (isHard br e) true pc) (posLookBodyPc (isHard br e) true pc + body.length)) :
    SimOf3 c n nS prog nsv nsv' true true (posBehindOne c e') pc
      (pc + (wrapPosLook (isHard br e) true nsv (minSize e) body).length) := by
  obtain ⟨hle, ihs⟩ := ih
  rw [← hm] at hc ⊢
  by_cases hh : isHard br e = true
  · rw [hh] at hc ihs ⊢
    obtain ⟨hbegin, hsave, hback, _, hrestore, hend, hlen'⟩ := hc.posBehind_atomic
    simp only [posLookBodyPc, ↓reduceIte] at ihs
    refine ⟨by omega, fun hnS cm _ => ?_⟩
    have hbody := ihs hnS true (Or.inr rfl)
    rw [hcf] at hbody
    exact (sim2_posbehind_atomic (cm := cm) (body := sem c e') (m := pc + 3 + body.length) hbegin hsave hback hrestore hend
      hnn (by omega) (by omega) (by omega) (hbody.cast (by omega) (by omega)) (keepsGood_sem c n e')).cast rfl (by omega)
  · have hh' : isHard br e = false := by simpa using hh
    obtain rfl := heq hh'
    rw [hh'] at hc hb ⊢
    obtain ⟨hsave, hback, hc1, hrestore, hlen'⟩ := hc.posBehind_plain
    simp only [posLookBodyPc, Bool.false_eq_true, ↓reduceIte, Nat.add_zero] at hb
    rw [visit_easy_eq br e' false (pc + 1 + 1) (nsv + 1) gix (by simp [hh'])] at hb
    cases hb
    refine ⟨by omega, fun hnS cm _ => ?_⟩
    have hbody := sim3_one_first c n nS prog (nsv + 1) (nsv + 1) true cm br e' gix (pc + 2) hlen h3e hh' hc1
    have := sim2_posbehind_plain (cm := cm) (bal := true) (body := fun st => firstOnly (sem c e' st))
      (m := pc + 2 + (compileDelegate e' gix).length) (k := minSize e') hsave hback hrestore hnn (by omega) (by omega)
      (by omega) hbody (keepsGood_firstOnly (keepsGood_sem c n e')) (fun st => firstOnly_length_le_one _)
    exact (this.congr (g := posBehindOne c e') (fun st => by
      unfold posBehindOne
      rw [back_flatMap, back_flatMap]
      split <;> simp [firstOnly_idem])).cast rfl (by omega)

/-- the negative look-behind layout (`wrapNegLook true`) around the code of `e` -/
theorem SimOf3.negBehind {e e' : Expr} {body : Code} (hm : minSize e' = minSize e)
    (hc : CodeAt prog pc (wrapNegLook true pc (minSize e) body))
    (ih : SimOf3 c n nS prog nsv nsv' (condFree e) false (sem c e')
      (negLookBodyPc true pc) (negLookBodyPc true pc + body.length)) :
    SimOf3 c n nS prog nsv nsv' true true (negBehindOne c e') pc
      (pc + (wrapNegLook true pc (minSize e) body).length) := by
  obtain ⟨hle, ihs⟩ := ih
  rw [← hm] at hc ⊢
  obtain ⟨hsplit, hback, _, hfail, hlen'⟩ := hc.negBehind
  simp only [negLookBodyPc, ↓reduceIte] at ihs
  exact ⟨hle, fun hnS cm _ => (sim2_negbehind (cm := cm) (body := sem c e') (m := pc + 2 + body.length) hsplit hback hfail
    (by omega) hle ((ihs hnS true (Or.inr rfl)).cast (by omega) (by omega))).cast rfl (by omega)⟩

end

theorem sim3_posBehind_wrap (c : Ctx) (n nS : Nat) (br : Nat → Bool) (hlen : c.len < UNSET)
    (e : Expr) (pc nsv gix : Nat) (code1 : Code) (nsv1 : Nat) (prog : List Insn)
    (h3e : H3 n e gix) (hcf : condFree e = true)
    (hb : visit br e false (posLookBodyPc (isHard br e) true pc) (nsv + 1) gix = .ok (code1, nsv1))
    (hc : CodeAt prog pc (wrapPosLook (isHard br e) true nsv (minSize e) code1)) (hnn : n ≤ nsv)
    (ih : SimOf3 c n nS prog (nsv + 1) nsv1 (condFree e) false (sem c e)
      (posLookBodyPc (isHard br e) true pc) (posLookBodyPc (isHard br e) true pc + code1.length)) :
    nsv + 1 ≤ nsv1 ∧ (nsv1 ≤ nS → ∀ cm, Sim2 c n nS prog nsv nsv1 true cm (posBehindOne c e) pc
      (pc + (wrapPosLook (isHard br e) true nsv (minSize e) code1).length)) :=
  ⟨ih.1, (SimOf3.posBehind hlen h3e hcf rfl (fun _ => rfl) hb hc hnn ih).all.2⟩

theorem sim3_negBehind_wrap (c : Ctx) (n nS : Nat)
    (e : Expr) (pc nsv : Nat) (code1 : Code) (nsv1 : Nat) (prog : List Insn)
    (hc : CodeAt prog pc (wrapNegLook true pc (minSize e) code1))
    (ih : SimOf3 c n nS prog nsv nsv1 (condFree e) false (sem c e)
      (negLookBodyPc true pc) (negLookBodyPc true pc + code1.length)) :
    nsv ≤ nsv1 ∧ (nsv1 ≤ nS → ∀ cm, Sim2 c n nS prog nsv nsv1 true cm (negBehindOne c e) pc
      (pc + (wrapNegLook true pc (minSize e) code1).length)) :=
  (SimOf3.negBehind rfl hc ih).all

section
variable {c : Ctx} {n nS : Nat} {br : Nat → Bool} {hard : Bool}

/-! ## One constructor at a time

`SimAs hard e e'`: the code `visit br e hard` emits simulates `sem c e'` — `e' = e` in stage S3, the atomized
tree in stage S5 (Lemmas/SimCompile5.lean). Each lemma inverts `visit` (Lemmas/CompileInv.lean), applies the
hypothesis about the children and the lemma of the layout. -/

def SimAs (c : Ctx) (n nS : Nat) (br : Nat → Bool) (hard : Bool) (e e' : Expr) : Prop :=
  ∀ (pc nsv gix : Nat) (code : Code) (nsv' : Nat) (prog : List Insn), H3 n e gix →
    visit br e hard pc nsv gix = .ok (code, nsv') → CodeAt prog pc code → n ≤ nsv →
    SimOf3 c n nS prog nsv nsv' (condFree e) hard (sem c e') pc (pc + code.length)

/-- the hand-off to the automata engine is the same for every constructor -/
theorem SimAs.easy (hlen : c.len < UNSET) {e : Expr} (hdel : (!hard && !isHard br e) = true) : SimAs c n nS br hard e e :=
  fun pc nsv gix code nsv' prog h3 hv hc _ => simOf3_easy c n nS prog _ br e hard pc nsv gix code nsv' hlen h3 hdel hv hc

theorem SimAs.group {g : Nat} {e e' : Expr} (hdel : ¬(!hard && !isHard br (.group g e)) = true)
    (ih : SimAs c n nS br hard e e') : SimAs c n nS br hard (.group g e) (.group g e') := by
  intro pc nsv gix code nsv' prog h3 hv hc hnn
  obtain ⟨body, hb, rfl⟩ := visit_group_ok hdel hv
  have hsb := h3.sb
  simp only [slotsBelow, Bool.and_eq_true, decide_eq_true_eq] at hsb
  exact SimOf3.group hc hsb.1 (ih (pc + 1) nsv (gix + 1) body nsv' prog h3.group.2 hb hc.bracket.2.1 hnn)

theorem SimAs.atomic {e e' : Expr} (hcf : condFree e = true) (ih : SimAs c n nS br false e e') :
    SimAs c n nS br hard (.atomic e) (.atomic e') := by
  intro pc nsv gix code nsv' prog h3 hv hc hnn
  obtain ⟨body, hb, rfl⟩ := visit_atomic_ok hv
  have ihb := ih (pc + 1) nsv gix body nsv' prog h3.atomic hb hc.bracket.2.1 hnn
  rw [hcf] at ihb
  exact ((SimOf3.atomic hc ihb).congr (fun st => by simp only [sem])).balTo (fun _ => rfl)

theorem SimAs.cond {cnd y no cnd' y' no' : Expr} (hcf : condFree cnd = true) (ih1 : SimAs c n nS br hard cnd cnd')
    (ih2 : SimAs c n nS br hard y y') (ih3 : SimAs c n nS br hard no no') :
    SimAs c n nS br hard (.cond cnd y no) (.cond cnd' y' no') := by
  intro pc nsv gix code nsv' prog h3 hv hc hnn
  obtain ⟨cc, nsv1, yc, nsv2, nc, hb1, hb2, hb3, rfl⟩ := visit_cond_ok hv
  obtain ⟨h3c, h3y, h3n⟩ := h3.cond
  obtain ⟨_, _, hcc, _, hyc, _, hnc, _⟩ := hc.cond
  have s1 := ih1 (pc + 2) nsv gix cc nsv1 prog h3c hb1 hcc hnn
  have s2 := ih2 _ nsv1 _ yc nsv2 prog h3y hb2 hyc (by have := s1.1; omega)
  have s3 := ih3 _ nsv2 _ nc nsv' prog h3n hb3 hnc (by have := s1.1; have := s2.1; omega)
  rw [hcf] at s1
  exact SimOf3.cond hc s1 s2 s3

/-- the four layouts of a repetition within stage S3 (`hshape` excludes `RepeatEpsilon*`); the body of a loop is
    re-entered, so it is compiled in a hard context -/
theorem SimAs.repeat {e e' : Expr} {lo : Nat} {hi : Option Nat} {greedy : Bool}
    (hdel : ¬(!hard && !isHard br (.repeat e lo hi greedy)) = true) (hshape : hi ≠ none ∨ 0 < minSize e)
    (hw' : wellShaped e = true → wellShaped e' = true) (hm : minSize e' = minSize e)
    (ih : SimAs c n nS br (if lo == 0 && hi == some 1 then hard else true) e e') :
    SimAs c n nS br hard (.repeat e lo hi greedy) (.repeat e' lo hi greedy) := by
  intro pc nsv gix code nsv' prog h3 hv hc hnn
  have h3e := h3.repeat
  replace hw' := hw' h3e.ws
  simp only [condFree]
  by_cases hopt : (lo == 0 && hi == some 1) = true
  · obtain ⟨body, hb, rfl⟩ := visit_opt_ok hdel hopt hv
    rw [if_pos hopt] at ih
    simp only [Bool.and_eq_true, beq_iff_eq] at hopt
    obtain ⟨rfl, rfl⟩ := hopt
    exact SimOf3.opt hc (ih (pc + 1) nsv gix body nsv' prog h3e hb hc.tail hnn)
  · rw [if_neg hopt] at ih
    have hhard : (hard || isHard br (.repeat e lo hi greedy)) = true := by
      cases hard with
      | true => rfl
      | false => simpa using hdel
    have heps : ¬(hi == none && minSize e == 0) = true := by
      simp only [Bool.and_eq_true, beq_iff_eq]
      rintro ⟨rfl, h0⟩
      rcases hshape with h | h
      · exact h rfl
      · omega
    rw [← hm] at hshape
    by_cases hstar : (lo == 0 && hi == none) = true
    · obtain ⟨body, hb, rfl⟩ := visit_star_ok hdel hopt heps hstar hv
      rw [hhard] at hb
      simp only [Bool.and_eq_true, beq_iff_eq] at hstar
      obtain ⟨rfl, rfl⟩ := hstar
      exact SimOf3.star hc hw' (hshape.resolve_left (fun h => h rfl))
        (ih (pc + 1) nsv gix body nsv' prog h3e hb hc.bracket.2.1 hnn)
    · by_cases hplus : (lo == 1 && hi == none) = true
      · obtain ⟨body, hb, rfl⟩ := visit_plus_ok hdel hopt heps hstar hplus hv
        rw [hhard] at hb
        simp only [Bool.and_eq_true, beq_iff_eq] at hplus
        obtain ⟨rfl, rfl⟩ := hplus
        exact SimOf3.plus hc hw' (hshape.resolve_left (fun h => h rfl)) (ih pc nsv gix body nsv' prog h3e hb hc.left hnn)
      · obtain ⟨body, hb, rfl⟩ := visit_counted_ok hdel hopt heps hstar hplus hv
        rw [hhard] at hb
        exact SimOf3.counted hc hw' hshape hnn
          (ih (pc + 2) (nsv + 1) gix body nsv' prog h3e hb (hc.left.right.cast (by addr)) (by omega))

theorem SimAs.ahead (hlen : c.len < UNSET) {e e' : Expr} (hcf : condFree e = true) (heq : isHard br e = false → e' = e)
    (ih : SimAs c n nS br false e e') : SimAs c n nS br hard (.look e .ahead) (.look e' .ahead) := by
  intro pc nsv gix code nsv' prog h3 hv hc hnn
  obtain ⟨body, hb, rfl⟩ := visit_ahead_ok hv
  have ihb := ih _ (nsv + 1) gix body nsv' prog h3.look hb hc.posLook_body (by omega)
  rw [hcf] at ihb
  exact (SimOf3.ahead hlen h3.look heq hb hc hnn ihb).balTo (fun _ => rfl)

theorem SimAs.aheadNeg {e e' : Expr} (ih : SimAs c n nS br false e e') :
    SimAs c n nS br hard (.look e .aheadNeg) (.look e' .aheadNeg) := by
  intro pc nsv gix code nsv' prog h3 hv hc hnn
  obtain ⟨body, hb, rfl⟩ := visit_aheadNeg_ok hv
  exact SimOf3.aheadNeg hc (ih _ nsv gix body nsv' prog h3.look hb hc.negLook_body hnn)

/-! ### The companions over lists; `T` sends a compiled element to the tree whose semantics its code simulates -/

theorem visitMiddle_zero (br : Nat → Bool) (es : List Expr) (pc nsv gix : Nat) :
    visitMiddle br es 0 0 pc nsv gix = .ok ([], nsv) := by
  cases es <;> simp only [visitMiddle]

theorem SimAs.visitMiddle {T : Expr → Expr} (es : List Expr) : (∀ e ∈ es, SimAs c n nS br true e (T e)) →
    ∀ (take pc nsv gix : Nat) (code : Code) (nsv' : Nat) (prog : List Insn), H3L n es gix →
      visitMiddle br es 0 take pc nsv gix = .ok (code, nsv') → CodeAt prog pc code → n ≤ nsv →
      SimOf3 c n nS prog nsv nsv' (condFreeAll (es.take take)) true (semConcat c ((es.map T).take take)) pc
        (pc + code.length) := by
  induction es with
  | nil =>
    intro _ take pc nsv gix code nsv' prog _ hv _ _
    simp only [Fancy.visitMiddle] at hv
    cases hv
    exact SimOf3.nil (fun st => by simp [semConcat])
  | cons e es ihes =>
    intro ih take pc nsv gix code nsv' prog hL hv hc hnn
    cases take with
    | zero =>
      rw [visitMiddle_zero] at hv
      cases hv
      exact SimOf3.nil (fun st => by simp [semConcat])
    | succ take =>
      obtain ⟨c1, nsv1, c2, hb, hb2, rfl⟩ := visitMiddle_cons_ok hv
      obtain ⟨h3e, hLs⟩ := hL.cons
      have s1 := ih e List.mem_cons_self pc nsv gix c1 nsv1 prog h3e hb hc.left hnn
      have s2 := ihes (fun x hx => ih x (List.mem_cons_of_mem _ hx)) take (pc + c1.length) nsv1 _ c2 nsv' prog hLs hb2
        hc.right (by have := s1.1; omega)
      have hbal : condFreeAll ((e :: es).take (take + 1)) = (condFree e && condFreeAll (es.take take)) := by
        simp [condFreeAll]
      rw [hbal]
      exact (((s1.balTo (b2 := condFree e && condFreeAll (es.take take)) (by simp +contextual)).seq
        (s2.balTo (by simp +contextual)) (keepsGood_sem c n _) (by omega) (by omega)).congr
          (fun st => by simp [semConcat])).cast rfl (by addr)

/-- the code `compileDelegates xs` of a delegated run simulates `semConcat c xs'`, whatever comes after it -/
def RunAs (c : Ctx) (n nS : Nat) (xs xs' : List Expr) : Prop :=
  ∀ (prog : List Insn) (lo hi : Nat) (bal cm : Bool) (gix a : Nat), H3L n xs gix →
    CodeAt prog a (compileDelegates xs gix) →
    Sim2 c n nS prog lo hi bal cm (semConcat c xs') a (a + (compileDelegates xs gix).length)

/-- a concatenation: the easy prefix of constant size as a run, the children in between one by one, the easy suffix
    as a run. In a non-hard context the suffix is in committing position and needs no run lemma (`sim3_run_commit`). -/
theorem SimAs.concat (hlen : c.len < UNSET) {T : Expr → Expr} {es pre' suf' : List Expr}
    (hdel : ¬(!hard && !isHard br (.concat es)) = true)
    (hpre : RunAs c n nS (es.take (concatSplit br es hard).1) pre')
    (hsuf : if hard = true then RunAs c n nS (es.drop (concatSplit br es hard).2) suf'
      else suf' = es.drop (concatSplit br es hard).2)
    (ih : ∀ e ∈ es, SimAs c n nS br true e (T e)) :
    SimAs c n nS br hard (.concat es) (.concat (pre' ++ (((es.drop (concatSplit br es hard).1).map T).take
      ((concatSplit br es hard).2 - (concatSplit br es hard).1) ++ suf'))) := by
  intro pc nsv gix code nsv' prog h3 hv hc hnn
  obtain ⟨mid, hb, rfl⟩ := visit_concat_ok hdel hv
  have hL := h3.concat
  exact SimOf3.concat (bal := condFree (.concat es))
    (suf := compileDelegates (es.drop (concatSplit br es hard).2) (gix + groupCountList (es.take (concatSplit br es hard).2)))
    (fun h => by simpa using condFreeAll_take _ _ (condFreeAll_drop es _ h))
    (hpre prog nsv nsv _ false gix pc (hL.take _) hc.left.left)
    (SimAs.visitMiddle _ (fun x hx => ih x (List.mem_of_mem_drop hx)) _ _ nsv _ mid nsv' prog (hL.drop _) hb hc.left.right hnn)
    (fun cm hcm => by
      cases hard with
      | true => exact (if_pos rfl ▸ hsuf) prog nsv' nsv' _ cm _ _ (hL.drop _) (hc.right.cast (by addr))
      | false =>
        obtain rfl : cm = true := hcm.resolve_left (by simp)
        obtain rfl : suf' = _ := if_neg Bool.false_ne_true ▸ hsuf
        exact sim3_run_commit c n nS prog nsv' nsv' _ br _ _ _ hlen (hL.drop _)
          (concatSplit_suffix_isHardAny br es false) (hc.right.cast (by addr)))

theorem SimAs.visitAlt {T : Expr → Expr} (es : List Expr) : (∀ e ∈ es, SimAs c n nS br hard e (T e)) →
    ∀ (pc nsv gix : Nat) (f : Nat → Code) (endPc nsv' : Nat) (prog : List Insn), H3L n es gix → es ≠ [] →
      visitAlt br es hard pc nsv gix = .ok (f, endPc, nsv') → n ≤ nsv → CodeAt prog pc (f endPc) →
      SimOf3 c n nS prog nsv nsv' (condFreeAll es) hard (semAlt c (es.map T)) pc endPc := by
  induction es with
  | nil => intro _ _ _ _ _ _ _ _ _ hne; exact absurd rfl hne
  | cons e es ihes =>
    intro ih pc nsv gix f endPc nsv' prog hL _ hv hnn hc
    obtain ⟨h3e, hLs⟩ := hL.cons
    have ihe := ih e List.mem_cons_self
    cases es with
    | nil =>
      obtain ⟨c1, hb, rfl, rfl⟩ := visitAlt_single_ok hv
      exact ((ihe pc nsv gix c1 nsv' prog h3e hb hc hnn).balTo (by simp +contextual [condFreeAll])).congr
        (fun st => by simp [semAlt])
    | cons e2 es =>
      obtain ⟨c1, nsv1, f2, hb, hb2, rfl⟩ := visitAlt_cons_ok hv
      have hlen2 := visitAlt_len br (e2 :: es) hard _ nsv1 _ f2 endPc nsv' hb2 endPc
      have s1 := ihe (pc + 1) nsv gix c1 nsv1 prog h3e hb hc.left.bracket.2.1 hnn
      have s2 := ihes (fun x hx => ih x (List.mem_cons_of_mem _ hx)) (pc + 1 + c1.length + 1) nsv1 _ f2 endPc nsv' prog
        hLs (by simp) hb2 (by have := s1.1; omega) (hc.right.cast (by addr))
      exact (SimOf3.altCons hc hlen2 (s1.balTo (b2 := condFreeAll (e :: e2 :: es)) (by simp +contextual [condFreeAll]))
        (s2.balTo (by simp +contextual [condFreeAll]))).congr (fun st => by simp [semAlt])

theorem SimAs.alt {T : Expr → Expr} {es : List Expr} (hdel : ¬(!hard && !isHard br (.alt es)) = true) (hne : es ≠ [])
    (ih : ∀ e ∈ es, SimAs c n nS br hard e (T e)) : SimAs c n nS br hard (.alt es) (.alt (es.map T)) := by
  intro pc nsv gix code nsv' prog h3 hv hc hnn
  obtain ⟨f, endPc, hb, rfl⟩ := visit_alt_ok hdel hv
  exact ((SimAs.visitAlt es ih pc nsv gix f endPc nsv' prog h3.alt hne hb hnn hc).congr
    (g := sem c (.alt (es.map T))) (fun st => by simp only [sem])).cast rfl (visitAlt_len br es hard pc nsv gix f endPc _ hb endPc)

/-- what the look-behind layouts and their semantic equations ask of the tree `T e` against which a body `e` is
    simulated: nothing below a `Delegate` changes, and size and shape are kept -/
structure KeepsBehind (br : Nat → Bool) (T : Expr → Expr) (e : Expr) : Prop where
  easy : isHard br e = false → T e = e
  ms : minSize (T e) = minSize e
  ws : wellShaped e = true → wellShaped (T e) = true
  cs : constSize (T e) = constSize e
  nz : noBareEndZ (T e) = noBareEndZ e

theorem KeepsBehind.id (br : Nat → Bool) (e : Expr) : KeepsBehind br id e := ⟨fun _ => rfl, rfl, fun h => h, rfl, rfl⟩

theorem KeepsBehind.constSizeAll {br : Nat → Bool} {T : Expr → Expr} (hT : ∀ x, KeepsBehind br T x) {es : List Expr}
    (h : constSizeAll es = true) : constSizeAll (es.map T) = true :=
  (constSizeAll_iff _).mpr fun y hy => by
    obtain ⟨x, hx, rfl⟩ := List.mem_map.mp hy
    exact (hT x).cs.trans ((constSizeAll_iff es).mp h x hx)

/-- one positive look-behind layout around the code of `e` -/
theorem SimAs.posBehindOne (hlen : c.len < UNSET) {T : Expr → Expr} {e : Expr} (ih : SimAs c n nS br false e (T e))
    (hT : KeepsBehind br T e) {pc nsv gix nsv' : Nat} {body : Code} {prog : List Insn} (h3e : H3 n e gix)
    (hcf : condFree e = true)
    (hb : visit br e false (posLookBodyPc (isHard br e) true pc) (nsv + 1) gix = .ok (body, nsv'))
    (hc : CodeAt prog pc (wrapPosLook (isHard br e) true nsv (minSize e) body)) (hnn : n ≤ nsv) :
    SimOf3 c n nS prog nsv nsv' true true (posBehindOne c (T e)) pc
      (pc + (wrapPosLook (isHard br e) true nsv (minSize e) body).length) :=
  SimOf3.posBehind hlen h3e hcf hT.ms hT.easy hb hc hnn
    (ih _ (nsv + 1) gix body nsv' prog h3e hb hc.posLook_body (by omega))

theorem SimAs.negBehindOne {T : Expr → Expr} {e : Expr} (ih : SimAs c n nS br false e (T e))
    (hT : KeepsBehind br T e) {pc nsv gix nsv' : Nat} {body : Code} {prog : List Insn} (h3e : H3 n e gix)
    (hb : visit br e false (negLookBodyPc true pc) nsv gix = .ok (body, nsv'))
    (hc : CodeAt prog pc (wrapNegLook true pc (minSize e) body)) (hnn : n ≤ nsv) :
    SimOf3 c n nS prog nsv nsv' true true (negBehindOne c (T e)) pc (pc + (wrapNegLook true pc (minSize e) body).length) :=
  SimOf3.negBehind hT.ms hc (ih _ nsv gix body nsv' prog h3e hb hc.negLook_body hnn)

theorem SimAs.lookBehindAlts (hlen : c.len < UNSET) {T : Expr → Expr} (es : List Expr) :
    (∀ e ∈ es, SimAs c n nS br false e (T e) ∧ KeepsBehind br T e) →
    ∀ (pc nsv gix : Nat) (f : Nat → Code) (endPc nsv' : Nat) (prog : List Insn),
      condFreeAll es = true → H3L n es gix → es ≠ [] →
      lookBehindAlts br es pc nsv gix = .ok (f, endPc, nsv') → n ≤ nsv → CodeAt prog pc (f endPc) →
      SimOf3 c n nS prog nsv nsv' true true (posBehindAlts c (es.map T)) pc endPc := by
  induction es with
  | nil => intro _ _ _ _ _ _ _ _ _ _ hne; exact absurd rfl hne
  | cons e es ihes =>
    intro ih pc nsv gix f endPc nsv' prog hcf hL _ hv hnn hc
    simp only [condFreeAll, Bool.and_eq_true] at hcf
    obtain ⟨h3e, hLs⟩ := hL.cons
    obtain ⟨ihe, hTe⟩ := ih e List.mem_cons_self
    cases es with
    | nil =>
      obtain ⟨_, body, hb, rfl, rfl⟩ := lookBehindAlts_single_ok hv
      exact (ihe.posBehindOne hlen hTe h3e hcf.1 hb hc hnn).congr (fun st => by simp [posBehindAlts])
    | cons e2 es =>
      obtain ⟨_, body, nsv1, f2, hb, hb2, rfl⟩ := lookBehindAlts_cons_ok hv
      have hlen2 := lookBehindAlts_len br (e2 :: es) _ nsv1 _ f2 endPc nsv' hb2 endPc
      have s1 := ihe.posBehindOne hlen hTe h3e hcf.1 hb hc.left.bracket.2.1 hnn
      have s2 := ihes (fun x hx => ih x (List.mem_cons_of_mem _ hx)) _ nsv1 _ f2 endPc nsv' prog hcf.2 hLs (by simp) hb2
        (by have := s1.1; omega) (hc.right.cast (by addr))
      exact (SimOf3.altCons hc hlen2 s1 s2).congr (fun st => by simp [posBehindAlts])

theorem SimAs.lookBehindNegAlts {T : Expr → Expr} (es : List Expr) :
    (∀ e ∈ es, SimAs c n nS br false e (T e) ∧ KeepsBehind br T e) →
    ∀ (pc nsv gix : Nat) (code : Code) (nsv' : Nat) (prog : List Insn), H3L n es gix →
      lookBehindNegAlts br es pc nsv gix = .ok (code, nsv') → n ≤ nsv → CodeAt prog pc code →
      SimOf3 c n nS prog nsv nsv' true true (negBehindSeq c (es.map T)) pc (pc + code.length) := by
  induction es with
  | nil =>
    intro _ pc nsv gix code nsv' prog _ hv _ _
    simp only [Fancy.lookBehindNegAlts] at hv
    cases hv
    exact SimOf3.nil (fun st => by simp [negBehindSeq])
  | cons e es ihes =>
    intro ih pc nsv gix code nsv' prog hL hv hnn hc
    obtain ⟨h3e, hLs⟩ := hL.cons
    obtain ⟨_, body, nsv1, c2, hb, hb2, rfl⟩ := lookBehindNegAlts_cons_ok hv
    obtain ⟨ihe, hTe⟩ := ih e List.mem_cons_self
    have s1 := ihe.negBehindOne hTe h3e hb hc.left hnn
    have s2 := ihes (fun x hx => ih x (List.mem_cons_of_mem _ hx)) _ nsv1 _ c2 nsv' prog hLs hb2 (by have := s1.1; omega)
      hc.right
    exact ((s1.seq s2 (keepsGood_negBehindOne c n _) (by omega) (by omega)).congr
      (g := negBehindSeq c ((e :: es).map T)) (fun st => by simp [negBehindSeq])).cast rfl (by addr)

/-- look-behind, split on the size of the body: constant (an alternation with alternatives of one size included) —
    the ordinary layout; varying, so an alternation — an atomic group around an alternation of look-behinds.
    `ihl`: the statement for the alternatives, which are not children of the look-behind but of its child -/
theorem SimAs.behind (hlen : c.len < UNSET) {T : Expr → Expr} (hT : ∀ x, KeepsBehind br T x)
    (hTalt : ∀ es, T (.alt es) = .alt (es.map T)) {e : Expr} (hcf : condFree e = true) (hz : noBareEndZ e = true)
    (ih : SimAs c n nS br false e (T e)) (ihl : ∀ es, e = .alt es → ∀ x ∈ es, SimAs c n nS br false x (T x)) :
    SimAs c n nS br hard (.look e .behind) (.look (T e) .behind) := by
  intro pc nsv gix code nsv' prog h3 hv hc hnn
  have h3e := h3.look
  have hw' := (hT e).ws h3e.ws
  have hz' := (hT e).nz.trans hz
  refine SimOf3.balTo ?_ (fun _ => rfl)
  by_cases hcs : constSize e = true
  · obtain ⟨body, hb, rfl⟩ := visit_behind_const_ok hcs hv
    exact (ih.posBehindOne hlen (hT e) h3e hcf hb hc hnn).anyHard.congrGood fun st hg =>
      sem_behind_const c n _ hw' ((hT e).cs.trans hcs) hz' st hg (by omega)
  · obtain ⟨es, f, endPc, rfl, hb, rfl⟩ := visit_behind_var_ok (by simpa using hcs) hv
    rw [hTalt] at hw' hz' ⊢
    have hlenf := lookBehindAlts_len br es (pc + 1) nsv gix f endPc _ hb endPc
    have hs := SimAs.lookBehindAlts hlen es (fun x hx => ⟨ihl es rfl x hx, hT x⟩) (pc + 1) nsv gix f endPc nsv' prog
      (by simpa only [condFree] using hcf) h3e.alt (wellShaped_alt h3e.ws).1 hb hnn hc.bracket.2.1
    exact (SimOf3.atomic hc (hs.anyHard.cast rfl hlenf)).congrGood fun st hg =>
      sem_behind_alt_diff c n _ (wellShaped_alt hw').2 (KeepsBehind.constSizeAll hT (lookBehindAlts_ok_const br es _ _ _ _ hb))
        (by simpa only [noBareEndZ] using hz') st hg (by omega)

/-- negative look-behind: the ordinary layout around a body of constant size, a sequence of negative look-behinds
    for an alternation with alternatives of different sizes -/
theorem SimAs.behindNeg (hlen : c.len < UNSET) {T : Expr → Expr} (hT : ∀ x, KeepsBehind br T x)
    (hTalt : ∀ es, T (.alt es) = .alt (es.map T)) {e : Expr} (hz : noBareEndZ e = true)
    (ih : SimAs c n nS br false e (T e)) (ihl : ∀ es, e = .alt es → ∀ x ∈ es, SimAs c n nS br false x (T x)) :
    SimAs c n nS br hard (.look e .behindNeg) (.look (T e) .behindNeg) := by
  intro pc nsv gix code nsv' prog h3 hv hc hnn
  have h3e := h3.look
  have hw' := (hT e).ws h3e.ws
  have hz' := (hT e).nz.trans hz
  refine SimOf3.balTo ?_ (fun _ => rfl)
  by_cases hcs : constSize e = true
  · obtain ⟨body, hb, rfl⟩ := visit_behindNeg_const_ok hcs hv
    exact (ih.negBehindOne (hT e) h3e hb hc hnn).anyHard.congrGood fun st hg =>
      sem_behindNeg_const c n _ hw' ((hT e).cs.trans hcs) hz' st hg (by omega)
  · obtain ⟨es, rfl, hb⟩ := visit_behindNeg_var_ok (by simpa using hcs) hv
    rw [hTalt] at hw' hz' ⊢
    exact (SimAs.lookBehindNegAlts es (fun x hx => ⟨ihl es rfl x hx, hT x⟩) pc nsv gix code nsv' prog h3e.alt hb hnn
      hc).anyHard.congrGood fun st hg =>
        sem_behindNeg_alt_diff c n _ (wellShaped_alt hw').2
          (KeepsBehind.constSizeAll hT (lookBehindNegAlts_ok_const br es _ _ _ _ hb))
          (by simpa only [noBareEndZ] using hz') st hg (by omega)

/-! ## Stage S3: what `s3ok` asks of the children, and the statement for every expression -/

def Sim3P (c : Ctx) (n nS : Nat) (br : Nat → Bool) (e : Expr) : Prop :=
  ∀ hard, s3ok br e hard = true → SimAs c n nS br hard e e

theorem Sim3P.of_hard (hlen : c.len < UNSET) {e : Expr}
    (h : ∀ hard, ¬(!hard && !isHard br e) = true → s3ok br e hard = true → SimAs c n nS br hard e e) :
    Sim3P c n nS br e := fun hard hok => by
  by_cases hdel : (!hard && !isHard br e) = true
  · exact SimAs.easy hlen hdel
  · exact h hard hdel hok

/-- an expression compiled to code that needs no auxiliary slot and simulates for every continuation -/
theorem Sim3P.leaf (hlen : c.len < UNSET) {e : Expr} (code0 : Nat → Code)
    (hvis : ∀ hard pc nsv gix, ¬(!hard && !isHard br e) = true → visit br e hard pc nsv gix = .ok (code0 gix, nsv))
    (hsim : ∀ hard prog lo cm a gix, ¬(!hard && !isHard br e) = true → s3ok br e hard = true → H3 n e gix →
      CodeAt prog a (code0 gix) → Sim2 c n nS prog lo lo (condFree e) cm (sem c e) a (a + (code0 gix).length)) :
    Sim3P c n nS br e :=
  Sim3P.of_hard hlen fun hard hdel hok pc nsv gix code nsv' prog h3 hv hc _ => by
    rw [hvis hard pc nsv gix hdel] at hv
    cases hv
    exact SimOf3.leaf fun cm => hsim hard prog nsv cm pc gix hdel hok h3 hc

theorem s3okAll_mem : ∀ {es : List Expr}, s3okAll br es = true → ∀ e ∈ es, s3ok br e true = true
  | _ :: _, h, x, hx => by
    simp only [s3okAll, Bool.and_eq_true] at h
    rcases List.mem_cons.mp hx with rfl | hx
    · exact h.1
    · exact s3okAll_mem h.2 x hx

theorem s3okAlts_mem : ∀ {es : List Expr}, s3okAlts br es hard = true → ∀ e ∈ es, s3ok br e hard = true
  | _ :: _, h, x, hx => by
    simp only [s3okAlts, Bool.and_eq_true] at h
    rcases List.mem_cons.mp hx with rfl | hx
    · exact h.1
    · exact s3okAlts_mem h.2 x hx

theorem s3ok_delegate {inner : List Char} {size : Nat} {ci : Bool}
    (hdel : ¬(!hard && !isHard br (.delegate inner size ci)) = true)
    (h : s3ok br (.delegate inner size ci) hard = true) : size = 1 := by
  rw [s3ok] at h
  simpa only [hdel, Bool.false_eq_true, ↓reduceIte, beq_iff_eq] using h

theorem s3ok_group {g : Nat} {e : Expr} (hdel : ¬(!hard && !isHard br (.group g e)) = true)
    (h : s3ok br (.group g e) hard = true) : s3ok br e hard = true := by
  rw [s3ok] at h
  simpa only [hdel, Bool.false_eq_true, ↓reduceIte] using h

theorem s3ok_concat {es : List Expr} (hdel : ¬(!hard && !isHard br (.concat es)) = true)
    (h : s3ok br (.concat es) hard = true) :
    s3okAll br es = true ∧ noBareEndZAll es = true ∧
      (groupCountList (es.take (concatSplit br es hard).1) = 0 ∨ linearAll (es.take (concatSplit br es hard).1) = true) ∧
      (hard = false ∨ groupCountList (es.drop (concatSplit br es hard).2) = 0 ∨
        linearAll (es.drop (concatSplit br es hard).2) = true) := by
  rw [s3ok] at h
  simp only [hdel, Bool.false_eq_true, ↓reduceIte, Bool.and_eq_true, Bool.or_eq_true, Bool.not_eq_true', beq_iff_eq] at h
  exact ⟨h.1.1.1, h.1.1.2, h.1.2, or_assoc.mp h.2⟩

theorem s3ok_alt {es : List Expr} (hdel : ¬(!hard && !isHard br (.alt es)) = true)
    (h : s3ok br (.alt es) hard = true) : es ≠ [] ∧ s3okAlts br es hard = true := by
  rw [s3ok] at h
  simp only [hdel, Bool.false_eq_true, ↓reduceIte, Bool.and_eq_true] at h
  exact ⟨by intro he; simp [he] at h, h.2⟩

theorem s3ok_repeat {e : Expr} {lo : Nat} {hi : Option Nat} {greedy : Bool}
    (hdel : ¬(!hard && !isHard br (.repeat e lo hi greedy)) = true) (h : s3ok br (.repeat e lo hi greedy) hard = true) :
    s3ok br e (if lo == 0 && hi == some 1 then hard else true) = true ∧ (hi ≠ none ∨ 0 < minSize e) := by
  rw [s3ok] at h
  simp only [hdel, Bool.false_eq_true, ↓reduceIte] at h
  obtain ⟨h1, h2⟩ := (Bool.and_eq_true _ _).mp h
  refine ⟨?_, by simpa using h2⟩
  by_cases hopt : (lo == 0 && hi == some 1) = true
  · rw [if_pos hopt] at h1 ⊢; exact h1
  · rw [if_neg hopt] at h1 ⊢; exact h1

theorem s3ok_ahead {e : Expr} (h : s3ok br (.look e .ahead) hard = true) : s3ok br e false = true ∧ condFree e = true := by
  rw [s3ok] at h
  simpa only [isHard, Bool.not_true, Bool.and_false, Bool.false_eq_true, ↓reduceIte, Bool.and_eq_true] using h

theorem s3ok_aheadNeg {e : Expr} (h : s3ok br (.look e .aheadNeg) hard = true) : s3ok br e false = true := by
  rw [s3ok] at h
  simpa only [isHard, Bool.not_true, Bool.and_false, Bool.false_eq_true, ↓reduceIte] using h

theorem s3ok_behind {e : Expr} (h : s3ok br (.look e .behind) hard = true) :
    s3ok br e false = true ∧ condFree e = true ∧ noBareEndZ e = true := by
  rw [s3ok] at h
  simp only [isHard, Bool.not_true, Bool.and_false, Bool.false_eq_true, ↓reduceIte, Bool.and_eq_true] at h
  exact ⟨h.1.1, h.1.2, h.2⟩

theorem s3ok_behindNeg {e : Expr} (h : s3ok br (.look e .behindNeg) hard = true) :
    s3ok br e false = true ∧ noBareEndZ e = true := by
  rw [s3ok] at h
  simpa only [isHard, Bool.not_true, Bool.and_false, Bool.false_eq_true, ↓reduceIte, Bool.and_eq_true] using h

theorem s3ok_atomic {e : Expr} (h : s3ok br (.atomic e) hard = true) : s3ok br e false = true ∧ condFree e = true := by
  rw [s3ok] at h
  simpa only [isHard, Bool.not_true, Bool.and_false, Bool.false_eq_true, ↓reduceIte, Bool.and_eq_true] using h

theorem s3ok_cond {cnd y no : Expr} (h : s3ok br (.cond cnd y no) hard = true) :
    s3ok br cnd hard = true ∧ condFree cnd = true ∧ s3ok br y hard = true ∧ s3ok br no hard = true := by
  rw [s3ok] at h
  simp only [isHard, Bool.not_true, Bool.and_false, Bool.false_eq_true, ↓reduceIte, Bool.and_eq_true] at h
  exact ⟨h.1.1.1, h.1.1.2, h.1.2, h.2⟩

theorem sim3P_concat (hlen : c.len < UNSET) (es : List Expr) (ih : ∀ e ∈ es, Sim3P c n nS br e) :
    Sim3P c n nS br (.concat es) :=
  Sim3P.of_hard hlen fun hard hdel hok => by
    obtain ⟨hokAll, hzAll, hpre0, hsuf0⟩ := s3ok_concat hdel hok
    have key := SimAs.concat (T := id) (pre' := es.take (concatSplit br es hard).1)
      (suf' := es.drop (concatSplit br es hard).2) hlen hdel
      (fun prog lo hi bal cm gix a h hc => sim3_run c n nS prog lo hi bal cm br _ gix a hlen h
        (concatSplit_prefix_isHardAny br es hard) (concatSplit_prefix_constSizeAll br es hard)
        (noBareEndZAll_take es _ hzAll) hpre0 hc)
      (by
        cases hard with
        | false => exact if_neg Bool.false_ne_true ▸ rfl
        | true =>
          rw [if_pos rfl]
          exact fun prog lo hi bal cm gix a h hc => sim3_run c n nS prog lo hi bal cm br _ gix a hlen h
            (concatSplit_suffix_isHardAny br es true) (concatSplit_suffix_constSizeAll br es)
            (noBareEndZAll_drop es _ hzAll) (hsuf0.resolve_left (by simp)) hc)
      (fun x hx => ih x hx true (s3okAll_mem hokAll x hx))
    rwa [List.map_id, ← List.append_assoc, ← list_split3 es (concatSplit_le br es hard).1] at key

/-! ## All expressions -/

/-- for the look-behind over an alternation with alternatives of different sizes the induction needs the
    statement for the alternatives, which are not children of the look-behind but of its child -/
theorem sim3P_all (hlen : c.len < UNSET) : ∀ e, Sim3P c n nS br e := by
  intro e
  induction e using Expr.induct_look with
  | empty =>
    exact Sim3P.leaf hlen (fun _ => []) (fun _ _ _ _ h => visit_empty h) (fun _ prog lo cm a _ _ _ _ _ =>
      (Sim2.nil c n nS prog lo lo _ cm a).congr (fun st => by simp [sem]))
  | any nl =>
    cases nl with
    | true =>
      exact Sim3P.leaf hlen (fun _ => [.any]) (fun _ _ _ _ h => visit_any_true h) (fun _ prog lo cm a _ _ _ _ hc =>
        sim2_any c n nS prog lo lo _ cm a hc.head)
    | false =>
      exact Sim3P.leaf hlen (fun _ => [.anyNoNL]) (fun _ _ _ _ h => visit_any_false h) (fun _ prog lo cm a _ _ _ _ hc =>
        sim2_anyNoNL c n nS prog lo lo _ cm a hc.head)
  | assertion x =>
    exact Sim3P.leaf hlen (fun _ => [.assertion x]) (fun _ _ _ _ h => visit_assertion h) (fun _ prog lo cm a _ _ _ _ hc =>
      sim2_assertion c n nS prog lo lo _ cm a x hc.head)
  | literal v ci =>
    cases ci with
    | false =>
      exact Sim3P.leaf hlen (fun _ => [.lit v]) (fun _ _ _ _ h => visit_literal_cs h) (fun _ prog lo cm a _ _ _ _ hc =>
        (sim2_lit c n nS prog lo lo _ cm a v hc.head).congr (fun st => by simp [sem]))
    | true =>
      exact Sim3P.leaf hlen (compileDelegate (.literal v true)) (fun _ _ _ _ _ => visit_literal_ci)
        (fun _ prog lo cm a gix _ _ h3 hc => sim3_one c n nS prog lo lo _ cm _ gix a hlen h3 (by simp [pureExpr])
          (by simp [constSize]) (by simp [noBareEndZ]) (by simp [groupCount]) hc)
  | delegate inner size ci =>
    exact Sim3P.leaf hlen (compileDelegate (.delegate inner size ci)) (fun _ _ _ _ _ => visit_delegate)
      (fun _ prog lo cm a gix hdel hok h3 hc => by
        obtain rfl := s3ok_delegate hdel hok
        exact sim3_one c n nS prog lo lo _ cm _ gix a hlen h3 (by simp [pureExpr]) (by simp [constSize])
          (by simp [noBareEndZ]) (by simp [groupCount]) hc)
  | backref g =>
    exact Sim3P.leaf hlen (fun _ => [.backref (g * 2)]) (fun _ _ _ _ _ => visit_backref) (fun _ prog lo cm a _ _ _ h3 hc =>
      sim2_backref c n nS prog lo lo _ cm a g hlen hc.head (by simpa [slotsBelow] using h3.sb))
  | backrefExists g =>
    exact Sim3P.leaf hlen (fun _ => [.backrefExists g]) (fun _ _ _ _ _ => visit_backrefExists)
      (fun _ prog lo cm a _ _ _ h3 hc =>
        sim2_backrefExists c n nS prog lo lo _ cm a g hlen hc.head (by simpa [slotsBelow] using h3.sb))
  | keepOut =>
    exact Sim3P.leaf hlen (fun _ => [.save 0]) (fun _ _ _ _ _ => visit_keepOut) (fun _ prog lo cm a _ _ _ h3 hc =>
      (sim2_save c n nS prog lo lo _ cm a 0 hc.head (by simpa [slotsBelow] using h3.sb)).congr
        (fun st => by simp [sem]))
  | contPrev =>
    exact Sim3P.leaf hlen (fun _ => [.contPrev]) (fun _ _ _ _ _ => visit_contPrev) (fun _ prog lo cm a _ _ _ _ hc =>
      sim2_contPrev c n nS prog lo lo _ cm a hc.head)
  | subroutine g => exact fun _ _ _ _ _ _ _ _ h3 => by have := h3.ws; simp [wellShaped] at this
  | group g e ih => exact .of_hard hlen fun hard hdel hok => (ih hard (s3ok_group hdel hok)).group hdel
  | concat es ih => exact sim3P_concat hlen es ih
  | alt es ih =>
    refine .of_hard hlen fun hard hdel hok => ?_
    obtain ⟨hne, hoks⟩ := s3ok_alt hdel hok
    have := SimAs.alt (T := id) hdel hne (fun x hx => ih x hx hard (s3okAlts_mem hoks x hx))
    rwa [List.map_id] at this
  | «repeat» e lo hi greedy ih =>
    refine .of_hard hlen fun hard hdel hok => ?_
    obtain ⟨hoke, hshape⟩ := s3ok_repeat hdel hok
    exact (ih _ hoke).repeat hdel hshape id rfl
  | look e la ih iha =>
    cases la with
    | ahead => exact fun hard hok => (ih false (s3ok_ahead hok).1).ahead hlen (s3ok_ahead hok).2 (fun _ => rfl)
    | aheadNeg => exact fun hard hok => (ih false (s3ok_aheadNeg hok)).aheadNeg
    | behind =>
      intro hard hok
      obtain ⟨hoke, hcf, hz⟩ := s3ok_behind hok
      exact SimAs.behind hlen (KeepsBehind.id br) (fun es => by rw [List.map_id]; rfl) hcf hz (ih false hoke)
        fun es he x hx => iha es he x hx false (s3okAlts_mem (s3ok_alt_alts br es (he ▸ hoke)) x hx)
    | behindNeg =>
      intro hard hok
      obtain ⟨hoke, hz⟩ := s3ok_behindNeg hok
      exact SimAs.behindNeg hlen (KeepsBehind.id br) (fun es => by rw [List.map_id]; rfl) hz (ih false hoke)
        fun es he x hx => iha es he x hx false (s3okAlts_mem (s3ok_alt_alts br es (he ▸ hoke)) x hx)
  | atomic e ih => exact fun hard hok => (ih false (s3ok_atomic hok).1).atomic (s3ok_atomic hok).2
  | cond cnd y no ih1 ih2 ih3 =>
    exact fun hard hok => have h := s3ok_cond hok
      SimAs.cond h.2.1 (ih1 hard h.1) (ih2 hard h.2.2.1) (ih3 hard h.2.2.2)

end

theorem sim3_visit (c : Ctx) (n nS : Nat) (br : Nat → Bool) (hlen : c.len < UNSET) :
    ∀ (e : Expr) (hard : Bool) (pc nsv gix : Nat) (code : Code) (nsv' : Nat) (prog : List Insn),
      s3ok br e hard = true → H3 n e gix →
      visit br e hard pc nsv gix = .ok (code, nsv') → CodeAt prog pc code → n ≤ nsv →
      SimOf3 c n nS prog nsv nsv' (condFree e) hard (sem c e) pc (pc + code.length) :=
  fun e hard pc nsv gix code nsv' prog hok => sim3P_all hlen e hard hok pc nsv gix code nsv' prog

theorem sim3_visitAlt (c : Ctx) (n nS : Nat) (br : Nat → Bool) (hlen : c.len < UNSET) :
    ∀ (es : List Expr) (hard : Bool) (pc nsv gix : Nat) (f : Nat → Code) (endPc nsv' : Nat) (prog : List Insn),
      s3okAlts br es hard = true → H3L n es gix → es ≠ [] →
      visitAlt br es hard pc nsv gix = .ok (f, endPc, nsv') → n ≤ nsv →
      (CodeAt prog pc (f endPc) →
          SimOf3 c n nS prog nsv nsv' (condFreeAll es) hard (semAlt c es) pc endPc) :=
  fun es hard pc nsv gix f endPc nsv' prog hok hL hne hv hnn hc => by
    have := SimAs.visitAlt (nS := nS) (T := id) es (fun e he => sim3P_all hlen e hard (s3okAlts_mem hok e he)) pc nsv gix f endPc
      nsv' prog hL hne hv hnn hc
    rwa [List.map_id] at this

theorem sim3_lookBehindAlts (c : Ctx) (n nS : Nat) (br : Nat → Bool) (hlen : c.len < UNSET) :
    ∀ (es : List Expr) (pc nsv gix : Nat) (f : Nat → Code) (endPc nsv' : Nat) (prog : List Insn),
      s3okAlts br es false = true → condFreeAll es = true → H3L n es gix → es ≠ [] →
      lookBehindAlts br es pc nsv gix = .ok (f, endPc, nsv') → n ≤ nsv → CodeAt prog pc (f endPc) →
      nsv ≤ nsv' ∧ (nsv' ≤ nS → ∀ cm, Sim2 c n nS prog nsv nsv' true cm (posBehindAlts c es) pc endPc) :=
  fun es pc nsv gix f endPc nsv' prog hok hcf hL hne hv hnn hc => by
    have := SimAs.lookBehindAlts (nS := nS) (T := id) hlen es (fun e he => ⟨sim3P_all hlen e false (s3okAlts_mem hok e he),
      KeepsBehind.id br e⟩) pc nsv gix f endPc nsv' prog hcf hL hne hv hnn hc
    rw [List.map_id] at this
    exact this.all

theorem sim3_lookBehindNegAlts (c : Ctx) (n nS : Nat) (br : Nat → Bool) (hlen : c.len < UNSET) :
    ∀ (es : List Expr) (pc nsv gix : Nat) (code : Code) (nsv' : Nat) (prog : List Insn),
      s3okAlts br es false = true → H3L n es gix →
      lookBehindNegAlts br es pc nsv gix = .ok (code, nsv') → n ≤ nsv → CodeAt prog pc code →
      nsv ≤ nsv' ∧ (nsv' ≤ nS → ∀ cm, Sim2 c n nS prog nsv nsv' true cm (negBehindSeq c es) pc (pc + code.length)) :=
  fun es pc nsv gix code nsv' prog hok hL hv hnn hc => by
    have := SimAs.lookBehindNegAlts (nS := nS) (T := id) es (fun e he => ⟨sim3P_all hlen e false (s3okAlts_mem hok e he),
      KeepsBehind.id br e⟩) pc nsv gix code nsv' prog hL hv hnn hc
    rw [List.map_id] at this
    exact this.all

/-- the hypotheses of the look-behind companions `sim3_lookBehindAlts` / `sim3_lookBehindNegAlts` are
    satisfiable: the alternatives of `(?<=a|bb)` / `(?<!a|bb)` -/
example :
    let es : List Expr := [.literal ['a'] false, .concat [.literal ['b'] false, .literal ['b'] false]]
    s3okAlts (fun _ => false) es false = true ∧ condFreeAll es = true ∧ H3L 2 es 0 ∧ es ≠ [] ∧
      (∃ x, lookBehindAlts (fun _ => false) es 1 2 0 = .ok x) ∧
      (∃ x, lookBehindNegAlts (fun _ => false) es 0 2 0 = .ok x) := by
  refine ⟨by simp [s3okAlts, s3ok, isHard, isHardAny], by simp [condFreeAll, condFree],
    ⟨by simp [wellShapedAll, wellShaped], by simp [slotsBelowAll, slotsBelow],
      by simp [numberedList, renumberList, renumber], by simp [groupCountList, groupCount]⟩, by simp, ?_, ?_⟩
  · simp [lookBehindAlts, visit, isHard, isHardAny, constSize, constSizeAll]
  · simp [lookBehindNegAlts, visit, isHard, isHardAny, constSize, constSizeAll]

end Fancy
