import FancyModel.Proofs.C05f
import FancyModel.Lemmas.VMBytesTame
/-!
# Along a `Big2`-following run the translated interpreter is the byte machine

`Proofs/C05f.lean`: the translated `vm::run` (`GenVM.genRun`) is `runB` provided every configuration
the run reaches satisfies `StepAgree` (slot operands in range, `start_group ≤ end_group`, the counter
of an unbounded `Repeat*` is not `usize::MAX`). Here that side condition is discharged wherever the
structured machine reaches an answer: `Tracks` is an invariant of the byte machine — every
configuration it reaches is the image (`offOf`, `mapState`) of a code-point configuration that
represents (`Inv2`) a structured configuration from which `Big2` reaches an answer, and is typed — and
`sstep` is only defined where the conditions of `StepAgree` hold (`stepAgree_of_sstep`; the counter
clause is the `cnt ≤ len` demand of `sstep`'s `RepeatGr/Ng` for unbounded loops).

`big2_genRun`: `genRun = runB` from the initial configuration of a `Big2` derivation.
-/
namespace Fancy
open Utf8 GenVM State

section
variable (c : Ctx) (τ : Nat → Bool) (prog : List Insn) (nS : Nat)

/-- the byte configuration `(pc, ixB, sB)` is the image of a typed code-point configuration that
    represents a structured configuration from which the structured machine reaches an answer -/
def Tracks (pc ixB : Nat) (sB : State) : Prop :=
  ∃ (ix : Nat) (s : State) (σ : SState) (a : Ans),
    ixB = offOf c.text ix ∧ sB = mapState τ (offOf c.text) s ∧ Inv2 nS s σ ∧
    Big2 c prog nS (.run pc ix σ.slots σ.astk σ.stack) a ∧ TypedState τ c.len s ∧ ix ≤ c.len

variable (hceq : ∀ a b, c.ceq false a b = (a == b))
variable (hU : (bytesOfChars c.text).length < UNSET)
variable (hτ : ∀ i, nS ≤ i → τ i = false) (hpos : c.pos ≤ c.len)
variable (hwt : wellTyped τ prog = true) (hd : DelegOK c prog nS)

section Domain
variable {c : Ctx} {prog : List Insn} {nS pc ix : Nat} {slots astk : List Nat} {stack : List SBranch} {cfg' : SCfg}

/-- an unbounded `RepeatGr`/`RepeatNg` is only stepped with an ordinary counter slot holding at most `c.len` -/
theorem sstep_unbounded_dom (hs : sstep c prog nS pc ix slots astk stack = some cfg') {lo nx rep : Nat}
    (hpc : prog[pc]? = some (.repeatGr lo none nx rep) ∨ prog[pc]? = some (.repeatNg lo none nx rep)) :
    rep < nS ∧ ∀ cnt, slots[rep]? = some cnt → cnt ≤ c.len := by
  by_cases hlt : rep < nS
  · refine ⟨hlt, fun cnt hv => Nat.le_of_not_lt fun hgt => ?_⟩
    rcases hpc with hpc | hpc <;> simp [sstep, hpc, hlt, hv, hgt] at hs
  · rcases hpc with hpc | hpc <;> simp [sstep, hpc, hlt] at hs

/-- the `RepeatEpsilon*` instructions are only stepped with ordinary slots as operands -/
theorem sstep_repeatEps_dom (hs : sstep c prog nS pc ix slots astk stack = some cfg') {lo nx rep check : Nat}
    (hpc : prog[pc]? = some (.repeatEpsGr lo nx rep check) ∨ prog[pc]? = some (.repeatEpsNg lo nx rep check)) :
    check < nS := by
  refine Decidable.byContradiction fun hn => ?_
  have : ¬ (rep < nS ∧ check < nS) := fun h => hn h.2
  rcases hpc with hpc | hpc <;> simp only [sstep, hpc, this, if_false, reduceCtorEq] at hs

theorem sstep_backref_dom (hs : sstep c prog nS pc ix slots astk stack = some cfg') {slot : Nat}
    (hpc : prog[pc]? = some (.backref slot)) : slot + 1 < nS := by
  refine Decidable.byContradiction fun hn => ?_
  simp only [sstep, hpc, hn, if_false, reduceCtorEq] at hs
end Domain

include hU hwt hd in
/-- **where the structured machine is defined, `StepAgree` holds** of the mapped state -/
theorem stepAgree_of_sstep (pc ix : Nat) (s : State) (σ : SState) (h : Inv2 nS s σ) (cfg' : SCfg)
    (hs : sstep c prog nS pc ix σ.slots σ.astk σ.stack = some cfg') :
    StepAgree prog pc (mapState τ (offOf c.text) s) := by
  have hlen : (mapState τ (offOf c.text) s).saves.length = s.saves.length := mapSaves_length _
  have hge := h.len_ge
  -- the counter of an unbounded loop is a number slot holding at most `c.len < usize::MAX`
  have counter : ∀ {lo nx rep : Nat} {insn : Insn}, prog[pc]? = some insn → insn.typed τ = !τ rep →
      (prog[pc]? = some (.repeatGr lo none nx rep) ∨ prog[pc]? = some (.repeatNg lo none nx rep)) →
      (mapState τ (offOf c.text) s).get rep ≠ some UNSET := by
    intro lo nx rep insn hpc hrep hor
    obtain ⟨hlt, hcnt⟩ := sstep_unbounded_dom hs hor
    have hty : τ rep = false := by simpa [hrep] using wellTyped_at hwt hpc
    rw [mapState_get, rep_get h rep hlt]
    cases hv : σ.slots[rep]? with
    | none => simp
    | some cnt =>
      have hlU : c.len < UNSET := by have := len_le_blen c.text; unfold Ctx.len; omega
      have := hcnt cnt hv
      simp only [Option.map_some, mapAt, hty, Bool.false_eq_true, if_false, ne_eq, Option.some.injEq]
      omega
  unfold StepAgree
  split
  · rename_i hpc; exact counter hpc rfl (.inl hpc)
  · rename_i hpc; exact counter hpc rfl (.inr hpc)
  · rename_i hpc; have := sstep_repeatEps_dom hs (.inl hpc); rw [hlen]; omega
  · rename_i hpc; have := sstep_repeatEps_dom hs (.inr hpc); rw [hlen]; omega
  · rename_i hpc; have := sstep_backref_dom hs hpc; rw [hlen]; omega
  · rename_i es sg eg hpc
    exact (hd pc es sg eg hpc).2.1
  · trivial

include hceq hU hτ hpos hwt hd in
/-- the simulation at a tracked configuration: the byte step is the mapped code-point step -/
theorem tracks_step (pc ix : Nat) (s : State) (σ : SState) (h : Inv2 nS s σ) (hts : TypedState τ c.len s)
    (hix : ix ≤ c.len) (insn : Insn) (hpc : prog[pc]? = some insn)
    (ht : tameOK τ nS c insn s = true) :
    stepB (BCtx.ofCtx c) prog pc (offOf c.text ix) (mapState τ (offOf c.text) s) =
      mapRes τ (offOf c.text) (step c prog pc ix s) ∧ ResOK τ c.len (step c prog pc ix s) := by
  have hty := wellTyped_at hwt hpc
  refine ⟨stepB_sim c τ nS hceq hU hτ prog hwt pc ix s ?_, step_typed c τ nS hτ hpos prog pc ix s insn hpc hty hts hix ht⟩
  simp only [cfgOK, hpc]
  exact stepOK_of_typed c τ nS hpos insn ix s hty hts hix ht

include hU hwt hd in
theorem tracks_agree (pc ixB : Nat) (sB : State) (h : Tracks c τ prog nS pc ixB sB) : StepAgree prog pc sB := by
  obtain ⟨ix, s, σ, a, rfl, rfl, hi, hbig, _, _⟩ := h
  cases hbig with
  | done _ _ _ _ _ k hend _ _ _ =>
    unfold StepAgree; simp only [hend]
  | step _ _ _ _ _ cfg' _ hstep _ => exact stepAgree_of_sstep c τ prog nS hU hwt hd pc ix s σ hi cfg' hstep

include hceq hU hτ hpos hwt hd in
theorem tracks_cont (pc ixB : Nat) (sB : State) (pc' ixB' : Nat) (sB' : State)
    (h : Tracks c τ prog nS pc ixB sB) (hs : stepB (BCtx.ofCtx c) prog pc ixB sB = .cont pc' ixB' sB') :
    Tracks c τ prog nS pc' ixB' sB' := by
  obtain ⟨ix, s, σ, a, rfl, rfl, hi, hbig, hts, hix⟩ := h
  cases hbig with
  | done _ _ _ _ _ k hend _ _ _ =>
    obtain ⟨h1, _⟩ := tracks_step c τ prog nS hceq hU hτ hpos hwt hd pc ix s σ hi hts hix _ hend rfl
    obtain ⟨out, ho⟩ := step_end_done c prog pc ix s hend
    rw [h1, ho] at hs
    cases hs
  | step _ _ _ _ _ cfg' _ hstep hbig' =>
    obtain ⟨insn, hpc⟩ := sstep_some_insn hstep
    have ht := tameOK_of_sstep c τ prog nS pc ix s σ hi hd cfg' hstep insn hpc
    obtain ⟨h1, h2⟩ := tracks_step c τ prog nS hceq hU hτ hpos hwt hd pc ix s σ hi hts hix insn hpc ht
    have hrel := step_sim2 c prog nS pc ix s σ hi hd cfg' hstep
    rw [h1] at hs
    generalize hst : step c prog pc ix s = sr at hrel hs h2
    cases hrel with
    | cont pc1 ix1 s1 σ1 hi1 =>
      simp only [mapRes, StepResult.cont.injEq] at hs
      obtain ⟨rfl, rfl, rfl⟩ := hs
      exact ⟨ix1, s1, σ1, _, rfl, rfl, hi1, hbig', h2.1, h2.2⟩
    | fail s1 σ1 hi1 => cases hs
    | overflow _ => cases hs

include hceq hU hτ hpos hwt hd in
theorem tracks_fail (pc ixB : Nat) (sB sB' sB'' : State) (pc' ixB' : Nat)
    (h : Tracks c τ prog nS pc ixB sB) (hs : stepB (BCtx.ofCtx c) prog pc ixB sB = .fail sB')
    (hp : sB'.pop = some (sB'', pc', ixB')) : Tracks c τ prog nS pc' ixB' sB'' := by
  obtain ⟨ix, s, σ, a, rfl, rfl, hi, hbig, hts, hix⟩ := h
  cases hbig with
  | done _ _ _ _ _ k hend _ _ _ =>
    obtain ⟨h1, _⟩ := tracks_step c τ prog nS hceq hU hτ hpos hwt hd pc ix s σ hi hts hix _ hend rfl
    obtain ⟨out, ho⟩ := step_end_done c prog pc ix s hend
    rw [h1, ho] at hs
    cases hs
  | step _ _ _ _ _ cfg' _ hstep hbig' =>
    obtain ⟨insn, hpc⟩ := sstep_some_insn hstep
    have ht := tameOK_of_sstep c τ prog nS pc ix s σ hi hd cfg' hstep insn hpc
    obtain ⟨h1, h2⟩ := tracks_step c τ prog nS hceq hU hτ hpos hwt hd pc ix s σ hi hts hix insn hpc ht
    have hrel := step_sim2 c prog nS pc ix s σ hi hd cfg' hstep
    rw [h1] at hs
    generalize hst : step c prog pc ix s = sr at hrel hs h2
    cases hrel with
    | cont pc1 ix1 s1 σ1 hi1 => cases hs
    | overflow _ => cases hs
    | fail s1 σ1 hi1 =>
      simp only [mapRes, StepResult.fail.injEq] at hs
      subst hs
      rw [mapState_pop] at hp
      generalize hstk : σ1.stack = stk at hbig'
      cases hbig' with
      | failEmpty =>
        have hl := hi1.stack_length
        rw [hstk] at hl
        have : s1.stack = [] := List.eq_nil_of_length_eq_zero (by simpa using hl.symm)
        have hpn : s1.pop = none := by
          unfold State.pop
          cases State.restore s1.nsave s1.oldsave s1.saves with
          | none => rfl
          | some q => simp [this]
        rw [hpn] at hp; cases hp
      | failPop b rest _ hbig'' =>
        obtain ⟨s2, e1, e2, _, _⟩ := rep_pop hi1 b rest hstk
        rw [e1] at hp
        simp only [Option.map_some, Option.some.injEq, Prod.mk.injEq] at hp
        obtain ⟨rfl, rfl, rfl⟩ := hp
        obtain ⟨t1, t2⟩ := typed_pop h2 e1
        exact ⟨b.ix, s2, ⟨b.slots, b.astk, rest⟩, _, rfl, rfl, e2, hbig'', t1, t2⟩

include hceq hU hτ hpos hwt hd in
/-- **the translated interpreter is the byte machine along a `Big2`-following run** -/
theorem big2_genLoop (op : VMOpts) (pc ix : Nat) (s : State) (σ : SState) (a : Ans) (hi : Inv2 nS s σ)
    (hbig : Big2 c prog nS (.run pc ix σ.slots σ.astk σ.stack) a) (hts : TypedState τ c.len s) (hix : ix ≤ c.len)
    (fuel : Nat) (st : Stats) :
    driveLoop (genStep (BCtx.ofCtx c) prog) (genOnFail op) fuel pc (offOf c.text ix) (mapState τ (offOf c.text) s) st =
      runLoopB (BCtx.ofCtx c) prog op fuel pc (offOf c.text ix) (mapState τ (offOf c.text) s) st :=
  C05_vm_translated_loop (BCtx.ofCtx c) prog pc (offOf c.text ix) (mapState τ (offOf c.text) s) op
    (Tracks c τ prog nS)
    (fun pc ixB sB h => tracks_agree c τ prog nS hU hwt hd pc ixB sB h)
    (fun pc ixB sB pc' ixB' sB' h hs => tracks_cont c τ prog nS hceq hU hτ hpos hwt hd pc ixB sB pc' ixB' sB' h hs)
    (fun pc ixB sB sB' sB'' pc' ixB' h hs hp =>
      tracks_fail c τ prog nS hceq hU hτ hpos hwt hd pc ixB sB sB' sB'' pc' ixB' h hs hp)
    fuel st ⟨ix, s, σ, a, rfl, rfl, hi, hbig, hts, hix⟩

end

theorem big2_genRun (c : Ctx) (τ : Nat → Bool) (p : Prog)
    (hceq : ∀ a b, c.ceq false a b = (a == b)) (hU : (bytesOfChars c.text).length < UNSET)
    (hτ : ∀ i, p.nSaves ≤ i → τ i = false) (hpos : c.pos ≤ c.len)
    (hwt : wellTyped τ p.body = true) (hd : DelegOK c p.body p.nSaves) (a : Ans)
    (hbig : Big2 c p.body p.nSaves (.run 0 c.pos (List.replicate p.nSaves UNSET) [] []) a)
    (op : VMOpts) (fuel : Nat) :
    genRun (BCtx.ofCtx c) p op fuel = runB (BCtx.ofCtx c) p op fuel := by
  have := big2_genLoop c τ p.body p.nSaves hceq hU hτ hpos hwt hd op 0 c.pos (State.new p.nSaves op.maxStack)
    ⟨List.replicate p.nSaves UNSET, [], []⟩ a (inv2_init p.nSaves op.maxStack) hbig (typed_new _ _) hpos fuel {}
  rw [mapState_new] at this
  simpa only [genRun, runB, BCtx.ofCtx_pos] using this

end Fancy
