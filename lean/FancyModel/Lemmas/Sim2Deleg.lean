import FancyModel.Lemmas.Sim2
import FancyModel.Lemmas.Sim2Cond
import FancyModel.Lemmas.DelegSpec
import FancyModel.Lemmas.Sim2Core
/-!
# Simulation rules for the `Delegate` instruction (engine refinement, stage S3)

`Delegate es sg eg` yields only the *first* result of the delegated expressions (assumption A-RA:
`delegateOracle`). `delegate_step_spec` (Lemmas/DelegSpec.lean) says what that step is in terms of the
reference semantics from the current state. Three situations in which one result is enough:

* `sim2_delegate_first`: the semantics asked for is `firstOnly` (the body of a look-around in its
  plain layout) — any continuation;
* `sim2_delegate_commit`: the continuation commits (`cm = true`): non-hard contexts, where the
  compiler hands whole sub-trees and trailing easy runs to the automata engine;
* `sim2_delegate_same`: all results of the piece are the same state (a group-free constant-size
  piece in a hard context) — parametric continuations.
-/
namespace Fancy

/-- the machine step of a `Delegate`, in terms of the first reference result from the current state -/
theorem sstep_delegate {c : Ctx} {n nS : Nat} {prog : List Insn} {a sg eg : Nat} {es : List Expr}
    (h : prog[a]? = some (.delegate es sg eg)) (hlen : c.len < UNSET) (hp : pureAll es = true)
    (hgi : groupsIn sg eg es = true) (hn : eg * 2 ≤ n)
    (st : St) (aux astk : List Nat) (X : List SBranch) (hg : st.Good c n) :
    (semConcat c es st = [] → sstep c prog nS a st.ix (unview st.slots ++ aux) astk X = some (.fail X)) ∧
    (∀ r rest, semConcat c es st = r :: rest →
      sstep c prog nS a st.ix (unview st.slots ++ aux) astk X = some (.run (a + 1) r.ix (unview r.slots ++ aux) astk X)) := by
  obtain ⟨h1, h2⟩ := delegate_step_spec c n es sg eg st aux hg hlen hp hgi hn
  constructor
  · intro hnil
    have := h1.mpr hnil
    simp [sstep, h, this]
  · intro r rest hl
    obtain ⟨r0, ho, hix, hcopy⟩ := h2 r rest hl
    simp only [sstep, h, ho]
    by_cases hsg : (sg == eg) = true
    · simp only [hsg, ↓reduceIte] at hcopy ⊢
      rw [hix, hcopy]
    · simp only [hsg, Bool.false_eq_true, ↓reduceIte] at hcopy ⊢
      rw [hcopy, hix]

/-- the `Delegate` instruction computes the first reference result -/
theorem sim2At_delegate {c : Ctx} {n nS : Nat} {prog : List Insn} {lo hi : Nat} {bal cm : Bool} {a sg eg pa pb : Nat}
    {es : List Expr} (h : prog[a]? = some (.delegate es sg eg)) (hlen : c.len < UNSET) (hp : pureAll es = true)
    (hgi : groupsIn sg eg es = true) (hn : eg * 2 ≤ n) {st : St} (aux : List Nat) (hg : st.Good c n) :
    Sim2At c n nS prog lo hi bal cm pa pb st aux (firstOnly (semConcat c es st)) a (a + 1) := by
  have hd := fun astk X => sstep_delegate (nS := nS) h hlen hp hgi hn st aux astk X hg
  cases hsem : semConcat c es st with
  | nil => exact Sim2At.fail fun astk X => (hd astk X).1 hsem
  | cons r rest => exact Sim2At.step (fun astk X => (hd astk X).2 r rest hsem) (AuxAgree.refl _ _ _ _) Sim2At.ret

/-- code that computes the first result computes them all, if the others are never tried -/
theorem Sim2At.ofFirst {c : Ctx} {n nS : Nat} {prog : List Insn} {lo hi : Nat} {bal cm : Bool} {pa pb a b : Nat}
    {st : St} {aux : List Nat} {l : List St} (h : Sim2At c n nS prog lo hi bal cm pa pb st aux (firstOnly l) a b)
    (hdead : ∀ succ, SuccOK cm succ → ∀ r rest, l = r :: rest → (∀ acc, succ r acc = acc) →
      ∀ acc, rest.foldr succ acc = acc) :
    Sim2At c n nS prog lo hi bal cm pa pb st aux l a b := by
  cases l with
  | nil => exact h
  | cons r rest =>
    exact h.append_dead (rest := rest) fun succ hs hp => hdead succ hs r rest rfl (fun acc => by simpa [firstOnly_cons] using hp acc)

/-- the first result only: any continuation -/
theorem sim2_delegate_first {c : Ctx} {n nS : Nat} {prog : List Insn} {lo hi : Nat} {bal cm : Bool} {a sg eg : Nat}
    {es : List Expr} (h : prog[a]? = some (.delegate es sg eg)) (hlen : c.len < UNSET) (hp : pureAll es = true)
    (hgi : groupsIn sg eg es = true) (hn : eg * 2 ≤ n) :
    Sim2 c n nS prog lo hi bal cm (fun st => firstOnly (semConcat c es st)) a (a + 1) :=
  Sim2.ofAt fun _ aux hg _ => sim2At_delegate h hlen hp hgi hn aux hg

/-- a committing continuation never comes back for the other results -/
theorem sim2_delegate_commit {c : Ctx} {n nS : Nat} {prog : List Insn} {lo hi : Nat} {bal : Bool} {a sg eg : Nat}
    {es : List Expr} (h : prog[a]? = some (.delegate es sg eg)) (hlen : c.len < UNSET) (hp : pureAll es = true)
    (hgi : groupsIn sg eg es = true) (hn : eg * 2 ≤ n) :
    Sim2 c n nS prog lo hi bal true (semConcat c es) a (a + 1) :=
  Sim2.ofAt fun _ aux hg _ => (sim2At_delegate h hlen hp hgi hn aux hg).ofFirst fun succ hsucc r _ _ hp =>
    absurd (fun acc => by simpa using hp acc) (Commit.not_pass (by simpa [SuccOK] using hsucc) r [])

/-- all results of the piece are one and the same state: the first one stands for all of them -/
theorem sim2_delegate_same {c : Ctx} {n nS : Nat} {prog : List Insn} {lo hi : Nat} {bal cm : Bool} {a sg eg : Nat}
    {es : List Expr} (h : prog[a]? = some (.delegate es sg eg)) (hlen : c.len < UNSET) (hp : pureAll es = true)
    (hgi : groupsIn sg eg es = true) (hn : eg * 2 ≤ n)
    (hsame : ∀ st, st.Good c n → ∀ r q, r ∈ semConcat c es st → q ∈ semConcat c es st → r = q) :
    Sim2 c n nS prog lo hi bal cm (semConcat c es) a (a + 1) :=
  Sim2.ofAt fun st aux hg _ => (sim2At_delegate h hlen hp hgi hn aux hg).ofFirst fun succ _ r rest hl hp => by
    -- if the continuation passes the failure through on `r`, it does so on every later (equal) result
    have hall : ∀ q ∈ rest, q = r := fun q hq => (hsame st hg r q (by rw [hl]; simp) (by rw [hl]; simp [hq])).symm
    clear hl
    induction rest with
    | nil => exact fun _ => rfl
    | cons q qs ih =>
      intro acc
      rw [List.foldr_cons, ih (fun x hx => hall x (List.mem_cons_of_mem _ hx)), hall q List.mem_cons_self, hp]

end Fancy
