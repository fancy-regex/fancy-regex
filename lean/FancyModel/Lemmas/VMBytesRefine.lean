import FancyModel.Model.VMBytesCheck
import FancyModel.Lemmas.DelegFrame
import FancyModel.Lemmas.DelegSpec
import FancyModel.Lemmas.SemGood
/-!
# The byte-level interpreter refines the code-point interpreter

`Model/VMBytes.lean` (`stepB`, `runLoopB`, `runB`) is `vm::run` on bytes; `Model/VM.lean` (`step`,
`runLoop`, `run`) is the code-point machine the engine theorems are about. This file proves the
simulation: along `o := offOf c.text` (character index ↦ byte offset), the byte machine on the
encoded text does what the code-point machine does.

## Typing discipline

The slot vector holds positions (capture slots, look-around `Save`/`Restore` slots, the `check`
slot of `RepeatEpsilon*`) AND raw numbers (repetition counters, the auxiliary stack of
`BeginAtomic`/`EndAtomic` with its pointer cell). Only positions are mapped. A typing
`τ : Nat → Bool` (`τ i = true`: slot `i` holds a position) is fixed per program; `mapAt τ o i v` maps
the value `v` of slot `i` (`UNSET` stays `UNSET`), `mapState τ o` maps the slots, the undo log
(each entry typed by its slot) and the positions of the branch stack. `Insn.typed τ` / `wellTyped τ`
is the decidable static discipline: `Save`/`Restore` slots, `Backref` slots, the `check` slot, slots 0
and 1 (`End`), the slots of the groups below a `Delegate`'s last group are positions; repetition
counters are numbers; (`Save0` writes `0 = o 0`, so it may write either kind).

## What is proved

* the operations of `State` (`get`, `save`, `push`, `pop`/`restore`, `stack_push`, `stack_pop`,
  `backtrack_cut`, the pop-until-marker of `FailNegativeLookAround`) commute with `mapState` — pure
  structure, no hypothesis except, for the auxiliary stack, that its cells are number slots;
* byte-level facts at the offsets of character positions (`any_at`, `lit_at`, `backref_at`,
  `goBack_at`, `charIx_at`): `codepoint_len` steps one character, `\n` is tested correctly on the lead
  byte, `matches_literal` at a character offset is the code-point `litAt` / `sameAt` (UTF-8 is
  prefix-free: it cannot succeed in the middle of a character), `&s[lo..hi]` between character offsets
  never panics;
* `stepB_sim` (`stepB_sim_core` + `stepB_sim_delegate`): from a configuration satisfying the local
  precondition `stepOK` of its instruction, `stepB (mapped configuration) = mapRes (step configuration)`
  — `cont ↦ cont`, `fail ↦ fail`, `done ↦ done` with the matched slots mapped, panics at the same
  sites (so a panic on one side iff on the other). EVERY instruction is covered.
* `runLoopB_refines` / `runB_refines`: if every configuration the code-point run visits satisfies
  `stepOK` (`okLoop`, a computable monitor), the byte run returns the mapped outcome with the same
  statistics (steps, backtracks, max depth).

## The local precondition, and what is NOT proved

`stepOK` asks (a) `ix ≤ len`; (b) that the slot values the instruction reads AS POSITIONS are `UNSET`
or `≤ len` (`Backref`, `RepeatEpsilon*`'s check slot, `End`, `Delegate`'s group slots); (c) that a
`Restore` reads a value `≤ len` (not `UNSET`); (d) that at `BeginAtomic`/`EndAtomic` the pointer cell
of the auxiliary stack points above the ordinary slots. These are exactly the configurations where
the code-point machine is an abstraction of vm.rs: outside them the two genuinely differ (`GoBack` from
`ix = usize::MAX` after a `Restore` of an unset slot panics in vm.rs — `prev_codepoint_ix` indexes out
of range — while `step` continues at `UNSET - n`; a number written into a position slot by a corrupted
auxiliary-stack pointer is a byte offset in vm.rs and a character index in `step`).

* (a), (b) are an invariant of `step` on well-typed programs given (c), (d): PROVED in
  `Lemmas/VMBytesInv.lean` (`TypedState`, `step_typed`, `stepOK_of_typed`, `okLoop_of_tame`,
  `runB_refines_tame`: the monitor shrinks to `tameLoop` = (c), (d) and "a `Delegate`'s group slots
  exist").
* compiled programs are well typed for the computable typing `tauOf`: PROVED in
  `Lemmas/VMBytesTyped.lean` (`visit_codeOK` by induction over the compiler, `build_wellTyped`).
* (c), (d) hold on every run that the structured machine `Big2` follows to an answer
  (`Lemmas/VMBytesTame.lean`: `tameOK_of_sstep`, `big2_tame` — `sstep` is only defined where a
  `Restore` reads a position inside the text, `EndAtomic` finds its entry, delegates stay in the ordinary
  slots); with `big2_s3` this is every run of a stage-S3 pattern, and with `big2_staged`
  (`Proofs/C01i.lean`) every run of a stage-S4 or -S5 pattern: the byte-level theorems of
  `Proofs/C05e.lean` (S3) and `Proofs/C01i.lean` (`*_s5`) carry NO run-time side condition.
* NOT proved: (c), (d) for compiled programs outside stage S5 (there is no `Big2` derivation for them:
  F1 territory and non-linear delegated pieces). There `tameLoop` / `okLoop` stay computable side
  conditions (the driver's `capsB` prints `ok=`).
-/
namespace Fancy
open Utf8 State

/-! ## the value / state maps -/

/-- a position value: `UNSET` stays, anything else goes through `o` -/
def mapV (o : Nat → Nat) (v : Nat) : Nat := if v = UNSET then UNSET else o v

/-- the value `v` of slot `i` -/
def mapAt (τ : Nat → Bool) (o : Nat → Nat) (i v : Nat) : Nat := if τ i then mapV o v else v

def mapSavesFrom (τ : Nat → Bool) (o : Nat → Nat) : Nat → List Nat → List Nat
  | _, [] => []
  | i, v :: vs => mapAt τ o i v :: mapSavesFrom τ o (i + 1) vs

def mapSaves (τ : Nat → Bool) (o : Nat → Nat) (l : List Nat) : List Nat := mapSavesFrom τ o 0 l

def mapLog (τ : Nat → Bool) (o : Nat → Nat) (l : List (Nat × Nat)) : List (Nat × Nat) :=
  l.map fun e => (e.1, mapAt τ o e.1 e.2)

def mapStack (o : Nat → Nat) (l : List Branch) : List Branch := l.map fun b => { b with ix := o b.ix }

def mapState (τ : Nat → Bool) (o : Nat → Nat) (s : State) : State :=
  { s with saves := mapSaves τ o s.saves, stack := mapStack o s.stack, oldsave := mapLog τ o s.oldsave }

def mapOut (τ : Nat → Bool) (o : Nat → Nat) : Outcome → Outcome
  | .matched saves => .matched (mapSaves τ o saves)
  | out => out

def mapRes (τ : Nat → Bool) (o : Nat → Nat) : StepResult → StepResult
  | .cont pc ix s => .cont pc (o ix) (mapState τ o s)
  | .fail s => .fail (mapState τ o s)
  | .done out => .done (mapOut τ o out)

variable {τ : Nat → Bool} {o : Nat → Nat}

theorem mapSavesFrom_eq (i : Nat) (l : List Nat) :
    mapSavesFrom τ o i l = l.mapIdx fun j v => mapAt τ o (i + j) v := by
  induction l generalizing i with
  | nil => rfl
  | cons v vs ih => simp only [mapSavesFrom, List.mapIdx_cons, ih, Nat.add_zero, Nat.add_assoc, Nat.add_comm 1]

theorem mapSaves_eq (l : List Nat) : mapSaves τ o l = l.mapIdx (mapAt τ o) := by
  simp only [mapSaves, mapSavesFrom_eq, Nat.zero_add]

theorem mapSaves_length (l : List Nat) : (mapSaves τ o l).length = l.length := by
  rw [mapSaves_eq, List.length_mapIdx]

theorem mapSaves_getElem? (j : Nat) (l : List Nat) : (mapSaves τ o l)[j]? = (l[j]?).map (mapAt τ o j) := by
  rw [mapSaves_eq, List.getElem?_mapIdx]

theorem mapSaves_set (j v : Nat) (l : List Nat) :
    mapSaves τ o (l.set j v) = (mapSaves τ o l).set j (mapAt τ o j v) := by
  simp only [mapSaves_eq, List.mapIdx_set]

theorem mapSaves_append_one (l : List Nat) (v : Nat) :
    mapSaves τ o (l ++ [v]) = mapSaves τ o l ++ [mapAt τ o l.length v] := by
  simp only [mapSaves_eq, List.mapIdx_concat]

theorem mapV_unset : mapV o UNSET = UNSET := by simp [mapV]

theorem mapAt_unset (i : Nat) : mapAt τ o i UNSET = UNSET := by
  unfold mapAt; split <;> simp [mapV]

theorem mapState_new (n m : Nat) : mapState τ o (State.new n m) = State.new n m := by
  have : mapSaves τ o (List.replicate n UNSET) = List.replicate n UNSET := by
    apply List.ext_getElem?
    intro j
    rw [mapSaves_getElem?, List.getElem?_replicate]
    split <;> simp [mapAt_unset]
  simp [mapState, State.new, this, mapStack, mapLog]

theorem mapOut_eq_panic {out : Outcome} {site : String} : mapOut τ o out = .panic site ↔ out = .panic site := by
  cases out <;> simp [mapOut]

/-! ## the operations of `State` commute with the map (no hypothesis: pure structure) -/

theorem mapStack_length (l : List Branch) : (mapStack o l).length = l.length := by simp [mapStack]

theorem mapState_get (s : State) (slot : Nat) :
    (mapState τ o s).get slot = (s.get slot).map (mapAt τ o slot) := by
  simp [State.get, mapState, mapSaves_getElem?]

theorem mapState_push (s : State) (pc ix : Nat) :
    (mapState τ o s).push pc (o ix) =
      match s.push pc ix with
      | .ok s' => .ok (mapState τ o s')
      | .overflow => .overflow := by
  unfold State.push
  simp only [mapState, mapStack_length]
  split <;> simp [mapStack]

theorem mapLog_length (l : List (Nat × Nat)) : (mapLog τ o l).length = l.length := by simp [mapLog]

theorem mapLog_take (l : List (Nat × Nat)) (n : Nat) : (mapLog τ o l).take n = mapLog τ o (l.take n) := by
  simp [mapLog, List.map_take]

theorem mapLog_drop (l : List (Nat × Nat)) (n : Nat) : (mapLog τ o l).drop n = mapLog τ o (l.drop n) := by
  simp [mapLog, List.map_drop]

theorem mapLog_reverse (l : List (Nat × Nat)) : (mapLog τ o l).reverse = mapLog τ o l.reverse := by simp [mapLog]

theorem mapLog_append (a b : List (Nat × Nat)) : mapLog τ o (a ++ b) = mapLog τ o a ++ mapLog τ o b := by
  simp [mapLog]

theorem mapLog_fst (l : List (Nat × Nat)) : (mapLog τ o l).map (·.1) = l.map (·.1) := by
  simp [mapLog, Function.comp_def]

theorem mapLog_any (l : List (Nat × Nat)) (n slot : Nat) :
    ((mapLog τ o l).take n).any (fun e => e.1 == slot) = (l.take n).any (fun e => e.1 == slot) := by
  simp [mapLog, ← List.map_take, List.any_map, Function.comp_def]

theorem mapSaves_getD (l : List Nat) (slot : Nat) (h : slot < l.length) :
    (mapSaves τ o l)[slot]?.getD 0 = mapAt τ o slot (l[slot]?.getD 0) := by
  simp [mapSaves_getElem?, List.getElem?_eq_getElem h]

theorem mapState_save (s : State) (slot v : Nat) :
    (mapState τ o s).save slot (mapAt τ o slot v) = (s.save slot v).map (mapState τ o) := by
  unfold State.save
  simp only [mapState, mapLog_any, mapSaves_length, mapLog_length]
  split
  · rfl
  · split
    · rfl
    · rename_i h1 h2
      split
      · simp [mapState, mapSaves_set]
      · simp [mapState, mapSaves_set, mapLog, mapSaves_getD _ _ (by omega : slot < s.saves.length)]

theorem restore_map (n : Nat) (log : List (Nat × Nat)) (saves : List Nat) :
    State.restore n (mapLog τ o log) (mapSaves τ o saves) =
      (State.restore n log saves).map fun p => (mapLog τ o p.1, mapSaves τ o p.2) := by
  induction n generalizing log saves with
  | zero => simp [State.restore]
  | succ n ih =>
    cases log with
    | nil => simp [State.restore, mapLog]
    | cons e log =>
      obtain ⟨slot, value⟩ := e
      simp only [mapLog, List.map_cons, State.restore, mapSaves_length]
      split
      · have := ih log (saves.set slot value)
        simp only [mapLog, mapSaves_set] at this
        exact this
      · rfl

theorem mapState_pop (s : State) :
    (mapState τ o s).pop = (s.pop).map fun p => (mapState τ o p.1, p.2.1, o p.2.2) := by
  unfold State.pop
  simp only [mapState, restore_map]
  cases State.restore s.nsave s.oldsave s.saves with
  | none => rfl
  | some p =>
    obtain ⟨log, saves⟩ := p
    simp only [Option.map_some]
    cases s.stack with
    | nil => rfl
    | cons b rest => simp [mapStack, mapState]

theorem mapState_stack_length (s : State) : (mapState τ o s).stack.length = s.stack.length := by
  simp [mapState, mapStack]

theorem mapState_stack_isEmpty (s : State) : (mapState τ o s).stack.isEmpty = s.stack.isEmpty := by
  simp [mapState, mapStack]

theorem mapState_explicitSp (s : State) : (mapState τ o s).explicitSp = s.explicitSp := rfl

theorem popUntil_map (target fuel : Nat) (s : State) :
    popUntil target fuel (mapState τ o s) = (popUntil target fuel s).map (mapState τ o) := by
  induction fuel generalizing s with
  | zero => rfl
  | succ fuel ih =>
    simp only [popUntil, mapState_pop]
    cases s.pop with
    | none => rfl
    | some p =>
      obtain ⟨s', pc, ix⟩ := p
      simp only [Option.map_some]
      split
      · rfl
      · exact ih s'

theorem cutKeep_map (seen : List Nat) (l : List (Nat × Nat)) :
    cutKeep seen (mapLog τ o l) = mapLog τ o (cutKeep seen l) := by
  induction l generalizing seen with
  | nil => rfl
  | cons e es ih =>
    simp only [mapLog, List.map_cons, cutKeep]
    split
    · exact ih seen
    · simp only [List.map_cons]; congr 1; exact ih _

theorem sumNsave_map (l : List Branch) : sumNsave (mapStack o l) = sumNsave l := by
  simp [sumNsave, mapStack, Function.comp_def]

theorem mapState_backtrackCut (s : State) (count : Nat) :
    (mapState τ o s).backtrackCut count = (s.backtrackCut count).map (mapState τ o) := by
  unfold State.backtrackCut
  simp only [mapState_stack_length]
  by_cases h1 : (s.stack.length == count) = true
  · rw [if_pos h1, if_pos h1]; rfl
  rw [if_neg h1, if_neg h1]
  by_cases h2 : s.stack.length < count
  · rw [if_pos h2, if_pos h2]; rfl
  rw [if_neg h2, if_neg h2]
  have hget : (mapState τ o s).stack[s.stack.length - count - 1]? =
      (s.stack[s.stack.length - count - 1]?).map fun b => { b with ix := o b.ix } := by
    simp [mapState, mapStack]
  rw [hget]
  cases s.stack[s.stack.length - count - 1]? with
  | none => rfl
  | some b =>
    have ht : (mapState τ o s).stack.take (s.stack.length - count - 1) =
        mapStack o (s.stack.take (s.stack.length - count - 1)) := by simp [mapState, mapStack, List.map_take]
    simp only [Option.map_some, ht, sumNsave_map]
    have hlog : (mapState τ o s).oldsave = mapLog τ o s.oldsave := rfl
    have hn : (mapState τ o s).nsave = s.nsave := rfl
    rw [hlog, hn, mapLog_length]
    by_cases h3 : s.nsave + sumNsave (s.stack.take (s.stack.length - count - 1)) + b.nsave > s.oldsave.length
    · rw [if_pos h3, if_pos h3]; rfl
    rw [if_neg h3, if_neg h3]
    simp only [Option.map_some, Option.some.injEq, mapLog_take, mapLog_drop, mapLog_reverse, mapLog_fst,
      cutKeep_map, mapLog_length, mapState, mapLog_append, mapStack, List.map_drop]

/-- `stack_push` after the pointer cell exists -/
def pushCoreB (s1 : State) (val : Nat) : Option State :=
  match s1.get s1.explicitSp with
  | none => none
  | some sp =>
    match (if s1.saves.length == sp then some { s1 with saves := s1.saves ++ [val] } else s1.save sp val) with
    | none => none
    | some s' => s'.save s1.explicitSp (sp + 1)

theorem stackPush_pos (s : State) (val : Nat) (h : s.saves.length = s.explicitSp) :
    s.stackPush val = pushCoreB { s with saves := s.saves ++ [s.explicitSp + 1] } val := by
  simp only [State.stackPush, pushCoreB, h, beq_self_eq_true, if_true]
  rfl

theorem stackPush_neg (s : State) (val : Nat) (h : ¬ s.saves.length = s.explicitSp) :
    s.stackPush val = pushCoreB s val := by
  have h' : (s.saves.length == s.explicitSp) = false := by simpa using h
  simp only [State.stackPush, pushCoreB, h']
  rfl

/-! number slots (repetition counters, the auxiliary stack and its pointer cell) are not mapped -/

theorem mapState_get_num (s : State) (slot : Nat) (h : τ slot = false) : (mapState τ o s).get slot = s.get slot := by
  rw [mapState_get]
  cases s.get slot <;> simp [mapAt, h]

theorem mapState_save_num (s : State) (slot v : Nat) (h : τ slot = false) :
    (mapState τ o s).save slot v = (s.save slot v).map (mapState τ o) := by
  rw [← mapState_save, mapAt, h]
  rfl

theorem mapState_grow (s : State) (v : Nat) (h : τ s.saves.length = false) :
    mapState τ o { s with saves := s.saves ++ [v] } =
      { mapState τ o s with saves := (mapState τ o s).saves ++ [v] } := by
  simp [mapState, mapSaves_append_one, mapAt, h]

theorem mapState_pushCoreB (s1 : State) (val : Nat) (hτ : τ s1.explicitSp = false)
    (hsp : ∀ sp, s1.get s1.explicitSp = some sp → τ sp = false) :
    pushCoreB (mapState τ o s1) val = (pushCoreB s1 val).map (mapState τ o) := by
  unfold pushCoreB
  rw [mapState_explicitSp, mapState_get_num s1 _ hτ]
  cases hg : s1.get s1.explicitSp with
  | none => rfl
  | some sp =>
    have hτsp := hsp sp hg
    simp only [show (mapState τ o s1).saves.length = s1.saves.length from mapSaves_length _]
    by_cases h : (s1.saves.length == sp) = true
    · simp only [h, if_true]
      have hgrow := mapState_grow (τ := τ) (o := o) s1 val (by rw [eq_of_beq h]; exact hτsp)
      exact (congrArg (State.save · s1.explicitSp (sp + 1)) hgrow.symm).trans (mapState_save_num _ _ _ hτ)
    · simp only [h]
      rw [mapState_save_num s1 sp val hτsp]
      cases s1.save sp val with
      | none => rfl
      | some s2 => exact mapState_save_num s2 _ _ hτ

theorem mapState_stackPush (s : State) (val : Nat) (hτ : ∀ i, s.explicitSp ≤ i → τ i = false)
    (hsp : ∀ sp, (if s.saves.length = s.explicitSp then some (s.explicitSp + 1) else s.get s.explicitSp) = some sp →
      τ sp = false) :
    (mapState τ o s).stackPush val = (s.stackPush val).map (mapState τ o) := by
  have hτe := hτ _ (Nat.le_refl _)
  have hlen : (mapState τ o s).saves.length = s.saves.length := mapSaves_length _
  by_cases h : s.saves.length = s.explicitSp
  · rw [stackPush_pos s val h, stackPush_pos (mapState τ o s) val (hlen.trans h)]
    have hgrow := mapState_grow (τ := τ) (o := o) s (s.explicitSp + 1) (h ▸ hτe)
    refine (congrArg (pushCoreB · val) hgrow.symm).trans (mapState_pushCoreB _ val hτe fun sp hg => hsp sp ?_)
    rw [if_pos h, ← hg, State.get, ← h]
    simp
  · rw [stackPush_neg s val h, stackPush_neg (mapState τ o s) val (by rw [hlen]; exact h)]
    exact mapState_pushCoreB s val hτe fun sp hg => hsp sp (by rw [if_neg h]; exact hg)

theorem mapState_stackPop (s : State) (hτ : ∀ i, s.explicitSp ≤ i → τ i = false)
    (hsp : ∀ sp, s.get s.explicitSp = some (sp + 1) → τ sp = false) :
    (mapState τ o s).stackPop = (s.stackPop).map fun p => (mapState τ o p.1, p.2) := by
  have hτe := hτ _ (Nat.le_refl _)
  unfold State.stackPop
  rw [mapState_explicitSp, mapState_get_num s _ hτe]
  cases hg : s.get s.explicitSp with
  | none => rfl
  | some p =>
    cases p with
    | zero => rfl
    | succ sp =>
      simp only
      rw [mapState_get_num s sp (hsp sp hg), mapState_save_num s _ sp hτe]
      cases s.get sp with
      | none => rfl
      | some result => cases s.save s.explicitSp sp <;> rfl

/-! ## byte-level facts at the offsets of character positions -/

section Facts
variable (c : Ctx)

theorem offOf_le (cs : List Char) (k : Nat) : offOf cs k ≤ (bytesOfChars cs).length := off_le_length _ k

theorem offOf_len (cs : List Char) : offOf cs cs.length = (bytesOfChars cs).length := by
  have := off_length (cs.map Char.toNat)
  simpa [offOf, bytesOfChars] using this

theorem offOf_lt (cs : List Char) (j k : Nat) (h : j < k) (hk : k ≤ cs.length) : offOf cs j < offOf cs k :=
  off_lt_of_lt _ j k h (by simpa using hk)

theorem offOf_inj (cs : List Char) (j k : Nat) (hj : j ≤ cs.length) (hk : k ≤ cs.length)
    (h : offOf cs j = offOf cs k) : j = k := by
  rcases Nat.lt_trichotomy j k with h1 | h1 | h1
  · have := offOf_lt cs j k h1 hk; omega
  · exact h1
  · have := offOf_lt cs k j h1 hj; omega

theorem offOf_le_of_le (cs : List Char) (j k : Nat) (h : j ≤ k) (hk : k ≤ cs.length) : offOf cs j ≤ offOf cs k :=
  off_le_of_le _ j k h (by simpa using hk)

theorem offOf_lt_iff (cs : List Char) (j k : Nat) (hj : j ≤ cs.length) (hk : k ≤ cs.length) :
    offOf cs j < offOf cs k ↔ j < k := by
  constructor
  · intro h
    rcases Nat.lt_or_ge j k with h1 | h1
    · exact h1
    · have := offOf_le_of_le cs k j h1 hj; omega
  · intro h; exact offOf_lt cs j k h hk

/-- the lead byte of an encoded character is `\n` iff the character is -/
theorem lead_nl (n b : Nat) (rest : Bytes) (h : encodeChar n = b :: rest) : b = 10 ↔ n = 10 := by
  unfold encodeChar at h
  split at h
  · simp at h; omega
  · split at h
    · simp at h; omega
    · split at h
      · simp at h; omega
      · simp at h; omega

/-- `Any` / `AnyNoNL` at a character offset -/
theorem any_at (cs : List Char) (k : Nat) (hk : k ≤ cs.length) :
    match cs[k]? with
    | none => (bytesOfChars cs)[offOf cs k]? = none
    | some ch => ∃ b, (bytesOfChars cs)[offOf cs k]? = some b ∧
        offOf cs k + codepointLen b = offOf cs (k + 1) ∧ ((b != 10) = (ch != '\n')) := by
  by_cases hlt : k < cs.length
  · rw [List.getElem?_eq_getElem hlt]
    simp only
    have hlt' : k < (cs.map Char.toNat).length := by simpa using hlt
    obtain ⟨b, hb, _, hc⟩ := lead_at (cs.map Char.toNat) k hlt'
    refine ⟨b, hb, ?_, ?_⟩
    · unfold offOf; rw [off_succ _ k hlt', hc]
    · obtain ⟨b', rest, he, _⟩ := encodeChar_shape (cs.map Char.toNat)[k]
      have hg := get_at (cs.map Char.toNat) k 0 hlt' (encodeChar_length_pos _)
      rw [Nat.add_zero, he] at hg
      have hbb : b = b' := by
        have : (encode (cs.map Char.toNat))[off (cs.map Char.toNat) k]? = some b' := by simpa using hg
        rw [hb] at this; exact Option.some.inj this
      subst hbb
      have h1 := lead_nl _ _ _ he
      have h2 : (cs.map Char.toNat)[k] = cs[k].toNat := by simp
      rw [h2] at h1
      have h3 : cs[k].toNat = 10 ↔ cs[k] = '\n' := by
        rw [← Char.toNat_inj]; rfl
      rw [Bool.eq_iff_iff]
      simp only [bne_iff_ne, ne_eq]
      exact not_congr (h1.trans h3)
  · have hge : cs.length ≤ k := by omega
    rw [List.getElem?_eq_none hge]
    simp only
    have : k = cs.length := by omega
    subst this
    rw [offOf_len]
    exact List.getElem?_eq_none (Nat.le_refl _)

theorem map_toNat_prefix (a b : List Char) : a.map Char.toNat <+: b.map Char.toNat ↔ a <+: b := by
  constructor
  · intro h
    induction a generalizing b with
    | nil => exact List.nil_prefix
    | cons x xs ih =>
      cases b with
      | nil => simp at h
      | cons y ys =>
        simp only [List.map_cons, List.cons_prefix_cons] at h ⊢
        exact ⟨Char.toNat_inj.mp h.1, ih ys h.2⟩
  · intro h; exact h.map _

theorem litAt_iff_prefix (hceq : ∀ a b, c.ceq false a b = (a == b)) (val : List Char) (k : Nat) :
    c.litAt false val k = true ↔ val <+: c.text.drop k := by
  induction val generalizing k with
  | nil => simp [Ctx.litAt]
  | cons a as ih =>
    simp only [Ctx.litAt, Ctx.at?]
    by_cases hlt : k < c.text.length
    · rw [List.getElem?_eq_getElem hlt, List.drop_eq_getElem_cons hlt]
      simp only [hceq, Bool.and_eq_true, beq_iff_eq, List.cons_prefix_cons, ih]
    · rw [List.getElem?_eq_none (by omega), List.drop_of_length_le (by omega)]
      simp

/-- `matches_literal` at a character offset: the encoded `lit` is there iff `lit` is a prefix of the
    characters from that position, and then it ends at the offset of character `k + lit.length` -/
theorem matchesLiteral_at (cs lit : List Char) (k : Nat) (hk : k ≤ cs.length) :
    (matchesLiteral (bytesOfChars cs) (offOf cs k) (offOf cs k + (litBytes lit).length) (litBytes lit) = true ↔
      lit <+: cs.drop k) ∧
    (lit <+: cs.drop k → offOf cs k + (litBytes lit).length = offOf cs (k + lit.length)) := by
  have hk' : k ≤ (cs.map Char.toNat).length := by simpa using hk
  have hp : lit.map Char.toNat <+: (cs.map Char.toNat).drop k ↔ lit <+: cs.drop k := by
    rw [← List.map_drop, map_toNat_prefix]
  have hend := fun h => (C05_lit_end (cs.map Char.toNat) (lit.map Char.toNat) k hk' (hp.mpr h)).1
  refine ⟨?_, fun h => by simpa [offOf, litBytes] using hend h⟩
  unfold matchesLiteral bytesOfChars offOf litBytes
  simp only [Nat.add_sub_cancel_left, Bool.and_eq_true, decide_eq_true_eq, beq_iff_eq, C05_lit_prefix_take, hp]
  exact ⟨fun h => h.2, fun h => ⟨by rw [hend h]; exact off_le_length _ _, h⟩⟩

theorem lit_at (hceq : ∀ a b, c.ceq false a b = (a == b)) (val : List Char) (k : Nat) (hk : k ≤ c.text.length) :
    matchesLiteral (bytesOfChars c.text) (offOf c.text k) (offOf c.text k + (litBytes val).length) (litBytes val) =
      c.litAt false val k ∧
    (c.litAt false val k = true → offOf c.text k + (litBytes val).length = offOf c.text (k + val.length)) := by
  obtain ⟨h1, h2⟩ := matchesLiteral_at c.text val k hk
  rw [← litAt_iff_prefix c hceq] at h1 h2
  exact ⟨Bool.eq_iff_iff.mpr h1, h2⟩

theorem sameAt_iff_prefix (lo hi k : Nat) (hlh : lo ≤ hi) (hhi : hi ≤ c.text.length) (hk : k ≤ c.text.length) :
    c.sameAt lo hi k = true ↔ (c.text.drop lo).take (hi - lo) <+: c.text.drop k := by
  have hlen : ((c.text.drop lo).take (hi - lo)).length = hi - lo := by
    simp only [List.length_take, List.length_drop]; omega
  rw [List.prefix_iff_eq_take, hlen]
  simp only [Ctx.sameAt, Ctx.len, Ctx.at?, Bool.and_eq_true, decide_eq_true_eq, List.all_eq_true,
    List.mem_range, beq_iff_eq]
  constructor
  · rintro ⟨h1, h2⟩
    apply List.ext_getElem?
    intro j
    simp only [List.getElem?_take, List.getElem?_drop]
    split
    · rename_i hj; exact h2 j hj
    · rfl
  · intro h
    have hl := congrArg List.length h
    simp only [List.length_take, List.length_drop] at hl
    have hm1 : min (hi - lo) (c.text.length - lo) = hi - lo := Nat.min_eq_left (by omega)
    have hm2 := Nat.min_le_right (hi - lo) (c.text.length - k)
    rw [hm1] at hl
    rw [← hl] at hm2
    refine ⟨decide_eq_true (by omega), ?_⟩
    intro j hj
    have := congrArg (fun l => l[j]?) h
    simp only [List.getElem?_take, List.getElem?_drop, hj, if_true] at this
    exact this

/-- `Backref` at character offsets: the slice is defined, and comparing it at `o k` is `sameAt` -/
theorem backref_at (lo hi k : Nat) (hlh : lo ≤ hi) (hhi : hi ≤ c.text.length) (hk : k ≤ c.text.length) :
    ∃ refText, slice (bytesOfChars c.text) (offOf c.text lo) (offOf c.text hi) = some refText ∧
      matchesLiteral (bytesOfChars c.text) (offOf c.text k) (offOf c.text k + refText.length) refText =
        c.sameAt lo hi k ∧
      (c.sameAt lo hi k = true → offOf c.text k + refText.length = offOf c.text (k + (hi - lo))) := by
  have hsl := C05_slice_ok (c.text.map Char.toNat) lo hi hlh (by simpa using hhi)
  rw [← List.map_drop, ← List.map_take] at hsl
  obtain ⟨h1, h2⟩ := matchesLiteral_at c.text ((c.text.drop lo).take (hi - lo)) k hk
  rw [← sameAt_iff_prefix c lo hi k hlh hhi hk] at h1 h2
  have hl : ((c.text.drop lo).take (hi - lo)).length = hi - lo := by
    simp only [List.length_take, List.length_drop]; omega
  rw [hl] at h2
  exact ⟨_, hsl, Bool.eq_iff_iff.mpr h1, h2⟩

theorem charIx_at (cs : List Char) (k : Nat) (hk : k ≤ cs.length) :
    charIx (bytesOfChars cs) (offOf cs k) = some k := by
  have hk' : k ≤ (cs.map Char.toNat).length := by simpa using hk
  unfold charIx
  have hb : isBoundary (bytesOfChars cs) (offOf cs k) = true :=
    (C05_boundary_iff _ _).mpr ⟨k, hk', rfl⟩
  have hle : offOf cs k ≤ (bytesOfChars cs).length := offOf_le cs k
  simp only [hle, hb, decide_true, Bool.and_self, if_true, Option.some.injEq]
  have htake : (bytesOfChars cs).take (offOf cs k) = encode ((cs.map Char.toNat).take k) := by
    unfold bytesOfChars offOf off
    rw [encode_split (cs.map Char.toNat) k]
    simp
  rw [htake, C05_count_lead]
  simp only [List.length_take, List.length_map]; omega

theorem goBack_at (cs : List Char) (n k : Nat) (hk : k ≤ cs.length) :
    goBackBytes (bytesOfChars cs) n (offOf cs k) = some ((Fancy.goBack k n).map (offOf cs)) :=
  C05_goback_model _ n k (by simpa using hk)

end Facts

/-! ## typing discipline and the local precondition -/

theorem wellTyped_at {τ : Nat → Bool} {prog : List Insn} (h : wellTyped τ prog = true) {pc : Nat} {insn : Insn}
    (hpc : prog[pc]? = some insn) : insn.typed τ = true :=
  List.all_eq_true.mp h insn (List.mem_of_getElem? hpc)

theorem optAll_spec {x : Option Nat} {p : Nat → Bool} (h : optAll x p = true) {v : Nat} (hx : x = some v) : p v = true := by
  subst hx; exact h

/-! ## `mapV` along `offOf` -/

section MapV
variable (cs : List Char)

theorem le_offOf (k : Nat) (hk : k ≤ cs.length) : k ≤ offOf cs k := by
  induction k with
  | zero => exact Nat.zero_le _
  | succ k ih =>
    have := offOf_lt cs k (k + 1) (Nat.lt_succ_self k) hk
    have := ih (by omega)
    omega

theorem len_le_blen : cs.length ≤ (bytesOfChars cs).length := by
  rw [← offOf_len]; exact le_offOf cs _ (Nat.le_refl _)

variable (hU : (bytesOfChars cs).length < UNSET)
include hU

theorem offOf_ne_unset (v : Nat) : offOf cs v ≠ UNSET := by
  have := offOf_le cs v; omega

theorem mapV_eq_unset (v : Nat) : mapV (offOf cs) v = UNSET ↔ v = UNSET := by
  unfold mapV
  split
  · simp [*]
  · rename_i h; simp [h, offOf_ne_unset cs hU]

theorem mapAt_beq_unset (τ : Nat → Bool) (i v : Nat) : (mapAt τ (offOf cs) i v == UNSET) = (v == UNSET) := by
  rw [Bool.eq_iff_iff, beq_iff_eq, beq_iff_eq]
  unfold mapAt
  split
  · exact mapV_eq_unset cs hU v
  · rfl

theorem mapV_of_le (v : Nat) (h : v ≤ cs.length) : mapV (offOf cs) v = offOf cs v := by
  have := len_le_blen cs
  unfold mapV; rw [if_neg (by omega)]

theorem mapV_lt_iff (a b : Nat) (ha : Valid cs.length a) (hb : Valid cs.length b) :
    mapV (offOf cs) a < mapV (offOf cs) b ↔ a < b := by
  have hl := len_le_blen cs
  rcases ha with ha | ha <;> rcases hb with hb | hb
  · rw [mapV_of_le cs hU a ha, mapV_of_le cs hU b hb]; exact offOf_lt_iff cs a b ha hb
  · subst hb
    rw [mapV_of_le cs hU a ha, mapV_unset]
    have := offOf_le cs a
    constructor <;> intro _ <;> omega
  · subst ha
    rw [mapV_of_le cs hU b hb, mapV_unset]
    have := offOf_le cs b
    constructor <;> intro _ <;> omega
  · subst ha; subst hb; simp

theorem mapV_eq_iff (a b : Nat) (ha : Valid cs.length a) (hb : Valid cs.length b) :
    mapV (offOf cs) a = mapV (offOf cs) b ↔ a = b := by
  have h1 := mapV_lt_iff cs hU a b ha hb
  have h2 := mapV_lt_iff cs hU b a hb ha
  constructor
  · intro h; omega
  · intro h; rw [h]

end MapV

/-! ## one step -/

@[simp] theorem BCtx.ofCtx_text (c : Ctx) : (BCtx.ofCtx c).text = bytesOfChars c.text := rfl
@[simp] theorem BCtx.ofCtx_pos (c : Ctx) : (BCtx.ofCtx c).pos = offOf c.text c.pos := rfl
@[simp] theorem BCtx.ofCtx_chars (c : Ctx) : (BCtx.ofCtx c).chars = c := rfl

theorem pushOr_map {τ : Nat → Bool} {o : Nat → Nat} (s : State) (pc ix : Nat) (k kB : State → StepResult)
    (hk : ∀ s', kB (mapState τ o s') = mapRes τ o (k s')) :
    pushOr (mapState τ o s) pc (o ix) kB = mapRes τ o (pushOr s pc ix k) := by
  unfold pushOr
  rw [mapState_push]
  cases s.push pc ix with
  | ok s' => exact hk s'
  | overflow => rfl

/-- `mapRes` through a conditional on a fact both machines share -/
theorem ite_map {τ : Nat → Bool} {o : Nat → Nat} {p : Prop} [Decidable p] {a b a' b' : StepResult}
    (ha : p → a = mapRes τ o a') (hb : ¬ p → b = mapRes τ o b') :
    (if p then a else b) = mapRes τ o (if p then a' else b') := by
  by_cases hp : p
  · rw [if_pos hp, if_pos hp]; exact ha hp
  · rw [if_neg hp, if_neg hp]; exact hb hp

/-- `mapRes` through a `save` whose failure is a panic -/
theorem save_map {τ : Nat → Bool} {o : Nat → Nat} (s : State) (slot v vB : Nat) (hv : mapAt τ o slot v = vB)
    (msg : String) (k kB : State → StepResult) (hk : ∀ s', kB (mapState τ o s') = mapRes τ o (k s')) :
    (match (mapState τ o s).save slot vB with
      | none => StepResult.done (.panic msg)
      | some s' => kB s') =
    mapRes τ o (match s.save slot v with
      | none => .done (.panic msg)
      | some s' => k s') := by
  rw [← hv, mapState_save]
  cases s.save slot v with
  | none => rfl
  | some s' => exact hk s'

theorem get_of_save (s s' : State) (slot v : Nat) (h : s.save slot v = some s') : s'.get slot = some v := by
  unfold State.save at h
  split at h
  · cases h
  · split at h
    · cases h
    · rename_i h2
      split at h
      all_goals
        simp only [Option.some.injEq] at h
        subst h
        simp only [State.get]
        rw [List.getElem?_set_self (by omega)]

section Step
variable (c : Ctx) (τ : Nat → Bool) (nS : Nat)
variable (hceq : ∀ a b, c.ceq false a b = (a == b))
variable (hU : (bytesOfChars c.text).length < UNSET)
variable (hτ : ∀ i, nS ≤ i → τ i = false)

local notation "ofs" => offOf c.text
local notation "MS" => mapState τ (offOf c.text)

include hU in
theorem capStart_map (s : State) (h0 : τ 0 = true) (h1 : τ 1 = true) (hpos : c.pos ≤ c.len)
    (hv0 : ∀ v, s.get 0 = some v → Valid c.len v) (hv1 : ∀ v, s.get 1 = some v → Valid c.len v) :
    capStart (MS s) (ofs c.pos) = (capStart s c.pos).map MS := by
  have hA0 : ∀ v, mapAt τ ofs 0 v = mapV ofs v := fun v => by simp [mapAt, h0]
  have hmp : mapV ofs c.pos = ofs c.pos := mapV_of_le c.text hU c.pos hpos
  -- the cap against `pos`, from a state whose slot 0 holds a valid value
  have key : ∀ t : State, (∀ v, t.get 0 = some v → Valid c.len v) →
      ((MS t).get 0).bind (fun s0' => if s0' < ofs c.pos then (MS t).save 0 (ofs c.pos) else some (MS t)) =
        ((t.get 0).bind fun s0' => if s0' < c.pos then t.save 0 c.pos else some t).map MS := by
    intro t hvt
    rw [mapState_get]
    cases ht : t.get 0 with
    | none => rfl
    | some t0 =>
      have : mapV ofs t0 < ofs c.pos ↔ t0 < c.pos := by
        rw [← hmp]; exact mapV_lt_iff c.text hU t0 c.pos (hvt t0 ht) (Or.inl hpos)
      simp only [Option.map_some, Option.bind_some, hA0, this]
      split
      · rw [← hmp, ← hA0, mapState_save]
      · rfl
  unfold capStart
  rw [show (MS s).saves[1]? = _ from mapSaves_getElem? 1 s.saves]
  cases hg1 : s.saves[1]? with
  | none => rfl
  | some slot1 =>
    have hvs1 : Valid c.len slot1 := hv1 slot1 hg1
    rw [mapState_get]
    cases hg0 : s.get 0 with
    | none => rfl
    | some s0 =>
      have hcmp : mapV ofs s0 > mapV ofs slot1 ↔ s0 > slot1 := mapV_lt_iff c.text hU slot1 s0 hvs1 (hv0 s0 hg0)
      simp only [Option.map_some, Option.bind_some, hA0, show mapAt τ ofs 1 slot1 = mapV ofs slot1 by simp [mapAt, h1],
        hcmp]
      by_cases hgt : s0 > slot1
      · simp only [hgt, if_true]
        rw [← hA0, mapState_save]
        cases hsave : s.save 0 slot1 with
        | none => rfl
        | some t => exact key t fun v hv => Option.some.inj ((get_of_save s t 0 slot1 hsave).symm.trans hv) ▸ hvs1
      · simp only [hgt, if_false, Option.bind_some]
        exact key s hv0

include hU in
theorem mapAt_pos_ix (slot ix : Nat) (h : τ slot = true) (hix : ix ≤ c.len) : mapAt τ ofs slot ix = ofs ix := by
  simp only [mapAt, h, if_true]; exact mapV_of_le c.text hU ix hix

theorem mapAt_num (slot v : Nat) (h : τ slot = false) : mapAt τ ofs slot v = v := by simp [mapAt, h]

include hU in
theorem mapAt_zero (slot : Nat) : mapAt τ ofs slot 0 = 0 := by
  unfold mapAt
  split
  · rw [mapV_of_le c.text hU 0 (Nat.zero_le _)]; exact off_zero _
  · rfl

include hU in
/-- comparing a position slot with the current position -/
theorem mapAt_beq_ix (slot v ix : Nat) (h : τ slot = true) (hv : Valid c.len v) (hix : ix ≤ c.len) :
    (mapAt τ ofs slot v == ofs ix) = (v == ix) := by
  simp only [mapAt, h, if_true]
  rw [← mapV_of_le c.text hU ix hix, Bool.eq_iff_iff, beq_iff_eq, beq_iff_eq]
  exact mapV_eq_iff c.text hU v ix hv (Or.inl hix)

/-! ### `Delegate` (the A-RA boundary) -/

theorem toBytes_slot (cs : List Char) (r : St) (i : Nat) :
    (r.toBytes cs).slot i = (r.slot i).map (offOf cs) := by
  simp only [St.slot, St.toBytes, List.getElem?_map]
  cases r.slots[i]? with
  | none => rfl
  | some x => cases x <;> rfl

theorem slot_mem (r : St) (i a : Nat) (h : r.slot i = some a) : some a ∈ r.slots := by
  simp only [St.slot] at h
  cases hs : r.slots[i]? with
  | none => rw [hs] at h; cases h
  | some x =>
    rw [hs] at h
    simp only [Option.join_some] at h
    subst h
    exact List.mem_of_getElem? hs

theorem mapSaves_take (n : Nat) (l : List Nat) : (mapSaves τ ofs l).take n = mapSaves τ ofs (l.take n) := by
  apply List.ext_getElem?
  intro j
  simp only [List.getElem?_take, mapSaves_getElem?]
  split <;> rfl

include hU in
theorem unmapV_mapV (v : Nat) (hv : Valid c.text.length v) :
    unmapV (bytesOfChars c.text) (mapV ofs v) = v := by
  rcases hv with hv | hv
  · rw [mapV_of_le c.text hU v hv]
    simp [unmapV, charIx_at c.text v hv]
  · subst hv
    rw [mapV_unset]
    have : ¬ UNSET ≤ (bytesOfChars c.text).length := by omega
    simp [unmapV, charIx, this]

include hU in
theorem copyGroups_map (r' : St) (x : List (Option Nat)) (sg eg : Nat) (hg : r'.Good c (2 * eg))
    (hτp : ∀ i, i < 2 * eg → τ i = true) :
    ∀ (n : Nat) (s : State), sg + n ≤ eg →
      copyGroups (r'.toBytes c.text) sg n (MS s) = (copyGroups (extSt x r') sg n s).map MS
  | 0, s, _ => rfl
  | n + 1, s, hn => by
    have h1 : (sg + n) * 2 + 1 < 2 * eg := by omega
    have h0 : (sg + n) * 2 < 2 * eg := Nat.lt_of_succ_lt h1
    simp only [copyGroups]
    rw [copyGroups_map r' x sg eg hg hτp n s (Nat.le_of_succ_le hn)]
    cases copyGroups (extSt x r') sg n s with
    | none => rfl
    | some s1 =>
      simp only [Option.map_some]
      rw [toBytes_slot, toBytes_slot, extSt_slot x r' _ (hg.len ▸ h0), extSt_slot x r' _ (hg.len ▸ h1)]
      cases ha : r'.slot ((sg + n) * 2) with
      | none => rfl
      | some a =>
        cases hb : r'.slot ((sg + n) * 2 + 1) with
        | none => rfl
        | some b =>
          simp only [Option.map_some]
          rw [← mapAt_pos_ix c τ hU _ a (hτp _ h0) (hg.vals a (slot_mem r' _ a ha)), mapState_save]
          cases s1.save ((sg + n) * 2) a with
          | none => rfl
          | some s2 =>
            simp only [Option.map_some, Option.bind_some]
            rw [← mapAt_pos_ix c τ hU _ b (hτp _ h1) (hg.vals b (slot_mem r' _ b hb)), mapState_save]

/-- on the typed slots of the groups below `eg`, what the oracle returns lies inside the text -/
theorem delegateOracle_good (es : List Expr) (sg eg ix : Nat) (saves : List Nat) (hix : ix ≤ c.len)
    (hlen : 2 * eg ≤ saves.length) (hvalid : ∀ v ∈ saves.take (2 * eg), Valid c.len v) (r' : St)
    (hr : delegateOracle c es sg eg ix (saves.take (2 * eg)) = some r') : r'.Good c (2 * eg) := by
  rw [C01_delegateOracle_eq, delegateOracleSpec] at hr
  refine semConcat_good c (2 * eg) es _ r' ⟨hix, ?_, ?_⟩ (List.mem_of_mem_head? hr)
  · simp only [clearGroups_length, viewSlots_length, List.length_take]; omega
  · intro v hv
    obtain ⟨i, hi⟩ := List.getElem?_of_mem hv
    rw [clearGroups_getElem?] at hi
    split at hi
    · cases hi
    · simp only [viewSlots, List.getElem?_map] at hi
      cases hw : (saves.take (2 * eg))[i]? with
      | none => rw [hw] at hi; cases hi
      | some w =>
        rw [hw] at hi
        simp only [Option.map_some, Option.some.injEq] at hi
        split at hi
        · cases hi
        · rename_i hne
          simp only [Option.some.injEq] at hi
          subst hi
          rcases hvalid w (List.mem_of_getElem? hw) with h | h
          · exact h
          · simp [h] at hne

include hU in
/-- **one-step simulation, `Delegate`** -/
theorem stepB_sim_delegate (prog : List Insn) (pc ix : Nat) (s : State) (es : List Expr) (sg eg : Nat)
    (hpc : prog[pc]? = some (.delegate es sg eg)) (hty : (Insn.delegate es sg eg).typed τ = true)
    (hok : stepOK τ nS c (.delegate es sg eg) ix s = true) :
    stepB (BCtx.ofCtx c) prog pc (ofs ix) (MS s) = mapRes τ ofs (step c prog pc ix s) := by
  simp only [Insn.typed, Bool.and_eq_true, List.all_eq_true, List.mem_range] at hty
  simp only [stepOK, Bool.and_eq_true, decide_eq_true_eq, List.all_eq_true] at hok
  obtain ⟨hix, hlen, hval⟩ := hok
  have hix : ix ≤ c.text.length := hix
  have hvalid : ∀ v ∈ s.saves.take (2 * eg), Valid c.text.length v := hval
  unfold step stepB
  simp only [hpc, BCtx.ofCtx_text, charIx_at c.text ix hix, BCtx.ofCtx_chars]
  -- the oracle's input: the slots of the groups below `eg`, as character indices
  have hin : ((MS s).saves.take (2 * eg)).map (unmapV (bytesOfChars c.text)) = s.saves.take (2 * eg) := by
    have : (MS s).saves = mapSaves τ ofs s.saves := rfl
    rw [this, mapSaves_take]
    apply List.ext_getElem?
    intro j
    simp only [List.getElem?_map, mapSaves_getElem?]
    cases hj : (s.saves.take (2 * eg))[j]? with
    | none => rfl
    | some v =>
      have hjl : j < 2 * eg := by
        have := (List.getElem?_eq_some_iff.mp hj).1
        simp only [List.length_take] at this; omega
      simp only [Option.map_some, mapAt, hty.2 j hjl, if_true]
      rw [unmapV_mapV c hU v (hvalid v (List.mem_of_getElem? hj))]
  rw [hin]
  obtain ⟨hext, hlen'⟩ := delegateOracle_ext c es sg eg ix (2 * eg) (2 * eg) s.saves hty.1 (by omega)
    (Nat.le_refl _) hlen
  rw [hext]
  cases hr : delegateOracle c es sg eg ix (s.saves.take (2 * eg)) with
  | none => rfl
  | some r' =>
    simp only [Option.map_some]
    have hgood : r'.Good c (2 * eg) := delegateOracle_good c es sg eg ix s.saves hix hlen hvalid r' hr
    by_cases hse : (sg == eg) = true
    · simp only [hse, if_true, mapRes, extSt_ix, St.toBytes]
    · simp only [hse]
      have hcg : copyGroups (r'.toBytes c.text) sg (eg - sg) (MS s) =
          (copyGroups (extSt (viewSlots (List.drop (2 * eg) s.saves)) r') sg (eg - sg) s).map MS := by
        rcases Nat.le_total sg eg with h | h
        · exact copyGroups_map c τ hU r' _ sg eg hgood hty.2 (eg - sg) s (by omega)
        · have : eg - sg = 0 := by omega
          rw [this]; rfl
      rw [hcg]
      cases copyGroups (extSt (viewSlots (List.drop (2 * eg) s.saves)) r') sg (eg - sg) s with
      | none => rfl
      | some s' => simp only [Option.map_some, mapRes, extSt_ix, St.toBytes]; rfl

include hceq hU hτ in
/-- **one-step simulation**, instruction by instruction (`Delegate` is `stepB_sim_delegate`) -/
theorem stepB_sim_core (prog : List Insn) (pc ix : Nat) (s : State) (insn : Insn)
    (hpc : prog[pc]? = some insn) (hty : insn.typed τ = true) (hok : stepOK τ nS c insn ix s = true) :
    stepB (BCtx.ofCtx c) prog pc (ofs ix) (MS s) = mapRes τ ofs (step c prog pc ix s) := by
  have hix : ix ≤ c.text.length := by
    simp only [stepOK, Bool.and_eq_true, decide_eq_true_eq] at hok; exact hok.1
  cases insn with
  | end_ =>
    simp only [step, stepB, hpc]
    simp only [stepOK, Bool.and_eq_true, decide_eq_true_eq] at hok
    simp only [Insn.typed, Bool.and_eq_true] at hty
    obtain ⟨_, ⟨hpos, hv0⟩, hv1⟩ := hok
    have := capStart_map c τ hU s hty.1 hty.2 hpos
      (fun v hv => of_decide_eq_true (optAll_spec hv0 hv)) (fun v hv => of_decide_eq_true (optAll_spec hv1 hv))
    simp only [capStartB, BCtx.ofCtx_pos, this]
    cases capStart s c.pos <;> rfl
  | any | anyNoNL =>
    simp only [step, stepB, hpc]
    have h := any_at c.text ix hix
    simp only [BCtx.ofCtx_text, Ctx.at?]
    cases hch : c.text[ix]? with
    | none => rw [hch] at h; simp only at h; rw [h]; rfl
    | some ch =>
      rw [hch] at h
      obtain ⟨b, hb, hnext, hnl⟩ := h
      rw [hb]
      simp only [hnl, hnext, apply_ite (mapRes τ ofs)]
      rfl
  | lit val =>
    simp only [step, stepB, hpc]
    obtain ⟨h1, h2⟩ := lit_at c hceq val ix hix
    simp only [BCtx.ofCtx_text, h1]
    exact ite_map (fun hl => by rw [h2 hl]; rfl) (fun _ => rfl)
  | assertion a =>
    simp only [step, stepB, hpc]
    simp only [BCtx.ofCtx_text, charIx_at c.text ix hix, BCtx.ofCtx_chars]
    exact ite_map (fun _ => rfl) (fun _ => rfl)
  | split x y =>
    simp only [step, stepB, hpc]
    exact pushOr_map s y ix _ _ (fun _ => rfl)
  | jmp t =>
    simp only [step, stepB, hpc]
    rfl
  | save slot =>
    simp only [step, stepB, hpc]
    simp only [Insn.typed] at hty
    have := mapState_save (τ := τ) (o := offOf c.text) s slot ix
    rw [mapAt_pos_ix c τ hU slot ix hty hix] at this
    rw [this]
    cases s.save slot ix <;> rfl
  | save0 slot =>
    simp only [step, stepB, hpc]
    have := mapState_save (τ := τ) (o := offOf c.text) s slot 0
    rw [mapAt_zero c τ hU slot] at this
    rw [this]
    cases s.save slot 0 <;> rfl
  | restore slot =>
    simp only [step, stepB, hpc]
    simp only [Insn.typed] at hty
    simp only [stepOK, Bool.and_eq_true, decide_eq_true_eq] at hok
    rw [mapState_get]
    cases hg : s.get slot with
    | none => rfl
    | some v =>
      have hv : v ≤ c.text.length := of_decide_eq_true (optAll_spec hok.2 hg)
      simp only [Option.map_some, mapRes, mapAt_pos_ix c τ hU slot v hty hv]
  | repeatGr lo hi next rep | repeatNg lo hi next rep =>
    simp only [step, stepB, hpc]
    simp only [Insn.typed, Bool.not_eq_true'] at hty
    rw [mapState_get]
    cases hg : s.get rep with
    | none => rfl
    | some cnt =>
      simp only [Option.map_some, mapAt_num c τ rep cnt hty]
      refine ite_map (fun _ => rfl) fun _ => save_map s rep _ _ (mapAt_num c τ rep _ hty) _ _ _ fun s' => ?_
      exact ite_map (fun _ => pushOr_map s' _ ix _ _ (fun _ => rfl)) (fun _ => rfl)
  | repeatEpsGr lo next rep check | repeatEpsNg lo next rep check =>
    simp only [step, stepB, hpc]
    simp only [Insn.typed, Bool.and_eq_true, Bool.not_eq_true'] at hty
    simp only [stepOK, Bool.and_eq_true, decide_eq_true_eq] at hok
    rw [mapState_get, mapState_get]
    cases hg : s.get rep with
    | none => rfl
    | some cnt =>
      cases hg2 : s.get check with
      | none => rfl
      | some chk =>
        simp only [Option.map_some, mapAt_num c τ rep cnt hty.1,
          mapAt_beq_ix c τ hU check chk ix hty.2 (of_decide_eq_true (optAll_spec hok.2 hg2)) hix]
        refine ite_map (fun _ => rfl) fun _ => save_map s rep _ _ (mapAt_num c τ rep _ hty.1) _ _ _ fun s' => ?_
        exact ite_map (fun _ => save_map s' check _ _ (mapAt_pos_ix c τ hU check ix hty.2 hix) _ _ _ fun s'' =>
          pushOr_map s'' _ ix _ _ (fun _ => rfl)) (fun _ => rfl)
  | failNegLook =>
    simp only [step, stepB, hpc]
    rw [mapState_stack_length, popUntil_map]
    cases popUntil (pc + 1) (s.stack.length + 1) s <;> rfl
  | goBack n =>
    simp only [step, stepB, hpc]
    simp only [BCtx.ofCtx_text, goBack_at c.text n ix hix]
    cases Fancy.goBack ix n <;> rfl
  | backref slot =>
    simp only [step, stepB, hpc]
    simp only [Insn.typed, Bool.and_eq_true] at hty
    simp only [stepOK, Bool.and_eq_true, decide_eq_true_eq] at hok
    rw [mapState_get, mapState_get]
    cases hg : s.get slot with
    | none => rfl
    | some lo =>
      cases hg2 : s.get (slot + 1) with
      | none => rfl
      | some hi =>
        simp only [Option.map_some, mapAt_beq_unset c.text hU]
        refine ite_map (fun _ => rfl) fun hu => ?_
        simp only [Bool.or_eq_true, beq_iff_eq, not_or] at hu
        have hlo : lo ≤ c.text.length := (of_decide_eq_true (optAll_spec hok.2.1 hg)).resolve_right hu.1
        have hhi : hi ≤ c.text.length := (of_decide_eq_true (optAll_spec hok.2.2 hg2)).resolve_right hu.2
        rw [mapAt_pos_ix c τ hU slot lo hty.1 hlo, mapAt_pos_ix c τ hU (slot + 1) hi hty.2 hhi]
        simp only [gt_iff_lt, offOf_lt_iff c.text hi lo hhi hlo]
        refine ite_map (fun _ => rfl) fun hlh => ?_
        obtain ⟨refText, hsl, hm, hend⟩ := backref_at c lo hi ix (by omega) hhi hix
        simp only [BCtx.ofCtx_text, hsl, hm]
        exact ite_map (fun hsa => by rw [hend hsa]; rfl) (fun _ => rfl)
  | backrefExists g =>
    simp only [step, stepB, hpc]
    rw [mapState_get]
    cases hg : s.get (g * 2) with
    | none => rfl
    | some lo =>
      simp only [Option.map_some, mapAt_beq_unset c.text hU]
      exact ite_map (fun _ => rfl) (fun _ => rfl)
  | beginAtomic =>
    simp only [step, stepB, hpc]
    simp only [stepOK, Bool.and_eq_true, decide_eq_true_eq] at hok
    obtain ⟨_, hsp, hptr⟩ := hok
    have hbc : (MS s).backtrackCount = s.backtrackCount := mapState_stack_length s
    rw [hbc, mapState_stackPush s _ (fun i hi => hτ i (by omega))
      (fun sp h => hτ sp (of_decide_eq_true (optAll_spec hptr h)))]
    cases s.stackPush s.backtrackCount <;> rfl
  | endAtomic =>
    simp only [step, stepB, hpc]
    simp only [stepOK, Bool.and_eq_true, decide_eq_true_eq] at hok
    obtain ⟨_, hsp, hptr⟩ := hok
    rw [mapState_stackPop s (fun i hi => hτ i (by omega))
      (fun sp h => hτ sp (by have := of_decide_eq_true (optAll_spec hptr h); omega))]
    cases s.stackPop with
    | none => rfl
    | some p =>
      obtain ⟨s', count⟩ := p
      simp only [Option.map_some, mapState_backtrackCut]
      cases s'.backtrackCut count <;> rfl
  | delegate es sg eg => exact stepB_sim_delegate c τ nS hU prog pc ix s es sg eg hpc hty hok
  | contPrev =>
    simp only [step, stepB, hpc]
    simp only [stepOK, Bool.and_eq_true, decide_eq_true_eq] at hok
    have hne : (ofs ix != ofs c.pos) = (ix != c.pos) := by
      rw [Bool.eq_iff_iff]
      simp only [bne_iff_ne, ne_eq]
      exact not_congr ⟨offOf_inj c.text ix c.pos hix hok.2, fun h => by rw [h]⟩
    simp only [BCtx.ofCtx_pos, BCtx.ofCtx_chars, hne]
    exact ite_map (fun _ => rfl) (fun _ => rfl)

/-! ## one step, every instruction; whole runs -/

include hceq hU hτ in
/-- **one-step simulation**: under the typing discipline and the local precondition, the byte machine's
    step from the mapped configuration is the mapped step of the code-point machine -/
theorem stepB_sim (prog : List Insn) (hwt : wellTyped τ prog = true) (pc ix : Nat) (s : State)
    (hok : cfgOK c τ nS prog pc ix s = true) :
    stepB (BCtx.ofCtx c) prog pc (ofs ix) (MS s) = mapRes τ ofs (step c prog pc ix s) := by
  unfold cfgOK at hok
  cases hpc : prog[pc]? with
  | none => unfold step stepB; simp only [hpc]; rfl
  | some insn =>
    rw [hpc] at hok
    exact stepB_sim_core c τ nS hceq hU hτ prog pc ix s insn hpc (wellTyped_at hwt hpc) hok

include hceq hU hτ in
/-- **the byte-level loop refines the code-point loop**: same outcome (matched slots mapped), same
    statistics -/
theorem runLoopB_refines (prog : List Insn) (op : VMOpts) (hwt : wellTyped τ prog = true) :
    ∀ (fuel pc ix : Nat) (s : State) (st : Stats), okLoop c τ nS prog op fuel pc ix s st.backtracks = true →
      runLoopB (BCtx.ofCtx c) prog op fuel pc (ofs ix) (MS s) st =
        (mapOut τ ofs (runLoop c prog op fuel pc ix s st).1, (runLoop c prog op fuel pc ix s st).2)
  | 0, _, _, _, _, _ => rfl
  | fuel + 1, pc, ix, s, st, hok => by
    simp only [okLoop, Bool.and_eq_true] at hok
    obtain ⟨hcfg, hrest⟩ := hok
    have hsim := stepB_sim c τ nS hceq hU hτ prog hwt pc ix s hcfg
    simp only [runLoopB, runLoop, hsim]
    cases hstep : step c prog pc ix s with
    | done out => rfl
    | cont pc' ix' s' =>
      rw [hstep] at hrest
      simp only [mapRes, mapState_stack_length]
      exact runLoopB_refines prog op hwt fuel pc' ix' s' _ hrest
    | fail s' =>
      rw [hstep] at hrest
      simp only [mapRes, mapState_stack_isEmpty]
      by_cases hemp : s'.stack.isEmpty = true
      · simp only [hemp, if_true]; rfl
      · simp only [hemp] at hrest ⊢
        by_cases hlim : st.backtracks + 1 > op.backtrackLimit
        · simp only [hlim, if_true]; rfl
        · simp only [hlim] at hrest ⊢
          rw [mapState_pop]
          cases hpop : s'.pop with
          | none => rfl
          | some q =>
            obtain ⟨s'', pc', ix'⟩ := q
            rw [hpop] at hrest
            simp only [Option.map_some, if_false]
            exact runLoopB_refines prog op hwt fuel pc' ix' s'' _ hrest

include hceq hU hτ in
/-- **`runB` refines `run`**: on the encoded text from the byte offset of `c.pos`, the byte machine
    returns the code-point machine's outcome with the matched slots mapped to byte offsets (position
    slots through `offOf`, `UNSET` and number slots unchanged) and the same statistics -/
theorem runB_refines (p : Prog) (op : VMOpts) (fuel : Nat) (hwt : wellTyped τ p.body = true)
    (hok : okLoop c τ nS p.body op fuel 0 c.pos (State.new p.nSaves op.maxStack) 0 = true) :
    runB (BCtx.ofCtx c) p op fuel = (mapOut τ ofs (run c p op fuel).1, (run c p op fuel).2) := by
  have := runLoopB_refines c τ nS hceq hU hτ p.body op hwt fuel 0 c.pos (State.new p.nSaves op.maxStack) {} hok
  rw [mapState_new] at this
  exact this

end Step

end Fancy
