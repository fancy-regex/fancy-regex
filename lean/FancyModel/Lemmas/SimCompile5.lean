import FancyModel.Lemmas.SimCompile4
import FancyModel.Lemmas.Atomize2
import FancyModel.Lemmas.ExprInduct
/-!
# Stage S5, machine half: delegated runs with capture groups anywhere below the top

`sim5_visit`: the code `visit br e hard` emits simulates the semantics of `atomizeP br e hard`
(Spec/Stage5.lean) — the tree in which every delegated run that owns capture groups and is not linear
is wrapped in an atomic group.

The proof is that of stage S3 (Lemmas/SimCompile3.lean) read with another semantic tree: `SimAs hard e e'` there
says that the code of `e` simulates `sem c e'`, and its lemmas per constructor and per list companion ask of `e'`
only what the layout looks at. `Sim5P e` is `SimAs hard e (atomizeP br e hard)` for every `hard` within `s5ok`; a
constructor is one rewriting of `s5ok` and of `atomizeP` (their equations come first in this file) followed by the
lemma of stage S3 (`sim5Q_all`). What is new: the runs of a concatenation go through `sim4_run`
(Lemmas/SimCompile4.lean) instead of `sim3_run` (`sim5P_concat`); the loops and the look-behind layouts want the
atomized body well shaped, of the same minimum and constant size and `noBareEndZ` (`atomizeP_shape`,
`atomizeP_const`); a look-behind is split on whether its body has constant size, alternation or not
(`visit_behind_const_ok`, `sem_behind_const`). The leaves are handed to `sim3_visit` itself.
-/
namespace Fancy

/-! ## Equations of `atomizeP` and `s5ok` where `visit` descends -/

section Equations
variable {br : Nat → Bool} {hard : Bool}

theorem atomizeP_concat {es : List Expr} (hdel : ¬(!hard && !isHard br (.concat es)) = true) :
    atomizeP br (.concat es) hard = .concat (runA5 (es.take (concatSplit br es hard).1) ++
      (((atomizeAll br es).drop (concatSplit br es hard).1).take
          ((concatSplit br es hard).2 - (concatSplit br es hard).1) ++
        (if hard then runA5 (es.drop (concatSplit br es hard).2) else es.drop (concatSplit br es hard).2))) := by
  rw [atomizeP]; simp only [hdel, Bool.false_eq_true, ↓reduceIte]

theorem atomizeP_alt {es : List Expr} (hdel : ¬(!hard && !isHard br (.alt es)) = true) :
    atomizeP br (.alt es) hard = .alt (atomizeAlts br es hard) := by
  rw [atomizeP]; simp only [hdel, Bool.false_eq_true, ↓reduceIte]

theorem atomizeP_group {g : Nat} {e : Expr} (hdel : ¬(!hard && !isHard br (.group g e)) = true) :
    atomizeP br (.group g e) hard = .group g (atomizeP br e hard) := by
  rw [atomizeP]; simp only [hdel, Bool.false_eq_true, ↓reduceIte]

theorem atomizeP_repeat {e : Expr} {lo : Nat} {hi : Option Nat} {gr : Bool}
    (hdel : ¬(!hard && !isHard br (.repeat e lo hi gr)) = true) :
    atomizeP br (.repeat e lo hi gr) hard =
      .repeat (atomizeP br e (if lo == 0 && hi == some 1 then hard else true)) lo hi gr := by
  rw [atomizeP]; simp only [hdel, Bool.false_eq_true, ↓reduceIte]

theorem atomizeP_look {e : Expr} {la : Look} : atomizeP br (.look e la) hard = .look (atomizeP br e false) la := by
  rw [atomizeP]; simp only [isHard, Bool.not_true, Bool.and_false, Bool.false_eq_true, ↓reduceIte]

theorem atomizeP_atomic {e : Expr} : atomizeP br (.atomic e) hard = .atomic (atomizeP br e false) := by
  rw [atomizeP]; simp only [isHard, Bool.not_true, Bool.and_false, Bool.false_eq_true, ↓reduceIte]

theorem atomizeP_cond {cnd y no : Expr} :
    atomizeP br (.cond cnd y no) hard = .cond (atomizeP br cnd hard) (atomizeP br y hard) (atomizeP br no hard) := by
  rw [atomizeP]; simp only [isHard, Bool.not_true, Bool.and_false, Bool.false_eq_true, ↓reduceIte]

theorem s5ok_concat {es : List Expr} (hdel : ¬(!hard && !isHard br (.concat es)) = true) :
    s5ok br (.concat es) hard = (s5okAll br es && noBareEndZAll es) := by
  rw [s5ok]; simp only [hdel, Bool.false_eq_true, ↓reduceIte]

theorem s5ok_alt {es : List Expr} (hdel : ¬(!hard && !isHard br (.alt es)) = true) :
    s5ok br (.alt es) hard = (!es.isEmpty && s5okAlts br es hard) := by
  rw [s5ok]; simp only [hdel, Bool.false_eq_true, ↓reduceIte]

theorem s5ok_group {g : Nat} {e : Expr} (hdel : ¬(!hard && !isHard br (.group g e)) = true) :
    s5ok br (.group g e) hard = s5ok br e hard := by
  rw [s5ok]; simp only [hdel, Bool.false_eq_true, ↓reduceIte]

theorem s5ok_repeat {e : Expr} {lo : Nat} {hi : Option Nat} {gr : Bool}
    (hdel : ¬(!hard && !isHard br (.repeat e lo hi gr)) = true) :
    s5ok br (.repeat e lo hi gr) hard =
      ((if lo == 0 && hi == some 1 then s5ok br e hard else s5ok br e true) && (hi != none || decide (0 < minSize e))) := by
  rw [s5ok]; simp only [hdel, Bool.false_eq_true, ↓reduceIte]

theorem s5ok_ahead {e : Expr} : s5ok br (.look e .ahead) hard = (s5ok br e false && condFree e) := by
  rw [s5ok]; simp only [isHard, Bool.not_true, Bool.and_false, Bool.false_eq_true, ↓reduceIte]

theorem s5ok_aheadNeg {e : Expr} : s5ok br (.look e .aheadNeg) hard = s5ok br e false := by
  rw [s5ok]; simp only [isHard, Bool.not_true, Bool.and_false, Bool.false_eq_true, ↓reduceIte]

theorem s5ok_behind {e : Expr} :
    s5ok br (.look e .behind) hard = (s5ok br e false && condFree e && noBareEndZ e) := by
  rw [s5ok]; simp only [isHard, Bool.not_true, Bool.and_false, Bool.false_eq_true, ↓reduceIte]

theorem s5ok_behindNeg {e : Expr} : s5ok br (.look e .behindNeg) hard = (s5ok br e false && noBareEndZ e) := by
  rw [s5ok]; simp only [isHard, Bool.not_true, Bool.and_false, Bool.false_eq_true, ↓reduceIte]

theorem s5ok_atomic {e : Expr} : s5ok br (.atomic e) hard = (s5ok br e false && condFree e) := by
  rw [s5ok]; simp only [isHard, Bool.not_true, Bool.and_false, Bool.false_eq_true, ↓reduceIte]

theorem s5ok_cond {cnd y no : Expr} :
    s5ok br (.cond cnd y no) hard = (s5ok br cnd hard && condFree cnd && s5ok br y hard && s5ok br no hard) := by
  rw [s5ok]; simp only [isHard, Bool.not_true, Bool.and_false, Bool.false_eq_true, ↓reduceIte]

end Equations

/-! ## Leaves: nothing to atomize -/

theorem atomizeP_leaf (br : Nat → Bool) (e : Expr) (hard : Bool) (h : e.isLeaf = true) : atomizeP br e hard = e := by
  by_cases hdel : (!hard && !isHard br e) = true
  · exact atomizeP_easy br e hard hdel
  · rw [atomizeP.eq_def]
    simp only [hdel, Bool.false_eq_true, ↓reduceIte]
    cases e <;> first | rfl | simp [Expr.isLeaf] at h

/-! ## The atomized tree keeps the shape and the minimum size -/

theorem minSizeSum_runA5 (es : List Expr) : minSizeSum (runA5 es) = minSizeSum es := by
  unfold runA5
  split
  · rfl
  · have := minSizeSum_le es
    simp only [minSizeSum, minSize]; unfold satAdd; omega

theorem wellShapedAll_runA5 (es : List Expr) : wellShapedAll (runA5 es) = wellShapedAll es := by
  unfold runA5
  split
  · rfl
  · simp [wellShapedAll, wellShaped]

theorem minSizeSum_map_of (f : Expr → Expr) : ∀ (es : List Expr), (∀ e, e ∈ es → minSize (f e) = minSize e) →
    minSizeSum (es.map f) = minSizeSum es
  | [], _ => rfl
  | e :: es, h => by
    simp only [List.map_cons, minSizeSum, h e (by simp),
      minSizeSum_map_of f es (fun e' he' => h e' (by simp [he']))]

theorem minSizeMin_map_of (f : Expr → Expr) : ∀ (es : List Expr), (∀ e, e ∈ es → minSize (f e) = minSize e) →
    minSizeMin (es.map f) = minSizeMin es
  | [], _ => rfl
  | [e], h => by simp only [List.map_cons, List.map_nil, minSizeMin, h e (by simp)]
  | e :: e2 :: es, h => by
    have ih := minSizeMin_map_of f (e2 :: es) (fun e' he' => h e' (by simp [he']))
    simp only [List.map_cons] at ih ⊢
    simp only [minSizeMin, h e (by simp)]
    rw [ih]

theorem wellShapedAll_map_of (f : Expr → Expr) : ∀ (es : List Expr), (∀ e, e ∈ es → wellShaped (f e) = true) →
    wellShapedAll (es.map f) = true
  | [], _ => rfl
  | e :: es, h => by
    simp only [List.map_cons, wellShapedAll, h e (by simp),
      wellShapedAll_map_of f es (fun e' he' => h e' (by simp [he'])), Bool.and_self]

/-- `atomizeP` keeps well-shapedness and the minimum size -/
theorem atomizeP_shape (br : Nat → Bool) (e : Expr) : ∀ (hard : Bool),
    (wellShaped e = true → wellShaped (atomizeP br e hard) = true) ∧ minSize (atomizeP br e hard) = minSize e := by
  have easy : ∀ {e : Expr}, (∀ hard, ¬(!hard && !isHard br e) = true →
      (wellShaped e = true → wellShaped (atomizeP br e hard) = true) ∧ minSize (atomizeP br e hard) = minSize e) →
      ∀ hard, (wellShaped e = true → wellShaped (atomizeP br e hard) = true) ∧ minSize (atomizeP br e hard) = minSize e :=
    fun {e} h hard => by
      by_cases hdel : (!hard && !isHard br e) = true
      · rw [atomizeP_easy br e hard hdel]; exact ⟨id, rfl⟩
      · exact h hard hdel
  induction e using Expr.induct with
  | concat es ih =>
    refine easy fun hard hdel => ?_
    rw [atomizeP_concat hdel]
    have hle := concatSplit_le br es hard
    generalize concatSplit br es hard = sp at hle ⊢
    rw [atomizeAll_eq_map, ← List.map_drop, ← List.map_take]
    have hmem : ∀ e', e' ∈ (es.drop sp.1).take (sp.2 - sp.1) → e' ∈ es :=
      fun e' he' => List.mem_of_mem_drop (List.mem_of_mem_take he')
    have hsuf : wellShapedAll (if hard = true then runA5 (es.drop sp.2) else es.drop sp.2) = wellShapedAll (es.drop sp.2) ∧
        minSizeSum (if hard = true then runA5 (es.drop sp.2) else es.drop sp.2) = minSizeSum (es.drop sp.2) := by
      cases hard with
      | true => simp only [if_true]; exact ⟨wellShapedAll_runA5 _, minSizeSum_runA5 _⟩
      | false => simp
    refine ⟨fun hw => ?_, ?_⟩
    · simp only [wellShaped] at hw ⊢
      rw [wellShapedAll_append, wellShapedAll_append, wellShapedAll_runA5, hsuf.1,
        wellShapedAll_take es sp.1 hw, wellShapedAll_drop es sp.2 hw]
      rw [wellShapedAll_map_of _ _ (fun e' he' =>
        (ih e' (hmem e' he') true).1 (wellShapedAll_mem' es hw e' (hmem e' he')))]
      rfl
    · simp only [minSize]
      rw [minSizeSum_append, minSizeSum_append, minSizeSum_runA5, hsuf.2]
      rw [minSizeSum_map_of _ _ (fun e' he' => (ih e' (hmem e' he') true).2)]
      rw [← minSizeSum_append, ← minSizeSum_append, ← List.append_assoc, ← list_split3 es hle.1]
  | alt es ih =>
    refine easy fun hard hdel => ?_
    rw [atomizeP_alt hdel, atomizeAlts_eq_map]
    refine ⟨fun hw => ?_, ?_⟩
    · simp only [wellShaped, Bool.and_eq_true] at hw ⊢
      exact ⟨by simpa using hw.1,
        wellShapedAll_map_of _ _ (fun e' he' => (ih e' he' hard).1 (wellShapedAll_mem' es hw.2 e' he'))⟩
    · simp only [minSize]
      exact minSizeMin_map_of _ _ (fun e' he' => (ih e' he' hard).2)
  | group g e ih =>
    refine easy fun hard hdel => ?_
    rw [atomizeP_group hdel]
    simp only [wellShaped, minSize]
    exact ih hard
  | «repeat» e lo hi gr ih =>
    refine easy fun hard hdel => ?_
    rw [atomizeP_repeat hdel]
    simp only [wellShaped, minSize]
    have := ih (if (lo == 0 && hi == some 1) = true then hard else true)
    exact ⟨this.1, by rw [this.2]⟩
  | look e la ih =>
    intro hard
    rw [atomizeP_look]
    simp only [wellShaped, minSize]
    exact ⟨(ih false).1, trivial⟩
  | atomic e ih =>
    intro hard
    rw [atomizeP_atomic]
    simp only [wellShaped, minSize]
    exact ih false
  | cond cnd y no h1 h2 h3 =>
    intro hard
    rw [atomizeP_cond]
    simp only [wellShaped, minSize, Bool.and_eq_true]
    exact ⟨fun hw => ⟨⟨(h1 hard).1 hw.1.1, (h2 hard).1 hw.1.2⟩, (h3 hard).1 hw.2⟩,
      by rw [(h1 hard).2, (h2 hard).2, (h3 hard).2]⟩
  | _ => intro hard; rw [atomizeP_leaf br _ hard rfl]; exact ⟨id, rfl⟩

/-! ## … and the constant size, `noBareEndZ`, being an alternation (for look-behind bodies) -/

theorem constSizeAll_runA5 (es : List Expr) : constSizeAll (runA5 es) = constSizeAll es := by
  unfold runA5
  split
  · rfl
  · simp [constSizeAll, constSize]

theorem noBareEndZAll_runA5 (es : List Expr) : noBareEndZAll (runA5 es) = noBareEndZAll es := by
  unfold runA5
  split
  · rfl
  · simp [noBareEndZAll, noBareEndZ]

theorem constSizeAll_map_of (f : Expr → Expr) : ∀ (es : List Expr), (∀ e, e ∈ es → constSize (f e) = constSize e) →
    constSizeAll (es.map f) = constSizeAll es
  | [], _ => rfl
  | e :: es, h => by
    simp only [List.map_cons, constSizeAll, h e (by simp),
      constSizeAll_map_of f es (fun e' he' => h e' (by simp [he']))]

theorem noBareEndZAll_map_of (f : Expr → Expr) : ∀ (es : List Expr), (∀ e, e ∈ es → noBareEndZ (f e) = noBareEndZ e) →
    noBareEndZAll (es.map f) = noBareEndZAll es
  | [], _ => rfl
  | e :: es, h => by
    simp only [List.map_cons, noBareEndZAll, h e (by simp),
      noBareEndZAll_map_of f es (fun e' he' => h e' (by simp [he']))]

theorem allMinSize_map_of (f : Expr → Expr) (m : Nat) : ∀ (es : List Expr), (∀ e, e ∈ es → minSize (f e) = minSize e) →
    allMinSize m (es.map f) = allMinSize m es
  | [], _ => rfl
  | e :: es, h => by
    simp only [List.map_cons, allMinSize, h e (by simp),
      allMinSize_map_of f m es (fun e' he' => h e' (by simp [he']))]

/-- `atomizeP` keeps the constant size and `noBareEndZ` -/
theorem atomizeP_const (br : Nat → Bool) (e : Expr) : ∀ (hard : Bool),
    constSize (atomizeP br e hard) = constSize e ∧ noBareEndZ (atomizeP br e hard) = noBareEndZ e := by
  have easy : ∀ {e : Expr}, (∀ hard, ¬(!hard && !isHard br e) = true →
      constSize (atomizeP br e hard) = constSize e ∧ noBareEndZ (atomizeP br e hard) = noBareEndZ e) →
      ∀ hard, constSize (atomizeP br e hard) = constSize e ∧ noBareEndZ (atomizeP br e hard) = noBareEndZ e :=
    fun {e} h hard => by
      by_cases hdel : (!hard && !isHard br e) = true
      · rw [atomizeP_easy br e hard hdel]; exact ⟨rfl, rfl⟩
      · exact h hard hdel
  induction e using Expr.induct with
  | concat es ih =>
    refine easy fun hard hdel => ?_
    rw [atomizeP_concat hdel]
    have hle := concatSplit_le br es hard
    generalize concatSplit br es hard = sp at hle ⊢
    rw [atomizeAll_eq_map, ← List.map_drop, ← List.map_take]
    have hmem : ∀ e', e' ∈ (es.drop sp.1).take (sp.2 - sp.1) → e' ∈ es :=
      fun e' he' => List.mem_of_mem_drop (List.mem_of_mem_take he')
    have hsuf : constSizeAll (if hard = true then runA5 (es.drop sp.2) else es.drop sp.2) = constSizeAll (es.drop sp.2) ∧
        noBareEndZAll (if hard = true then runA5 (es.drop sp.2) else es.drop sp.2) = noBareEndZAll (es.drop sp.2) := by
      cases hard with
      | true => simp only [if_true]; exact ⟨constSizeAll_runA5 _, noBareEndZAll_runA5 _⟩
      | false => simp
    refine ⟨?_, ?_⟩
    · simp only [constSize]
      rw [constSizeAll_append, constSizeAll_append, constSizeAll_runA5, hsuf.1]
      rw [constSizeAll_map_of _ _ (fun e' he' => (ih e' (hmem e' he') true).1)]
      rw [← constSizeAll_append, ← constSizeAll_append, ← List.append_assoc, ← list_split3 es hle.1]
    · simp only [noBareEndZ]
      rw [noBareEndZAll_append, noBareEndZAll_append, noBareEndZAll_runA5, hsuf.2]
      rw [noBareEndZAll_map_of _ _ (fun e' he' => (ih e' (hmem e' he') true).2)]
      rw [← noBareEndZAll_append, ← noBareEndZAll_append, ← List.append_assoc, ← list_split3 es hle.1]
  | alt es ih =>
    refine easy fun hard hdel => ?_
    rw [atomizeP_alt hdel, atomizeAlts_eq_map]
    have hms : ∀ e', e' ∈ es → minSize (atomizeP br e' hard) = minSize e' := fun e' _ => (atomizeP_shape br e' hard).2
    refine ⟨?_, ?_⟩
    · simp only [constSize]
      rw [constSizeAll_map_of _ _ (fun e' he' => (ih e' he' hard).1)]
      cases es with
      | nil => rfl
      | cons e0 es' =>
        have h2 := allMinSize_map_of (fun e => atomizeP br e hard) (minSize e0) (e0 :: es') hms
        simp only [List.map_cons] at h2 ⊢
        rw [hms e0 (by simp), h2]
    · simp only [noBareEndZ]
      exact noBareEndZAll_map_of _ _ (fun e' he' => (ih e' he' hard).2)
  | group g e ih =>
    refine easy fun hard hdel => ?_
    rw [atomizeP_group hdel]
    simp only [constSize, noBareEndZ]
    exact ih hard
  | «repeat» e lo hi gr ih =>
    refine easy fun hard hdel => ?_
    rw [atomizeP_repeat hdel]
    simp only [constSize, noBareEndZ]
    have := ih (if (lo == 0 && hi == some 1) = true then hard else true)
    exact ⟨by rw [this.1], this.2⟩
  | look e la ih =>
    intro hard
    rw [atomizeP_look]
    simp only [constSize, noBareEndZ]
    exact ⟨trivial, trivial⟩
  | atomic e ih =>
    intro hard
    rw [atomizeP_atomic]
    simp only [constSize, noBareEndZ]
    exact ih false
  | cond cnd y no h1 h2 h3 =>
    intro hard
    rw [atomizeP_cond]
    simp only [constSize, noBareEndZ]
    exact ⟨by rw [(h1 hard).1, (h2 hard).1, (h3 hard).1, (atomizeP_shape br cnd hard).2, (atomizeP_shape br y hard).2,
      (atomizeP_shape br no hard).2], by rw [(h1 hard).2, (h2 hard).2, (h3 hard).2]⟩
  | _ => intro hard; rw [atomizeP_leaf br _ hard rfl]; exact ⟨rfl, rfl⟩

theorem atomizeAlts_easy (br : Nat → Bool) : ∀ (es : List Expr), isHardAny br es = false → atomizeAlts br es false = es
  | [], _ => rfl
  | e :: es, h => by
    simp only [isHardAny, Bool.or_eq_false_iff] at h
    simp only [atomizeAlts, atomizeP_easy br e false (by simp [h.1]), atomizeAlts_easy br es h.2]

/-- in a non-hard context an alternation is atomized alternative by alternative (also when it is handed
    over whole: then nothing changes) -/
theorem atomizeP_alt_false (br : Nat → Bool) (es : List Expr) :
    atomizeP br (.alt es) false = .alt (atomizeAlts br es false) := by
  by_cases h : isHardAny br es = true
  · rw [atomizeP]; simp [isHard, h]
  · have h' : isHardAny br es = false := by simpa using h
    rw [atomizeP_easy br _ false (by simp [isHard, h']), atomizeAlts_easy br es h']

theorem s5ok_easy (br : Nat → Bool) (e : Expr) (h : isHard br e = false) : s5ok br e false = true := by
  rw [s5ok.eq_def]; simp [h]

theorem s5okAlts_easy (br : Nat → Bool) : ∀ (es : List Expr), isHardAny br es = false → s5okAlts br es false = true
  | [], _ => by simp [s5okAlts]
  | e :: es, h => by
    simp only [isHardAny, Bool.or_eq_false_iff] at h
    simp only [s5okAlts, Bool.and_eq_true]
    exact ⟨s5ok_easy br e h.1, s5okAlts_easy br es h.2⟩

theorem s5ok_alt_alts (br : Nat → Bool) (es : List Expr) (h : s5ok br (.alt es) false = true) :
    s5okAlts br es false = true := by
  by_cases hh : isHardAny br es = true
  · rw [s5ok] at h
    simp only [isHard, hh, Bool.not_true, Bool.and_false, Bool.false_eq_true, ↓reduceIte, Bool.and_eq_true] at h
    exact h.2
  · exact s5okAlts_easy br es (by simpa using hh)

/-! ## Leaves -/

theorem s5ok_leaf (br : Nat → Bool) (e : Expr) (hard : Bool) (h : e.isLeaf = true) : s5ok br e hard = s3ok br e hard := by
  rw [s5ok.eq_def, s3ok.eq_def]
  cases e <;> first | rfl | simp [Expr.isLeaf] at h

theorem keepsGood_of_eq {c : Ctx} {n : Nat} {f g : St → List St} (h : KeepsGood c n f) (hfg : f = g) : KeepsGood c n g :=
  hfg ▸ h

/-! ## The simulation theorem -/

def Sim5P (c : Ctx) (n nS : Nat) (br : Nat → Bool) (e : Expr) : Prop :=
  ∀ hard, s5ok br e hard = true → SimAs c n nS br hard e (atomizeP br e hard)

section Arms
variable {c : Ctx} {n nS : Nat} {br : Nat → Bool}

/-- a sub-tree handed over whole is not atomized: only the case that `visit` descends needs an argument -/
theorem Sim5P.of_hard (hlen : c.len < UNSET) {e : Expr}
    (h : ∀ hard, ¬(!hard && !isHard br e) = true → s5ok br e hard = true → SimAs c n nS br hard e (atomizeP br e hard)) :
    Sim5P c n nS br e := fun hard hok => by
  by_cases hdel : (!hard && !isHard br e) = true
  · rw [atomizeP_easy br e hard hdel]; exact SimAs.easy hlen hdel
  · exact h hard hdel hok

theorem atomizeP_keepsBehind (br : Nat → Bool) (e : Expr) : KeepsBehind br (atomizeP br · false) e :=
  ⟨fun hh => atomizeP_easy br e false (by simp [hh]), (atomizeP_shape br e false).2, (atomizeP_shape br e false).1,
    (atomizeP_const br e false).1, (atomizeP_const br e false).2⟩

/-- the concatenation of stage S3 with `sim4_run` for the two runs in place of `sim3_run` -/
theorem sim5P_concat (hlen : c.len < UNSET) (es : List Expr) (ih : ∀ e ∈ es, Sim5P c n nS br e) :
    Sim5P c n nS br (.concat es) :=
  .of_hard hlen fun hard hdel hok => by
    obtain ⟨hokAll, hzAll⟩ := (Bool.and_eq_true _ _).mp ((s5ok_concat hdel).symm.trans hok)
    rw [atomizeP_concat hdel, atomizeAll_eq_map, ← List.map_drop]
    have hrun : ∀ xs, isHardAny br xs = false → constSizeAll xs = true → noBareEndZAll xs = true →
        RunAs c n nS xs (runA5 xs) :=
      fun xs h1 h2 h3 prog lo hi bal cm gix a h hc => sim4_run c n nS prog lo hi bal cm br xs gix a hlen h h1 h2 h3 hc
    refine SimAs.concat hlen hdel (hrun _ (concatSplit_prefix_isHardAny br es hard)
      (concatSplit_prefix_constSizeAll br es hard) (noBareEndZAll_take es _ hzAll)) ?_
      (fun x hx => ih x hx true (s5okAll_mem br es hokAll x hx))
    cases hard with
    | true =>
      simp only [↓reduceIte]
      exact hrun _ (concatSplit_suffix_isHardAny br es true) (concatSplit_suffix_constSizeAll br es)
        (noBareEndZAll_drop es _ hzAll)
    | false => simp only [Bool.false_eq_true, ↓reduceIte]

/-- every constructor but the concatenation: the lemma of stage S3's layout (`SimAs.group`, …) after one rewriting of `s5ok` and of
    `atomizeP`; the leaves, on which `atomizeP` is the identity, are stage S3 itself -/
theorem sim5Q_all (hlen : c.len < UNSET) (e : Expr) :
    Sim5P c n nS br e ∧ ∀ es, e = .alt es → ∀ x ∈ es, Sim5P c n nS br x := by
  induction e using Expr.induct with
  | concat es ih => exact ⟨sim5P_concat hlen es fun e he => (ih e he).1, nofun⟩
  | alt es ih =>
    refine ⟨.of_hard hlen fun hard hdel hok => ?_, fun _ h x hx => by cases h; exact (ih x hx).1⟩
    obtain ⟨hne, hoks⟩ := (Bool.and_eq_true _ _).mp ((s5ok_alt hdel).symm.trans hok)
    rw [atomizeP_alt hdel, atomizeAlts_eq_map]
    exact SimAs.alt hdel (by intro h; simp [h] at hne) fun x hx => (ih x hx).1 hard (s5okAlts_mem br hard es hoks x hx)
  | group g e ih =>
    refine ⟨.of_hard hlen fun hard hdel hok => ?_, nofun⟩
    rw [atomizeP_group hdel]
    exact (ih.1 hard ((s5ok_group hdel).symm.trans hok)).group hdel
  | «repeat» e lo hi greedy ih =>
    refine ⟨.of_hard hlen fun hard hdel hok => ?_, nofun⟩
    obtain ⟨hoke, hshape⟩ := (Bool.and_eq_true _ _).mp ((s5ok_repeat hdel).symm.trans hok)
    rw [atomizeP_repeat hdel]
    have hsh := atomizeP_shape br e (if (lo == 0 && hi == some 1) = true then hard else true)
    exact (ih.1 _ ((apply_ite (s5ok br e) _ _ _).trans hoke)).repeat hdel (by simpa using hshape) hsh.1 hsh.2
  | look e la ih =>
    refine ⟨?_, nofun⟩
    cases la with
    | ahead =>
      intro hard hok
      obtain ⟨hoke, hcf⟩ := (Bool.and_eq_true _ _).mp (s5ok_ahead.symm.trans hok)
      rw [atomizeP_look]
      exact (ih.1 false hoke).ahead hlen hcf fun hh => atomizeP_easy br e false (by simp [hh])
    | aheadNeg =>
      intro hard hok
      rw [atomizeP_look]
      exact (ih.1 false (s5ok_aheadNeg.symm.trans hok)).aheadNeg
    | behind =>
      intro hard hok
      rw [s5ok_behind, Bool.and_eq_true, Bool.and_eq_true] at hok
      rw [atomizeP_look]
      exact SimAs.behind hlen (atomizeP_keepsBehind br) (fun es => by rw [atomizeP_alt_false, atomizeAlts_eq_map])
        hok.1.2 hok.2 (ih.1 false hok.1.1)
        fun es he x hx => ih.2 es he x hx false (s5okAlts_mem br false es (s5ok_alt_alts br es (he ▸ hok.1.1)) x hx)
    | behindNeg =>
      intro hard hok
      rw [s5ok_behindNeg, Bool.and_eq_true] at hok
      rw [atomizeP_look]
      exact SimAs.behindNeg hlen (atomizeP_keepsBehind br) (fun es => by rw [atomizeP_alt_false, atomizeAlts_eq_map])
        hok.2 (ih.1 false hok.1)
        fun es he x hx => ih.2 es he x hx false (s5okAlts_mem br false es (s5ok_alt_alts br es (he ▸ hok.1)) x hx)
  | atomic e ih =>
    refine ⟨fun hard hok => ?_, nofun⟩
    obtain ⟨hoke, hcf⟩ := (Bool.and_eq_true _ _).mp (s5ok_atomic.symm.trans hok)
    rw [atomizeP_atomic]
    exact (ih.1 false hoke).atomic hcf
  | cond cnd y no ihc ihy ihn =>
    refine ⟨fun hard hok => ?_, nofun⟩
    rw [s5ok_cond] at hok
    simp only [Bool.and_eq_true] at hok
    rw [atomizeP_cond]
    exact SimAs.cond hok.1.1.2 (ihc.1 hard hok.1.1.1) (ihy.1 hard hok.1.2) (ihn.1 hard hok.2)
  | _ =>
    refine ⟨fun hard hok pc nsv gix code nsv' prog => ?_, nofun⟩
    rw [atomizeP_leaf br _ hard rfl]
    exact sim3_visit c n nS br hlen _ hard pc nsv gix code nsv' prog (by rw [← s5ok_leaf br _ hard rfl]; exact hok)

end Arms

theorem sim5_visit (c : Ctx) (n nS : Nat) (br : Nat → Bool) (hlen : c.len < UNSET) :
    ∀ (e : Expr) (hard : Bool) (pc nsv gix : Nat) (code : Code) (nsv' : Nat) (prog : List Insn),
      s5ok br e hard = true → H3 n e gix →
      visit br e hard pc nsv gix = .ok (code, nsv') → CodeAt prog pc code → n ≤ nsv →
      SimOf3 c n nS prog nsv nsv' (condFree e) hard (sem c (atomizeP br e hard)) pc (pc + code.length) :=
  fun e hard pc nsv gix code nsv' prog hok => (sim5Q_all hlen e).1 hard hok pc nsv gix code nsv' prog

theorem sim5_visitMiddle (c : Ctx) (n nS : Nat) (br : Nat → Bool) (hlen : c.len < UNSET) :
    ∀ (es : List Expr) (take pc nsv gix : Nat) (code : Code) (nsv' : Nat) (prog : List Insn),
      s5okAll br es = true → H3L n es gix →
      visitMiddle br es 0 take pc nsv gix = .ok (code, nsv') → CodeAt prog pc code → n ≤ nsv →
      SimOf3 c n nS prog nsv nsv' (condFreeAll (es.take take)) true (semConcat c ((atomizeAll br es).take take)) pc
        (pc + code.length) :=
  fun es take pc nsv gix code nsv' prog hok => by
    rw [atomizeAll_eq_map]
    exact SimAs.visitMiddle es (fun e he => (sim5Q_all hlen e).1 true (s5okAll_mem br es hok e he)) take pc nsv gix code nsv' prog

theorem sim5_visitAlt (c : Ctx) (n nS : Nat) (br : Nat → Bool) (hlen : c.len < UNSET) :
    ∀ (es : List Expr) (hard : Bool) (pc nsv gix : Nat) (f : Nat → Code) (endPc nsv' : Nat) (prog : List Insn),
      s5okAlts br es hard = true → H3L n es gix → es ≠ [] →
      visitAlt br es hard pc nsv gix = .ok (f, endPc, nsv') → n ≤ nsv →
      (CodeAt prog pc (f endPc) →
          SimOf3 c n nS prog nsv nsv' (condFreeAll es) hard (semAlt c (atomizeAlts br es hard)) pc endPc) :=
  fun es hard pc nsv gix f endPc nsv' prog hok => by
    rw [atomizeAlts_eq_map]
    exact SimAs.visitAlt es (fun e he => (sim5Q_all hlen e).1 hard (s5okAlts_mem br hard es hok e he)) pc nsv gix f endPc nsv'
      prog

theorem sim5_lookBehindAlts (c : Ctx) (n nS : Nat) (br : Nat → Bool) (hlen : c.len < UNSET) :
    ∀ (es : List Expr) (pc nsv gix : Nat) (f : Nat → Code) (endPc nsv' : Nat) (prog : List Insn),
      s5okAlts br es false = true → condFreeAll es = true → H3L n es gix → es ≠ [] →
      lookBehindAlts br es pc nsv gix = .ok (f, endPc, nsv') → n ≤ nsv → CodeAt prog pc (f endPc) →
      nsv ≤ nsv' ∧ (nsv' ≤ nS → ∀ cm, Sim2 c n nS prog nsv nsv' true cm (posBehindAlts c (atomizeAlts br es false)) pc endPc) :=
  fun es pc nsv gix f endPc nsv' prog hok hcf hL hne hv hnn hc => by
    rw [atomizeAlts_eq_map]
    exact (SimAs.lookBehindAlts hlen es (fun e he => ⟨(sim5Q_all hlen e).1 false (s5okAlts_mem br false es hok e he),
      atomizeP_keepsBehind br e⟩) pc nsv gix f endPc nsv' prog hcf hL hne hv hnn hc).all

theorem sim5_lookBehindNegAlts (c : Ctx) (n nS : Nat) (br : Nat → Bool) (hlen : c.len < UNSET) :
    ∀ (es : List Expr) (pc nsv gix : Nat) (code : Code) (nsv' : Nat) (prog : List Insn),
      s5okAlts br es false = true → H3L n es gix →
      lookBehindNegAlts br es pc nsv gix = .ok (code, nsv') → n ≤ nsv → CodeAt prog pc code →
      nsv ≤ nsv' ∧ (nsv' ≤ nS → ∀ cm, Sim2 c n nS prog nsv nsv' true cm (negBehindSeq c (atomizeAlts br es false)) pc
        (pc + code.length)) :=
  fun es pc nsv gix code nsv' prog hok hL hv hnn hc => by
    rw [atomizeAlts_eq_map]
    exact (SimAs.lookBehindNegAlts es (fun e he => ⟨(sim5Q_all hlen e).1 false (s5okAlts_mem br false es hok e he),
      atomizeP_keepsBehind br e⟩) pc nsv gix code nsv' prog hL hv hnn hc).all

end Fancy
