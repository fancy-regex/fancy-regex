import FancyModel.Model.Api
import FancyModel.Spec.ApiSpec
/-!
# C08 — find_iter yields the successive leftmost non-overlapping matches

All theorems are about `Api.Iter` (the mirror of `Matches::next` / `CaptureMatches::next`) over an
**arbitrary** search oracle `f`, so they hold whatever the engine does. The only premise about the
engine is well-formedness of what it reports (`WFOracle`: `pos ≤ start ≤ end ≤ len`), which is C05's
business (`Insn::End` caps the start into `[pos, end]`).
-/
namespace Fancy.Api
open Fancy.Utf8

variable {α : Type}

/-- what the iterator needs from the search: a reported match lies inside `[pos, len]` -/
def WFOracle (f : Oracle α) (span : α → Nat × Nat) (len : Nat) : Prop :=
  ∀ pos flag a, f pos flag = .ok (some a) → pos ≤ (span a).1 ∧ (span a).1 ≤ (span a).2 ∧ (span a).2 ≤ len

/-- invariant of iterator states: the last match's end is not beyond the next search position -/
def Iter.J (it : Iter) : Prop := ∀ lm, it.lastMatch = some lm → lm ≤ it.lastEnd

theorem nextUtf8_gt (text : Bytes) (i : Nat) : i < nextUtf8 text i := by
  unfold nextUtf8
  cases h : text[i]? with
  | none => simp
  | some b => simp only [codepointLen]; split <;> (try split) <;> (try split) <;> omega

/-- where the search resumes after a match `(s, e)`: one character on if it was empty -/
theorem resume_bounds (text : Bytes) {s e : Nat} (h : s ≤ e) :
    e ≤ (if s = e then nextUtf8 text e else e) ∧ s < (if s = e then nextUtf8 text e else e) := by
  have := nextUtf8_gt text e
  split <;> omega

theorem Iter.J_start : Iter.start.J := by
  intro lm h; simp [Iter.start] at h

/-- **the flag**: the skipped-empty-match flag is set exactly when the search position lies past
    the previous match's end -/
theorem C08_flag (it : Iter) :
    it.flag = true ↔ ∃ lm, it.lastMatch = some lm ∧ lm < it.lastEnd := by
  unfold Iter.flag
  cases it.lastMatch with
  | none => simp
  | some lm => simp

namespace Iter
section next
variable (f : Oracle α) (span : α → Nat × Nat) (text : Bytes) (fuel : Nat) (it : Iter)

theorem next_past (h : it.lastEnd > text.length) :
    Iter.next f span text (fuel + 1) it = (none, it, false) := by
  rw [Iter.next, if_pos h]

theorem next_error {e : SearchErr} (h : ¬ it.lastEnd > text.length) (hf : f it.lastEnd it.flag = .error e) :
    Iter.next f span text (fuel + 1) it = (some (.error e), { it with lastEnd := text.length + 1 }, false) := by
  rw [Iter.next, if_neg h, hf]

theorem next_noMatch (h : ¬ it.lastEnd > text.length) (hf : f it.lastEnd it.flag = .ok none) :
    Iter.next f span text (fuel + 1) it = (none, it, false) := by
  rw [Iter.next, if_neg h, hf]

/-- the Rust code's recursion: an empty match that ends where the previous match ended is dropped,
    and the search resumes one character further on -/
theorem next_skip {a : α} (h : ¬ it.lastEnd > text.length) (hf : f it.lastEnd it.flag = .ok (some a))
    (he : (span a).1 = (span a).2) (hadj : it.lastMatch = some (span a).2) :
    Iter.next f span text (fuel + 1) it =
      Iter.next f span text fuel { it with lastEnd := nextUtf8 text (span a).2 } := by
  rw [Iter.next, if_neg h, hf]
  simp only [he, hadj, beq_self_eq_true, if_true]

theorem next_yield {a : α} (h : ¬ it.lastEnd > text.length) (hf : f it.lastEnd it.flag = .ok (some a))
    (hd : ¬ ((span a).1 = (span a).2 ∧ it.lastMatch = some (span a).2)) :
    Iter.next f span text (fuel + 1) it =
      (some (.ok a), ⟨if (span a).1 = (span a).2 then nextUtf8 text (span a).2 else (span a).2,
        some (span a).2⟩, false) := by
  rw [Iter.next, if_neg h, hf]
  by_cases he : (span a).1 = (span a).2
  · have hadj : ¬ (some (span a).2 == it.lastMatch) = true := fun h' => hd ⟨he, (beq_iff_eq.mp h').symm⟩
    simp only [he, beq_self_eq_true, if_true, if_neg hadj]
  · have : ¬ ((span a).1 == (span a).2) = true := fun h' => he (beq_iff_eq.mp h')
    simp only [if_neg this, if_neg he]

/-- every fact about one `next()` is proved along the way it computes its answer -/
theorem next_cases (P : Nat → Iter → Option (Except SearchErr α) × Iter × Bool → Prop)
    (zero : ∀ it, P 0 it (none, it, true))
    (past : ∀ fuel it, it.lastEnd > text.length → P (fuel + 1) it (none, it, false))
    (error : ∀ fuel it e, ¬ it.lastEnd > text.length → f it.lastEnd it.flag = .error e →
      P (fuel + 1) it (some (.error e), { it with lastEnd := text.length + 1 }, false))
    (noMatch : ∀ fuel it, ¬ it.lastEnd > text.length → f it.lastEnd it.flag = .ok none →
      P (fuel + 1) it (none, it, false))
    (yield : ∀ fuel it a, ¬ it.lastEnd > text.length → f it.lastEnd it.flag = .ok (some a) →
      ¬ ((span a).1 = (span a).2 ∧ it.lastMatch = some (span a).2) →
      P (fuel + 1) it (some (.ok a), ⟨if (span a).1 = (span a).2 then nextUtf8 text (span a).2 else (span a).2,
        some (span a).2⟩, false))
    (skip : ∀ fuel it a r, ¬ it.lastEnd > text.length → f it.lastEnd it.flag = .ok (some a) →
      (span a).1 = (span a).2 → it.lastMatch = some (span a).2 →
      P fuel { it with lastEnd := nextUtf8 text (span a).2 } r → P (fuel + 1) it r) :
    P fuel it (Iter.next f span text fuel it) := by
  induction fuel generalizing it with
  | zero => exact zero it
  | succ fuel ih =>
    by_cases h : it.lastEnd > text.length
    · rw [Iter.next_past f span text fuel it h]; exact past fuel it h
    · cases hf : f it.lastEnd it.flag with
      | error e => rw [Iter.next_error f span text fuel it h hf]; exact error fuel it e h hf
      | ok o =>
        cases o with
        | none => rw [Iter.next_noMatch f span text fuel it h hf]; exact noMatch fuel it h hf
        | some a =>
          by_cases hd : (span a).1 = (span a).2 ∧ it.lastMatch = some (span a).2
          · rw [Iter.next_skip f span text fuel it h hf hd.1 hd.2]
            exact skip fuel it a _ h hf hd.1 hd.2 (ih _)
          · rw [Iter.next_yield f span text fuel it h hf hd]; exact yield fuel it a h hf hd
end next
end Iter

/-- one `next()` that yields a match: where it lies and what the new state is -/
theorem next_ok_spec (f : Oracle α) (span : α → Nat × Nat) (text : Bytes) (hwf : WFOracle f span text.length)
    (fuel : Nat) (it it' : Iter) (a : α) (oof : Bool) (hj : it.J)
    (h : Iter.next f span text fuel it = (some (.ok a), it', oof)) :
    it.lastEnd ≤ (span a).1 ∧ (span a).1 ≤ (span a).2 ∧ (span a).2 ≤ text.length ∧
      it'.lastMatch = some (span a).2 ∧ (span a).2 ≤ it'.lastEnd ∧ (span a).1 < it'.lastEnd ∧
      (∀ lm, it.lastMatch = some lm → lm < (span a).2) ∧ it'.J := by
  refine Iter.next_cases f span text fuel it
    (P := fun _ it r => it.J → ∀ it' a oof, r = (some (.ok a), it', oof) →
      it.lastEnd ≤ (span a).1 ∧ (span a).1 ≤ (span a).2 ∧ (span a).2 ≤ text.length ∧
      it'.lastMatch = some (span a).2 ∧ (span a).2 ≤ it'.lastEnd ∧ (span a).1 < it'.lastEnd ∧
      (∀ lm, it.lastMatch = some lm → lm < (span a).2) ∧ it'.J)
    ?_ ?_ ?_ ?_ ?_ ?_ hj it' a oof h
  · intro _ _ _ _ _ h; cases h
  · intro _ _ _ _ _ _ _ h; cases h
  · intro _ _ _ _ _ _ _ _ _ h; cases h
  · intro _ _ _ _ _ _ _ _ h; cases h
  · intro _ it a _ hf hd hj _ _ _ h
    cases h
    obtain ⟨w1, w2, w3⟩ := hwf _ _ _ hf
    obtain ⟨b1, b2⟩ := resume_bounds text w2
    refine ⟨w1, w2, w3, rfl, b1, b2, ?_, ?_⟩
    · intro lm hl
      have := hj lm hl
      by_cases he : (span a).1 = (span a).2
      · have : lm ≠ (span a).2 := fun hh => hd ⟨he, hh ▸ hl⟩
        omega
      · omega
    · intro lm hl; cases hl; exact b1
  · intro _ it a r _ hf he hadj ih _ it' a' oof h
    obtain ⟨w1, _, _⟩ := hwf _ _ _ hf
    have hn := nextUtf8_gt text (span a).2
    obtain ⟨r1, r2, r3, r4, r5, r6, r7, r8⟩ :=
      ih (fun lm hl => by rw [hadj] at hl; cases hl; exact Nat.le_of_lt hn) it' a' oof h
    exact ⟨by simp only at r1; omega, r2, r3, r4, r5, r6, r7, r8⟩

/-- after an error item the iterator is exhausted -/
theorem next_err_spec (f : Oracle α) (span : α → Nat × Nat) (text : Bytes)
    (fuel : Nat) (it it' : Iter) (e : SearchErr) (oof : Bool)
    (h : Iter.next f span text fuel it = (some (.error e), it', oof)) :
    it'.lastEnd = text.length + 1 := by
  refine Iter.next_cases f span text fuel it
    (P := fun _ _ r => ∀ it' e oof, r = (some (.error e), it', oof) → it'.lastEnd = text.length + 1)
    ?_ ?_ ?_ ?_ ?_ ?_ it' e oof h
  · intro _ _ _ _ h; cases h
  · intro _ _ _ _ _ _ h; cases h
  · intro _ _ _ _ _ _ _ _ h; cases h; rfl
  · intro _ _ _ _ _ _ _ h; cases h
  · intro _ _ _ _ _ _ _ _ _ h; cases h
  · intro _ _ _ _ _ _ _ _ ih; exact ih

section collect
variable (f : Oracle α) (span : α → Nat × Nat) (text : Bytes)

/-- after an error item the drained iterator is empty -/
theorem collect_after_error {it it' : Iter} {e : SearchErr} {oof : Bool}
    (h : Iter.next f span text (text.length + 2) it = (some (.error e), it', oof)) (n : Nat) :
    Iter.collect f span text n it' = [] := by
  cases n with
  | zero => rfl
  | succ n =>
    have hl := next_err_spec f span text _ it it' e oof h
    rw [Iter.collect, Iter.next_past f span text _ it' (by omega)]

/-- every fact about the drained iterator is proved item by item; an error item is the last -/
theorem Iter.collect_cases (P : Nat → Iter → List (Except SearchErr α) → Prop)
    (zero : ∀ it, P 0 it [])
    (none : ∀ n it it' oof, Iter.next f span text (text.length + 2) it = (none, it', oof) → P (n + 1) it [])
    (error : ∀ n it e it' oof, Iter.next f span text (text.length + 2) it = (some (.error e), it', oof) →
      P (n + 1) it [.error e])
    (ok : ∀ n it a it' oof rest, Iter.next f span text (text.length + 2) it = (some (.ok a), it', oof) →
      P n it' rest → P (n + 1) it (.ok a :: rest))
    (n : Nat) (it : Iter) : P n it (Iter.collect f span text n it) := by
  induction n generalizing it with
  | zero => exact zero it
  | succ n ih =>
    rw [Iter.collect]
    generalize hn : Iter.next f span text (text.length + 2) it = r
    obtain ⟨item, it', oof⟩ := r
    match item with
    | .none => exact none n it it' oof hn
    | some (.error e) =>
      show P _ _ (_ :: Iter.collect f span text n it')
      rw [collect_after_error f span text hn]; exact error n it e it' oof hn
    | some (.ok a) => exact ok n it a it' oof _ hn (ih it')
end collect

/-- **after an `Err` item the iterator yields nothing more** -/
theorem C08_err_stops (f : Oracle α) (span : α → Nat × Nat) (text : Bytes) (n : Nat) (it : Iter)
    (pre : List (Except SearchErr α)) (e : SearchErr) (post : List (Except SearchErr α))
    (h : Iter.collect f span text n it = pre ++ .error e :: post) : post = [] := by
  refine Iter.collect_cases f span text
    (P := fun _ _ l => ∀ pre, l = pre ++ .error e :: post → post = []) ?_ ?_ ?_ ?_ n it pre h
  · intro _ pre h; simp at h
  · intro _ _ _ _ _ pre h; simp at h
  · intro _ _ _ _ _ _ pre h
    cases pre with
    | nil => exact (List.cons.inj h).2.symm
    | cons p pre => simp at h
  · intro _ _ _ _ _ _ _ ih pre h
    cases pre with
    | nil => simp at h
    | cons p pre => exact ih pre (List.cons.inj h).2

/-- consecutive items: ordered, non-overlapping, none starts before the previous match's end -/
def Ordered (span : α → Nat × Nat) (len lo : Nat) (lastM : Option Nat) : List (Except SearchErr α) → Prop
  | [] => True
  | .error _ :: rest => rest = []
  | .ok a :: rest =>
    lo ≤ (span a).1 ∧ (span a).1 ≤ (span a).2 ∧ (span a).2 ≤ len ∧ (∀ lm, lastM = some lm → lm < (span a).2) ∧
      Ordered span len (max (span a).2 ((span a).1 + 1)) (some (span a).2) rest

theorem Ordered_mono (span : α → Nat × Nat) (len lo lo' : Nat) (lm : Option Nat) (l : List (Except SearchErr α))
    (h : Ordered span len lo lm l) (hle : lo' ≤ lo) : Ordered span len lo' lm l := by
  cases l with
  | nil => trivial
  | cons x xs =>
    cases x with
    | error e => exact h
    | ok a => exact ⟨Nat.le_trans hle h.1, h.2⟩

/-- **strictly increasing, never overlapping**: every yielded match starts at or after the previous
    match's end (and after its start), and ends after it -/
theorem C08_ordered (f : Oracle α) (span : α → Nat × Nat) (text : Bytes) (hwf : WFOracle f span text.length)
    (n : Nat) (it : Iter) (hj : it.J) :
    Ordered span text.length it.lastEnd it.lastMatch (Iter.collect f span text n it) := by
  refine Iter.collect_cases f span text
    (P := fun _ it l => it.J → Ordered span text.length it.lastEnd it.lastMatch l) ?_ ?_ ?_ ?_ n it hj
  · intro _ _; trivial
  · intro _ _ _ _ _ _; trivial
  · intro _ _ _ _ _ _ _; rfl
  · intro _ it a it' oof rest hn ih hj
    obtain ⟨r1, r2, r3, r4, r5, r6, r7, r8⟩ := next_ok_spec f span text hwf _ it it' a oof hj hn
    refine ⟨r1, r2, r3, r7, ?_⟩
    have := ih r8
    rw [r4] at this
    exact Ordered_mono span _ _ _ _ _ this (by omega)

/-- the whole `find_iter` sequence is ordered -/
theorem C08_find_iter_ordered (f : Oracle (Nat × Nat)) (text : Bytes) (hwf : WFOracle f id text.length) :
    Ordered id text.length 0 none (findIter f text) :=
  C08_ordered f id text hwf _ Iter.start Iter.J_start

/-- an ordered sequence is short: ends strictly increase inside `[0, len]`, plus at most one error -/
theorem Ordered_length_some (span : α → Nat × Nat) (len lo lm : Nat) (l : List (Except SearchErr α))
    (h : Ordered span len lo (some lm) l) : l.length + lm ≤ len + 1 ∨ l.length ≤ 1 := by
  induction l generalizing lo lm with
  | nil => right; simp
  | cons x xs ih =>
    cases x with
    | error e => right; simp only [Ordered] at h; simp [h]
    | ok a =>
      obtain ⟨_, _, h3, h4, h5⟩ := h
      have hlt := h4 lm rfl
      rcases ih _ _ h5 with h6 | h6
      · left; simp only [List.length_cons]; omega
      · left; simp only [List.length_cons]; omega

theorem Ordered_length (span : α → Nat × Nat) (len lo : Nat) (l : List (Except SearchErr α))
    (h : Ordered span len lo none l) : l.length ≤ len + 2 := by
  cases l with
  | nil => simp
  | cons x xs =>
    cases x with
    | error e => simp only [Ordered] at h; simp [h]
    | ok a =>
      obtain ⟨_, _, h3, _, h5⟩ := h
      rcases Ordered_length_some span len _ _ xs h5 with h6 | h6
      · simp only [List.length_cons]; omega
      · simp only [List.length_cons]; omega

/-- **the item cap of the model is never what ends the sequence**: `find_iter` yields at most
    `len + 2` items under a well-formed oracle (the model drains with a cap of `len + 3`) -/
theorem C08_length_bound (f : Oracle (Nat × Nat)) (text : Bytes) (hwf : WFOracle f id text.length) :
    (findIter f text).length ≤ text.length + 2 :=
  Ordered_length id _ _ _ (C08_find_iter_ordered f text hwf)

/-- **termination**: under a well-formed oracle the recursion of `next()` on dropped empty matches
    never exhausts its fuel (`len + 2 - lastEnd` calls suffice) -/
theorem C08_next_fuel (f : Oracle α) (span : α → Nat × Nat) (text : Bytes) (hwf : WFOracle f span text.length)
    (fuel : Nat) (it : Iter) (hfuel : text.length + 1 ≤ fuel + it.lastEnd) :
    (Iter.next f span text (fuel + 1) it).2.2 = false := by
  refine Iter.next_cases f span text (fuel + 1) it
    (P := fun fuel it r => 0 < fuel → text.length + 2 ≤ fuel + it.lastEnd → r.2.2 = false)
    ?_ ?_ ?_ ?_ ?_ ?_ (by omega) (by omega)
  · intro _ h; cases h
  · intro _ _ _ _ _; rfl
  · intro _ _ _ _ _ _ _; rfl
  · intro _ _ _ _ _ _; rfl
  · intro _ _ _ _ _ _ _ _; rfl
  · intro _ it a r _ hf _ _ ih _ h
    obtain ⟨w1, _, _⟩ := hwf _ _ _ hf
    have := nextUtf8_gt text (span a).2
    exact ih (by omega) (by simp only; omega)

/-- in particular with the fuel the model uses -/
theorem C08_terminates (f : Oracle α) (span : α → Nat × Nat) (text : Bytes) (hwf : WFOracle f span text.length)
    (it : Iter) : (Iter.next f span text (text.length + 2) it).2.2 = false :=
  C08_next_fuel f span text hwf (text.length + 1) it (by omega)

/-- **fused**: once `next()` has returned `None` (without running out of fuel) it returns `None`
    again from the state it left (the oracle is a function of its arguments) -/
theorem C08_fused (f : Oracle α) (span : α → Nat × Nat) (text : Bytes) (fuel fuel' : Nat) (it it' : Iter)
    (h : Iter.next f span text fuel it = (none, it', false)) :
    (Iter.next f span text (fuel' + 1) it').1 = none := by
  refine Iter.next_cases f span text fuel it
    (P := fun _ _ r => ∀ it', r = (none, it', false) → (Iter.next f span text (fuel' + 1) it').1 = none)
    ?_ ?_ ?_ ?_ ?_ ?_ it' h
  · intro _ _ h; cases h
  · intro _ it hgt _ h; cases h; rw [Iter.next_past f span text fuel' it hgt]
  · intro _ _ _ _ _ _ h; cases h
  · intro _ it hle hf _ h; cases h; rw [Iter.next_noMatch f span text fuel' it hle hf]
  · intro _ _ _ _ _ _ _ h; cases h
  · intro _ _ _ _ _ _ _ _ ih; exact ih

/-! ### Non-vacuity: a concrete well-formed oracle (`a*` on the bytes of "aab") -/

def demoOracle : Oracle (Nat × Nat) := fun pos _ =>
  .ok (if pos ≤ 0 then some (0, 2) else if pos ≤ 3 then some (max pos 2 |> fun p => if p == 2 then (2, 2) else (3, 3)) else none)

example : findIter demoOracle [97, 97, 98] = [.ok (0, 2), .ok (3, 3)] := by rfl

example : WFOracle demoOracle id 3 := by
  intro pos flag a h
  simp only [demoOracle] at h
  split at h
  · simp only [Except.ok.injEq, Option.some.injEq] at h; subst h; simp; omega
  · split at h
    · simp only [Except.ok.injEq, Option.some.injEq] at h
      subst h
      simp only [id]
      split <;> simp_all <;> omega
    · simp at h

end Fancy.Api
