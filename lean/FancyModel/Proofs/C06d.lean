import FancyModel.Lemmas.GenParseBase
import FancyModel.Proofs.C06b
import FancyModel.Proofs.C17b
/-!
# C06 (translator part) — the parser model is the parser

`GeneratedParse.lean` is the non-test part of src/parse.rs translated statement by statement by `tools/rs2lean_parse.py`
on every run of the check. This file proves every generated function equal to its hand-written twin in
Model/Parse.lean (same fuel, same panic sites, same error positions and payloads), function by function: the leaf
scanners (`Leaf`), `parse_id` and the two back-reference parsers (`Ident`), `parse_escape` / `parse_class` (`Escape`),
the recursive descent as one induction on the fuel (`Descent`), and finally `parse_with_case_insensitive` = `parseBytes`.
-/
namespace Fancy.GenParse
open Fancy.Parse
open Fancy.Utf8 (codepointLen)

namespace Leaf

/-! ## the small ones -/

@[simp] theorem is_digit_eq (b : Nat) : is_digit b = isDigit b := by
  simp [is_digit, isDigit, ch]

@[simp] theorem is_hex_digit_eq (b : Nat) : is_hex_digit b = isHexDigit b := by
  simp [is_hex_digit, isHexDigit, ch]

@[simp] theorem is_id_char_eq (isAlnum : Char → Bool) (c : Char) : is_id_char isAlnum c = isIdChar isAlnum c := by
  simp [is_id_char, isIdChar]

@[simp] theorem make_literal_eq (s : List Nat) : make_literal s = makeLiteral (decodeList s) := by
  simp [make_literal, makeLiteral]

@[simp] theorem flag_casei (re : Bytes) (st : PState) : flag re st .casei = st.flags.casei := rfl
@[simp] theorem flag_multi (re : Bytes) (st : PState) : flag re st .multi = st.flags.multi := rfl
@[simp] theorem flag_dotnl (re : Bytes) (st : PState) : flag re st .dotnl = st.flags.dotnl := rfl
@[simp] theorem flag_swapGreed (re : Bytes) (st : PState) : flag re st .swapGreed = st.flags.swapGreed := rfl
@[simp] theorem flag_ignoreSpace (re : Bytes) (st : PState) : flag re st .ignoreSpace = st.flags.ignoreSpace := rfl
@[simp] theorem flag_unicode (re : Bytes) (st : PState) : flag re st .unicode = st.flags.unicode := rfl

theorem update_flag_casei (re : Bytes) (st : PState) (neg : Bool) :
    update_flag re st .casei neg = { st with flags := updateFlag st.flags (ch 'i') neg } := by
  cases neg <;> simp [update_flag, flagSet, updateFlag, ch]
theorem update_flag_multi (re : Bytes) (st : PState) (neg : Bool) :
    update_flag re st .multi neg = { st with flags := updateFlag st.flags (ch 'm') neg } := by
  cases neg <;> simp [update_flag, flagSet, updateFlag, ch]
theorem update_flag_dotnl (re : Bytes) (st : PState) (neg : Bool) :
    update_flag re st .dotnl neg = { st with flags := updateFlag st.flags (ch 's') neg } := by
  cases neg <;> simp [update_flag, flagSet, updateFlag, ch]
theorem update_flag_swapGreed (re : Bytes) (st : PState) (neg : Bool) :
    update_flag re st .swapGreed neg = { st with flags := updateFlag st.flags (ch 'U') neg } := by
  cases neg <;> simp [update_flag, flagSet, updateFlag, ch]
theorem update_flag_ignoreSpace (re : Bytes) (st : PState) (neg : Bool) :
    update_flag re st .ignoreSpace neg = { st with flags := updateFlag st.flags (ch 'x') neg } := by
  cases neg <;> simp [update_flag, flagSet, updateFlag, ch]

/-! ## optional_whitespace -/

theorem optional_whitespace_loop1_eq (re : Bytes) (st : PState) (n ix : Nat) :
    optional_whitespace_loop1 re st n ix = skipComment n re ix := by
  induction n generalizing ix with
  | zero => rfl
  | succ n ih =>
    rw [optional_whitespace_loop1, skipComment]
    simp only [decide_eq_true_eq, ih]
    nxt; · rfl
    cases hb : re[ix]? with
    | none => simp only [byteAt_none _ hb]; rfl
    | some b => simp only [byteAt_some _ hb, res_bind_ok]

theorem optional_whitespace_loop0_eq (re : Bytes) (st : PState) (n ix : Nat) :
    optional_whitespace_loop0 re st n ix = optionalWhitespace n re st.flags ix := by
  induction n generalizing ix with
  | zero => rfl
  | succ n ih =>
    rw [optional_whitespace_loop0, optionalWhitespace]
    nxt; · rfl
    cases hb : re[ix]? with
    | none => simp only [byteAt_none _ hb]; rfl
    | some b =>
      have hle : ix ≤ re.size := Nat.le_of_lt (Array.getElem?_eq_some_iff.mp hb).1
      simp only [byteAt_some _ hb, res_bind_ok, flag_ignoreSpace, bytesFrom, hle, if_true, bytesPosition, ih,
        optional_whitespace_loop1_eq]
      nxt
      · simp only [← Nat.add_assoc]; rfl
      nxt; · rfl
      cases (b == ch '(')
      · rfl
      · simp only [if_true, res_pure, res_bind_ok, Bool.true_and]
        nxt
        · cases skipComment (re.size + 1) re (ix + 3) <;> rfl
        · rfl

@[simp] theorem optional_whitespace_eq (re : Bytes) (st : PState) (ix : Nat) :
    optional_whitespace re st ix = optWs re st.flags ix := by
  simp [optional_whitespace, optWs, optional_whitespace_loop0_eq]

/-! ## check_for_close_paren -/

theorem check_for_close_paren_eq (re : Bytes) (st : PState) (ix : Nat) :
    check_for_close_paren re st ix = checkForCloseParen re st.flags ix := by
  simp only [check_for_close_paren, checkForCloseParen, optional_whitespace_eq]

/-! ## parse_decimal -/

theorem take_length_takeWhile {α : Type} (p : α → Bool) : ∀ (l : List α),
    l.take (l.takeWhile p).length = l.takeWhile p
  | [] => by simp
  | a :: l => by
    rw [List.takeWhile_cons]
    split
    · simp [take_length_takeWhile p l]
    · simp

theorem extract_takeWhile (re : Bytes) (ix : Nat) (p : Nat → Bool) :
    (re.extract ix (ix + ((re.toList.drop ix).takeWhile p).length)).toList = (re.toList.drop ix).takeWhile p := by
  rw [Array.toList_extract, List.extract_eq_take_drop, Nat.add_sub_cancel_left, take_length_takeWhile]

theorem parse_decimal_loop0_eq (re : Bytes) : ∀ (n e : Nat), re.size < e + n → 0 < n →
    parse_decimal_loop0 ⟨re, 0⟩ n e = .ok (e + ((re.toList.drop e).takeWhile isDigit).length) := by
  intro n
  induction n with
  | zero => intro e _ h; omega
  | succ n ih =>
    intro e hn _
    rw [parse_decimal_loop0]
    simp only [str_len_whole, str_byteAt_whole, is_digit_eq]
    by_cases h : e < re.size
    · have hg : re[e]? = some re[e] := by simp [h]
      have hd : re.toList.drop e = re[e] :: re.toList.drop (e + 1) := by
        rw [List.drop_eq_getElem_cons (by simpa using h)]; simp
      simp only [h, decide_true, if_true, byteAt_some _ hg, res_bind_ok, hd, List.takeWhile_cons]
      split
      · rw [ih (e + 1) (by omega) (by omega)]
        simp only [List.length_cons]; congr 1; omega
      · simp
    · have hd : re.toList.drop e = [] := by
        apply List.drop_eq_nil_of_le; simp; omega
      simp [h, hd]

theorem fromStrRadix10_digits (ds : List Nat) (h : ds.all isDigit = true) :
    fromStrRadix10 ds = if ds.isEmpty then none else if digitsVal ds ≤ usizeMax then some (digitsVal ds) else none := by
  cases ds with
  | nil => simp [fromStrRadix10]
  | cons d r =>
    have hd : d ≠ 43 := by
      intro h43; subst h43; simp [isDigit] at h
    unfold fromStrRadix10
    split
    · rename_i r' heq; cases heq; exact absurd rfl hd
    · simp [h]

theorem parse_decimal_eq (re : Bytes) (ix : Nat) : parse_decimal ⟨re, 0⟩ ix = parseDecimal re ix := by
  simp only [parse_decimal, parseDecimal, str_len_whole, str_slice_whole]
  rw [parse_decimal_loop0_eq re _ ix (by omega) (by omega)]
  simp only [res_bind_ok, slice]
  split
  · rename_i hs
    have hall := List.all_takeWhile (p := isDigit) (l := re.toList.drop ix)
    simp only [hs, Bool.not_true, Bool.false_eq_true, if_false, extract_takeWhile, res_bind_ok,
      fromStrRadix10_digits _ hall]
    split
    · rfl
    · split <;> rfl
  · rename_i hs
    simp [hs]

/-! ## parse_repeat -/

theorem parse_repeat_tail {α : Type} (re : Bytes) (ix : Nat) (v : α) (s : String) (k : PErr) (c : Nat) :
    ((if (ix == re.size) = true then pure true
        else do
          let t3 ← byteAt re ix s
          pure (t3 != c) : Res Bool) >>= fun t2 =>
      if t2 = true then Res.err k ix else Res.ok v) =
    (if (ix == re.size) = true then Res.err k ix
    else do
      let b ← byteAt re ix s
      if (b != c) = true then Res.err k ix else (Res.ok v)) := by
  split
  · rfl
  · cases byteAt re ix s <;> rfl

/-- the generated `match t with | some (next_, v) => … | _ => …` (the matcher of `parse_repeat`) is the model's
    `| some (next, v) => … | none => …` -/
theorem match_some_pair_wild {β : Type} (t : Option (Nat × Nat)) (f : Nat → Nat → Res β) (g : Option (Nat × Nat) → Res β) :
    parse_repeat.match_1 (fun _ => Res β) t f g =
    (match t with
      | some (a, b) => f a b
      | none => g none) := by
  cases t with
  | none => rfl
  | some p => cases p; rfl

theorem parse_repeat_eq (re : Bytes) (st : PState) (ix : Nat) :
    parse_repeat re st ix = parseRepeat re st.flags ix := by
  simp only [parse_repeat, parseRepeat, optional_whitespace_eq, parse_decimal_eq, parse_repeat_tail,
    match_some_pair_wild]
  rfl

/-! ## unknown_flag -/

theorem unknown_flag_eq (re : Bytes) (start end_ : Nat) :
    unknown_flag ⟨re, 0⟩ start end_ = Res.mapv (fun e => (e, start)) (unknownFlag re start end_) := by
  simp only [unknown_flag, unknownFlag, str_byteAt_whole, str_slice_whole]
  cases byteAt re end_ "unknown_flag: bytes[end]" with
  | ok b =>
    simp only [res_bind_ok]
    cases slice re start (end_ + codepointLen b) "unknown_flag: re[start..after_end]" with
    | ok s => simp [Res.mapv, ch]
    | _ => rfl
  | _ => rfl

/-! ## parse_hex -/

theorem parse_hex_loop0_eq (re : Bytes) (st : PState) (ix b0 starthex : Nat) (n endhex : Nat) :
    parse_hex_loop0 re st ix b0 starthex n endhex = hexBraceLoop n re ix starthex endhex := by
  induction n generalizing endhex b0 with
  | zero => rfl
  | succ n ih =>
    rw [parse_hex_loop0, hexBraceLoop]
    nxt; · rfl
    cases hb : re[endhex]? with
    | none => simp only [byteAt_none _ hb]; rfl
    | some b => simp only [byteAt_some _ hb, res_bind_ok, is_hex_digit_eq, ih]

theorem parse_hex_t0 (re : Bytes) (ix digits : Nat) (s : String) :
    ((if decide (ix + digits ≤ re.size) = true then do
        let t1 ← bytesRange re ix (ix + digits) s
        pure (t1.all fun b => isHexDigit b)
      else pure false : Res Bool)) =
    .ok (decide (ix + digits ≤ re.size) && (re.extract ix (ix + digits)).toList.all isHexDigit) := by
  by_cases h : ix + digits ≤ re.size
  · simp [h, bytesRange]
  · simp [h]

theorem parse_hex_eq (re : Bytes) (st : PState) (ix digits : Nat) :
    parse_hex re st ix digits = parseHex re st.flags ix digits := by
  simp only [parse_hex, parseHex, parse_hex_loop0_eq, is_hex_digit_eq, flag_casei, parse_hex_t0, res_bind_ok]
  have hrest : ∀ (e : Nat) (s : List Nat),
      (do let codepoint ← expect (parseHexU32 s) "parse_hex: from_str_radix(..).unwrap()"
          match charFromU32 codepoint with
          | some c => Res.ok (e, Expr.literal ([] ++ [c]) st.flags.casei)
          | _ => Res.err PErr.invalidCodepointValue ix : Res (Nat × Expr)) =
      (match parseHexU32 s with
        | none => Res.panic "parse_hex: from_str_radix(..).unwrap()"
        | some cp =>
          if cp.isValidChar then Res.ok (e, Expr.literal [mkChar cp] st.flags.casei)
          else Res.err PErr.invalidCodepointValue ix) := by
    intro e s
    cases parseHexU32 s with
    | none => simp [expect]
    | some cp =>
      simp only [expect, res_bind_ok, charFromU32]
      by_cases hv : cp.isValidChar <;> simp [hv]
  by_cases h : ix ≥ re.size
  · simp only [h, decide_true, if_true]
  simp only [h, decide_false, Bool.false_eq_true, if_false]
  refine bind_congr rfl fun b => ?_
  rw [ite_bind']; nxt
  · cases slice re ix (ix + digits) "parse_hex: self.re[ix..end]" with
    | ok t => exact hrest _ _
    | _ => rfl
  rw [ite_bind']; nxt
  · cases hexBraceLoop 16 re ix (ix + 1) (ix + 1) with
    | ok e =>
      simp only [res_bind_ok]
      cases slice re (ix + 1) e "parse_hex: self.re[starthex..endhex]" with
      | ok t => exact hrest _ _
      | _ => rfl
    | _ => rfl
  · rfl

end Leaf
attribute [-simp] Leaf.is_digit_eq Leaf.is_hex_digit_eq Leaf.is_id_char_eq Leaf.make_literal_eq Leaf.flag_casei Leaf.flag_multi Leaf.flag_dotnl Leaf.flag_swapGreed Leaf.flag_ignoreSpace Leaf.flag_unicode Leaf.optional_whitespace_eq

namespace Ident

theorem is_id_char_eq (isAlnum : Char → Bool) (c : Char) : is_id_char isAlnum c = isIdChar isAlnum c := rfl

/-! ## `parse_numbered_backref` -/

theorem parse_numbered_backref_eq (re : Bytes) (st : PState) (ix : Nat) (k : RefKind) :
    parse_numbered_backref re st ix k.mk = parseNumberedBackref re st ix k := by
  unfold parse_numbered_backref parseNumberedBackref
  rw [Leaf.parse_decimal_eq]
  refine bind_congr rfl fun o => ?_
  rcases o with _ | ⟨e, g⟩
  · rfl
  · simp only [decide_eq_true_eq]

/-! ## `parse_named_backref` (given `parse_id`) -/

theorem strFrom_eq (re : Bytes) (a : Nat) (site : String) :
    strFrom re a site = if sliceFromOk re a then .ok ⟨re, a⟩ else .panic site := by
  simp [strFrom, Str.suffix]

/-- `parse_id` on the suffix at `base`, given that there it is the model's `parseId`: the name it returns is the extract -/
theorem parse_id_bind {β : Type} (isAlnum : Char → Bool) (re : Bytes) (base : Nat) (site : String)
    (o c : List Nat) (a : Bool)
    (hid : sliceFromOk re base = true → parse_id isAlnum ⟨re, base⟩ o c a =
        Res.mapv (fun o => o.map (fun (r : Nat × Nat × Nat) => ((re.extract r.1 r.2.1).toList, r.2.2)))
          (parseId isAlnum re base o c a))
    (K : Option (List Nat × Nat) → Res β) :
    (strFrom re base site >>= fun t => parse_id isAlnum t o c a >>= K) =
    (sliceFrom re base site >>= fun _ => parseId isAlnum re base o c a >>= fun r =>
      K (r.map fun r => ((re.extract r.1 r.2.1).toList, r.2.2))) := by
  rw [strFrom_eq, sliceFrom]
  by_cases hs : sliceFromOk re base = true
  · simp only [hs, ↓reduceIte, res_bind_ok, hid hs]
    cases parseId isAlnum re base o c a <;> rfl
  · simp only [hs, Bool.false_eq_true, ↓reduceIte, res_bind_panic]

/-- `parse_named_backref` = the model, given that `parse_id` on the suffix at `ix` = the model's `parseId` -/
theorem parse_named_backref_eq_of (isAlnum : Char → Bool) (re : Bytes) (st : PState) (ix : Nat)
    (open_ close : List Nat) (allowRelative : Bool) (k : RefKind)
    (hid : sliceFromOk re ix = true → parse_id isAlnum ⟨re, ix⟩ open_ close allowRelative =
        Res.mapv (fun o => o.map (fun (r : Nat × Nat × Nat) => ((re.extract r.1 r.2.1).toList, r.2.2)))
          (parseId isAlnum re ix open_ close allowRelative)) :
    parse_named_backref isAlnum re st ix open_ close allowRelative k.mk =
      parseNamedBackref isAlnum re st ix open_ close allowRelative k := by
  unfold parse_named_backref parseNamedBackref
  refine (parse_id_bind isAlnum re ix _ open_ close allowRelative hid _).trans ?_
  refine bind_congr rfl fun _ => bind_congr rfl fun o => ?_
  rcases o with _ | ⟨a, b, skip⟩
  · rfl
  simp only [Option.map_some]
  cases hn : namedGet st.namedGroups (re.extract a b).toList with
  | some g =>
    simp only [res_pure, res_bind_ok]
    cases hf : Option.filter (fun group => decide (group < re.size / 2)) (some g) <;> rfl
  | none =>
    simp only
    cases hp : parseIsize (re.extract a b).toList with
    | none => rfl
    | some g =>
      simp only [res_pure, res_bind_ok]
      by_cases hg : g ≥ 0
      · simp only [tryIntoUsize, hg, ↓reduceIte]
        generalize Option.filter _ _ = o
        cases o <;> rfl
      · simp only [tryIntoUsize, checkedAddSigned, hg, ↓reduceIte]
        generalize Option.filter _ _ = o
        cases o <;> rfl

/-! ## `parse_id` -/

/-- The one place where the generated `parse_id` looks at a *decoded character* where the model looks at a *byte*:
    `iter.next_if(|(_, ch)| *ch == '-')`.  On valid UTF-8 a non-ASCII lead byte never starts the character `'-'`;
    the model's lossy decoder `decodeList`, however, decodes the (invalid) over-long form `C0 AD` to `'-'`, so the
    agreement needs this side condition on the byte at `id_start` (true of the bytes of every `&str`). -/
def DashOK (re : Bytes) (i : Nat) : Prop :=
  ∀ b, re[i]? = some b → 0x80 ≤ b → (decodeAt re i b).1 ≠ '-'

theorem mkChar_toNat_ascii (b : Nat) (h : b < 128) : (mkChar b).toNat = b := by
  have hv : b.isValidChar := by left; omega
  simp only [mkChar, hv, ↓reduceDIte]
  rfl

theorem decodeAt_ascii (re : Bytes) (i b : Nat) (hg : re[i]? = some b) (hb : b < 128) :
    decodeAt re i b = (mkChar b, 1) := by
  have hlt := lt_size_of_get hg
  have hc : codepointLen b = 1 := by simp [codepointLen]; omega
  have he : (re.extract i (i + 1)).toList = [b] := by
    apply List.ext_getElem?
    intro j
    rw [Array.getElem?_toList, Array.getElem?_extract]
    have : min (i + 1) re.size = i + 1 := by omega
    rw [this]
    cases j with
    | zero => simpa using hg
    | succ j => simp
  unfold decodeAt
  simp only [hc, he]
  unfold decodeList
  simp [hb, decodeList]

theorem findNot_ge (pred : Char → Bool) : ∀ (f : Nat) (re : Bytes) (ix p : Nat),
    findNot pred f re ix = .ok (some p) → ix ≤ p := by
  intro f
  induction f with
  | zero => intro re ix p h; simp [findNot] at h
  | succ f ih =>
    intro re ix p h
    unfold findNot at h
    cases hg : re[ix]? with
    | none => rw [hg] at h; simp at h
    | some b =>
      rw [hg] at h
      simp only at h
      split at h
      · have := ih _ _ _ h; omega
      · cases h; exact Nat.le_refl _

/-- `iter.next_if(|(_, ch)| *ch == '-')` = the byte test of the model -/
theorem nextIf_dash (re : Bytes) (bs i : Nat) (hd : DashOK re i) :
    (CharIter.nextIf ⟨re, bs, i⟩ (fun ch => ch == '-')) =
      if re[i]? == some (ch '-') then (true, ⟨re, bs, i + 1⟩) else (false, ⟨re, bs, i⟩) := by
  unfold CharIter.nextIf
  cases hg : re[i]? with
  | none => rfl
  | some b =>
    by_cases h45 : b = 45
    · subst h45
      simp only [decodeAt_ascii re i 45 hg (by decide)]
      rfl
    · have hne : ((decodeAt re i b).1 == '-') = false := by
        refine beq_false_of_ne ?_
        by_cases hb : b < 128
        · rw [decodeAt_ascii re i b hg hb]
          intro h'
          exact h45 (by rw [← mkChar_toNat_ascii b hb, show mkChar b = '-' from h']; rfl)
        · exact hd b hg (by omega)
      have hb' : (some b == some (ch '-')) = false := beq_false_of_ne fun h => h45 (Option.some.inj h)
      simp only [hne, hb', Bool.false_eq_true, if_false]

theorem findIdx_eq (re : Bytes) (bs i : Nat) (q : Char → Bool) :
    CharIter.findIdx ⟨re, bs, i⟩ (fun ch => !(q ch)) =
      Res.mapv (fun o => o.map (fun a => a - bs)) (findNot q (re.size + 1) re i) := by
  unfold CharIter.findIdx
  have : (fun c => !(fun ch => !(q ch)) c) = q := by funext c; simp
  simp only [this]
  cases findNot q (re.size + 1) re i with
  | ok o => cases o <;> rfl
  | _ => rfl

theorem startsWithPred_eq (isAlnum : Char → Bool) (close : List Nat) :
    startsWithPred close (fun t0 => is_id_char isAlnum t0) =
      (match close with | c :: _ => isIdChar isAlnum (mkChar c) | [] => false) := by
  cases close <;> rfl

/-- the scan of the identifier: `next_if` for a leading `-`, then `find` for its end (relative to `bs`) -/
theorem scan_eq (isAlnum : Char → Bool) (re : Bytes) (bs i : Nat) (allowRelative : Bool)
    (hd : allowRelative = true → DashOK re i) :
    Res.mapv Prod.fst (do
      let (t2, iter) := (if allowRelative then CharIter.nextIf ⟨re, bs, i⟩ (fun ch => ch == '-') else (false, ⟨re, bs, i⟩))
      (if t2 then do
          let t3 ← iter.findIdx (fun ch => !isAsciiDigitChar ch)
          pure (t3, iter)
        else do
          let t4 ← iter.findIdx (fun ch => !is_id_char isAlnum ch)
          pure (t4, iter) : Res (Option Nat × CharIter))) =
    Res.mapv (Option.map (· - bs))
      (if allowRelative && re[i]? == some (ch '-') then findNot isAsciiDigitChar (re.size + 1) re (i + 1)
        else findNot (isIdChar isAlnum) (re.size + 1) re i) := by
  have hf : ∀ (q : Char → Bool) (j : Nat),
      Res.mapv Prod.fst (CharIter.findIdx ⟨re, bs, j⟩ (fun ch => !q ch) >>= fun t =>
        (pure (t, (⟨re, bs, j⟩ : CharIter)) : Res _)) = Res.mapv (Option.map (· - bs)) (findNot q (re.size + 1) re j) := by
    intro q j
    rw [findIdx_eq]
    cases findNot q (re.size + 1) re j <;> rfl
  cases allowRelative
  · exact hf _ _
  · simp only [if_true, nextIf_dash re bs i (hd rfl), Bool.true_and]
    by_cases hm : (re[i]? == some (ch '-')) = true
    · simp only [hm, if_true]; exact hf _ _
    · simp only [hm, Bool.false_eq_true, if_false]; exact hf _ _

theorem parse_id_eq_at (isAlnum : Char → Bool) (re : Bytes) (base : Nat) (open_ close : List Nat) (allowRelative : Bool)
    (hd : allowRelative = true → sliceFromOk re (base + open_.length) = true → DashOK re (base + open_.length)) :
    parse_id isAlnum ⟨re, base⟩ open_ close allowRelative =
      Res.mapv (fun o => o.map (fun (r : Nat × Nat × Nat) => ((re.extract r.1 r.2.1).toList, r.2.2)))
        (parseId isAlnum re base open_ close allowRelative) := by
  unfold parse_id parseId
  simp only [mapv_ite, mapv_bind]
  nxt; · rfl
  nxt; · rfl
  simp only [Str.charIndices, sliceFrom]
  by_cases hs : sliceFromOk re (base + open_.length) = true
  case neg => simp only [hs, Bool.false_eq_true, ↓reduceIte]; rfl
  simp only [hs, ↓reduceIte, res_bind_ok]
  refine bind_congr_mapv (scan_eq isAlnum re _ _ allowRelative (fun h => hd h hs)) fun x o ho hxo => ?_
  have hge : ∀ p, o = some p → base + open_.length ≤ p := by
    intro p hp
    subst hp
    split at ho
    · exact Nat.le_of_succ_le (findNot_ge _ _ _ _ _ ho)
    · exact findNot_ge _ _ _ _ _ ho
  rw [hxo]
  refine bind_congr ?_ fun l => ?_
  · -- `id_len`
    cases o with
    | none => rfl
    | some p =>
      have e : base + (open_.length + (p - (base + open_.length))) = p := by have := hge p rfl; omega
      simp only [Option.map_some, Str.suffix, e]
      by_cases hsp : sliceFromOk re p = true
      · simp only [hsp, ↓reduceIte, res_bind_ok]; rfl
      · simp only [hsp, Bool.false_eq_true, ↓reduceIte, res_bind_panic]
  · -- the identifier and the offset behind `close`
    match l with
    | none => rfl
    | some 0 => rfl
    | some (l + 1) =>
      simp only [Str.slice, slice, ← Nat.add_assoc]
      by_cases hso : sliceOk re (base + open_.length) (base + open_.length + l + 1) = true
      · simp only [hso, ↓reduceIte, res_bind_ok, Bool.not_true, Bool.false_eq_true, Res.mapv, Option.map_some]
        congr 3
        omega
      · simp only [hso, Bool.false_eq_true, ↓reduceIte, res_bind_panic, Bool.not_false, Res.mapv]

/-! ## `parse_named_backref` -/

theorem parse_named_backref_eq_at (isAlnum : Char → Bool) (re : Bytes) (st : PState) (ix : Nat)
    (open_ close : List Nat) (allowRelative : Bool) (k : RefKind)
    (hd : allowRelative = true → sliceFromOk re (ix + open_.length) = true → DashOK re (ix + open_.length)) :
    parse_named_backref isAlnum re st ix open_ close allowRelative k.mk =
      parseNamedBackref isAlnum re st ix open_ close allowRelative k :=
  parse_named_backref_eq_of isAlnum re st ix open_ close allowRelative k
    (fun _ => parse_id_eq_at isAlnum re ix open_ close allowRelative hd)

/-- without relative references no side condition at all -/
theorem parse_id_eq_norel (isAlnum : Char → Bool) (re : Bytes) (base : Nat) (open_ close : List Nat) :
    parse_id isAlnum ⟨re, base⟩ open_ close false =
      Res.mapv (fun o => o.map (fun (r : Nat × Nat × Nat) => ((re.extract r.1 r.2.1).toList, r.2.2)))
        (parseId isAlnum re base open_ close false) :=
  parse_id_eq_at isAlnum re base open_ close false (fun h => by cases h)

theorem parse_named_backref_eq_norel (isAlnum : Char → Bool) (re : Bytes) (st : PState) (ix : Nat)
    (open_ close : List Nat) (k : RefKind) :
    parse_named_backref isAlnum re st ix open_ close false k.mk =
      parseNamedBackref isAlnum re st ix open_ close false k :=
  parse_named_backref_eq_at isAlnum re st ix open_ close false k (fun h => by cases h)

/-- the side condition is needed: the over-long form `C0 AD` (not UTF-8) is `'-'` for the lossy decoder -/
example : parse_id (fun c => c.isAlphanum) ⟨#[0xC0, 0xAD, 49], 0⟩ [] [] true = .ok (some ([0xC0, 0xAD, 49], 3)) ∧
    parseId (fun c => c.isAlphanum) #[0xC0, 0xAD, 49] 0 [] [] true = .ok none := by
  constructor <;> rfl

/-! ## the side condition holds for the bytes of every string -/

theorem DashOK_bytesOf (cs : List Char) (i : Nat) (hb : isBoundary (bytesOf cs) i = true) :
    DashOK (bytesOf cs) i := by
  intro b hg hge hdec
  unfold bytesOf at hb hg hdec
  generalize hns : cs.map Char.toNat = ns at hb hg hdec
  rw [isBoundary_toArray] at hb
  have hg' : (Utf8.encode ns)[i]? = some b := by simpa using hg
  obtain ⟨k, hk, rfl⟩ := (Utf8.C05_boundary_iff ns i).mp hb
  have hlt : Utf8.off ns k < (Utf8.encode ns).length := (List.getElem?_eq_some_iff.mp hg').1
  have hk' : k < ns.length := by
    rcases Nat.lt_or_ge k ns.length with h | h
    · exact h
    · have : k = ns.length := by omega
      subst this; rw [Utf8.off_length] at hlt; omega
  obtain ⟨b', hb1, _, hb3⟩ := Utf8.lead_at ns k hk'
  rw [hg'] at hb1
  cases hb1
  have hkc : k < cs.length := by rw [← hns] at hk'; simpa using hk'
  have hnk : ns[k] = cs[k].toNat := by subst hns; simp
  -- the bytes of the character
  have hex : ((Utf8.encode ns).toArray.extract (Utf8.off ns k) (Utf8.off ns k + codepointLen b)).toList =
      Utf8.encodeChar ns[k] := by
    rw [hb3]
    conv => lhs; rw [Utf8.encode_split3 ns k hk']
    have hoff : Utf8.off ns k = (Utf8.encode (ns.take k)).length := rfl
    simp [hoff]
  have hdl : decodeList (Utf8.encodeChar ns[k]) = [cs[k]] := by
    rw [hnk]; exact decodeList_encodeChar _
  unfold decodeAt at hdec
  simp only [hex, hdl] at hdec
  -- so the character is '-', whose encoding is the byte 45
  have h0 := Utf8.get_at ns k 0 hk' (Utf8.encodeChar_length_pos _)
  rw [Nat.add_zero, hg', hnk, hdec] at h0
  have : b = 45 := by
    have h1 : (Utf8.encodeChar '-'.toNat)[0]? = some 45 := by decide
    rw [h1] at h0; cases h0; rfl
  omega

/-! ## the statements for a pattern that is valid UTF-8 in the sense needed here -/

/-- at every character boundary, a non-ASCII byte does not decode to `'-'` (no over-long `'-'`) -/
def DashWF (re : Bytes) : Prop := ∀ i, isBoundary re i = true → DashOK re i

theorem DashWF_bytesOf (cs : List Char) : DashWF (bytesOf cs) := fun i hb => DashOK_bytesOf cs i hb

theorem parse_id_eq (isAlnum : Char → Bool) (re : Bytes) (base : Nat) (open_ close : List Nat) (allowRelative : Bool)
    (hw : DashWF re) :
    parse_id isAlnum ⟨re, base⟩ open_ close allowRelative =
      Res.mapv (fun o => o.map (fun (r : Nat × Nat × Nat) => ((re.extract r.1 r.2.1).toList, r.2.2)))
        (parseId isAlnum re base open_ close allowRelative) :=
  parse_id_eq_at isAlnum re base open_ close allowRelative (fun _ hs => hw _ hs)

theorem parse_named_backref_eq (isAlnum : Char → Bool) (re : Bytes) (st : PState) (ix : Nat)
    (open_ close : List Nat) (allowRelative : Bool) (k : RefKind) (hw : DashWF re) :
    parse_named_backref isAlnum re st ix open_ close allowRelative k.mk =
      parseNamedBackref isAlnum re st ix open_ close allowRelative k :=
  parse_named_backref_eq_at isAlnum re st ix open_ close allowRelative k (fun _ hs => hw _ hs)

end Ident

theorem backref_mk : (fun group => Expr.backref group) = RefKind.backref.mk := by funext g; rfl
theorem subroutine_mk : (fun group => Expr.subroutine group) = RefKind.subroutine.mk := by funext g; rfl

namespace Escape

theorem make_literal_eq (s : List Nat) : make_literal s = makeLiteral (decodeList s) := Leaf.make_literal_eq s

theorem flag_casei (re : Bytes) (st : PState) : flag re st .casei = st.flags.casei := rfl

theorem parse_escape_loop0_eq (isAlnum : Char → Bool) (re : Bytes) (st : PState) (ix b0 : Nat) (n end_ : Nat) :
    parse_escape_loop0 isAlnum re st ix b0 n end_ = uniNameLoop n re ix end_ := by
  induction n generalizing end_ b0 with
  | zero => rfl
  | succ n ih =>
    rw [parse_escape_loop0, uniNameLoop]
    nxt; · rfl
    cases hb : re[end_]? with
    | none => simp only [byteAt_none _ hb]; rfl
    | some b => simp only [byteAt_some _ hb, res_bind_ok, ih]

theorem decodeList_Z : decodeList [10, 42, 36] = ['\n', '*', '$'] := by decide
theorem decodeList_h : decodeList [91, 48, 45, 57, 65, 45, 70, 97, 45, 102, 93] = "[0-9A-Fa-f]".toList := by decide
theorem decodeList_H : decodeList [91, 94, 48, 45, 57, 65, 45, 70, 97, 45, 102, 93] = "[^0-9A-Fa-f]".toList := by decide

theorem parse_escape_eq (isAlnum : Char → Bool) (re : Bytes) (st : PState) (ix : Nat) (inClass : Bool) (hw : Ident.DashWF re) :
    parse_escape isAlnum re st ix inClass = parseEscape isAlnum re st ix inClass := by
  unfold parse_escape parseEscape
  cases hb : re[ix + 1]? with
  | none => rfl
  | some b =>
    simp only [Leaf.is_digit_eq, backref_mk, subroutine_mk, Ident.parse_numbered_backref_eq,
      Ident.parse_named_backref_eq isAlnum re _ _ _ _ _ _ hw, Leaf.parse_hex_eq, flag_casei, parse_escape_loop0_eq,
      decodeList_Z]
    nxt; · rfl
    nxt; · rfl
    nxt; · rfl
    nxt; · rfl
    nxt; · rfl
    nxt; · rfl  -- \b
    nxt; · rfl  -- \B
    nxt; · rfl
    nxt; · rfl
    nxt; · rfl -- dsw
    nxt
    · cases h : (b == ch 'h')
      · simp only [if_false, decodeList_H, Bool.false_eq_true, res_pure, res_bind_ok]
      · simp only [if_true, decodeList_h, res_pure, res_bind_ok]
    nxt; · rfl -- x
    nxt; · rfl -- u
    nxt; · rfl -- U
    nxt
    · refine bind_congr rfl fun b2 => ?_
      cases h : (b2 == ch '{') <;>
        simp only [Bool.false_eq_true, if_false, if_true, res_pure, res_bind_ok]
    nxt; · rfl -- K
    nxt; · rfl -- G
    nxt
    · nxt; · rfl
      refine bind_congr rfl fun b2 => ?_
      nxt; · exact res_bind_eta3 _
      nxt; · exact res_bind_eta3 _
      exact res_bind_eta3 _
    rw [ite_bind']; nxt; · rfl
    rw [ite_bind']; nxt; · rfl
    rw [ite_bind']; nxt; · rfl
    rw [ite_bind']; nxt; · rfl
    rw [ite_bind']; nxt; · rfl
    rw [ite_bind']; nxt; · rfl
    rw [ite_bind']; nxt; · rfl
    rw [ite_bind']; nxt; · rfl
    rw [ite_bind']; nxt; · rfl
    cases hs : slice re (ix + 1) (ix + 1 + codepointLen b) "parse_escape: self.re[ix + 1..end]" with
    | ok s =>
      simp only [res_bind_ok]
      rw [ite_bind']; nxt; · rfl
      rfl
    | _ => rfl

/-- the result of the model's class loop in the shape of the generated loop's result (`nest` is `0` at the exit) -/
def clsRes (r : Nat × List Char × PState) : PState × Nat × List Char × Int := (r.2.2, r.1, r.2.1.reverse, 0)

theorem parse_class_loop0_eq (isAlnum : Char → Bool) (re : Bytes) (n : Nat) (st : PState) (ix : Nat)
    (cls : List Char) (nest : Int) (hw : Ident.DashWF re) :
    parse_class_loop0 isAlnum re n st ix cls nest
      = Res.mapv clsRes (classLoop isAlnum n re st ix nest cls.reverse) := by
  induction n generalizing st ix cls nest with
  | zero => rfl
  | succ n ih =>
    rw [parse_class_loop0, classLoop, mapv_ite]
    nxt; · rfl
    cases hb : re[ix]? with
    | none => simp only [byteAt_none _ hb]; rfl
    | some b =>
      simp only [byteAt_some _ hb, res_bind_ok, mapv_ite, ih, parse_escape_eq isAlnum re _ _ _ hw, List.reverse_append,
        List.reverse_cons, List.reverse_nil, List.nil_append, List.singleton_append]
      nxt
      · cases parseEscape isAlnum re st ix true with
        | ok r =>
          obtain ⟨end_, e, st'⟩ := r
          cases e with
          | literal val c =>
            simp only [res_bind_ok, charsCount, mapv_ite]
            by_cases hl : (val.length != 1) = true
            · simp only [hl, if_true]; rfl
            · simp only [hl, if_false, Bool.false_eq_true, res_pure, res_bind_ok, List.reverse_append]
          | delegate inner sz c => simp only [res_pure, res_bind_ok, List.reverse_append]
          | _ => rfl
        | _ => rfl
      nxt; · rfl
      nxt
      · refine ite_ext (fun h4 => ?_) (fun _ => ?_)
        · rw [eq_of_beq h4]
          simp only [Res.mapv, clsRes, List.reverse_cons, List.reverse_reverse]
        · rfl
      cases slice re ix (ix + codepointLen b) "parse_class: self.re[ix..end]" <;> rfl

theorem class_tail (re : Bytes) (x : Res (Nat × List Char × PState)) :
    (Res.mapv clsRes x >>= fun r =>
        Res.ok (r.2.1 + 1, Expr.delegate r.2.2.1 1 (flag re r.1 FlagBit.casei), r.1))
      = (x >>= fun r => Res.ok (r.1 + 1, Expr.delegate r.2.1.reverse 1 r.2.2.flags.casei, r.2.2)) := by
  cases x <;> rfl

theorem parse_class_eq (isAlnum : Char → Bool) (re : Bytes) (st : PState) (ix : Nat) (hw : Ident.DashWF re) :
    parse_class isAlnum re st ix = parseClass isAlnum re st ix := by
  unfold parse_class parseClass
  simp only [List.nil_append, ite_pure, res_bind_ok, parse_class_loop0_eq isAlnum re _ _ _ _ _ hw]
  refine (class_tail re _).trans ?_
  split <;> split <;> rfl

end Escape

namespace Descent
open Ident (DashOK DashWF DashWF_bytesOf)

/-! ## immediate facts -/

@[simp] theorem flag_casei (re : Bytes) (st : PState) : flag re st .casei = st.flags.casei := rfl
@[simp] theorem flag_multi (re : Bytes) (st : PState) : flag re st .multi = st.flags.multi := rfl
@[simp] theorem flag_dotnl (re : Bytes) (st : PState) : flag re st .dotnl = st.flags.dotnl := rfl
@[simp] theorem flag_swapGreed (re : Bytes) (st : PState) : flag re st .swapGreed = st.flags.swapGreed := rfl
@[simp] theorem flag_ignoreSpace (re : Bytes) (st : PState) : flag re st .ignoreSpace = st.flags.ignoreSpace := rfl
@[simp] theorem flag_unicode (re : Bytes) (st : PState) : flag re st .unicode = st.flags.unicode := rfl

@[simp] theorem is_repeatable_eq (re : Bytes) (st : PState) (e : Expr) : is_repeatable re st e = isRepeatable e := by
  cases e <;> rfl

@[simp] theorem isEmptyExpr_eq (e : Expr) : isEmptyExpr e = e.isEmpty := rfl

theorem startsWithAt_one (re : Bytes) (ix c : Nat) : startsWithAt re ix [c] = (re[ix]? == some c) := by
  simp [startsWithAt]

/-- generated = model for every function of the mutual block at descent fuel `f` -/
structure DescentEq (isAlnum : Char → Bool) (re : Bytes) (f : Nat) : Prop where
  re_ : ∀ st ix depth, parse_re isAlnum f re st ix depth = parseRe isAlnum f re st ix depth
  reLoop : ∀ depth child st ix acc, parse_re_loop0 isAlnum f re depth child st ix acc
      = Res.mapv (fun (r : Nat × List Expr × PState) => (r.2.2, r.1, acc ++ r.2.1)) (reAltLoop isAlnum f re st ix depth)
  branch : ∀ st ix depth, parse_branch isAlnum f re st ix depth = parseBranch isAlnum f re st ix depth
  branchLoop : ∀ depth st acc ix, parse_branch_loop0 isAlnum f re depth st acc ix
      = Res.mapv (fun (r : Nat × List Expr × PState) => (r.2.2, acc ++ r.2.1, r.1)) (branchLoop isAlnum f re st ix depth)
  piece : ∀ st ix depth, parse_piece isAlnum f re st ix depth = parsePiece isAlnum f re st ix depth
  atom : ∀ st ix depth, parse_atom isAlnum f re st ix depth = parseAtom isAlnum f re st ix depth
  group : ∀ st ix depth, parse_group isAlnum f re st ix depth = parseGroup isAlnum f re st ix depth
  flags : ∀ st ix depth, parse_flags isAlnum f re st ix depth = parseFlags isAlnum f re st ix depth
  conditional : ∀ st ix depth, parse_conditional isAlnum f re st ix depth = parseConditional isAlnum f re st ix depth

/-! ## parse_atom -/

theorem parse_atom_step {isAlnum : Char → Bool} {re : Bytes} {f : Nat} (hw : DashWF re) (ih : DescentEq isAlnum re f)
    (st : PState) (ix depth : Nat) :
    parse_atom isAlnum (f + 1) re st ix depth = parseAtom isAlnum (f + 1) re st ix depth := by
  rw [parse_atom, parseAtom]
  -- the two bodies differ only in where `Expr.assertion` stands in the `^` and `$` arms
  simp only [Leaf.optional_whitespace_eq, ih.group, Escape.parse_escape_eq isAlnum re _ _ _ hw,
    Escape.parse_class_eq isAlnum re _ _ hw, flag_casei, flag_multi, flag_dotnl, apply_ite Expr.assertion]
  rfl

/-! ## parse_piece -/

theorem peek_eq (re : Bytes) (ix : Nat) (s : String) (c : Nat) :
    (if ix < re.size then (byteAt re ix s >>= fun t => pure (t == c)) else pure false : Res Bool)
      = .ok (decide (ix < re.size) && re[ix]? == some c) := by
  by_cases h : ix < re.size
  · simp [h, byteAt]
  · simp [h]

/-- the quantifier's suffixes (`rest` in the generated code): `?` for lazy, `+` for possessive -/
theorem piece_rest_eq (re : Bytes) (st : PState) (child : Expr) (lo hi ixq : Nat) :
    (if !isRepeatable child then Res.err .targetNotRepeatable ixq
      else do
        let ix ← optWs re st.flags (ixq + 1)
        let t3 ← (if ix < re.size then do
            let t2 ← byteAt re ix "parse_piece: bytes[ix] (lazy)"
            pure (t2 == ch '?')
          else pure false : Res Bool)
        let (ix, greedy) ← (if t3 then pure (ix + 1, false) else pure (ix, true) : Res (Nat × Bool))
        let node := Expr.repeat child lo (hiOf hi) (greedy ^^ st.flags.swapGreed)
        let t5 ← (if ix < re.size then do
            let t4 ← byteAt re ix "parse_piece: bytes[ix] (possessive)"
            pure (t4 == ch '+')
          else pure false : Res Bool)
        let (ix, node) ← (if t5 then pure (ix + 1, Expr.atomic node) else pure (ix, node) : Res (Nat × Expr))
        Res.ok (ix, node, st)) =
    (if !isRepeatable child then Res.err .targetNotRepeatable ixq
      else do
        let ix ← optWs re st.flags (ixq + 1)
        let lazy_ := decide (ix < re.size) && re[ix]? == some (ch '?')
        let ix := if lazy_ then ix + 1 else ix
        let node : Expr := .repeat child lo (hiOf hi) ((!lazy_) ^^ st.flags.swapGreed)
        if decide (ix < re.size) && re[ix]? == some (ch '+') then Res.ok (ix + 1, .atomic node, st)
        else Res.ok (ix, node, st)) := by
  nxt; · rfl
  refine bind_congr rfl fun ix => ?_
  simp only [peek_eq, res_bind_ok, ite_pure]
  cases (decide (ix < Array.size re) && re[ix]? == some (ch '?')) <;>
    simp only [if_true, Bool.false_eq_true, if_false, Bool.not_true, Bool.not_false] <;>
    split <;> rfl

theorem parse_piece_step {isAlnum : Char → Bool} {re : Bytes} {f : Nat} (ih : DescentEq isAlnum re f)
    (st : PState) (ix depth : Nat) :
    parse_piece isAlnum (f + 1) re st ix depth = parsePiece isAlnum (f + 1) re st ix depth := by
  rw [parse_piece, parsePiece]
  simp only [ih.atom, Leaf.optional_whitespace_eq, Leaf.parse_repeat_eq, is_repeatable_eq, flag_swapGreed, decide_eq_true_eq]
  refine bind_congr rfl fun r => bind_congr rfl fun ix2 => ?_
  nxt
  · refine bind_congr rfl fun b => ?_
    rw [ite_bind']; nxt; · exact piece_rest_eq ..
    rw [ite_bind']; nxt; · exact piece_rest_eq ..
    rw [ite_bind']; nxt; · exact piece_rest_eq ..
    rw [ite_bind']; nxt
    · cases parseRepeat re r.2.2.flags ix2 with
      | ok q =>
        obtain ⟨next, lo, hi⟩ := q
        cases next with
        | zero => rfl
        | succ n => exact piece_rest_eq ..
      | _ => rfl
    · rfl
  · rfl

/-! ## parse_branch and its loop -/

@[simp] theorem mapv_ok {α β : Type} (g : α → β) (a : α) : Res.mapv g (.ok a) = .ok (g a) := rfl
@[simp] theorem mapv_err {α β : Type} (g : α → β) (k : PErr) (p : Nat) : Res.mapv g (.err k p : Res α) = .err k p := rfl
@[simp] theorem mapv_cerr {α β : Type} (g : α → β) : Res.mapv g (.cerr : Res α) = .cerr := rfl
@[simp] theorem mapv_panic {α β : Type} (g : α → β) (s : String) : Res.mapv g (.panic s : Res α) = .panic s := rfl
@[simp] theorem mapv_fuel {α β : Type} (g : α → β) : Res.mapv g (.outOfFuel : Res α) = .outOfFuel := rfl

theorem parse_branch_loop0_step {isAlnum : Char → Bool} {re : Bytes} {f : Nat} (ih : DescentEq isAlnum re f)
    (depth : Nat) (st : PState) (acc : List Expr) (ix : Nat) :
    parse_branch_loop0 isAlnum (f + 1) re depth st acc ix
      = Res.mapv (fun (r : Nat × List Expr × PState) => (r.2.2, acc ++ r.2.1, r.1)) (branchLoop isAlnum (f + 1) re st ix depth) := by
  rw [parse_branch_loop0, branchLoop]
  simp only [ih.piece, ih.branchLoop, isEmptyExpr_eq, decide_eq_true_eq, mapv_ite, mapv_bind]
  nxt
  · refine bind_congr rfl fun r => ?_
    nxt
    · simp only [mapv_ok, List.append_nil]
    · by_cases he : r.2.1.isEmpty = true
      · simp only [he, Bool.not_true, Bool.false_eq_true, if_false, if_true, res_pure, res_bind_ok]
        cases branchLoop isAlnum f re r.2.2 r.1 depth <;> rfl
      · simp only [he, Bool.not_false, Bool.false_eq_true, if_true, if_false, res_pure, res_bind_ok]
        cases branchLoop isAlnum f re r.2.2 r.1 depth with
        | ok r2 => simp only [res_bind_ok, mapv_ok, List.append_assoc, List.singleton_append]
        | _ => rfl
  · simp only [mapv_ok, List.append_nil]

theorem popLast_single (c : Expr) : popLast [c] = (some c, []) := rfl

theorem parse_branch_step {isAlnum : Char → Bool} {re : Bytes} {f : Nat} (ih : DescentEq isAlnum re f)
    (st : PState) (ix depth : Nat) :
    parse_branch isAlnum (f + 1) re st ix depth = parseBranch isAlnum (f + 1) re st ix depth := by
  rw [parse_branch, parseBranch]
  simp only [ih.branchLoop]
  cases branchLoop isAlnum f re st ix depth with
  | ok r =>
    obtain ⟨ix', children, st1⟩ := r
    simp only [res_bind_ok, mapv_ok, List.nil_append]
    match children with
    | [] => rfl
    | [c] => rfl
    | c :: d :: cs => rfl
  | _ => rfl

/-! ## parse_re and its loop -/

theorem parse_re_loop0_step {isAlnum : Char → Bool} {re : Bytes} {f : Nat} (ih : DescentEq isAlnum re f)
    (depth : Nat) (child : Expr) (st : PState) (ix : Nat) (acc : List Expr) :
    parse_re_loop0 isAlnum (f + 1) re depth child st ix acc
      = Res.mapv (fun (r : Nat × List Expr × PState) => (r.2.2, r.1, acc ++ r.2.1)) (reAltLoop isAlnum (f + 1) re st ix depth) := by
  rw [parse_re_loop0, reAltLoop]
  simp only [ih.branch, ih.reLoop, Leaf.optional_whitespace_eq, startsWithAt_one, mapv_bind, mapv_ite]
  refine bind_congr rfl fun _ => ?_
  nxt
  · refine bind_congr rfl fun r => bind_congr rfl fun ix2 => ?_
    cases reAltLoop isAlnum f re r.2.2 ix2 depth with
    | ok r2 => simp only [mapv_ok, res_bind_ok, List.append_assoc, List.singleton_append]
    | _ => rfl
  · simp only [mapv_ok, List.append_nil]

theorem parse_re_step {isAlnum : Char → Bool} {re : Bytes} {f : Nat} (ih : DescentEq isAlnum re f)
    (st : PState) (ix depth : Nat) :
    parse_re isAlnum (f + 1) re st ix depth = parseRe isAlnum (f + 1) re st ix depth := by
  rw [parse_re, parseRe]
  simp only [ih.branch, ih.reLoop, Leaf.optional_whitespace_eq, startsWithAt_one]
  refine bind_congr rfl fun r => bind_congr rfl fun ix2 => bind_congr rfl fun _ => ?_
  nxt
  · cases reAltLoop isAlnum f re r.2.2 ix2 depth <;> rfl
  · rfl

/-! ## parse_group -/

/-- the model's `lookOf` as the `starts_with` chain it abbreviates -/
theorem lookOf_match {β : Type} (re : Bytes) (ix : Nat) (F : Look → Nat → β) (T : β) :
    (match lookOf re ix with
      | some (la, skip) => F la skip
      | none => T) =
    if startsWithAt re ix [ch '?', ch '='] then F .ahead 2
    else if startsWithAt re ix [ch '?', ch '!'] then F .aheadNeg 2
    else if startsWithAt re ix [ch '?', ch '<', ch '='] then F .behind 3
    else if startsWithAt re ix [ch '?', ch '<', ch '!'] then F .behindNeg 3
    else T := by
  unfold lookOf
  simp only [apply_ite (fun o : Option (Look × Nat) => (match o with | some (la, skip) => F la skip | none => T : β))]

/-- the common end of the arms of `parse_group` (`rest` in the generated code, `body` in the model): the group's body,
    the `)`, the node -/
theorem group_rest_eq (isAlnum : Char → Bool) (f : Nat) (re : Bytes) (depth ix : Nat) (la : Option Look) (skip : Nat)
    (st : PState) :
    (do
      let (ix, child, st) ← parseRe isAlnum f re st (ix + skip) depth
      let ix ← checkForCloseParen re st.flags ix
      let result ← (match la, skip with
        | some la, _ => pure (Expr.look child la)
        | none, 2 => pure (Expr.atomic child)
        | _, _ => pure (Expr.group 0 child) : Res Expr)
      Res.ok (ix, result, st)) =
    (do
      let (ix, child, st) ← parseRe isAlnum f re st (ix + skip) depth
      let ix ← checkForCloseParen re st.flags ix
      match la with
      | some la => Res.ok (ix, Expr.look child la, st)
      | none => if skip == 2 then Res.ok (ix, Expr.atomic child, st) else Res.ok (ix, Expr.group 0 child, st)) := by
  refine bind_congr rfl fun r => bind_congr rfl fun ix' => ?_
  cases la with
  | some la => rfl
  | none =>
    by_cases hs : skip = 2
    · subst hs; rfl
    · have hs' : (skip == 2) = false := by simpa using hs
      simp only [hs', Bool.false_eq_true, if_false]
      split
      · contradiction
      · contradiction
      · rfl

macro "group_tail" k:term : tactic => `(tactic|
  (by_cases hs : $k = 2
   · simp only [hs]; rfl
   · have hs' : ($k == 2) = false := by simpa using hs
     simp only [hs', Bool.false_eq_true, if_false]
     split
     · contradiction
     · contradiction
     · rfl))

theorem parse_group_step {isAlnum : Char → Bool} {re : Bytes} {f : Nat} (hw : DashWF re) (ih : DescentEq isAlnum re f)
    (st : PState) (ix depth : Nat) :
    parse_group isAlnum (f + 1) re st ix depth = parseGroup isAlnum (f + 1) re st ix depth := by
  rw [parse_group, parseGroup]
  simp only [ih.re_, ih.conditional, ih.flags, Leaf.optional_whitespace_eq, Leaf.check_for_close_paren_eq,
    backref_mk, subroutine_mk, Ident.parse_named_backref_eq isAlnum re _ _ _ _ _ _ hw, decide_eq_true_eq]
  nxt; · rfl
  refine bind_congr rfl fun ix1 => ?_
  by_cases hsl : sliceFromOk re ix1 = true
  · -- the generated code slices `self.re[ix..]` again before every `starts_with`
    have hs : ∀ s, sliceFrom re ix1 s = .ok () := fun s => by simp only [sliceFrom, hsl, if_true]
    simp only [hs, res_bind_ok]
    refine Eq.trans ?_ (lookOf_match re ix1 _ _).symm
    nxt; · rfl
    nxt; · rfl
    nxt; · rfl
    nxt; · rfl
    nxt
    · refine (Ident.parse_id_bind isAlnum re _ _ _ _ _ (fun _ => Ident.parse_id_eq isAlnum re _ _ _ _ hw) _).trans ?_
      refine bind_congr rfl fun _ => bind_congr rfl fun o => ?_
      rcases o with _ | ⟨a, b, skip⟩
      · rfl
      · exact group_rest_eq ..
    nxt
    · refine (Ident.parse_id_bind isAlnum re _ _ _ _ _ (fun _ => Ident.parse_id_eq isAlnum re _ _ _ _ hw) _).trans ?_
      refine bind_congr rfl fun _ => bind_congr rfl fun o => ?_
      rcases o with _ | ⟨a, b, skip⟩
      · rfl
      · exact group_rest_eq ..
    nxt; · rfl
    nxt; · rfl
    nxt; · rfl
    nxt; · rfl
    nxt; · rfl
    rfl
  · have hs : ∀ s, sliceFrom re ix1 s = .panic s := fun s => by
      simp only [sliceFrom, hsl, Bool.false_eq_true, if_false]
    simp only [hs]; rfl

/-! ## parse_flags and its loop -/

/-- what `parseFlags` does with the outcome of the letter loop -/
def flagsFinish (isAlnum : Char → Bool) (f : Nat) (re : Bytes) (depth : Nat) (oldflags : Flags) (st : PState) :
    Res (FlagsEnd × Flags) → Res (Nat × Expr × PState)
  | .ok (.close i, fl) => .ok (i + 1, .empty, { st with flags := fl })
  | .ok (.colon i, fl) => do
    let (ix, child, st) ← parseRe isAlnum f re { st with flags := fl } (i + 1) depth
    if ix == re.size then .err .unclosedOpenParen ix
    else
      let b ← byteAt re ix "parse_flags: bytes[ix] (close)"
      if b != ch ')' then .err (.general .expectedCloseParen) ix
      else .ok (ix + 1, child, { st with flags := oldflags })
  | .err k p => .err k p
  | .cerr => .cerr
  | .panic s => .panic s
  | .outOfFuel => .outOfFuel

theorem flagsFinish_flags (isAlnum : Char → Bool) (f : Nat) (re : Bytes) (depth : Nat) (oldflags : Flags) (st : PState)
    (fl' : Flags) (r : Res (FlagsEnd × Flags)) :
    flagsFinish isAlnum f re depth oldflags { st with flags := fl' } r = flagsFinish isAlnum f re depth oldflags st r := by
  cases r with
  | ok v => obtain ⟨e, fl⟩ := v; cases e <;> rfl
  | _ => rfl

theorem unknownFlag_finish (isAlnum : Char → Bool) (f : Nat) (re : Bytes) (depth : Nat) (oldflags : Flags) (st : PState)
    (start ix : Nat) :
    (Res.mapv (fun e => (e, start)) (unknownFlag re start ix) >>= fun (x : PErr × Nat) => (Res.err x.1 x.2 : Res (Nat × Expr × PState)))
      = flagsFinish isAlnum f re depth oldflags st
          (match unknownFlag re start ix with
            | .ok e => .err e start
            | .err k p => .err k p | .cerr => .cerr | .panic s => .panic s | .outOfFuel => .outOfFuel) := by
  cases unknownFlag re start ix <;> rfl

theorem parse_flags_loop0_eq (isAlnum : Char → Bool) (f : Nat) (re : Bytes)
    (ihr : ∀ st ix depth, parse_re isAlnum f re st ix depth = parseRe isAlnum f re st ix depth)
    (depth start : Nat) (oldflags : Flags) (n : Nat) (st : PState) (ix : Nat) (neg : Bool) :
    parse_flags_loop0 isAlnum f re depth start oldflags n st ix neg
      = flagsFinish isAlnum f re depth oldflags st (flagsLoop n re st.flags start ix neg) := by
  induction n generalizing st ix neg with
  | zero => rw [parse_flags_loop0, flagsLoop]; rfl
  | succ n ih =>
    rw [parse_flags_loop0, flagsLoop]
    simp only [Leaf.optional_whitespace_eq, ih, ihr, Leaf.unknown_flag_eq, Leaf.update_flag_casei, Leaf.update_flag_multi,
      Leaf.update_flag_dotnl, Leaf.update_flag_swapGreed, Leaf.update_flag_ignoreSpace, flagsFinish_flags]
    cases optWs re st.flags ix with
    | ok ix1 =>
      simp only [res_bind_ok, apply_ite (flagsFinish isAlnum f re depth oldflags st)]
      nxt; · rfl
      cases hb : re[ix1]? with
      | none => simp only [byteAt_none _ hb]; rfl
      | some b =>
        simp only [res_bind_ok, byteAt_some _ hb, apply_ite (flagsFinish isAlnum f re depth oldflags st), ite_or]
        have letter : ∀ {c : Nat}, (b == c) = true → b = c := fun h => eq_of_beq h
        refine ite_ext (fun h => ?_) (fun _ => ?_); · rw [letter h]
        refine ite_ext (fun h => ?_) (fun _ => ?_); · rw [letter h]
        refine ite_ext (fun h => ?_) (fun _ => ?_); · rw [letter h]
        refine ite_ext (fun h => ?_) (fun _ => ?_); · rw [letter h]
        refine ite_ext (fun h => ?_) (fun _ => ?_); · rw [letter h]
        nxt; · cases neg <;> rfl
        nxt
        · nxt
          · exact unknownFlag_finish ..
          · rfl
        nxt
        · nxt; · exact unknownFlag_finish ..
          nxt; · exact unknownFlag_finish ..
          rfl
        nxt
        · nxt; · exact unknownFlag_finish ..
          rfl
        exact unknownFlag_finish ..
    | _ => rfl

theorem parse_flags_step {isAlnum : Char → Bool} {re : Bytes} {f : Nat} (ih : DescentEq isAlnum re f)
    (st : PState) (ix depth : Nat) :
    parse_flags isAlnum (f + 1) re st ix depth = parseFlags isAlnum (f + 1) re st ix depth := by
  rw [parse_flags, parseFlags]
  simp only [parse_flags_loop0_eq isAlnum f re ih.re_]
  cases flagsLoop (re.size + 2) re st.flags (ix + 1) (ix + 1) false with
  | ok v => obtain ⟨e, fl⟩ := v; cases e <;> rfl
  | _ => rfl

/-! ## parse_conditional -/

/-- two steps whose result is `m` up to `g`, followed by continuations that agree up to `g` -/
theorem bind_bind_of_mapv {α α' β γ : Type} {x : Res α'} {f : α' → Res α} {m : Res γ} (g : α → γ)
    (h : Res.mapv g (x >>= f) = m) {F : α → Res β} {G : γ → Res β} (hk : ∀ a, F a = G (g a)) :
    (x >>= fun a => f a >>= F) = m >>= G := by
  subst h
  cases x with
  | ok a =>
    simp only [res_bind_ok]
    cases f a <;> first | rfl | exact hk _
  | _ => rfl

/-- `(if_true, if_false)`: the generated code takes `alternatives` apart with `remove(0)` and `pop()`, the model by
    pattern matching -/
theorem cond_branches_eq (child : Expr) (hasElse : Bool) :
    Res.mapv (fun y => (y.1, y.2.1))
      (do
        let x ← (match child, hasElse with
          | .alt alternatives, true => pure (some alternatives, none)
          | child, _ => pure (none, some child) : Res (Option (List Expr) × Option Expr))
        (match x.1 with
          | some alternatives => do
            let z ← remove0 alternatives "parse_conditional: alternatives.remove(0)"
            if z.2.length == 1 then do
              let if_false ← expect (popLast z.2).1 "expected 2 alternatives"
              pure (z.1, if_false, some (popLast z.2).2)
            else pure (z.1, Expr.alt z.2, some z.2)
          | _ => do
            let if_true ← expect x.2 "single branch"
            pure (if_true, Expr.empty, x.1) : Res (Expr × Expr × Option (List Expr)))) =
    (match child, hasElse with
      | .alt alternatives, true =>
        match alternatives with
        | [] => Res.panic "parse_conditional: alternatives.remove(0)"
        | t :: rest =>
          match rest with
          | [e] => pure (t, e)
          | _ => pure (t, Expr.alt rest)
      | c, _ => pure (c, Expr.empty) : Res (Expr × Expr)) := by
  cases hasElse <;> cases child
  case true.alt es =>
    match es with
    | [] => rfl
    | [t] => rfl
    | [t, e] => rfl
    | t :: e :: e2 :: r => rfl
  all_goals rfl

theorem cond_inner_bind {β : Type} (c : Expr) (igt : Bool) (K : Expr → Res β) :
    ((match c, igt with
      | .backref g, true => pure (.backrefExists g)
      | c, _ => pure c : Res Expr) >>= K) =
    K (match igt, c with
      | true, .backref g => .backrefExists g
      | _, c => c) := by
  cases igt <;> cases c <;> rfl

/-- the common end of `parse_conditional`: `check_for_close_paren`, then the node -/
macro "cond_tail" igt:ident condition:ident : tactic => `(tactic|
  (cases $igt:ident <;> cases $condition:ident <;>
    (simp only [res_bind_ok]
     refine res_bind_congr _ _ _ ?_
     intro after
     rfl)))

theorem parse_conditional_step {isAlnum : Char → Bool} {re : Bytes} {f : Nat} (hw : DashWF re) (ih : DescentEq isAlnum re f)
    (st : PState) (ix depth : Nat) :
    parse_conditional isAlnum (f + 1) re st ix depth = parseConditional isAlnum (f + 1) re st ix depth := by
  rw [parse_conditional, parseConditional]
  simp only [ih.re_, Leaf.check_for_close_paren_eq, backref_mk, Ident.parse_named_backref_eq isAlnum re _ _ _ _ _ _ hw,
    Ident.parse_numbered_backref_eq, Leaf.is_digit_eq, isEmptyExpr_eq, decide_eq_true_eq, res_pure, res_bind_eta3]
  nxt; · rfl
  refine bind_congr rfl fun b => bind_congr rfl fun c => bind_congr rfl fun next => bind_congr rfl fun r => ?_
  -- the two `match is_group_test, condition` of the empty-branch case unfold to the same term
  refine ite_ext (fun _ => rfl) (fun _ => ?_)
  refine bind_bind_of_mapv _ (cond_branches_eq r.2.1 r.2.2.lastReHadAlt) (fun y => ?_)
  refine (cond_inner_bind _ _ _).trans ?_
  refine bind_congr rfl (fun after => ?_)
  exact apply_ite (fun e => Res.ok (after, e, _)) _ _ _

/-! ## assembly: one induction on the descent fuel -/

theorem descentEq_all (isAlnum : Char → Bool) (re : Bytes) (hw : DashWF re) : ∀ f, DescentEq isAlnum re f := by
  intro f
  induction f with
  | zero =>
    exact
      { re_ := by intros; rw [parse_re, parseRe]
        reLoop := by intros; rw [parse_re_loop0, reAltLoop]; rfl
        branch := by intros; rw [parse_branch, parseBranch]
        branchLoop := by intros; rw [parse_branch_loop0, branchLoop]; rfl
        piece := by intros; rw [parse_piece, parsePiece]
        atom := by intros; rw [parse_atom, parseAtom]
        group := by intros; rw [parse_group, parseGroup]
        flags := by intros; rw [parse_flags, parseFlags]
        conditional := by intros; rw [parse_conditional, parseConditional] }
  | succ f ih =>
    exact
      { re_ := parse_re_step ih
        reLoop := parse_re_loop0_step ih
        branch := parse_branch_step ih
        branchLoop := parse_branch_loop0_step ih
        piece := parse_piece_step ih
        atom := parse_atom_step hw ih
        group := parse_group_step hw ih
        flags := parse_flags_step ih
        conditional := parse_conditional_step hw ih }

theorem C06_parse_translated_descent (isAlnum : Char → Bool) (f : Nat) (re : Bytes) (st : PState) (ix depth : Nat)
    (hw : DashWF re) :
    parse_re isAlnum f re st ix depth = parseRe isAlnum f re st ix depth := (descentEq_all isAlnum re hw f).re_ st ix depth
theorem C06_parse_translated_branch (isAlnum : Char → Bool) (f : Nat) (re : Bytes) (st : PState) (ix depth : Nat)
    (hw : DashWF re) :
    parse_branch isAlnum f re st ix depth = parseBranch isAlnum f re st ix depth := (descentEq_all isAlnum re hw f).branch st ix depth
theorem C06_parse_translated_piece (isAlnum : Char → Bool) (f : Nat) (re : Bytes) (st : PState) (ix depth : Nat)
    (hw : DashWF re) :
    parse_piece isAlnum f re st ix depth = parsePiece isAlnum f re st ix depth := (descentEq_all isAlnum re hw f).piece st ix depth
theorem C06_parse_translated_atom (isAlnum : Char → Bool) (f : Nat) (re : Bytes) (st : PState) (ix depth : Nat)
    (hw : DashWF re) :
    parse_atom isAlnum f re st ix depth = parseAtom isAlnum f re st ix depth := (descentEq_all isAlnum re hw f).atom st ix depth
theorem C06_parse_translated_group (isAlnum : Char → Bool) (f : Nat) (re : Bytes) (st : PState) (ix depth : Nat)
    (hw : DashWF re) :
    parse_group isAlnum f re st ix depth = parseGroup isAlnum f re st ix depth := (descentEq_all isAlnum re hw f).group st ix depth
theorem C06_parse_translated_flags (isAlnum : Char → Bool) (f : Nat) (re : Bytes) (st : PState) (ix depth : Nat)
    (hw : DashWF re) :
    parse_flags isAlnum f re st ix depth = parseFlags isAlnum f re st ix depth := (descentEq_all isAlnum re hw f).flags st ix depth
theorem C06_parse_translated_conditional (isAlnum : Char → Bool) (f : Nat) (re : Bytes) (st : PState) (ix depth : Nat)
    (hw : DashWF re) :
    parse_conditional isAlnum f re st ix depth = parseConditional isAlnum f re st ix depth :=
  (descentEq_all isAlnum re hw f).conditional st ix depth

/-! ## the entry points -/

theorem C06_parse_translated_eq (isAlnum : Char → Bool) (re : Bytes) (casei : Bool) (hw : DashWF re) :
    parse_with_case_insensitive isAlnum re casei = parseBytes isAlnum re casei := by
  have hfl : updateFlag (flagOnly FlagBit.unicode) (ch 'i') (!casei) = { casei := casei } := by
    cases casei <;> rfl
  have hd := fun f st ix d => C06_parse_translated_descent isAlnum f re st ix d hw
  simp only [parse_with_case_insensitive, parseBytes, hd, Parser.new, Leaf.update_flag_casei, hfl]
  cases parseRe isAlnum (descentFuel (Array.size re)) re { flags := { casei := casei } } 0 0 with
  | ok r =>
    obtain ⟨ix, e, st⟩ := r
    simp only [res_bind_ok]
    by_cases h : ix < re.size <;> simp [h]
  | _ => rfl

theorem C06_parse_translated_str (isAlnum : Char → Bool) (cs : List Char) (casei : Bool) :
    parse_with_case_insensitive isAlnum (bytesOf cs) casei = parseStr isAlnum cs casei :=
  C06_parse_translated_eq isAlnum (bytesOf cs) casei (DashWF_bytesOf cs)

end Descent

end Fancy.GenParse
