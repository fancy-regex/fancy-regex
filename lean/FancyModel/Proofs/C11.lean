import FancyModel.Proofs.C09
import FancyModel.Spec.ApiSpec
/-!
# C11 — replacement rewrites exactly the first n matches and nothing else

`replacen` (mirror of `try_replacen`) over an arbitrary drained iterator and an arbitrary replacer
function. The fast path (`no_expansion`) runs it over `find_iter` items with a constant, the slow
path over `captures_iter` items with the replacer's output.
-/
namespace Fancy.Api
open Fancy.Utf8

variable {α : Type}

/-- **borrowed iff there is no item at all** (no match and no error) -/
theorem C11_borrow (items : List (Except SearchErr α)) (span : α → Nat × Nat) (rep : α → Bytes)
    (text : Bytes) (limit : Nat) : replacen items span rep text limit = .borrowed ↔ items = [] := by
  cases items with
  | nil => simp [replacen]
  | cons x xs =>
    simp only [replacen, reduceCtorEq, iff_false]
    cases x with
    | error e => simp [replaceLoop]
    | ok a =>
      simp only [replaceLoop]
      split
      · split <;> simp
      · generalize span a = se
        obtain ⟨s, e⟩ := se
        simp only
        split
        · simp
        · -- the rest of the loop never produces `borrowed`
          have : ∀ (l : List (Except SearchErr α)) i last acc,
              replaceLoop span rep text limit l i last acc ≠ .borrowed := by
            intro l
            induction l with
            | nil => intro i last acc; simp only [replaceLoop]; split <;> simp
            | cons y ys ih =>
              intro i last acc
              cases y with
              | error e => simp [replaceLoop]
              | ok b =>
                simp only [replaceLoop]
                split
                · split <;> simp
                · generalize span b = se2
                  obtain ⟨s2, e2⟩ := se2
                  simp only
                  split
                  · simp
                  · exact ih _ _ _
          exact this _ _ _ _

/-- **a search error is returned as `Err`**: an error item reached before the limit cuts the loop
    is the result (never a panic) -/
theorem C11_err (span : α → Nat × Nat) (rep : α → Bytes) (text : Bytes) (limit : Nat)
    (e : SearchErr) (rest : List (Except SearchErr α)) (i last : Nat) (acc : Bytes) :
    replaceLoop span rep text limit (.error e :: rest) i last acc = .err e := by
  simp [replaceLoop]

/-- the result depends only on the spans and on the replacer's outputs: running the loop over the
    span items with the outputs supplied per index gives the same result -/
theorem replaceLoop_spans (span : α → Nat × Nat) (text : Bytes) (limit : Nat) (c : Bytes)
    (items : List (Except SearchErr α)) (i last : Nat) (acc : Bytes) :
    replaceLoop span (fun _ => c) text limit items i last acc =
      replaceLoop id (fun _ => c) text limit (items.map (mapItem span)) i last acc := by
  induction items generalizing i last acc with
  | nil => simp [replaceLoop]
  | cons x xs ih =>
    cases x with
    | error e => simp [replaceLoop, mapItem]
    | ok a =>
      simp only [List.map_cons, mapItem, replaceLoop, id]
      split
      · rfl
      · generalize span a = se
        obtain ⟨s, e⟩ := se
        simp only
        split
        · rfl
        · exact ih _ _ _

/-- **the three no-expansion spellings agree**: a template without `$` / `NoExpand` (fast path over
    `find_iter`) and a closure returning the same string (slow path over `captures_iter`) give the
    same result, for every captures oracle -/
theorem C11_paths_agree (f : Oracle α) (span : α → Nat × Nat) (text : Bytes) (limit : Nat) (c : Bytes) :
    replacen (findIter (f.spans span) text) id (fun _ => c) text limit =
      replacen (capturesIter f span text) span (fun _ => c) text limit := by
  rw [C09_iters_equal]
  cases h : capturesIter f span text with
  | nil => simp [replacen]
  | cons x xs =>
    simp only [replacen, List.map_cons]
    rw [replaceLoop_spans span text limit c (x :: xs) 0 0 []]
    simp

/-- well-formed, ordered match list from `last` on: boundaries, in range, non-overlapping -/
def WFMatches (text : Bytes) : List (Nat × Nat) → Nat → Prop
  | [], last => last ≤ text.length ∧ isBoundary text last = true
  | (s, e) :: ms, last =>
    last ≤ s ∧ s ≤ e ∧ e ≤ text.length ∧ isBoundary text last = true ∧ isBoundary text s = true ∧
      WFMatches text ms e

theorem slice_ok (text : Bytes) (a b : Nat) (h1 : a ≤ b) (h2 : b ≤ text.length)
    (ha : isBoundary text a = true) (hb : isBoundary text b = true) :
    slice text a b = some ((text.drop a).take (b - a)) := by
  simp [slice, h1, h2, ha, hb]

theorem isBoundary_len (text : Bytes) : isBoundary text text.length = true := by
  simp [isBoundary]

/-- the statement: the text with the given match ranges replaced by the given outputs, every other
    byte unchanged -/
def rewrite (text : Bytes) : List ((Nat × Nat) × Bytes) → Nat → Bytes
  | [], last => text.drop last
  | ((s, e), out) :: ms, last => (text.drop last).take (s - last) ++ out ++ rewrite text ms e

/-- the matches that get replaced: all of them for `limit = 0`, else the first `limit - i` -/
def chosen (limit i : Nat) (as : List α) : List α := if limit = 0 then as else as.take (limit - i)

theorem replaceLoop_nil (span : α → Nat × Nat) (rep : α → Bytes) (text : Bytes) (limit i last : Nat) (acc : Bytes)
    (hwf : WFMatches text [] last) :
    replaceLoop span rep text limit [] i last acc = .owned (acc ++ text.drop last) := by
  rw [replaceLoop, slice_ok text last text.length hwf.1 (Nat.le_refl _) hwf.2 (isBoundary_len text),
    List.take_of_length_le (by simp)]

/-- one round of the loop on a well-formed match: either the limit cuts the loop and the rest of the text is
    appended, or the text up to the match and the replacement are appended and the loop goes on after the match -/
theorem replaceLoop_cons_ok (span : α → Nat × Nat) (rep : α → Bytes) (text : Bytes) (limit : Nat) (a : α)
    (rest : List (Except SearchErr α)) (i last : Nat) (acc : Bytes) {ms : List (Nat × Nat)}
    (hwf : WFMatches text (span a :: ms) last) :
    replaceLoop span rep text limit (.ok a :: rest) i last acc =
      if 0 < limit ∧ limit ≤ i then .owned (acc ++ text.drop last)
      else replaceLoop span rep text limit rest (i + 1) (span a).2
        (acc ++ (text.drop last).take ((span a).1 - last) ++ rep a) := by
  obtain ⟨h1, h2, h3, h4, h5, _⟩ := hwf
  rw [replaceLoop]
  by_cases hc : 0 < limit ∧ limit ≤ i
  · rw [if_pos hc, if_pos (by simpa using hc),
      slice_ok text last text.length (by omega) (Nat.le_refl _) h4 (isBoundary_len text),
      List.take_of_length_le (by simp)]
  · rw [if_neg hc, if_neg (by simpa using hc)]
    show (match slice text last (span a).1 with | none => _ | some pre => _) = _
    rw [slice_ok text last _ h1 (by omega) h4 h5]

theorem replaceLoop_ok (span : α → Nat × Nat) (rep : α → Bytes) (text : Bytes) (limit : Nat)
    (as : List α) (i last : Nat) (acc : Bytes)
    (hwf : WFMatches text (as.map span) last) :
    replaceLoop span rep text limit (as.map .ok) i last acc =
      .owned (acc ++ rewrite text ((chosen limit i as).map fun a => (span a, rep a)) last) := by
  induction as generalizing i last acc with
  | nil => rw [List.map_nil, replaceLoop_nil span rep text limit i last acc hwf]; simp [chosen, rewrite]
  | cons a as ih =>
    rw [List.map_cons, replaceLoop_cons_ok span rep text limit a _ i last acc hwf]
    by_cases hc : 0 < limit ∧ limit ≤ i
    · rw [if_pos hc]
      have : limit - i = 0 := by omega
      simp [chosen, Nat.ne_of_gt hc.1, this, rewrite]
    · rw [if_neg hc, ih (i + 1) _ _ hwf.2.2.2.2.2]
      by_cases hl0 : limit = 0
      · simp [chosen, hl0, rewrite]
      · have hsub : limit - i = (limit - (i + 1)) + 1 := by omega
        simp [chosen, hl0, hsub, rewrite]

/-- **the statement**: for an error-free, well-formed `captures_iter`/`find_iter` sequence the
    result is the text in which the first `limit` matches (all for `limit = 0`) are replaced by the
    replacer's output for the corresponding item, and every other byte is unchanged -/
theorem C11_replacen (span : α → Nat × Nat) (rep : α → Bytes) (text : Bytes) (limit : Nat)
    (a : α) (as : List α) (hwf : WFMatches text ((a :: as).map span) 0) :
    replacen ((a :: as).map .ok) span rep text limit =
      .owned (rewrite text ((chosen limit 0 (a :: as)).map fun x => (span x, rep x)) 0) := by
  have := replaceLoop_ok span rep text limit (a :: as) 0 0 [] hwf
  simpa [replacen] using this

/-! ### Non-vacuity -/

example : replacen (findIter demoOracle [97, 97, 98]) id (fun _ => [120]) [97, 97, 98] 0
    = .owned [120, 98, 120] := by rfl
example : WFMatches [97, 97, 98] [(0, 2), (3, 3)] 0 := by
  simp [WFMatches, isBoundary, isLead]

end Fancy.Api
