import FancyModel.GeneratedLib
import FancyModel.Proofs.C16b
import FancyModel.Lemmas.DelegFrame
/-!
# C16 (third part) — the group-metadata model is the code of lib.rs

`GeneratedLib.lean` is (among others) `Regex::captures_len`, `Regex::capture_names`, `Captures::{len, get, name, iter}`,
`SubCaptureMatches::next` and `Match::{new, start, end, range, as_str}` translated statement by statement by
`tools/rs2lean_lib.py` on every run of the check. This file proves them equal to the model of Proofs/C16b (`Caps`, `Got`,
`captureNames`), through the representation map `toCaps` (the saves of the VM path viewed as slots; the slots
regex-automata reports on the wrapped path):

* `C16_captures_len_translated_eq`: `captures_len()` is `nGroups` for a translated `Regex` that corresponds to the model's
  `Built` (`Corr`: the program and `n_groups`, or - assumption A-RA - what regex-automata made of the pattern string);
* `C16_capture_names_translated_eq` / `_model`: `capture_names()` is `captureNames order len` for EVERY order in which the
  `HashMap` is iterated, the index panic included;
* `C16_captures_len_of_translated_eq`, `C16_captures_get_translated_eq`, `C16_captures_name_translated_eq`,
  `C16_captures_iter_translated_eq` (the iterator drained through the translated `next`): `len`, `get`, `name`, `iter` are
  `Caps.len`, `Caps.get`, `Caps.name`, `Caps.iter` - so the accessor laws `C16_caps_accessors` hold of the translated code;
* `C16_match_accessors`.
-/
set_option linter.unusedSimpArgs false
namespace Fancy
open Fancy.Parse Fancy.GenLib

/-! ## the representation maps -/

/-- a translated `Captures` as the model's `Caps`: the saves of the VM path viewed as slots (`usize::MAX` = unset), the
    slots regex-automata reported on the other path -/
def toCaps (c : RCaptures) : Caps :=
  ⟨match c.inner with
    | .fancy saves => viewSlots saves
    | .wrap locs => locs.getD [], c.namedGroups⟩

/-- what a translated accessor returns, as the model's `Got` -/
def gotOf : LRes (Option (Nat × Nat)) → Got
  | .ok none => .absent
  | .ok (some (a, b)) => .span a b
  | .panic _ => .panic
  | .err _ => .panic

/-- the translated `Regex` value and the model's `Built` describe the same regex: on the VM path the program and
    `n_groups`; on the wrapped path what regex-automata made of the pattern string (assumption A-RA) -/
def Corr (sem : RaSem) (rx : RRegex) (b : Built) : Prop :=
  match rx.inner with
  | .wrap inner _ => b.kind = .wrap ∧ sem inner = some (b.raw, b.nGroups)
  | .fancy prog n _ => b.kind = .fancy prog ∧ n = b.nGroups

theorem viewSlots_get (saves : List Nat) (k : Nat) :
    (viewSlots saves)[k]? = (saves[k]?).map fun v => if v == UNSET then none else some v := by
  simp [viewSlots]

/-! ## `Regex::captures_len`, `Captures::len` -/

theorem C16_captures_len_translated_eq (sem : RaSem) (rx : RRegex) (b : Built) (h : Corr sem rx b) :
    genCapturesLen sem rx = b.nGroups := by
  unfold Corr at h
  unfold genCapturesLen
  cases hi : rx.inner with
  | wrap inner o => rw [hi] at h; simp [raCapturesLen, h.2]
  | fancy prog n o => rw [hi] at h; simp [h.2]

theorem C16_captures_len_of_translated_eq (c : RCaptures) : genCapturesLenOf c = (toCaps c).len := by
  unfold genCapturesLenOf toCaps Caps.len
  cases c.inner with
  | wrap locs => cases locs <;> simp [raGroupLen]
  | fancy saves => simp [viewSlots_length]

/-! ## `Captures::get`, `name` -/

/-- `Captures::get(i)`: on the VM path for every value; on the wrapped path for a slot vector of even length (what
    regex-automata hands out) -/
theorem C16_captures_get_translated_eq (c : RCaptures) (i : Nat)
    (hw : ∀ slots, c.inner = .wrap (some slots) → slots.length % 2 = 0)
    (hl : ∀ saves, c.inner = .fancy saves → saves.length ≤ 2 ^ 64) :
    gotOf (genCapturesGet c i) = (toCaps c).get i := by
  unfold genCapturesGet toCaps Caps.get
  cases hi : c.inner with
  | wrap locs =>
    cases locs with
    | none => simp [raGetGroup, gotOf]
    | some slots =>
      have hev := hw slots hi
      simp only [raGetGroup, Option.getD_some]
      by_cases hge : i * 2 ≥ slots.length
      · have h1 : slots[i * 2]? = none := List.getElem?_eq_none hge
        simp [h1, hge, gotOf]
      · simp only [hge, if_false]
        cases h0 : slots[i * 2]? with
        | none => exact absurd (List.getElem?_eq_none_iff.mp h0) (by omega)
        | some lo =>
          cases h1 : slots[i * 2 + 1]? with
          | none => exact absurd (List.getElem?_eq_none_iff.mp h1) (by omega)
          | some hi2 => cases lo <;> simp [gotOf, rawOf]
  | fancy saves =>
    have hlen := hl saves hi
    simp only [viewSlots_length, viewSlots_get]
    by_cases hge : i * 2 ≥ saves.length
    · -- beyond the vector, whether or not `checked_mul` overflows
      rw [if_pos hge]
      by_cases hov : i * 2 < 18446744073709551616
      · rw [if_pos hov]; simp [hge, gotOf]
      · rw [if_neg hov]; rfl
    · rw [if_pos (show i * 2 < 18446744073709551616 by omega)]
      simp only [hge, decide_false, Bool.false_eq_true, if_false]
      cases h0 : saves[i * 2]? with
      | none => exact absurd (List.getElem?_eq_none_iff.mp h0) (by omega)
      | some lo =>
        simp only [Option.map_some]
        by_cases hlo : lo = UNSET
        · simp [hlo, gotOf]
        · have hb : (lo == UNSET) = false := by simpa using hlo
          simp only [hb, Bool.false_eq_true, if_false]
          cases saves[i * 2 + 1]? with
          | none => simp [gotOf]
          | some hi2 =>
            simp only [Option.map_some, gotOf]
            by_cases hu : hi2 = UNSET <;> simp [hu]

theorem C16_captures_name_translated_eq (c : RCaptures) (nm : GenLib.Name)
    (hw : ∀ slots, c.inner = .wrap (some slots) → slots.length % 2 = 0)
    (hl : ∀ saves, c.inner = .fancy saves → saves.length ≤ 2 ^ 64) :
    gotOf (genCapturesName c nm) = (toCaps c).name nm := by
  unfold genCapturesName Caps.name
  have hn : (toCaps c).names = c.namedGroups := rfl
  rw [hn]
  cases namedGet c.namedGroups nm with
  | none => simp [gotOf]
  | some i =>
    simp only
    rw [← C16_captures_get_translated_eq c i hw hl]
    cases genCapturesGet c i <;> rfl

/-! ## `Captures::iter` + `SubCaptureMatches::next` -/

/-- drain a `SubCaptureMatches`: at most `n` calls of the translated `next` -/
def subDrain : Nat → RSubCaptureMatches → List Got
  | 0, _ => []
  | n + 1, s =>
    match genSubCaptureMatchesNext s with
    | .ok (some r, s') => gotOf (.ok r) :: subDrain n s'
    | .ok (none, _) => []
    | .panic _ => [.panic]
    | .err _ => []

theorem subDrain_eq (c : RCaptures) (hw : ∀ slots, c.inner = .wrap (some slots) → slots.length % 2 = 0)
    (hl : ∀ saves, c.inner = .fancy saves → saves.length ≤ 2 ^ 64)
    (hnp : ∀ i, (toCaps c).get i ≠ .panic) :
    ∀ (k i : Nat), (toCaps c).len - i = k → subDrain (k + 1) ⟨c, i⟩ = (List.range' i k).map (toCaps c).get := by
  intro k
  induction k with
  | zero =>
    intro i h
    have : ¬ i < (toCaps c).len := by omega
    simp [subDrain, genSubCaptureMatchesNext, C16_captures_len_of_translated_eq, this]
  | succ k ih =>
    intro i h
    have hlt : i < (toCaps c).len := by omega
    have hg := C16_captures_get_translated_eq c i hw hl
    have hn := hnp i
    rw [subDrain]
    simp only [genSubCaptureMatchesNext, C16_captures_len_of_translated_eq, hlt, decide_true, if_true]
    cases hr : genCapturesGet c i with
    | ok r =>
      simp only [List.range'_succ, List.map_cons]
      rw [← hg, hr, ih (i + 1) (by omega)]
    | panic s => rw [hr] at hg; exact absurd hg.symm hn
    | err e => rw [hr] at hg; exact absurd hg.symm hn

/-- `caps.iter()` drained through the translated `next` is the model's `Caps.iter`, for a `Captures` with `2 * n` slots -/
theorem C16_captures_iter_translated_eq (c : RCaptures) (n : Nat) (hlen : (toCaps c).slots.length = 2 * n)
    (hl : ∀ saves, c.inner = .fancy saves → saves.length ≤ 2 ^ 64) :
    subDrain ((toCaps c).len + 1) (genCapturesIter c) = (toCaps c).iter := by
  have hacc := C16_caps_accessors (toCaps c) n hlen
  have hw : ∀ slots, c.inner = .wrap (some slots) → slots.length % 2 = 0 := by
    intro slots hs
    have : (toCaps c).slots = slots := by simp [toCaps, hs]
    rw [this] at hlen; omega
  rw [Caps.iter_eq, List.range_eq_range']
  exact subDrain_eq c hw hl hacc.2.2.2.2.1 _ 0 (by omega)

/-! ## `Regex::capture_names` -/

theorem foldl_step_none (order : GenLib.Names) : order.foldl captureNamesStep none = none := by
  induction order with
  | nil => rfl
  | cons e es ih => simp [List.foldl, captureNamesStep, ih]

theorem loopCaptureNames_eq (order : GenLib.Names) (v : List (Option GenLib.Name)) :
    loopCaptureNames order v =
      match order.foldl captureNamesStep (some v) with
      | some v' => .ok v'
      | none => .panic "capture_names: index" := by
  induction order generalizing v with
  | nil => simp [loopCaptureNames]
  | cons e es ih =>
    obtain ⟨nm, i⟩ := e
    simp only [loopCaptureNames, List.foldl_cons, captureNamesStep, vecSet]
    by_cases h : i < v.length
    · simp only [h, if_true]; exact ih _
    · simp [h, foldl_step_none]

/-- **`capture_names` as translated is the model's `captureNames`, for EVERY order in which the map is iterated**
    (the index panic included) -/
theorem C16_capture_names_translated_eq (sem : RaSem) (order : GenLib.Names) (rx : RRegex) :
    genCaptureNames sem order rx =
      match captureNames order (genCapturesLen sem rx) with
      | some v => .ok v
      | none => .panic "capture_names: index" := by
  unfold genCaptureNames captureNames
  simp only [vecResize, List.take_nil, List.nil_append, List.length_nil, Nat.sub_zero, loopCaptureNames_eq]
  cases List.foldl captureNamesStep (some (List.replicate (genCapturesLen sem rx) none)) order <;> rfl

/-- with `captures_len`: the vector has one cell per group -/
theorem C16_capture_names_translated_model (sem : RaSem) (order : GenLib.Names) (rx : RRegex) (b : Built) (h : Corr sem rx b) :
    genCaptureNames sem order rx =
      match captureNames order b.nGroups with
      | some v => .ok v
      | none => .panic "capture_names: index" := by
  rw [C16_capture_names_translated_eq, C16_captures_len_translated_eq sem rx b h]

/-! ## `Match` -/

theorem C16_match_accessors (s e : Nat) :
    genMatchStart (genMatchNew s e) = s ∧ genMatchEnd (genMatchNew s e) = e ∧
    genMatchRange (genMatchNew s e) = (s, e) ∧ genMatchAsStr (genMatchNew s e) = (s, e) := by
  simp [genMatchStart, genMatchEnd, genMatchRange, genMatchAsStr, genMatchNew]

end Fancy
