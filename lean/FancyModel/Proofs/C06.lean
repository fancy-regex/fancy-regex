import FancyModel.Model.Expand
import FancyModel.Proofs.C16
import FancyModel.Generated
import FancyModel.Spec.Domain
/-!
# C06 — compiling any string terminates with Ok or Err, never a panic or blow-up

The recursive-descent parser is modelled in `Model/Parse.lean`; that it ends with `ok` or `err` on every
string, never panics and keeps every index inside the pattern is proved in Proofs/C06b.lean
(`C06_parse_total`, `C06_parse_no_panic`, `C06_error_pos`), and `C06_compile_no_panic` (Proofs/C06c.lean)
is the statement for parse → analyze → compile. (Its behaviour on malformed input is also explored: all
token sequences to length 2/3 over an 88-token vocabulary, mutations, deep and long probes, with a
counting allocator and a timer.) Proved here, for all inputs, are facts about the analyzer and about the
list-level scanners of `Model/Expand.lean`:

* the analyzer's size arithmetic never exceeds `usize::MAX` — no overflow is possible in
  `min_size` whatever the repeat counts (`C06_sizes_no_overflow`; F4 repairs);
* the decimal scanner accepts only values `≤ usize::MAX` and consumes only digits, the identifier
  scanner consumes at most the input (`C06_parse_decimal_bound`, `C06_parse_id_skip`);
* analysis is total: it returns a group count or one of two errors, and the count is linear in the
  tree (`C06_groups_linear`);
* the nesting limit is a small constant (`C06_max_recursion`, re-extracted from the source).
-/
namespace Fancy

theorem satMul_le_max (a b : Nat) : satMul a b ≤ UNSET := by unfold satMul; omega

mutual
def nodes : Expr → Nat
  | .concat es => 1 + nodesList es
  | .alt es => 1 + nodesList es
  | .group _ e => 1 + nodes e
  | .look e _ => 1 + nodes e
  | .repeat e _ _ _ => 1 + nodes e
  | .atomic e => 1 + nodes e
  | .cond c y n => 1 + nodes c + nodes y + nodes n
  | _ => 1
def nodesList : List Expr → Nat
  | [] => 0
  | e :: es => nodes e + nodesList es
end

mutual
/-- **no overflow**: every computed minimum size is at most `usize::MAX`, provided the sizes
    written on `Delegate` leaves are (the parser only writes 0 and 1) -/
theorem C06_sizes_no_overflow (e : Expr) (hd : leafSizesOK e = true) : minSize e ≤ UNSET := by
  cases e with
  | concat es => simp only [minSize]; exact minSizeSum_le es
  | alt es => simp only [minSize]; exact minSizeMin_le' es (by simpa [leafSizesOK] using hd)
  | group g c => simp only [minSize]; exact C06_sizes_no_overflow c (by simpa [leafSizesOK] using hd)
  | «repeat» c lo hi g => simp only [minSize]; exact satMul_le_max _ _
  | atomic c => simp only [minSize]; exact C06_sizes_no_overflow c (by simpa [leafSizesOK] using hd)
  | cond c y n =>
    simp only [minSize]
    have := satAdd_le_UNSET (minSize c) (minSize y)
    omega
  | delegate inner size ci =>
    simp only [minSize]
    simp only [leafSizesOK] at hd
    exact of_decide_eq_true hd
  | any _ | literal _ _ => simp [minSize, UNSET]
  | empty | assertion _ | look _ _ | backref _ | keepOut | contPrev | backrefExists _ | subroutine _ =>
    simp [minSize]
theorem minSizeMin_le' (es : List Expr) (hd : leafSizesOKList es = true) : minSizeMin es ≤ UNSET := by
  cases es with
  | nil => simp [minSizeMin]
  | cons e es =>
    simp only [leafSizesOKList, Bool.and_eq_true] at hd
    cases es with
    | nil => simp only [minSizeMin]; exact C06_sizes_no_overflow e hd.1
    | cons y ys =>
      simp only [minSizeMin]
      have := C06_sizes_no_overflow e hd.1
      omega
end

mutual
theorem groupCount_le_nodes (e : Expr) : groupCount e ≤ nodes e := by
  cases e with
  | group g c => simp only [groupCount, nodes]; have := groupCount_le_nodes c; omega
  | concat es => simp only [groupCount, nodes]; have := groupCountList_le_nodes es; omega
  | alt es => simp only [groupCount, nodes]; have := groupCountList_le_nodes es; omega
  | look c la => simp only [groupCount, nodes]; have := groupCount_le_nodes c; omega
  | «repeat» c lo hi g => simp only [groupCount, nodes]; have := groupCount_le_nodes c; omega
  | atomic c => simp only [groupCount, nodes]; have := groupCount_le_nodes c; omega
  | cond c y n =>
    simp only [groupCount, nodes]
    have := groupCount_le_nodes c; have := groupCount_le_nodes y; have := groupCount_le_nodes n
    omega
  | empty | any _ | assertion _ | literal _ _ | delegate _ _ _ | backref _ | keepOut | contPrev
  | backrefExists _ | subroutine _ => simp [groupCount, nodes]
theorem groupCountList_le_nodes (es : List Expr) : groupCountList es ≤ nodesList es := by
  cases es with
  | nil => simp [groupCountList, nodesList]
  | cons e es =>
    simp only [groupCountList, nodesList]
    have := groupCount_le_nodes e; have := groupCountList_le_nodes es; omega
end

mutual
theorem checkRefs_errors (e : Expr) (n : Nat) (err : CompileErr) (h : checkRefs e n = .error err) :
    err = .invalidBackref ∨ err = .featureNotSupported := by
  cases e with
  | empty | any _ | assertion _ | literal _ _ | delegate _ _ _ | keepOut | contPrev => simp [checkRefs] at h
  | concat es => exact checkRefsList_errors es n err (by simpa [checkRefs] using h)
  | alt es => exact checkRefsList_errors es n err (by simpa [checkRefs] using h)
  | group g c => exact checkRefs_errors c (n + 1) err (by simpa [checkRefs] using h)
  | look c la => exact checkRefs_errors c n err (by simpa [checkRefs] using h)
  | «repeat» c lo hi g => exact checkRefs_errors c n err (by simpa [checkRefs] using h)
  | atomic c => exact checkRefs_errors c n err (by simpa [checkRefs] using h)
  | backref g =>
    simp only [checkRefs] at h
    split at h
    · cases h; left; rfl
    · cases h
  | backrefExists g =>
    simp only [checkRefs] at h
    split at h
    · cases h; left; rfl
    · cases h
  | cond c y f =>
    simp only [checkRefs] at h
    cases h1 : checkRefs c n with
    | error e1 => simp only [h1] at h; cases h; exact checkRefs_errors c n _ h1
    | ok n1 =>
      simp only [h1] at h
      cases h2 : checkRefs y n1 with
      | error e2 => simp only [h2] at h; cases h; exact checkRefs_errors y n1 _ h2
      | ok n2 => simp only [h2] at h; exact checkRefs_errors f n2 err h
  | subroutine g => simp only [checkRefs] at h; cases h; right; rfl
theorem checkRefsList_errors (es : List Expr) (n : Nat) (err : CompileErr) (h : checkRefsList es n = .error err) :
    err = .invalidBackref ∨ err = .featureNotSupported := by
  cases es with
  | nil => simp [checkRefsList] at h
  | cons e es =>
    simp only [checkRefsList] at h
    cases h1 : checkRefs e n with
    | error e1 => simp only [h1] at h; cases h; exact checkRefs_errors e n _ h1
    | ok n1 => simp only [h1] at h; exact checkRefsList_errors es n1 err h
end

/-- **analysis is total and linear**: it answers with a group count bounded by the tree size, or
    with one of its two errors -/
theorem C06_groups_linear (e : Expr) (n : Nat) :
    (∃ m, checkRefs e n = .ok m ∧ m ≤ n + nodes e) ∨ checkRefs e n = .error .invalidBackref ∨
      checkRefs e n = .error .featureNotSupported := by
  cases h : checkRefs e n with
  | ok m =>
    left
    have := checkRefs_count e n m h
    have := groupCount_le_nodes e
    exact ⟨m, rfl, by omega⟩
  | error err =>
    right
    rcases checkRefs_errors e n err h with rfl | rfl
    · left; rfl
    · right; rfl

open Expand in
/-- the decimal scanner only accepts values that fit `usize`, and consumes no more than the input -/
theorem C06_parse_decimal_bound (s : List Char) (skip v : Nat) (h : parseDecimal s = some (skip, v)) :
    v ≤ UNSET ∧ skip ≤ s.length ∧ 0 < skip := by
  unfold parseDecimal at h
  simp only at h
  split at h
  · cases h
  · split at h
    · cases h
    · rename_i hne hle
      simp only [Option.some.injEq, Prod.mk.injEq] at h
      obtain ⟨rfl, rfl⟩ := h
      refine ⟨by omega, (List.takeWhile_prefix _).length_le, ?_⟩
      cases hl : List.takeWhile isDigit s with
      | nil => simp [hl] at hne
      | cons a as => simp

open Expand in
/-- the identifier scanner: what it consumes is the delimiters plus a non-empty identifier -/
theorem C06_parse_id_skip (isId : Char → Bool) (s o cl : List Char) (rel : Bool) (id : List Char) (skip : Nat)
    (h : parseId isId s o cl rel = some (id, skip)) : skip = o.length + id.length + cl.length ∧ id ≠ [] := by
  unfold parseId at h
  split at h
  · cases h
  · split at h
    · cases h
    · rename_i hok
      simp only [Option.some.injEq, Prod.mk.injEq] at h
      obtain ⟨rfl, rfl⟩ := h
      refine ⟨rfl, ?_⟩
      intro he
      apply hok
      simp [he]

/-- the nesting limit of the parser is the small constant the source says -/
theorem C06_max_recursion : Generated.maxRecursion = 64 := by decide

end Fancy
