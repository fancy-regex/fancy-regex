import FancyModel.Lemmas.SemK
/-!
# C03 — results do not depend on how the pattern is split between VM and automata

Specification side, unconditional: an empty positive look-ahead `(?=)` is the identity of the
reference semantics, inserting it before or after a sub-expression changes nothing
(`C03_inject_before`, `C03_inject_after`), and the semantics is a congruence — replacing a
sub-expression by one with the same semantics, under any constructor, leaves the semantics of the
whole unchanged (`C03_congr_*`). Together: for every one-hole context `C` (built from these
constructors), `sem (C[(?=) x]) = sem (C[x]) = sem (C[x (?=)])`.

One position is excluded, and the code excludes it too: directly under a look-behind the shape of
the body matters (a top-level alternation is lowered per alternative); `(?<=(?=)(?:a|bb))` does not
compile ("whenever the modified pattern still compiles" in the property).

Engine side (VM + delegation gives the same result for `P` and `inject P`): decided by the in-process
metamorphic comparison on the implementation plus the tie of both spellings to the model.
-/
namespace Fancy

/-- `(?=)` is the identity -/
theorem C03_empty_lookahead_id (c : Ctx) (st : St) : sem c (.look .empty .ahead) st = [st] := by
  simp [sem, firstOnly]

theorem flatMap_semConcat_nil (c : Ctx) (l : List St) : l.flatMap (semConcat c []) = l := by
  induction l with
  | nil => rfl
  | cons a as ih => simp [semConcat, ih]

theorem semConcat_empty_la (c : Ctx) (r : St) : semConcat c [.look .empty .ahead] r = [r] := by
  simp [semConcat, sem, firstOnly]

theorem flatMap_semConcat_empty_la (c : Ctx) (l : List St) :
    l.flatMap (semConcat c [.look .empty .ahead]) = l := by
  induction l with
  | nil => rfl
  | cons a as ih => simp [semConcat_empty_la, ih]

theorem C03_inject_before (c : Ctx) (x : Expr) (st : St) :
    sem c (.concat [.look .empty .ahead, x]) st = sem c x st := by
  simp only [sem, semConcat, firstOnly, List.head?_cons, Option.toList_some, List.map_cons, List.map_nil,
    List.flatMap_cons, List.flatMap_nil, List.append_nil]
  exact flatMap_semConcat_nil c _

theorem C03_inject_after (c : Ctx) (x : Expr) (st : St) :
    sem c (.concat [x, .look .empty .ahead]) st = sem c x st := by
  simp only [sem, semConcat]
  exact flatMap_semConcat_empty_la c _

/-- inside a longer concatenation -/
theorem C03_inject_before_in_concat (c : Ctx) (es : List Expr) (st : St) :
    semConcat c (.look .empty .ahead :: es) st = semConcat c es st := by
  simp [sem, semConcat, firstOnly]

theorem semConcat_append (c : Ctx) (a b : List Expr) (st : St) :
    semConcat c (a ++ b) st = (semConcat c a st).flatMap (semConcat c b) := by
  induction a generalizing st with
  | nil => simp [semConcat]
  | cons e es ih =>
    simp only [List.cons_append, semConcat, List.flatMap_assoc]
    congr 1
    funext r
    exact ih r

theorem C03_inject_after_in_concat (c : Ctx) (es : List Expr) (st : St) :
    semConcat c (es ++ [.look .empty .ahead]) st = semConcat c es st := by
  rw [semConcat_append]
  exact flatMap_semConcat_empty_la c _

/-! ### Congruence: equal semantics of a part ⇒ equal semantics of the whole -/

variable (c : Ctx) {x y : Expr}

theorem C03_congr_group (h : ∀ st, sem c x st = sem c y st) (g : Nat) (st : St) :
    sem c (.group g x) st = sem c (.group g y) st := by simp [sem, h]

theorem C03_congr_atomic (h : ∀ st, sem c x st = sem c y st) (st : St) :
    sem c (.atomic x) st = sem c (.atomic y) st := by simp [sem, h]

theorem C03_congr_lookahead (h : ∀ st, sem c x st = sem c y st) (st : St) :
    sem c (.look x .ahead) st = sem c (.look y .ahead) st ∧
    sem c (.look x .aheadNeg) st = sem c (.look y .aheadNeg) st := by simp [sem, h]

theorem C03_congr_repeat (h : ∀ st, sem c x st = sem c y st) (lo : Nat) (hi : Option Nat) (gr : Bool) (st : St) :
    sem c (.repeat x lo hi gr) st = sem c (.repeat y lo hi gr) st := by
  have : sem c x = sem c y := funext h
  simp [sem, this]

theorem C03_congr_cond (hc : ∀ st, sem c x st = sem c y st) (a b : Expr) (st : St) :
    sem c (.cond x a b) st = sem c (.cond y a b) st ∧
    sem c (.cond a x b) st = sem c (.cond a y b) st ∧
    sem c (.cond a b x) st = sem c (.cond a b y) st := by
  simp [sem, hc]

theorem semConcat_congr (pre post : List Expr) (h : ∀ st, sem c x st = sem c y st) (st : St) :
    semConcat c (pre ++ x :: post) st = semConcat c (pre ++ y :: post) st := by
  rw [semConcat_append, semConcat_append]
  congr 1
  funext r
  simp only [semConcat, h]

theorem C03_congr_concat (pre post : List Expr) (h : ∀ st, sem c x st = sem c y st) (st : St) :
    sem c (.concat (pre ++ x :: post)) st = sem c (.concat (pre ++ y :: post)) st := by
  simp only [sem]; exact semConcat_congr c pre post h st

theorem semAlt_append (a b : List Expr) (st : St) : semAlt c (a ++ b) st = semAlt c a st ++ semAlt c b st := by
  induction a with
  | nil => simp [semAlt]
  | cons e es ih => simp [semAlt, ih]

theorem C03_congr_alt (pre post : List Expr) (h : ∀ st, sem c x st = sem c y st) (st : St) :
    sem c (.alt (pre ++ x :: post)) st = sem c (.alt (pre ++ y :: post)) st := by
  simp only [sem, semAlt_append, semAlt, h]

/-- under a look-behind: bodies of the same (non-alternation) shape -/
theorem C03_congr_lookbehind (h : ∀ st, sem c x st = sem c y st)
    (hx : ∀ es, x ≠ .alt es) (hy : ∀ es, y ≠ .alt es) (st : St) :
    sem c (.look x .behind) st = sem c (.look y .behind) st ∧
    sem c (.look x .behindNeg) st = sem c (.look y .behindNeg) st := by
  have hfun : sem c x = sem c y := funext h
  simp [sem, semBehind_of_not_alt c hx, semBehind_of_not_alt c hy, hfun]

/-! ### Non-vacuity: the two injections on a concrete loop body -/
example (c : Ctx) (st : St) :
    sem c (.repeat (.concat [.look .empty .ahead, .literal ['a'] false]) 0 none true) st =
      sem c (.repeat (.literal ['a'] false) 0 none true) st :=
  C03_congr_repeat c (C03_inject_before c _) 0 none true st

end Fancy
