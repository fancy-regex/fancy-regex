import FancyModel.Proofs.C06d
import FancyModel.Proofs.C12c
/-!
# C12 (translator part, scanners) — the expander's scanners are the TRANSLATED `parse_id` / `parse_decimal` of src/parse.rs

In GeneratedExpand.lean (src/expand.rs, Proofs/C12c.lean) the two scanners that `Expander::exec` calls were ADAPTORS: the
model's `Expand.parseId isId` / `Expand.parseDecimal` on the CHARACTERS of the template's tail (`skip` counted in characters).
Meanwhile tools/rs2lean_parse.py translates exactly these two functions from src/parse.rs (GeneratedParse.lean: `GenParse.parse_id`,
`GenParse.parse_decimal`, on `Str` = bytes + offset, `skip` in BYTES) and Proofs/C06d.lean proves them equal to the parser model's
byte-level `Parse.parseId` / `Parse.parseDecimal`. This file is the bridge between the two models, on the bytes of a string:

* `parseId_bytesOf`: `Parse.parseId isAlnum (bytesOf s) 0 (bytes o) (bytes c) allow = .ok ((Expand.parseId (isIdChar isAlnum) s o c allow).map (conv s o))`
  - never a panic, and the byte offsets are the offsets of the character positions (`conv`); through `decodeAt_bytesOf`,
  `findNot_bytesOf` (the `iter.find(..)` over `char_indices()` = `takeWhile` on characters), `startsWithAt_bytesOf` (UTF-8 is
  prefix-free), `dash_at`, `afterId_eq`;
* `parse_id_translated`: `GenParse.parse_id isAlnum ⟨bytesOf s, 0⟩ (strBytes o) (strBytes c) allow =
  .ok ((GenExpand.parse_id (isIdChar isAlnum) s o c allow).map fun (id, skip) => (strBytes id, (strBytes (s.take skip)).length))`;
* `parse_decimal_translated`: `GenParse.parse_decimal ⟨bytesOf s, 0⟩ 0 = .ok (GenExpand.parse_decimal s)` (digits are single bytes);
* **`C12_scanners_translated`**: `scanId` / `scanDec` - what `exec` does with the answers of the translated scanners (the
  identifier is the `&str` with the returned bytes; the template goes on at the returned byte offset) - ARE the adaptors
  `GenExpand.parse_id (isIdChar isAlnum)` / `GenExpand.parse_decimal`;
* **`C12_exec_translated_eq'`**: `genExec (isIdChar isAlnum) x t f st = runSteps f (execT isAlnum x (t.length + 1) t) st`, `execT` = the
  model's `exec` verbatim with `scanId` / `scanDec` in place of its scanners (`execT_eq`: the same steps); instances for the two
  expanders of the crate (`C12_exec_translated_dollar`, `C12_exec_translated_python`).

Side conditions (`DelimOK isAlnum open close`, proved for `""`/`""`, `"{"`/`"}"` given `isAlnum '}' = false`, `"g<"`/`">"` given
`isAlnum '>' = false` - both true of `char::is_alphanumeric`):
1. the `debug_assert!(!close.starts_with(is_id_char))` of `parse_id` holds (else the translated scanner panics in a debug build);
2. `close = "" → open = ""`: with an opener but no closer `parse_id` computes `id_len = s.len()` (not `s.len() - open.len()`) when the
   identifier runs to the end of the string and slices `s[id_start..id_start + s.len()]` - out of range, a PANIC, where
   `Expand.parseId` returns the identifier. Not reachable: `Expander`'s fields are private and its two constructors have a closer
   whenever they have an opener; the parser calls `parse_id` with both or neither.
The template needs no hypothesis: it is a `List Char`, its bytes are `bytesOf t` (valid UTF-8 by construction; `DashWF_bytesOf`).
-/
namespace Fancy.C12d
open Fancy.Parse (Bytes bytesOf decodeAt findNot startsWithAt sliceOk sliceFromOk isBoundary mkChar decodeList isIdChar Res)
open Fancy.Utf8 (off encode encodeChar)
open Fancy.GenParse (res_bind_ok res_pure)

abbrev cps (cs : List Char) : List Nat := cs.map Char.toNat

theorem bytesOf_size (cs : List Char) : (bytesOf cs).size = (encode (cps cs)).length := by
  simp [bytesOf]

theorem bytesOf_get (cs : List Char) (i : Nat) : (bytesOf cs)[i]? = (encode (cps cs))[i]? := by
  simp [bytesOf]

/-- at the byte offset of the `k`-th character the decoder sees exactly that character -/
theorem decodeAt_bytesOf (cs : List Char) (k : Nat) (hk : k < cs.length) :
    ∃ b, (bytesOf cs)[off (cps cs) k]? = some b ∧
      decodeAt (bytesOf cs) (off (cps cs) k) b = (cs[k], (encodeChar cs[k].toNat).length) := by
  have hk' : k < (cps cs).length := by simpa using hk
  obtain ⟨b, hb1, _, hb3⟩ := Utf8.lead_at (cps cs) k hk'
  have hnk : (cps cs)[k] = cs[k].toNat := by simp [cps]
  refine ⟨b, by rw [bytesOf_get]; exact hb1, ?_⟩
  have hex : ((bytesOf cs).extract (off (cps cs) k) (off (cps cs) k + Utf8.codepointLen b)).toList =
      encodeChar (cps cs)[k] := by
    rw [hb3]
    unfold bytesOf
    conv => lhs; rw [Utf8.encode_split3 (cps cs) k hk']
    have hoff : off (cps cs) k = (encode ((cps cs).take k)).length := rfl
    simp [hoff]
  have hdl : decodeList (encodeChar (cps cs)[k]) = [cs[k]] := by
    rw [hnk]; exact Parse.decodeList_encodeChar _
  unfold decodeAt
  simp only [hex, hdl]
  simp only [hb3, hnk]

theorem bytesOf_get_end (cs : List Char) : (bytesOf cs)[off (cps cs) cs.length]? = none := by
  rw [bytesOf_get]
  have : off (cps cs) cs.length = (encode (cps cs)).length := by
    have := Utf8.off_length (cps cs); simpa using this
  rw [this]; simp

/-- `iter.find(|(_, ch)| !pred(ch))` from the `k`-th character: the byte offset of the first character that fails `pred` -/
theorem findNot_bytesOf (pred : Char → Bool) (cs : List Char) : ∀ (f k : Nat), k ≤ cs.length → cs.length - k < f →
    findNot pred f (bytesOf cs) (off (cps cs) k) =
      .ok (if k + ((cs.drop k).takeWhile pred).length < cs.length
            then some (off (cps cs) (k + ((cs.drop k).takeWhile pred).length)) else none) := by
  intro f
  induction f with
  | zero => intro k _ h; omega
  | succ f ih =>
    intro k hk hf
    rcases Nat.lt_or_ge k cs.length with hlt | hge
    · obtain ⟨b, hb, hd⟩ := decodeAt_bytesOf cs k hlt
      have hdrop : cs.drop k = cs[k] :: cs.drop (k + 1) := (List.drop_eq_getElem_cons hlt)
      have hsucc : off (cps cs) k + (encodeChar cs[k].toNat).length = off (cps cs) (k + 1) := by
        have := Utf8.off_succ (cps cs) k (by simpa using hlt)
        simp only [cps, List.getElem_map] at this ⊢
        omega
      rw [findNot, hb]
      simp only [hd]
      rw [hdrop, List.takeWhile_cons]
      cases hp : pred cs[k]
      · simp [hlt]
      · simp only [↓reduceIte, List.length_cons]
        rw [hsucc, ih (k + 1) (by omega) (by omega)]
        have : k + 1 + ((cs.drop (k + 1)).takeWhile pred).length = k + (((cs.drop (k + 1)).takeWhile pred).length + 1) := by omega
        rw [this]
    · have hk2 : k = cs.length := by omega
      subst hk2
      rw [findNot, bytesOf_get_end]
      simp


/-! ## prefixes, boundaries -/

theorem cps_prefix (a b : List Char) : cps a <+: cps b ↔ a <+: b := by
  induction a generalizing b with
  | nil => simp [cps]
  | cons x a ih =>
    cases b with
    | nil => simp [cps]
    | cons y b =>
      simp only [cps, List.map_cons, List.cons_prefix_cons, Char.toNat_inj] at ih ⊢
      rw [ih]

theorem startsWithAt_eq (re : Bytes) : ∀ (lit : List Nat) (ix : Nat),
    startsWithAt re ix lit = lit.isPrefixOf (re.toList.drop ix) := by
  intro lit
  induction lit with
  | nil => intro ix; simp [startsWithAt]
  | cons c lit ih =>
    intro ix
    rw [startsWithAt, ih]
    rcases h : re[ix]? with _ | b
    · have : re.toList.drop ix = [] := by
        have := Array.getElem?_eq_none_iff.mp h
        simp; omega
      simp [this]
    · have hlt := (Array.getElem?_eq_some_iff.mp h).1
      have hb : re[ix] = b := (Array.getElem?_eq_some_iff.mp h).2
      have : re.toList.drop ix = b :: re.toList.drop (ix + 1) := by
        rw [List.drop_eq_getElem_cons (by simpa using hlt)]
        simp [hb]
      rw [this]
      simp only [List.isPrefixOf]
      by_cases hbc : b = c
      · subst hbc; simp
      · have h2 : ¬ c = b := fun e => hbc e.symm
        have e1 : (some b == some c) = false := by simp [hbc]
        rw [e1, beq_false_of_ne h2]

theorem startsWithAt_bytesOf (cs o : List Char) (k : Nat) :
    startsWithAt (bytesOf cs) (off (cps cs) k) (encode (cps o)) = o.isPrefixOf (cs.drop k) := by
  rw [startsWithAt_eq]
  have h1 : (bytesOf cs).toList.drop (off (cps cs) k) = encode (cps (cs.drop k)) := by
    simp only [bytesOf]
    rw [Utf8.drop_off]
    simp [cps]
  rw [h1]
  rw [Bool.eq_iff_iff, List.isPrefixOf_iff_prefix, List.isPrefixOf_iff_prefix, Utf8.encode_prefix_iff, cps_prefix]

theorem boundary_bytesOf (cs : List Char) (k : Nat) (hk : k ≤ cs.length) :
    isBoundary (bytesOf cs) (off (cps cs) k) = true := by
  unfold bytesOf
  rw [Parse.isBoundary_toArray]
  exact (Utf8.C05_boundary_iff (cps cs) _).mpr ⟨k, by simpa using hk, rfl⟩


theorem len_le_size (cs : List Char) : cs.length ≤ (bytesOf cs).size := by
  rw [bytesOf_size]
  have h := Utf8.C05_count_lead (cps cs)
  have h2 := List.countP_le_length (p := Utf8.isLead) (l := encode (cps cs))
  have h3 : (cps cs).length = cs.length := by simp [cps]
  omega

theorem off_len (cs : List Char) : off (cps cs) cs.length = (bytesOf cs).size := by
  rw [bytesOf_size]
  have := Utf8.off_length (cps cs)
  simpa using this

theorem off_mono (cs : List Char) (j k : Nat) (hjk : j < k) (hk : k ≤ cs.length) : off (cps cs) j < off (cps cs) k :=
  Utf8.off_lt_of_lt (cps cs) j k hjk (by simpa using hk)

/-- is the byte at the offset of the `k`-th character the ASCII `-`? -/
theorem dash_at (cs : List Char) (k : Nat) (hk : k ≤ cs.length) :
    ((bytesOf cs)[off (cps cs) k]? == some 45) = (match cs.drop k with | '-' :: _ => true | _ => false) := by
  rcases Nat.lt_or_ge k cs.length with hlt | hge
  · obtain ⟨b, hb, hd⟩ := decodeAt_bytesOf cs k hlt
    have hdrop : cs.drop k = cs[k] :: cs.drop (k + 1) := List.drop_eq_getElem_cons hlt
    rw [hb, hdrop]
    by_cases h45 : b = 45
    · subst h45
      have := Fancy.GenParse.Ident.decodeAt_ascii (bytesOf cs) (off (cps cs) k) 45 hb (by omega)
      rw [this] at hd
      have hc : cs[k] = '-' := by
        have := congrArg Prod.fst hd
        simp only at this
        rw [← this]; decide
      simp [hc]
    · have hne : cs[k] ≠ '-' := by
        intro hc
        have hg := Utf8.get_at (cps cs) k 0 (by simpa using hlt) (Utf8.encodeChar_length_pos _)
        rw [Nat.add_zero, ← bytesOf_get, hb] at hg
        have hnk : (cps cs)[k]'(by simpa using hlt) = cs[k].toNat := by simp [cps]
        rw [hnk, hc] at hg
        have h1 : (encodeChar '-'.toNat)[0]? = some 45 := by decide
        rw [h1] at hg
        exact h45 (Option.some.inj hg)
      have e1 : (some b == some 45) = false := by simp [h45]
      rw [e1]
      split
      · rename_i heq; exact absurd (List.cons.inj heq).1 hne
      · rfl
  · have hk2 : k = cs.length := by omega
    subst hk2
    rw [bytesOf_get_end]
    simp


open Fancy.Expand (idCharsOf closeOk)

theorem idCharsOf_norel (isId : Char → Bool) (body : List Char) (allow : Bool)
    (h : (allow && (match body with | '-' :: _ => true | _ => false)) = false) :
    idCharsOf isId body allow = body.takeWhile isId := by
  unfold idCharsOf
  split
  · rename_i rest; simp at h
  · rfl

theorem idCharsOf_length_le (isId : Char → Bool) (body : List Char) (allow : Bool) :
    (idCharsOf isId body allow).length ≤ body.length := by
  unfold idCharsOf
  split
  · simp only [List.length_cons]; exact Nat.succ_le_succ (List.takeWhile_prefix _).length_le
  · exact (List.takeWhile_prefix _).length_le

/-- where the identifier ends: the two `iter.find(..)` of `parse_id` on the bytes of a string -/
theorem afterId_eq (isAlnum : Char → Bool) (s : List Char) (ol : Nat) (hol : ol ≤ s.length) (allow : Bool) :
    (if (allow && (bytesOf s)[off (cps s) ol]? == some (Parse.ch '-')) = true then
        findNot Parse.isAsciiDigitChar ((bytesOf s).size + 1) (bytesOf s) (off (cps s) ol + 1)
      else findNot (isIdChar isAlnum) ((bytesOf s).size + 1) (bytesOf s) (off (cps s) ol)) =
      .ok (if ol + (idCharsOf (isIdChar isAlnum) (s.drop ol) allow).length < s.length
            then some (off (cps s) (ol + (idCharsOf (isIdChar isAlnum) (s.drop ol) allow).length)) else none) := by
  have hsz := len_le_size s
  have h45 : Parse.ch '-' = 45 := by decide
  rw [h45, dash_at s ol hol]
  by_cases hrel : (allow && (match s.drop ol with | '-' :: _ => true | _ => false)) = true
  · rw [if_pos hrel]
    simp only [Bool.and_eq_true] at hrel
    obtain ⟨ha, hd⟩ := hrel
    subst ha
    rcases hb : s.drop ol with _ | ⟨c, rest⟩
    · rw [hb] at hd; simp at hd
    · rw [hb] at hd
      have hc : c = '-' := by
        split at hd
        · rename_i heq; exact (List.cons.inj heq).1
        · simp at hd
      subst hc
      have hlt : ol < s.length := by
        rcases Nat.lt_or_ge ol s.length with h | h
        · exact h
        · rw [List.drop_of_length_le h] at hb; cases hb
      have hdrop : s.drop ol = s[ol] :: s.drop (ol + 1) := List.drop_eq_getElem_cons hlt
      rw [hdrop] at hb
      obtain ⟨h1, h2⟩ := List.cons.inj hb
      have hsucc : off (cps s) ol + 1 = off (cps s) (ol + 1) := by
        have := Utf8.off_succ (cps s) ol (by simpa using hlt)
        have hnk : (cps s)[ol]'(by simpa using hlt) = s[ol].toNat := by simp [cps]
        rw [hnk, h1] at this
        have hl : (encodeChar '-'.toNat).length = 1 := by decide
        omega
      rw [hsucc, findNot_bytesOf _ s _ (ol + 1) (by omega) (by omega)]
      have hid : idCharsOf (isIdChar isAlnum) ('-' :: rest) true = '-' :: rest.takeWhile Expand.isDigit := rfl
      rw [hid, ← h2]
      have hdig : Parse.isAsciiDigitChar = Expand.isDigit := rfl
      rw [hdig]
      simp only [List.length_cons]
      have : ol + 1 + ((s.drop (ol + 1)).takeWhile Expand.isDigit).length =
          ol + (((s.drop (ol + 1)).takeWhile Expand.isDigit).length + 1) := by omega
      rw [this]
  · have hrel' : (allow && (match s.drop ol with | '-' :: _ => true | _ => false)) = false := by
      simpa using hrel
    rw [if_neg hrel, idCharsOf_norel _ _ _ hrel', findNot_bytesOf _ s _ ol hol (by omega)]


/-- what the delimiters of an expander satisfy (`""`/`""`, `"{"`/`"}"`, `"g<"`/`">"`): the `debug_assert!` of `parse_id` holds, and
    a missing closer comes with a missing opener (else `parse_id` slices `s[open.len()..open.len() + s.len()]`: a panic) -/
structure DelimOK (isAlnum : Char → Bool) (o c : List Char) : Prop where
  close : ∀ b rest, encode (cps c) = b :: rest → isIdChar isAlnum (mkChar b) = false
  empty : c = [] → o = []

/-- character positions of the model's answer as byte offsets -/
def conv (s o : List Char) (p : List Char × Nat) : Nat × Nat × Nat :=
  (off (cps s) o.length, off (cps s) (o.length + p.1.length), off (cps s) p.2)

theorem encode_isEmpty (c : List Char) : (encode (cps c)).isEmpty = c.isEmpty := by
  cases c with
  | nil => rfl
  | cons x c =>
    have := Utf8.encodeChar_length_pos x.toNat
    simp only [cps, List.map_cons, Utf8.encode_cons, List.isEmpty_cons]
    cases h : encodeChar x.toNat with
    | nil => rw [h] at this; simp at this
    | cons _ _ => rfl

theorem sliceFrom_ok (s : List Char) (k : Nat) (hk : k ≤ s.length) (site : String) :
    Parse.sliceFrom (bytesOf s) (off (cps s) k) site = .ok () := by
  simp [Parse.sliceFrom, sliceFromOk, boundary_bytesOf s k hk]

theorem sliceOk_ok (s : List Char) (a b : Nat) (hab : a ≤ b) (hb : b ≤ s.length) :
    sliceOk (bytesOf s) (off (cps s) a) (off (cps s) b) = true := by
  have h1 : off (cps s) a ≤ off (cps s) b := Utf8.off_le_of_le (cps s) a b hab (by simpa using hb)
  have h2 : off (cps s) b ≤ (bytesOf s).size := by
    rw [bytesOf_size]; exact Utf8.off_le_length _ _
  simp [sliceOk, h1, h2, boundary_bytesOf s a (by omega), boundary_bytesOf s b hb]

theorem sliceOk_ok' (s : List Char) : sliceOk (bytesOf s) 0 (off (cps s) s.length) = true := by
  have := sliceOk_ok s 0 s.length (by omega) (Nat.le_refl _)
  rwa [Utf8.off_zero] at this

/-- **the parser's `parse_id` on the bytes of a string is the expander's scanner on its characters** -/
theorem parseId_bytesOf (isAlnum : Char → Bool) (s o c : List Char) (allow : Bool) (h : DelimOK isAlnum o c) :
    Parse.parseId isAlnum (bytesOf s) 0 (encode (cps o)) (encode (cps c)) allow =
      .ok ((Expand.parseId (isIdChar isAlnum) s o c allow).map (conv s o)) := by
  unfold Parse.parseId Expand.parseId
  rw [if_neg (by
    intro hm
    split at hm
    · rename_i b r heq; rw [h.close b r heq] at hm; cases hm
    · cases hm)]
  have h0 : (0 : Nat) = off (cps s) 0 := (Utf8.off_zero _).symm
  have hsw : startsWithAt (bytesOf s) 0 (encode (cps o)) = o.isPrefixOf s := by
    conv => lhs; rw [h0]
    rw [startsWithAt_bytesOf]; simp
  rw [hsw]
  cases hpre : o.isPrefixOf s
  · simp
  · simp only [Bool.not_true, Bool.false_eq_true, ↓reduceIte]
    have hp : cps o <+: (cps s).drop 0 := by
      simp only [List.drop_zero]; exact (cps_prefix o s).mpr (List.isPrefixOf_iff_prefix.mp hpre)
    obtain ⟨e1, e2, _⟩ := Utf8.C05_lit_end (cps s) (cps o) 0 (by omega) hp
    have hol : o.length ≤ s.length := by simpa [cps] using e2
    have hst : 0 + (encode (cps o)).length = off (cps s) o.length := by
      rw [Utf8.off_zero] at e1; simpa [cps] using e1
    rw [hst, sliceFrom_ok s _ hol]
    have haf := afterId_eq isAlnum s o.length hol allow
    rw [haf]
    simp only [res_bind_ok]
    -- the identifier
    generalize hids : idCharsOf (isIdChar isAlnum) (s.drop o.length) allow = ids
    have hidle : o.length + ids.length ≤ s.length := by
      have := idCharsOf_length_le (isIdChar isAlnum) (s.drop o.length) allow
      rw [hids] at this
      simp only [List.length_drop] at this; omega
    have hafter : (s.drop o.length).drop ids.length = s.drop (o.length + ids.length) := by
      rw [List.drop_drop]
    rw [hafter]
    by_cases hlt : o.length + ids.length < s.length
    · -- something follows the identifier
      rw [if_pos hlt]
      simp only [sliceFrom_ok s _ (Nat.le_of_lt hlt), startsWithAt_bytesOf, res_bind_ok]
      have hne : s.drop (o.length + ids.length) ≠ [] := by
        intro he; have := congrArg List.length he; simp at this; omega
      have hck : closeOk c (s.drop (o.length + ids.length)) = c.isPrefixOf (s.drop (o.length + ids.length)) := by
        unfold closeOk
        split
        · rename_i he; exact absurd he hne
        · rfl
      rw [hck]
      cases hcp : c.isPrefixOf (s.drop (o.length + ids.length))
      · simp
      · simp only [↓reduceIte, Bool.not_true, Bool.false_or]
        cases ids with
        | nil => simp
        | cons x ids =>
          have hpos : off (cps s) o.length < off (cps s) (o.length + (x :: ids).length) :=
            off_mono s _ _ (by simp) hidle
          have hl : ∃ l, off (cps s) (o.length + (x :: ids).length) - off (cps s) o.length = l + 1 :=
            ⟨_, (Nat.succ_pred_eq_of_pos (by omega)).symm⟩
          obtain ⟨l, hl⟩ := hl
          rw [hl]
          simp only [res_pure, res_bind_ok, List.isEmpty_cons, Bool.false_eq_true, ↓reduceIte]
          have hend : off (cps s) o.length + (l + 1) = off (cps s) (o.length + (x :: ids).length) := by omega
          rw [hend, sliceOk_ok s _ _ (by omega) hidle]
          simp only [Bool.not_true, Bool.false_eq_true, ↓reduceIte, Option.map_some, conv]
          have hpc : cps c <+: (cps s).drop (o.length + (x :: ids).length) := by
            have := (cps_prefix c _).mpr (List.isPrefixOf_iff_prefix.mp hcp)
            simpa [cps, List.map_drop] using this
          obtain ⟨f1, _, _⟩ := Utf8.C05_lit_end (cps s) (cps c) _ (by simpa using hidle) hpc
          have f1' : off (cps s) (o.length + (x :: ids).length) + (encode (cps c)).length =
              off (cps s) (o.length + (x :: ids).length + c.length) := by simpa [cps] using f1
          rw [Nat.sub_zero, f1']
    · -- the identifier runs to the end of the string
      rw [if_neg hlt]
      have hend : o.length + ids.length = s.length := by omega
      have hnil : s.drop (o.length + ids.length) = [] := by rw [hend]; simp
      rw [hnil]
      simp only [closeOk, encode_isEmpty]
      by_cases hc : c.isEmpty = true
      · have hc' : c = [] := List.isEmpty_iff.mp hc
        have ho : o = [] := h.empty hc'
        subst hc' ho
        simp only [List.length_nil, Nat.zero_add] at hend hidle ⊢
        simp only [pure, Nat.sub_zero]
        cases ids with
        | nil =>
          have : s = [] := List.eq_nil_of_length_eq_zero (by simpa using hend.symm)
          subst this
          simp [bytesOf, cps, encode]
        | cons x ids =>
          have hsz : (bytesOf s).size = off (cps s) s.length := (off_len s).symm
          have hpos : 0 < off (cps s) s.length := by
            have := off_mono s 0 s.length (by rw [← hend]; simp) (Nat.le_refl _)
            rw [Utf8.off_zero] at this; exact this
          obtain ⟨l, hl⟩ : ∃ l, (bytesOf s).size = l + 1 := ⟨_, (Nat.succ_pred_eq_of_pos (by omega)).symm⟩
          rw [hl]
          simp only [List.isEmpty_nil, ↓reduceIte, res_bind_ok]
          have e3 : l + 1 = off (cps s) s.length := by omega
          rw [e3]
          simp only [Utf8.off_zero, Nat.zero_add, sliceOk_ok' s]
          simp [conv, hend, cps, Utf8.off_zero, encode]
      · simp [hc]


/-! ## the translated `parse_id` -/

theorem idCharsOf_prefix (isId : Char → Bool) (body : List Char) (allow : Bool) : idCharsOf isId body allow <+: body := by
  unfold idCharsOf
  split
  · exact List.prefix_cons_inj _ |>.mpr (List.takeWhile_prefix _)
  · exact List.takeWhile_prefix _

/-- the bytes between two character offsets are the encoding of the characters between them -/
theorem extract_bytesOf (s : List Char) (a b : Nat) (hab : a ≤ b) (hb : b ≤ s.length) :
    ((bytesOf s).extract (off (cps s) a) (off (cps s) b)).toList = encode (cps ((s.drop a).take (b - a))) := by
  have h := Utf8.C05_slice_ok (cps s) a b hab (by simpa using hb)
  unfold Utf8.slice at h
  split at h
  · have h' := Option.some.inj h
    simp only [bytesOf, List.extract_toArray, List.extract_eq_take_drop]
    rw [h']
    simp [cps, List.map_take, List.map_drop]
  · cases h

open Fancy.GenExpand (strBytes) in
/-- **`parse_id` as translated from src/parse.rs, on the bytes of a string, returns the bytes of the identifier the expander's
    scanner returns and the BYTE length of the prefix it skips** (the scanner counts that prefix in characters) -/
theorem parse_id_translated (isAlnum : Char → Bool) (s o c : List Char) (allow : Bool) (h : DelimOK isAlnum o c) :
    GenParse.parse_id isAlnum ⟨bytesOf s, 0⟩ (strBytes o) (strBytes c) allow =
      .ok ((GenExpand.parse_id (isIdChar isAlnum) s o c allow).map
        (fun p => (strBytes p.1, (strBytes (s.take p.2)).length))) := by
  rw [GenParse.Ident.parse_id_eq isAlnum (bytesOf s) 0 _ _ allow (GenParse.Ident.DashWF_bytesOf s)]
  show GenParse.Res.mapv _ (Parse.parseId isAlnum (bytesOf s) 0 (encode (cps o)) (encode (cps c)) allow) = _
  rw [parseId_bytesOf isAlnum s o c allow h]
  simp only [GenParse.Res.mapv, GenExpand.parse_id, Option.map_map]
  congr 1
  cases hp : Expand.parseId (isIdChar isAlnum) s o c allow with
  | none => rfl
  | some p =>
    obtain ⟨ids, skip⟩ := p
    simp only [Option.map_some, Function.comp, conv]
    -- what `parseId` returned
    unfold Expand.parseId at hp
    split at hp
    · cases hp
    · rename_i hpre
      split at hp
      · cases hp
      · obtain ⟨rfl, rfl⟩ := Prod.mk.inj (Option.some.inj hp)
        have hpre' : o.isPrefixOf s = true := by simpa using hpre
        have hol : o.length ≤ s.length := (List.isPrefixOf_iff_prefix.mp hpre').length_le
        have hpf := idCharsOf_prefix (isIdChar isAlnum) (s.drop o.length) allow
        have hle := hpf.length_le
        simp only [List.length_drop] at hle
        rw [extract_bytesOf s _ _ (by omega) (by omega), Nat.add_sub_cancel_left, ← List.prefix_iff_eq_take.mp hpf]
        simp [strBytes, off, cps, List.map_take]


theorem delim_none (isAlnum : Char → Bool) : DelimOK isAlnum [] [] :=
  ⟨fun b r h => by simp [cps, encode] at h, fun _ => rfl⟩

theorem delim_braces (isAlnum : Char → Bool) (h : isAlnum '}' = false) : DelimOK isAlnum ['{'] ['}'] := by
  refine ⟨fun b r hb => ?_, fun hc => by cases hc⟩
  have he : encode (cps ['}']) = [125] := by decide
  rw [he] at hb
  obtain ⟨rfl, _⟩ := List.cons.inj hb
  have hm : mkChar 125 = '}' := by decide
  rw [hm, isIdChar, h]; decide

theorem delim_python (isAlnum : Char → Bool) (h : isAlnum '>' = false) : DelimOK isAlnum ['g', '<'] ['>'] := by
  refine ⟨fun b r hb => ?_, fun hc => by cases hc⟩
  have he : encode (cps ['>']) = [62] := by decide
  rw [he] at hb
  obtain ⟨rfl, _⟩ := List.cons.inj hb
  have hm : mkChar 62 = '>' := by decide
  rw [hm, isIdChar, h]; decide

/-! ## `parse_decimal` -/

theorem isDigit_char_iff (c : Char) : Expand.isDigit c = true ↔ 48 ≤ c.toNat ∧ c.toNat ≤ 57 := by
  simp only [Expand.isDigit, Bool.and_eq_true, decide_eq_true_eq, Char.le_def, UInt32.le_iff_toNat_le]
  have h0 : ('0' : Char).val.toNat = 48 := by decide
  have h9 : ('9' : Char).val.toNat = 57 := by decide
  rw [h0, h9]; rfl

/-- an ASCII first byte is the whole encoding -/
theorem encodeChar_head_ascii (n b : Nat) (rest : List Nat) (h : encodeChar n = b :: rest) (hb : b < 128) : b = n := by
  unfold encodeChar at h
  split at h
  · exact (List.cons.inj h).1.symm
  · -- every longer encoding starts with a byte `≥ 0xc0`
    have hge : ∀ k d : Nat, k + d = b → 128 ≤ k → False := fun k d h1 hk => by omega
    split at h
    · exact (hge _ _ (List.cons.inj h).1 (by decide)).elim
    · split at h
      · exact (hge _ _ (List.cons.inj h).1 (by decide)).elim
      · exact (hge _ _ (List.cons.inj h).1 (by decide)).elim

/-- the leading ASCII digits of the bytes of a string are the code points of its leading digits -/
theorem takeWhile_digits (s : List Char) :
    (encode (cps s)).takeWhile Parse.isDigit = (s.takeWhile Expand.isDigit).map Char.toNat := by
  induction s with
  | nil => rfl
  | cons c s ih =>
    simp only [cps, List.map_cons, Utf8.encode_cons] at ih ⊢
    by_cases hd : Expand.isDigit c = true
    · have := (isDigit_char_iff c).mp hd
      have he : encodeChar c.toNat = [c.toNat] := by unfold encodeChar; rw [if_pos (by omega)]
      have hb : Parse.isDigit c.toNat = true := by simp [Parse.isDigit]; omega
      rw [he, List.takeWhile_cons_of_pos hd]
      simp only [List.singleton_append, List.map_cons]
      rw [List.takeWhile_cons_of_pos hb, ih]
    · have hd' : Expand.isDigit c = false := by simpa using hd
      rw [List.takeWhile_cons_of_neg hd]
      obtain ⟨b, rest, he, _⟩ := Utf8.encodeChar_shape c.toNat
      have hnb : Parse.isDigit b = false := by
        cases hb : Parse.isDigit b with
        | false => rfl
        | true =>
          have hb' : 48 ≤ b ∧ b ≤ 57 := by simpa [Parse.isDigit] using hb
          rw [encodeChar_head_ascii c.toNat b rest he (by omega)] at hb'
          exact absurd ((isDigit_char_iff c).mpr hb') hd
      rw [he]
      simp only [List.cons_append, List.map_nil]
      rw [List.takeWhile_cons_of_neg (by simp [hnb])]

theorem digitsVal_map (ds : List Char) : Parse.digitsVal (ds.map Char.toNat) = Expand.digitsVal ds := by
  unfold Parse.digitsVal Expand.digitsVal
  rw [List.foldl_map]
  rfl


theorem encode_digits (ds : List Char) (h : ∀ c ∈ ds, Expand.isDigit c = true) : encode (cps ds) = ds.map Char.toNat := by
  induction ds with
  | nil => rfl
  | cons c ds ih =>
    have := (isDigit_char_iff c).mp (h c (by simp))
    have he : encodeChar c.toNat = [c.toNat] := by unfold encodeChar; rw [if_pos (by omega)]
    simp only [cps, List.map_cons, Utf8.encode_cons, he, List.singleton_append] at ih ⊢
    rw [ih (fun x hx => h x (by simp [hx]))]

/-- **`parse_decimal` as translated from src/parse.rs, on the bytes of a string, is the expander's scanner on its characters**
    (digits are single bytes: the byte `skip` is the character `skip`) -/
theorem parse_decimal_translated (s : List Char) :
    GenParse.parse_decimal ⟨bytesOf s, 0⟩ 0 = .ok (GenExpand.parse_decimal s) := by
  rw [GenParse.Leaf.parse_decimal_eq]
  unfold Parse.parseDecimal GenExpand.parse_decimal Expand.parseDecimal
  have hl : (bytesOf s).toList.drop 0 = encode (cps s) := by simp [bytesOf]
  simp only [hl, takeWhile_digits, List.length_map, Nat.zero_add]
  generalize hds : s.takeWhile Expand.isDigit = ds
  have hall : ∀ c ∈ ds, Expand.isDigit c = true := by
    intro c hc; rw [← hds] at hc
    exact List.all_eq_true.mp (List.all_takeWhile (p := Expand.isDigit) (l := s)) c hc
  have hpre : ds <+: s := by rw [← hds]; exact List.takeWhile_prefix _
  have hoff : off (cps s) ds.length = ds.length := by
    unfold off
    have : (cps s).take ds.length = cps ds := by
      simp only [cps, ← List.map_take]
      rw [← List.prefix_iff_eq_take.mp hpre]
    rw [this, encode_digits ds hall]; simp
  have hsl : sliceOk (bytesOf s) 0 ds.length = true := by
    have := sliceOk_ok s 0 ds.length (by omega) hpre.length_le
    rwa [Utf8.off_zero, hoff] at this
  rw [hsl, digitsVal_map]
  simp only [Bool.not_true, Bool.false_eq_true, ↓reduceIte, List.isEmpty_map]
  cases ds with
  | nil => rfl
  | cons d ds =>
    simp only [List.isEmpty_cons, Bool.false_eq_true, ↓reduceIte]
    have hu : Parse.usizeMax = UNSET := rfl
    rw [hu]
    by_cases hv : Expand.digitsVal (d :: ds) ≤ UNSET
    · rw [if_pos hv, if_neg (Nat.not_lt.mpr hv)]
    · rw [if_neg hv, if_pos (Nat.lt_of_not_le hv)]


/-! ## the expander with the translated scanners -/

open Fancy.GenExpand (strBytes fromUtf8)
open Fancy.Expand (Expander Step)

theorem parseId_skip_le (isId : Char → Bool) (s o c : List Char) (allow : Bool) (ids : List Char) (skip : Nat)
    (h : Expand.parseId isId s o c allow = some (ids, skip)) : skip ≤ s.length := by
  unfold Expand.parseId at h
  split at h
  · cases h
  · rename_i hpre
    split at h
    · cases h
    · rename_i hc
      obtain ⟨rfl, rfl⟩ := Prod.mk.inj (Option.some.inj h)
      have hpre' : o.isPrefixOf s = true := by simpa using hpre
      have hol : o.length ≤ s.length := (List.isPrefixOf_iff_prefix.mp hpre').length_le
      have hle := idCharsOf_length_le isId (s.drop o.length) allow
      simp only [List.length_drop] at hle
      have hck : closeOk c ((s.drop o.length).drop (idCharsOf isId (s.drop o.length) allow).length) = true := by
        simp only [Bool.or_eq_true, Bool.not_eq_true', not_or, Bool.not_eq_false] at hc
        exact hc.1
      unfold closeOk at hck
      split at hck
      · have : c.length = 0 := by simpa [List.isEmpty_iff] using hck
        omega
      · have := (List.isPrefixOf_iff_prefix.mp hck).length_le
        simp only [List.length_drop] at this
        omega

/-- what `exec` does with the answer of the TRANSLATED `parse_id` on `tail: &str`: the identifier is the `&str` made of the
    returned bytes, and the template goes on at the returned BYTE offset, i.e. after as many characters as there are lead
    bytes before it -/
noncomputable def scanId (isAlnum : Char → Bool) (tail o c : List Char) (allow : Bool) : Option (List Char × Nat) :=
  match GenParse.parse_id isAlnum ⟨bytesOf tail, 0⟩ (strBytes o) (strBytes c) allow with
  | .ok (some (idb, skipb)) => (fromUtf8 idb).map (fun id => (id, ((strBytes tail).take skipb).countP Utf8.isLead))
  | _ => none

/-- the answer of the TRANSLATED `parse_decimal(tail, 0)` (digits are single bytes) -/
def scanDec (tail : List Char) : Option (Nat × Nat) :=
  match GenParse.parse_decimal ⟨bytesOf tail, 0⟩ 0 with
  | .ok r => r
  | _ => none

/-- **the scanners the generated `exec` calls (adaptors of GenExpandPrelude.lean) ARE the translated `parse_id` /
    `parse_decimal` of src/parse.rs** on the bytes of the template's tail, for delimiters as the expanders have them -/
theorem C12_scanners_translated (isAlnum : Char → Bool) (tail o c : List Char) (allow : Bool) (h : DelimOK isAlnum o c) :
    scanId isAlnum tail o c allow = GenExpand.parse_id (isIdChar isAlnum) tail o c allow ∧
    scanDec tail = GenExpand.parse_decimal tail := by
  constructor
  · unfold scanId
    rw [parse_id_translated isAlnum tail o c allow h]
    cases hp : GenExpand.parse_id (isIdChar isAlnum) tail o c allow with
    | none => rfl
    | some p =>
      obtain ⟨ids, skip⟩ := p
      have hle := parseId_skip_le _ _ _ _ _ _ _ hp
      simp only [Option.map_some, Fancy.fromUtf8_strBytes]
      have hsplit : strBytes tail = strBytes (tail.take skip) ++ strBytes (tail.drop skip) := by
        simp only [strBytes, ← Utf8.encode_append, ← List.map_append, List.take_append_drop]
      rw [hsplit, List.take_left']
      · have := Utf8.C05_count_lead (cps (tail.take skip))
        simp only [strBytes, cps] at this ⊢
        rw [this]; simp; omega
      · rfl
  · unfold scanDec
    rw [parse_decimal_translated]

/-- `Expander::exec` (Model/Expand.lean's `exec`, verbatim) with the translated scanners in place of the model's -/
noncomputable def execT (isAlnum : Char → Bool) (x : Expander) : Nat → List Char → List Step
  | 0, _ => []
  | _, [] => []
  | fuel + 1, c :: tail =>
    if c == x.subChar then
      match tail with
      | d :: _ =>
        if d == x.subChar then .char x.subChar :: execT isAlnum x fuel (tail.drop 1) else
        match (scanId isAlnum tail x.openD x.closeD false).orElse
                (fun _ => if x.allowUndelimited then scanId isAlnum tail [] [] false else none) with
        | some (id, skip) => .groupName id :: execT isAlnum x fuel (tail.drop skip)
        | none =>
          match scanDec tail with
          | some (skip, n) => .groupNum n :: execT isAlnum x fuel (tail.drop skip)
          | none => .error :: .char x.subChar :: execT isAlnum x fuel tail
      | [] => [.error, .char x.subChar]
    else .char c :: execT isAlnum x fuel tail

theorem execT_eq (isAlnum : Char → Bool) (x : Expander) (hx : DelimOK isAlnum x.openD x.closeD) :
    ∀ (fuel : Nat) (t : List Char), execT isAlnum x fuel t = Expand.exec (isIdChar isAlnum) x fuel t := by
  intro fuel
  induction fuel with
  | zero => intro t; simp [execT, Expand.exec]
  | succ fuel ih =>
    intro t
    cases t with
    | nil => simp [execT, Expand.exec]
    | cons c tail =>
      have h1 := fun tl => (C12_scanners_translated isAlnum tl x.openD x.closeD false hx).1
      have h2 := fun tl => (C12_scanners_translated isAlnum tl [] [] false (delim_none isAlnum)).1
      have h3 := fun tl => (C12_scanners_translated isAlnum tl [] [] false (delim_none isAlnum)).2
      simp only [execT, Expand.exec, h1, h2, h3, ih, GenExpand.parse_id, GenExpand.parse_decimal]
      by_cases hc : (c == x.subChar) = true
      · rw [if_pos hc, if_pos hc]
        cases tail with
        | nil => rfl
        | cons d tl =>
          by_cases hd : (d == x.subChar) = true
          · simp only [hd, if_true]
          · simp only [hd, if_false]
            generalize ((Expand.parseId (isIdChar isAlnum) (d :: tl) x.openD x.closeD false).orElse fun _ =>
              if x.allowUndelimited = true then Expand.parseId (isIdChar isAlnum) (d :: tl) [] [] false else none) = r
            cases r with
            | some p => cases p; rfl
            | none =>
              generalize Expand.parseDecimal (d :: tl) = q
              cases q with
              | some p => cases p; rfl
              | none => rfl
      · rw [if_neg hc, if_neg hc]

/-- **`exec` as translated hands the callback the steps computed with the TRANSLATED scanners of src/parse.rs** - no
    hand-written scanner is left between src/expand.rs + src/parse.rs and the callback -/
theorem C12_exec_translated_eq' {σ ε : Type} (isAlnum : Char → Bool) (x : Expander) (t : List Char)
    (hx : DelimOK isAlnum x.openD x.closeD) (f : Step → σ → Except ε σ) (st : σ) :
    GenExpand.genExec (isIdChar isAlnum) x t f st = Fancy.runSteps f (execT isAlnum x (t.length + 1) t) st := by
  rw [execT_eq isAlnum x hx, Fancy.C12_exec_translated_eq]
  rfl

/-- the two expanders of the crate -/
theorem C12_exec_translated_dollar {σ ε : Type} (isAlnum : Char → Bool) (h : isAlnum '}' = false) (t : List Char)
    (f : Step → σ → Except ε σ) (st : σ) :
    GenExpand.genExec (isIdChar isAlnum) Expand.dollar t f st =
      Fancy.runSteps f (execT isAlnum Expand.dollar (t.length + 1) t) st :=
  C12_exec_translated_eq' isAlnum _ t (delim_braces isAlnum h) f st

theorem C12_exec_translated_python {σ ε : Type} (isAlnum : Char → Bool) (h : isAlnum '>' = false) (t : List Char)
    (f : Step → σ → Except ε σ) (st : σ) :
    GenExpand.genExec (isIdChar isAlnum) Expand.python t f st =
      Fancy.runSteps f (execT isAlnum Expand.python (t.length + 1) t) st :=
  C12_exec_translated_eq' isAlnum _ t (delim_python isAlnum h) f st

end Fancy.C12d
