import FancyModel.Spec.Sem
import FancyModel.Proofs.C03
/-!
# C15 — conditionals choose their branch as documented

The three clauses of the statement as equations of the reference semantics (stated explicitly so
the specification cannot drift), for every context, state and sub-expressions:

* `C15_group_test`: `(?(N))` succeeds, consuming nothing, iff group `N` has matched so far;
* `C15_group_cond`: `(?(N)yes|no)` continues with `yes` iff group `N` has matched, else with `no`;
* `C15_general_cond`: `(?(cond)yes|no)` tries `cond` once at the current position — if it matches
  continue with `yes` from where `cond` ended (its first result), **never falling back to `no`**
  (`C15_no_fallback`); otherwise continue with `no` from the original position
  (`C15_no_from_original`).

Where a conditional appears (loops, atomic groups, other conditions) is covered by the congruence
theorems of C03, which apply to `cond` in all three positions. The engine side (compiled
`BeginAtomic / Split / EndAtomic` shape) is `C15_vm_correct_cond` (Proofs/C15b.lean, programs
without `Delegate`) and `C15_vm_correct_cond_s3` (Proofs/C15d.lean, with `Delegate`): the VM run of
the compiled pattern computes these semantics wherever the stage predicate allows a conditional.
Which tree the parser builds for which spelling of a conditional is `C15_parse_forms` and its
corollaries (Proofs/C15c.lean; F13, F16, F21).
-/
namespace Fancy

theorem C15_group_test (c : Ctx) (g : Nat) (st : St) :
    sem c (.backrefExists g) st = if (st.slot (2 * g)).isSome then [st] else [] := by
  simp [sem]

theorem C15_group_cond (c : Ctx) (g : Nat) (y n : Expr) (st : St) :
    sem c (.cond (.backrefExists g) y n) st =
      if (st.slot (2 * g)).isSome then sem c y st else sem c n st := by
  simp only [sem]
  by_cases h : (st.slot (2 * g)).isSome = true <;> simp [h]

theorem C15_general_cond (c : Ctx) (cnd y n : Expr) (st : St) :
    sem c (.cond cnd y n) st =
      match (sem c cnd st).head? with
      | some r => sem c y r
      | none => sem c n st := by
  simp only [sem]
  cases (sem c cnd st).head? <;> rfl

/-- if the condition matches, the `no` branch is never used — even when `yes` then fails -/
theorem C15_no_fallback (c : Ctx) (cnd y n : Expr) (st r : St) (rest : List St)
    (h : sem c cnd st = r :: rest) : sem c (.cond cnd y n) st = sem c y r := by
  simp [sem, h]

/-- if the condition does not match, `no` runs from the original position and captures -/
theorem C15_no_from_original (c : Ctx) (cnd y n : Expr) (st : St)
    (h : sem c cnd st = []) : sem c (.cond cnd y n) st = sem c n st := by
  simp [sem, h]

/-- the condition is tried once: only its *first* result is used -/
theorem C15_condition_once (c : Ctx) (cnd cnd' y n : Expr) (st : St)
    (h : (sem c cnd st).head? = (sem c cnd' st).head?) :
    sem c (.cond cnd y n) st = sem c (.cond cnd' y n) st := by
  simp [sem, h]

/-- an omitted `no` branch is the empty expression: it succeeds without consuming -/
theorem C15_omitted_no (c : Ctx) (g : Nat) (y : Expr) (st : St) (h : (st.slot (2 * g)).isSome = false) :
    sem c (.cond (.backrefExists g) y .empty) st = [st] := by
  simp [sem, h]

/-! ### Non-vacuity: the F8 shape on the *reference*: `(?((?(b)a))b|a)` has no match on `ca-` at 0 -/
example (c : Ctx) (st : St) (h : sem c (.cond (.literal ['b'] false) (.literal ['a'] false) .empty) st = [st]) :
    sem c (.cond (.cond (.literal ['b'] false) (.literal ['a'] false) .empty) (.literal ['b'] false) (.literal ['a'] false)) st
      = sem c (.literal ['b'] false) st :=
  C15_no_fallback c _ _ _ st st [] h

end Fancy
