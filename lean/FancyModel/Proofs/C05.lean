import FancyModel.Proofs.C10
import FancyModel.Lemmas.AVM
import FancyModel.Model.VM
/-!
# C05 — searching never panics and every reported offset is valid

Three layers, each for **every** program / oracle / text:

* VM instructions (`C05_step_no_panic`): from a state satisfying the undo-log invariant `Inv`, an
  instruction whose slot operands lie inside the slot vector does not reach a panic site — for
  every instruction except the four whose safety depends on the auxiliary-stack / branch-stack
  discipline of *compiled* programs (`BeginAtomic`, `EndAtomic`, `FailNegativeLookAround`, and
  `Delegate`, whose answers come from the automata engine: assumption A-RA). Those four are settled
  in Proofs/C05c.lean, with their exact panic conditions on a state satisfying the auxiliary-stack
  invariant (`C05_step_no_panic_all`, `C05_step_total`), and whole searches of compiled programs in
  `C05_no_panic_s3` / `_s4` / `_s5` (Proofs/C01d.lean, C01g.lean, C01h.lean).
* the match end cap (`C05_end_caps`): what `Insn::End` reports satisfies `pos ≤ start ≤ end`
  whenever the end is not before the search position (this is exactly the F6 repair).
* API layer (`C05_split_ranges`): given a well-formed search (`WFOracle`), every range `split` slices
  is `a ≤ b ≤ len`; with C11's `replaceLoop_ok` (slices defined) these are the slices the iterators
  and `try_replacen` take.
-/
namespace Fancy
open State

/-- slot operands of an instruction lie inside a slot vector of length `n` -/
def SlotsOK (n : Nat) : Insn → Prop
  | .save slot | .save0 slot | .restore slot => slot < n
  | .repeatGr _ _ _ rep | .repeatNg _ _ _ rep => rep < n
  | .repeatEpsGr _ _ rep check | .repeatEpsNg _ _ rep check => rep < n ∧ check < n
  | .backref slot => slot + 1 < n
  | .backrefExists g => g * 2 < n
  | .end_ => 1 < n
  | _ => True

/-- the instructions whose safety needs the stack discipline of compiled programs / A-RA -/
def Disciplined : Insn → Bool
  | .beginAtomic | .endAtomic | .failNegLook | .delegate _ _ _ => true
  | _ => false

theorem save_no_panic (s : State) (hi : Inv s) (slot val : Nat) (h : slot < s.saves.length) :
    ∃ s', s.save slot val = some s' ∧ Inv s' ∧ s'.saves.length = s.saves.length := by
  obtain ⟨s', h1, h2, h3⟩ := save_saves s hi slot val h
  exact ⟨s', h1, h2, by rw [h3, List.length_set]⟩

theorem get_some (s : State) (slot : Nat) (h : slot < s.saves.length) : ∃ v, s.get slot = some v :=
  ⟨_, List.getElem?_eq_getElem h⟩

/-- `capStart` never panics (slot vector of length ≥ 2), keeps slot 1, and leaves slot 0 equal to
    `max (min start end) pos` -/
theorem capStart_spec (s : State) (hi : Inv s) (pos : Nat) (hl : 1 < s.saves.length) :
    ∃ s', capStart s pos = some s' ∧
      ∀ e, s.saves[1]? = some e →
        ∃ st, s'.saves[0]? = some st ∧ s'.saves[1]? = some e ∧ (pos ≤ e → pos ≤ st ∧ st ≤ e) := by
  obtain ⟨s', h1, h2⟩ := capStart_saves s hi pos hl
  refine ⟨s', h1, fun e he => ?_⟩
  obtain ⟨e0, h0⟩ : ∃ e, s.saves[0]? = some e :=
    ⟨_, List.getElem?_eq_getElem (Nat.lt_trans Nat.zero_lt_one hl)⟩
  rw [h2, capSaves, he, h0]
  refine ⟨_, List.getElem?_set_self (Nat.lt_trans Nat.zero_lt_one hl),
    by rw [List.getElem?_set_ne Nat.zero_ne_one]; exact he, fun hp => ?_⟩
  split <;> split <;> omega

section
variable {site : String} {a b : StepResult}

theorem ite_ne_panic {p : Prop} [Decidable p] (ha : a ≠ .done (.panic site)) (hb : b ≠ .done (.panic site)) :
    (if p then a else b) ≠ .done (.panic site) := by
  split <;> assumption

/-- a full branch stack is reported as `errStack`, not as a panic -/
theorem pushOr_ne_panic (s : State) (pc ix : Nat) {k : State → StepResult}
    (hk : ∀ s', k s' ≠ .done (.panic site)) : pushOr s pc ix k ≠ .done (.panic site) := by
  unfold pushOr
  split
  · nofun
  · exact hk _
end

/-- **no panic** on any non-disciplined instruction -/
theorem C05_step_no_panic (c : Ctx) (prog : List Insn) (pc ix : Nat) (s : State) (hi : Inv s)
    (insn : Insn) (hpc : prog[pc]? = some insn) (hs : SlotsOK s.saves.length insn)
    (hd : Disciplined insn = false) :
    ∀ site, step c prog pc ix s ≠ .done (.panic site) := by
  intro site
  unfold step
  simp only [hpc]
  cases insn with
  | end_ =>
    obtain ⟨s', hs', _⟩ := capStart_spec s hi c.pos hs
    simp only [hs']
    nofun
  | any => simp only; split <;> nofun
  | anyNoNL =>
    simp only
    split
    · exact ite_ne_panic nofun nofun
    · nofun
  | assertion a => exact ite_ne_panic nofun nofun
  | lit v => exact ite_ne_panic nofun nofun
  | split x y => exact pushOr_ne_panic _ _ _ nofun
  | jmp t => nofun
  | save slot =>
    obtain ⟨s', h1, _, _⟩ := save_no_panic s hi slot ix hs
    simp only [h1]
    nofun
  | save0 slot =>
    obtain ⟨s', h1, _, _⟩ := save_no_panic s hi slot 0 hs
    simp only [h1]
    nofun
  | restore slot =>
    obtain ⟨v, hv⟩ := get_some s slot hs
    simp only [hv]
    nofun
  | repeatGr lo hi' next rep =>
    obtain ⟨v, hv⟩ := get_some s rep hs
    obtain ⟨s', h1, _, _⟩ := save_no_panic s hi rep (v + 1) hs
    simp only [hv, h1]
    exact ite_ne_panic nofun (ite_ne_panic (pushOr_ne_panic _ _ _ nofun) nofun)
  | repeatNg lo hi' next rep =>
    obtain ⟨v, hv⟩ := get_some s rep hs
    obtain ⟨s', h1, _, _⟩ := save_no_panic s hi rep (v + 1) hs
    simp only [hv, h1]
    exact ite_ne_panic nofun (ite_ne_panic (pushOr_ne_panic _ _ _ nofun) nofun)
  | repeatEpsGr lo next rep check =>
    obtain ⟨v, hv⟩ := get_some s rep hs.1
    obtain ⟨w, hw⟩ := get_some s check hs.2
    obtain ⟨s', h1, hi', hl'⟩ := save_no_panic s hi rep (v + 1) hs.1
    obtain ⟨s'', h2, _, _⟩ := save_no_panic s' hi' check ix (hl' ▸ hs.2)
    simp only [hv, hw, h1, h2]
    exact ite_ne_panic nofun (ite_ne_panic (pushOr_ne_panic _ _ _ nofun) nofun)
  | repeatEpsNg lo next rep check =>
    obtain ⟨v, hv⟩ := get_some s rep hs.1
    obtain ⟨w, hw⟩ := get_some s check hs.2
    obtain ⟨s', h1, hi', hl'⟩ := save_no_panic s hi rep (v + 1) hs.1
    obtain ⟨s'', h2, _, _⟩ := save_no_panic s' hi' check ix (hl' ▸ hs.2)
    simp only [hv, hw, h1, h2]
    exact ite_ne_panic nofun (ite_ne_panic (pushOr_ne_panic _ _ _ nofun) nofun)
  | goBack n => simp only; split <;> nofun
  | backref slot =>
    obtain ⟨v, hv⟩ := get_some s slot (Nat.lt_of_succ_lt hs)
    obtain ⟨w, hw⟩ := get_some s (slot + 1) hs
    simp only [hv, hw]
    exact ite_ne_panic nofun (ite_ne_panic nofun (ite_ne_panic nofun nofun))
  | contPrev => exact ite_ne_panic nofun nofun
  | backrefExists g =>
    obtain ⟨v, hv⟩ := get_some s (g * 2) hs
    simp only [hv]
    exact ite_ne_panic nofun nofun
  | failNegLook | beginAtomic | endAtomic | delegate _ _ _ => cases hd

/-- **the start cap**: when `Insn::End` reports a match whose end is not before the search
    position, the reported start lies in `[pos, end]` -/
theorem C05_end_caps (c : Ctx) (prog : List Insn) (pc ix : Nat) (s : State) (hi : Inv s)
    (hpc : prog[pc]? = some .end_) (e : Nat) (he : s.saves[1]? = some e) (hpos : c.pos ≤ e)
    (saves' : List Nat) (h : step c prog pc ix s = .done (.matched saves')) :
    ∃ st, saves'[0]? = some st ∧ saves'[1]? = some e ∧ c.pos ≤ st ∧ st ≤ e := by
  have hlen : 1 < s.saves.length := by
    rcases Nat.lt_or_ge 1 s.saves.length with h | h
    · exact h
    · rw [List.getElem?_eq_none h] at he; cases he
  obtain ⟨s', hs', hcap⟩ := capStart_spec s hi c.pos hlen
  unfold step at h
  simp only [hpc, hs', StepResult.done.injEq, Outcome.matched.injEq] at h
  subst h
  obtain ⟨st, h0, h1, hle⟩ := hcap e he
  exact ⟨st, h0, h1, by omega, by omega⟩

end Fancy

namespace Fancy.Api

/-- ranges of the pieces induced by an ordered match list -/
theorem toPieces_ranges (len : Nat) (l : List (Except SearchErr (Nat × Nat))) (lo : Nat) (lm : Option Nat)
    (ns : Nat) (hord : Ordered id len lo lm l) (hns : ns ≤ lo) (hnl : ns ≤ len) :
    ∀ a b, Item.piece a b ∈ toPieces len l ns → a ≤ b ∧ b ≤ len := by
  induction l generalizing lo lm ns with
  | nil =>
    intro a b h
    simp only [toPieces] at h
    split at h
    · simp at h
    · simp only [List.mem_singleton, Item.piece.injEq] at h
      obtain ⟨rfl, rfl⟩ := h
      exact ⟨hnl, Nat.le_refl _⟩
  | cons x xs ih =>
    intro a b h
    cases x with
    | error e =>
      simp only [Ordered] at hord
      subst hord
      simp only [toPieces, List.mem_cons, reduceCtorEq, false_or] at h
      split at h
      · simp at h
      · simp only [List.mem_singleton, Item.piece.injEq] at h
        obtain ⟨rfl, rfl⟩ := h
        exact ⟨hnl, Nat.le_refl _⟩
    | ok p =>
      obtain ⟨s, e⟩ := p
      simp only [Ordered, id] at hord
      obtain ⟨h1, h2, h3, _, h5⟩ := hord
      simp only [toPieces, List.mem_cons, Item.piece.injEq] at h
      rcases h with ⟨rfl, rfl⟩ | h
      · exact ⟨by omega, by omega⟩
      · exact ih _ _ e h5 (by omega) h3 a b h

/-- **every range `split` slices is valid**: `a ≤ b ≤ len`, for every well-formed search oracle -/
theorem C05_split_ranges (f : Oracle (Nat × Nat)) (text : Utf8.Bytes) (hwf : WFOracle f id text.length) :
    ∀ a b, Item.piece a b ∈ split f text → a ≤ b ∧ b ≤ text.length := by
  rw [C10_pieces f text hwf]
  exact toPieces_ranges _ _ 0 none 0 (C08_find_iter_ordered f text hwf) (Nat.le_refl _) (Nat.zero_le _)

end Fancy.Api
