import FancyModel.Lemmas.VMBytesRefine
import FancyModel.Lemmas.VMBytesTyped
import FancyModel.Lemmas.VMBytesInv
import FancyModel.Lemmas.VMBytesTame
import FancyModel.Proofs.C01e
import FancyModel.Proofs.C05d
import FancyModel.Proofs.C11b
/-!
# C05e — the byte-level interpreter: offsets on character boundaries, no slice panic, `GoBack` counts
characters

Corollaries of the refinement `runB_refines` (Lemmas/VMBytesRefine.lean): the byte machine
`runB` (Model/VMBytes.lean, vm.rs at byte level) on the UTF-8 encoding of the text returns the
code-point machine's outcome with position slots mapped to byte offsets.

Three layers of each run-level corollary:
* `*_of_typed`: any program, a slot typing `τ` with `wellTyped τ prog`, the monitor `okLoop`;
* `*_of_tame` (and the un-suffixed `C05_bytes_no_slice_panic`, `C01_bytes_vm_correct`): programs `build`
  returns — the typing is `tauOf`, proved well typed (`build_wellTyped`) — under the monitor `bOK`,
  which follows from the residual monitor `bTame` (`bOK_of_bTame`);
* stage S3 (`runB_refines_built`, `C05_bytes_no_panic_s3`, `C05_bytes_offsets_valid`,
  `C01_bytes_vm_correct_s3`, and `*_pipeline` from the pattern string): NO side condition — `bTame_s3`.

* `C13_goback_counts_characters` — `GoBack(count)` at the byte offset of character `k` lands on the
  byte offset of character `k - count` (a character boundary) if `count ≤ k` and fails otherwise;
  it never indexes before the start and never stops inside a character.
* `C05_bytes_no_slice_panic_of_typed` — `runB` reaches no panic that `run` does not reach (in particular none of
  the byte-only sites: `&s[lo..hi]` off a boundary, `prev_codepoint_ix` out of range);
  `C05_bytes_no_panic_s3_of_typed`: none at all for stage-S3 patterns.
* `C05_bytes_offsets_valid_of_typed` — for a compiled program whose search is the reference search
  (`VmCorrectR`: stages S1–S3, `C01_vm_correct_s3`, `C01_pipeline_s3`) every capture offset `runB`
  reports is `UNSET` or lies on a character boundary inside the text, and group 0 satisfies
  `pos ≤ start ≤ end ≤ byte length`.
* `bytesOfChars_eq_utf8Of`, `offOf_eq_boff`: the text and the offset map are the driver's.
-/
namespace Fancy
open Utf8

/-! ### the text and the offsets are the driver's -/

theorem bytesOfChars_eq_utf8Of (chars : List Char) : bytesOfChars chars = Api.utf8Of chars := rfl

theorem offOf_eq_boff (chars : List Char) (k : Nat) : offOf chars k = Api.boff chars k :=
  Api.off_eq_boff chars k

/-! ### `GoBack` counts characters -/

/-- **C13 at byte level**: from the byte offset of character position `k`, `GoBack(count)` continues at
    the byte offset of character position `k - count` — a character boundary — when `count ≤ k`, and
    fails (no panic: `prev_codepoint_ix` never indexes out of range) when `k < count` -/
theorem C13_goback_counts_characters (c : Ctx) (prog : List Insn) (pc k count : Nat) (s : State)
    (hpc : prog[pc]? = some (.goBack count)) (hk : k ≤ c.text.length) :
    (count ≤ k →
      stepB (BCtx.ofCtx c) prog pc (offOf c.text k) s = .cont (pc + 1) (offOf c.text (k - count)) s ∧
      isBoundary (bytesOfChars c.text) (offOf c.text (k - count)) = true) ∧
    (k < count → stepB (BCtx.ofCtx c) prog pc (offOf c.text k) s = .fail s) := by
  have hgb := goBack_at c.text count k hk
  constructor
  · intro h
    refine ⟨?_, ?_⟩
    · unfold stepB
      simp only [hpc, BCtx.ofCtx_text, hgb, Fancy.goBack, if_pos h, Option.map_some]
    · exact (C05_boundary_iff _ _).mpr ⟨k - count, by simp; omega, rfl⟩
  · intro h
    unfold stepB
    simp only [hpc, BCtx.ofCtx_text, hgb, Fancy.goBack, if_neg (by omega : ¬ count ≤ k), Option.map_none]

/-! ### no panic beyond the code-point machine's -/

section Run
variable (c : Ctx) (τ : Nat → Bool) (nS : Nat)
variable (hceq : ∀ a b, c.ceq false a b = (a == b))
variable (hU : (bytesOfChars c.text).length < UNSET)
variable (hτ : ∀ i, nS ≤ i → τ i = false)

include hceq hU hτ in
/-- **no slice / index panic of its own**: a panic of the byte machine is a panic of the code-point
    machine at the same site -/
theorem C05_bytes_no_slice_panic_of_typed (p : Prog) (op : VMOpts) (fuel : Nat) (hwt : wellTyped τ p.body = true)
    (hok : okLoop c τ nS p.body op fuel 0 c.pos (State.new p.nSaves op.maxStack) 0 = true) (site : String)
    (h : (runB (BCtx.ofCtx c) p op fuel).1 = .panic site) : (run c p op fuel).1 = .panic site := by
  rw [runB_refines c τ nS hceq hU hτ p op fuel hwt hok] at h
  exact mapOut_eq_panic.mp h

include hceq hU hτ in
/-- stage S3: the byte machine does not panic at all -/
theorem C05_bytes_no_panic_s3_of_typed (tree : Expr) (backrefs : List Nat) (b : Built) (prog : Prog)
    (hb : build tree backrefs = .ok b) (hk : b.kind = .fancy prog)
    (hs3 : s3ok (fun g => backrefs.contains g) b.raw true = true) (hws : wellShaped b.raw = true)
    (hz : noBareEndZ b.raw = true) (hdok : progDelegOK prog.nSaves prog.body = true)
    (hlen : c.len < UNSET) (hpos : c.pos ≤ c.len) (limit fuel : Nat)
    (hwt : wellTyped τ prog.body = true)
    (hok : okLoop c τ nS prog.body ⟨limit, maxStackDefault⟩ fuel 0 c.pos (State.new prog.nSaves maxStackDefault) 0 = true)
    (site : String) : (runB (BCtx.ofCtx c) prog ⟨limit, maxStackDefault⟩ fuel).1 ≠ .panic site := by
  intro h
  have h1 := C05_bytes_no_slice_panic_of_typed c τ nS hceq hU hτ prog ⟨limit, maxStackDefault⟩ fuel hwt hok site h
  exact C05_no_panic_s3 tree backrefs b prog c hb hk hs3 hws hz hdok hlen hpos limit fuel site
    (captures_panic_of_run b prog c hk limit fuel site h1)

/-- what `VmCorrectR` says of the interpreter's run: a match is the reference search's, no match is none,
    and there is no panic -/
theorem run_of_vmCorrectR (b : Built) (prog : Prog) (hk : b.kind = .fancy prog) (hvm : VmCorrectR b c)
    (limit fuel : Nat) :
    match (run c prog ⟨limit, maxStackDefault⟩ fuel).1 with
    | .matched saves => ∃ f, refSearch c b.raw b.nGroups = some f ∧ (viewSlots saves).take (b.nGroups * 2) = f.slots
    | .noMatch => refSearch c b.raw b.nGroups = none
    | .panic _ => False
    | _ => True := by
  have hv := hvm limit fuel
  unfold Built.captures at hv
  simp only [hk] at hv
  generalize run c prog ⟨limit, maxStackDefault⟩ fuel = res at hv ⊢
  obtain ⟨out, st⟩ := res
  cases href : refSearch c b.raw b.nGroups <;> rw [href] at hv <;> cases out <;> simp at hv ⊢ <;> exact hv

/-! ### every reported offset is a character boundary inside the text -/

theorem viewSlots_take_get (saves : List Nat) (n i v : Nat)
    (h : ((viewSlots saves).take n)[i]? = some (some v)) : saves[i]? = some v ∧ v ≠ UNSET ∧ i < n := by
  simp only [viewSlots, List.getElem?_take, List.getElem?_map] at h
  split at h
  · rename_i hi
    cases hs : saves[i]? with
    | none => rw [hs] at h; cases h
    | some w =>
      rw [hs] at h
      simp only [Option.map_some, Option.some.injEq] at h
      split at h
      · cases h
      · rename_i hne
        simp only [Option.some.injEq] at h
        subst h
        exact ⟨rfl, by simpa using hne, hi⟩
  · cases h

theorem viewSlots_take_of (saves : List Nat) (n i v : Nat) (hi : i < n) (hs : saves[i]? = some v) (hv : v ≠ UNSET) :
    ((viewSlots saves).take n)[i]? = some (some v) := by
  simp [viewSlots, List.getElem?_take, hi, hs, hv]

include hceq hU hτ in
/-- **C05 at byte level**: for a compiled program whose search is the reference search, every capture
    offset the byte machine reports is `UNSET` (group did not take part) or a character boundary inside
    the text, and the overall match satisfies `pos ≤ start ≤ end ≤ byte length` (byte `pos`) -/
theorem C05_bytes_offsets_valid_of_typed (tree : Expr) (backrefs : List Nat) (b : Built) (prog : Prog)
    (hb : build tree backrefs = .ok b) (hk : b.kind = .fancy prog) (hvm : VmCorrectR b c)
    (hτg : ∀ i, i < 2 * b.nGroups → τ i = true) (limit fuel : Nat)
    (hwt : wellTyped τ prog.body = true)
    (hok : okLoop c τ nS prog.body ⟨limit, maxStackDefault⟩ fuel 0 c.pos (State.new prog.nSaves maxStackDefault) 0 = true)
    (savesB : List Nat)
    (hm : (runB (BCtx.ofCtx c) prog ⟨limit, maxStackDefault⟩ fuel).1 = .matched savesB) :
    (∀ i w, i < 2 * b.nGroups → savesB[i]? = some w →
      w = UNSET ∨ (isBoundary (bytesOfChars c.text) w = true ∧ w ≤ (bytesOfChars c.text).length)) ∧
    (1 ≤ b.nGroups → ∃ s e, savesB[0]? = some s ∧ savesB[1]? = some e ∧
      (BCtx.ofCtx c).pos ≤ s ∧ s ≤ e ∧ e ≤ (bytesOfChars c.text).length ∧
      isBoundary (bytesOfChars c.text) s = true ∧ isBoundary (bytesOfChars c.text) e = true) := by
  rw [runB_refines c τ nS hceq hU hτ prog ⟨limit, maxStackDefault⟩ fuel hwt hok] at hm
  have hv := run_of_vmCorrectR c b prog hk hvm limit fuel
  cases hout : (run c prog ⟨limit, maxStackDefault⟩ fuel).1 with
  | matched saves =>
    rw [hout] at hm hv
    simp only [mapOut, Outcome.matched.injEq] at hm
    subst hm
    obtain ⟨f, href, hv⟩ := hv
    have hval := refSearch_valid c b.raw b.nGroups (build_noSelfNest tree backrefs b hb) f href
    rw [← hv] at hval
    have hbd : ∀ v, v ≤ c.text.length → isBoundary (bytesOfChars c.text) (offOf c.text v) = true ∧
        offOf c.text v ≤ (bytesOfChars c.text).length := fun v hvl =>
      ⟨(C05_boundary_iff _ _).mpr ⟨v, by simpa using hvl, rfl⟩, offOf_le c.text v⟩
    have hget : ∀ i v, i < 2 * b.nGroups → saves[i]? = some v → v ≠ UNSET →
        v ≤ c.text.length ∧ (mapSaves τ (offOf c.text) saves)[i]? = some (offOf c.text v) := by
      intro i v hi hs hne
      have hmem : some v ∈ (viewSlots saves).take (b.nGroups * 2) :=
        List.mem_of_getElem? (viewSlots_take_of saves _ i v (by omega) hs hne)
      have hvl : v ≤ c.text.length := hval.le_len v hmem
      refine ⟨hvl, ?_⟩
      rw [mapSaves_getElem?, hs]
      simp only [Option.map_some, mapAt, hτg i hi, if_true, mapV_of_le c.text hU v hvl]
    constructor
    · intro i w hi hw
      rw [mapSaves_getElem?] at hw
      cases hs : saves[i]? with
      | none => rw [hs] at hw; cases hw
      | some v =>
        by_cases hne : v = UNSET
        · left
          rw [hs] at hw
          simp only [Option.map_some, Option.some.injEq] at hw
          rw [← hw, hne, mapAt_unset]
        · right
          obtain ⟨hvl, hg⟩ := hget i v hi hs hne
          rw [mapSaves_getElem?, hs] at hg
          rw [hs] at hw
          rw [hg] at hw
          simp only [Option.some.injEq] at hw
          subst hw
          exact hbd v hvl
    · intro hg1
      obtain ⟨s, e, h0, h1, hps, hse, hel⟩ := hval.span (by omega)
      obtain ⟨hs0, hn0, _⟩ := viewSlots_take_get saves _ 0 s h0
      obtain ⟨hs1, hn1, _⟩ := viewSlots_take_get saves _ 1 e h1
      have hel' : e ≤ c.text.length := hel
      obtain ⟨_, g0⟩ := hget 0 s (by omega) hs0 hn0
      obtain ⟨_, g1⟩ := hget 1 e (by omega) hs1 hn1
      refine ⟨offOf c.text s, offOf c.text e, g0, g1, ?_, ?_, offOf_le c.text e,
        (hbd s (by omega)).1, (hbd e hel').1⟩
      · exact offOf_le_of_le c.text c.pos s hps (by omega)
      · exact offOf_le_of_le c.text s e hse hel'
  | noMatch => rw [hout] at hm; cases hm
  | errLimit => rw [hout] at hm; cases hm
  | errStack => rw [hout] at hm; cases hm
  | panic s => rw [hout] at hm; cases hm
  | outOfFuel => rw [hout] at hm; cases hm

/-! ### the byte machine's answer is the reference search's, in byte offsets -/

include hU in
theorem viewSlots_mapSaves_take (saves : List Nat) (n : Nat) (hτn : ∀ i, i < n → τ i = true) :
    (viewSlots (mapSaves τ (offOf c.text) saves)).take n =
      ((viewSlots saves).take n).map (Option.map (offOf c.text)) := by
  apply List.ext_getElem?
  intro i
  simp only [viewSlots, List.getElem?_take, List.getElem?_map, mapSaves_getElem?]
  split
  · rename_i hi
    cases saves[i]? with
    | none => rfl
    | some v =>
      simp only [Option.map_some, mapAt, hτn i hi, if_true]
      by_cases hv : v = UNSET
      · subst hv; simp [mapV_unset]
      · have h1 : mapV (offOf c.text) v ≠ UNSET := fun h => hv ((mapV_eq_unset c.text hU v).mp h)
        have h2 : mapV (offOf c.text) v = offOf c.text v := by unfold mapV; rw [if_neg hv]
        simp [hv, h2, offOf_ne_unset c.text hU v]
  · rfl

include hceq hU hτ in
/-- **C01 at byte level**: where the code-point search is the reference search (`VmCorrectR`), the byte
    machine stops on a resource limit or reports the reference search's capture slots as byte offsets -/
theorem C01_bytes_vm_correct_of_typed (b : Built) (prog : Prog) (hk : b.kind = .fancy prog) (hvm : VmCorrectR b c)
    (hτg : ∀ i, i < b.nGroups * 2 → τ i = true) (limit fuel : Nat)
    (hwt : wellTyped τ prog.body = true)
    (hok : okLoop c τ nS prog.body ⟨limit, maxStackDefault⟩ fuel 0 c.pos (State.new prog.nSaves maxStackDefault) 0 = true) :
    (runB (BCtx.ofCtx c) prog ⟨limit, maxStackDefault⟩ fuel).1 = .outOfFuel ∨
    (runB (BCtx.ofCtx c) prog ⟨limit, maxStackDefault⟩ fuel).1 = .errStack ∨
    (runB (BCtx.ofCtx c) prog ⟨limit, maxStackDefault⟩ fuel).1 = .errLimit ∨
    match refSearch c b.raw b.nGroups with
    | some f => ∃ savesB, (runB (BCtx.ofCtx c) prog ⟨limit, maxStackDefault⟩ fuel).1 = .matched savesB ∧
        (viewSlots savesB).take (b.nGroups * 2) = f.slots.map (Option.map (offOf c.text))
    | none => (runB (BCtx.ofCtx c) prog ⟨limit, maxStackDefault⟩ fuel).1 = .noMatch := by
  rw [runB_refines c τ nS hceq hU hτ prog ⟨limit, maxStackDefault⟩ fuel hwt hok]
  have hv := run_of_vmCorrectR c b prog hk hvm limit fuel
  cases hout : (run c prog ⟨limit, maxStackDefault⟩ fuel).1 with
  | matched saves =>
    rw [hout] at hv
    obtain ⟨f, href, hv⟩ := hv
    rw [href]
    exact .inr (.inr (.inr ⟨_, rfl, by rw [viewSlots_mapSaves_take c τ hU saves _ hτg, hv]⟩))
  | noMatch =>
    rw [hout] at hv
    rw [hv]
    exact .inr (.inr (.inr rfl))
  | errLimit => exact .inr (.inr (.inl rfl))
  | errStack => exact .inr (.inl rfl)
  | outOfFuel => exact .inl rfl
  | panic site => rw [hout] at hv; exact hv.elim

include hceq hU hτ in
/-- stage S3 (`C01_vm_correct_s3`) -/
theorem C01_bytes_vm_correct_s3_of_typed (tree : Expr) (backrefs : List Nat) (b : Built) (prog : Prog)
    (hb : build tree backrefs = .ok b) (hk : b.kind = .fancy prog)
    (hs3 : s3ok (fun g => backrefs.contains g) b.raw true = true) (hws : wellShaped b.raw = true)
    (hz : noBareEndZ b.raw = true) (hdok : progDelegOK prog.nSaves prog.body = true)
    (hlen : c.len < UNSET) (hpos : c.pos ≤ c.len)
    (hτg : ∀ i, i < b.nGroups * 2 → τ i = true) (limit fuel : Nat)
    (hwt : wellTyped τ prog.body = true)
    (hok : okLoop c τ nS prog.body ⟨limit, maxStackDefault⟩ fuel 0 c.pos (State.new prog.nSaves maxStackDefault) 0 = true) :
    (runB (BCtx.ofCtx c) prog ⟨limit, maxStackDefault⟩ fuel).1 = .outOfFuel ∨
    (runB (BCtx.ofCtx c) prog ⟨limit, maxStackDefault⟩ fuel).1 = .errStack ∨
    (runB (BCtx.ofCtx c) prog ⟨limit, maxStackDefault⟩ fuel).1 = .errLimit ∨
    match refSearch c b.raw b.nGroups with
    | some f => ∃ savesB, (runB (BCtx.ofCtx c) prog ⟨limit, maxStackDefault⟩ fuel).1 = .matched savesB ∧
        (viewSlots savesB).take (b.nGroups * 2) = f.slots.map (Option.map (offOf c.text))
    | none => (runB (BCtx.ofCtx c) prog ⟨limit, maxStackDefault⟩ fuel).1 = .noMatch :=
  C01_bytes_vm_correct_of_typed c τ nS hceq hU hτ b prog hk
    (C01_vm_correct_s3 tree backrefs b prog c hb hk hs3 hws hz hdok hlen hpos) hτg limit fuel hwt hok

end Run

/-! ### for the programs `build` returns: the typing is `tauOf`, proved well typed (`build_wellTyped`)

The remaining side condition is the run-time monitor `okLoop` (with `tauOf`); `bOK` abbreviates it. -/

section Built
variable (c : Ctx)
variable (hceq : ∀ a b, c.ceq false a b = (a == b))
variable (hU : (bytesOfChars c.text).length < UNSET)

/-- the monitor for a run of a built program -/
abbrev bOK (b : Built) (prog : Prog) (limit fuel : Nat) : Bool :=
  okLoop c (tauOf prog.body b.nGroups) prog.nSaves prog.body ⟨limit, maxStackDefault⟩ fuel 0 c.pos
    (State.new prog.nSaves maxStackDefault) 0

/-- the residual monitor for a run of a built program: no `Restore` of an unset slot, auxiliary-stack
    discipline, `Delegate` group slots present -/
abbrev bTame (b : Built) (prog : Prog) (limit fuel : Nat) : Bool :=
  tameLoop c (tauOf prog.body b.nGroups) prog.nSaves prog.body ⟨limit, maxStackDefault⟩ fuel 0 c.pos
    (State.new prog.nSaves maxStackDefault) 0

/-- for built programs the monitor `bOK` of the corollaries below follows from the residual monitor
    `bTame` (typed-state invariant, `Lemmas/VMBytesInv.lean`) -/
theorem bOK_of_bTame (tree : Expr) (backrefs : List Nat) (b : Built) (prog : Prog)
    (hb : build tree backrefs = .ok b) (hk : b.kind = .fancy prog) (hpos : c.pos ≤ c.len) (limit fuel : Nat)
    (ht : bTame c b prog limit fuel = true) : bOK c b prog limit fuel = true := by
  obtain ⟨hwt, hτ, _, _⟩ := build_wellTyped tree backrefs b prog hb hk
  exact okLoop_of_tame c _ prog.nSaves hτ hpos prog.body _ hwt fuel 0 c.pos _ 0 (typed_new _ _) hpos ht

include hceq hU in
theorem runB_refines_built_of_tame (tree : Expr) (backrefs : List Nat) (b : Built) (prog : Prog)
    (hb : build tree backrefs = .ok b) (hk : b.kind = .fancy prog) (limit fuel : Nat)
    (hok : bOK c b prog limit fuel = true) :
    runB (BCtx.ofCtx c) prog ⟨limit, maxStackDefault⟩ fuel =
      (mapOut (tauOf prog.body b.nGroups) (offOf c.text) (run c prog ⟨limit, maxStackDefault⟩ fuel).1,
        (run c prog ⟨limit, maxStackDefault⟩ fuel).2) := by
  obtain ⟨hwt, hτ, _, _⟩ := build_wellTyped tree backrefs b prog hb hk
  exact runB_refines c _ prog.nSaves hceq hU hτ prog ⟨limit, maxStackDefault⟩ fuel hwt hok

include hceq hU in
theorem C05_bytes_no_slice_panic (tree : Expr) (backrefs : List Nat) (b : Built) (prog : Prog)
    (hb : build tree backrefs = .ok b) (hk : b.kind = .fancy prog) (limit fuel : Nat)
    (hok : bOK c b prog limit fuel = true) (site : String)
    (h : (runB (BCtx.ofCtx c) prog ⟨limit, maxStackDefault⟩ fuel).1 = .panic site) :
    (run c prog ⟨limit, maxStackDefault⟩ fuel).1 = .panic site := by
  obtain ⟨hwt, hτ, _, _⟩ := build_wellTyped tree backrefs b prog hb hk
  exact C05_bytes_no_slice_panic_of_typed c _ prog.nSaves hceq hU hτ prog ⟨limit, maxStackDefault⟩ fuel hwt hok site h

include hceq hU in
theorem C05_bytes_no_panic_s3_of_tame (tree : Expr) (backrefs : List Nat) (b : Built) (prog : Prog)
    (hb : build tree backrefs = .ok b) (hk : b.kind = .fancy prog)
    (hs3 : s3ok (fun g => backrefs.contains g) b.raw true = true) (hws : wellShaped b.raw = true)
    (hz : noBareEndZ b.raw = true)
    (hlen : c.len < UNSET) (hpos : c.pos ≤ c.len) (limit fuel : Nat)
    (hok : bOK c b prog limit fuel = true)
    (site : String) : (runB (BCtx.ofCtx c) prog ⟨limit, maxStackDefault⟩ fuel).1 ≠ .panic site := by
  obtain ⟨hwt, hτ, _, _⟩ := build_wellTyped tree backrefs b prog hb hk
  exact C05_bytes_no_panic_s3_of_typed c _ prog.nSaves hceq hU hτ tree backrefs b prog hb hk hs3 hws hz
    (build_progDelegOK tree backrefs b prog hb hk) hlen hpos limit fuel hwt hok site

include hceq hU in
theorem C05_bytes_offsets_valid_of_tame (tree : Expr) (backrefs : List Nat) (b : Built) (prog : Prog)
    (hb : build tree backrefs = .ok b) (hk : b.kind = .fancy prog) (hvm : VmCorrectR b c) (limit fuel : Nat)
    (hok : bOK c b prog limit fuel = true) (savesB : List Nat)
    (hm : (runB (BCtx.ofCtx c) prog ⟨limit, maxStackDefault⟩ fuel).1 = .matched savesB) :
    (∀ i w, i < 2 * b.nGroups → savesB[i]? = some w →
      w = UNSET ∨ (isBoundary (bytesOfChars c.text) w = true ∧ w ≤ (bytesOfChars c.text).length)) ∧
    (∃ s e, savesB[0]? = some s ∧ savesB[1]? = some e ∧
      (BCtx.ofCtx c).pos ≤ s ∧ s ≤ e ∧ e ≤ (bytesOfChars c.text).length ∧
      isBoundary (bytesOfChars c.text) s = true ∧ isBoundary (bytesOfChars c.text) e = true) := by
  obtain ⟨hwt, hτ, hτg, hG1⟩ := build_wellTyped tree backrefs b prog hb hk
  obtain ⟨h1, h2⟩ := C05_bytes_offsets_valid_of_typed c _ prog.nSaves hceq hU hτ tree backrefs b prog hb hk hvm hτg
    limit fuel hwt hok savesB hm
  exact ⟨h1, h2 hG1⟩

include hceq hU in
theorem C01_bytes_vm_correct (tree : Expr) (backrefs : List Nat) (b : Built) (prog : Prog)
    (hb : build tree backrefs = .ok b) (hk : b.kind = .fancy prog) (hvm : VmCorrectR b c) (limit fuel : Nat)
    (hok : bOK c b prog limit fuel = true) :
    (runB (BCtx.ofCtx c) prog ⟨limit, maxStackDefault⟩ fuel).1 = .outOfFuel ∨
    (runB (BCtx.ofCtx c) prog ⟨limit, maxStackDefault⟩ fuel).1 = .errStack ∨
    (runB (BCtx.ofCtx c) prog ⟨limit, maxStackDefault⟩ fuel).1 = .errLimit ∨
    match refSearch c b.raw b.nGroups with
    | some f => ∃ savesB, (runB (BCtx.ofCtx c) prog ⟨limit, maxStackDefault⟩ fuel).1 = .matched savesB ∧
        (viewSlots savesB).take (b.nGroups * 2) = f.slots.map (Option.map (offOf c.text))
    | none => (runB (BCtx.ofCtx c) prog ⟨limit, maxStackDefault⟩ fuel).1 = .noMatch := by
  obtain ⟨hwt, hτ, hτg, _⟩ := build_wellTyped tree backrefs b prog hb hk
  exact C01_bytes_vm_correct_of_typed c _ prog.nSaves hceq hU hτ b prog hk hvm (fun i hi => hτg i (by omega))
    limit fuel hwt hok

include hceq hU in
theorem C01_bytes_vm_correct_s3_of_tame (tree : Expr) (backrefs : List Nat) (b : Built) (prog : Prog)
    (hb : build tree backrefs = .ok b) (hk : b.kind = .fancy prog)
    (hs3 : s3ok (fun g => backrefs.contains g) b.raw true = true) (hws : wellShaped b.raw = true)
    (hz : noBareEndZ b.raw = true) (hlen : c.len < UNSET) (hpos : c.pos ≤ c.len) (limit fuel : Nat)
    (hok : bOK c b prog limit fuel = true) :
    (runB (BCtx.ofCtx c) prog ⟨limit, maxStackDefault⟩ fuel).1 = .outOfFuel ∨
    (runB (BCtx.ofCtx c) prog ⟨limit, maxStackDefault⟩ fuel).1 = .errStack ∨
    (runB (BCtx.ofCtx c) prog ⟨limit, maxStackDefault⟩ fuel).1 = .errLimit ∨
    match refSearch c b.raw b.nGroups with
    | some f => ∃ savesB, (runB (BCtx.ofCtx c) prog ⟨limit, maxStackDefault⟩ fuel).1 = .matched savesB ∧
        (viewSlots savesB).take (b.nGroups * 2) = f.slots.map (Option.map (offOf c.text))
    | none => (runB (BCtx.ofCtx c) prog ⟨limit, maxStackDefault⟩ fuel).1 = .noMatch :=
  C01_bytes_vm_correct c hceq hU tree backrefs b prog hb hk
    (C01_vm_correct_s3 tree backrefs b prog c hb hk hs3 hws hz (build_progDelegOK tree backrefs b prog hb hk) hlen hpos)
    limit fuel hok

end Built

/-! ### stage S3: unconditional

For a stage-S3 pattern the structured machine reaches the reference answer (`big2_s3`), the
interpreter's run follows it, and the structured machine is only defined on tame configurations
(`big2_tame`, Lemmas/VMBytesTame.lean): the residual monitor `bTame`, hence `bOK`, holds for every
text, start position, limit and fuel. The byte-level theorems of stage S3 carry no run-time side
condition. (`*_pipeline`: from the pattern string, hypotheses of `C01_pipeline_s3`.) -/

section S3
variable (c : Ctx)
variable (hceq : ∀ a b, c.ceq false a b = (a == b))
variable (hU : (bytesOfChars c.text).length < UNSET)

theorem bTame_s3 (tree : Expr) (backrefs : List Nat) (b : Built) (prog : Prog)
    (hb : build tree backrefs = .ok b) (hk : b.kind = .fancy prog)
    (hs3 : s3ok (fun g => backrefs.contains g) b.raw true = true) (hws : wellShaped b.raw = true)
    (hz : noBareEndZ b.raw = true) (hlen : c.len < UNSET) (hpos : c.pos ≤ c.len) (limit fuel : Nat) :
    bTame c b prog limit fuel = true :=
  big2_tame_initial c _ prog ⟨limit, maxStackDefault⟩
    (delegOK_of_prog c prog.body prog.nSaves (build_progDelegOK tree backrefs b prog hb hk)) _
    (big2_s3 tree backrefs b prog c hb hk hs3 hws hz hlen hpos) fuel

/-- … hence the monitor of the refinement holds -/
theorem bOK_s3 (tree : Expr) (backrefs : List Nat) (b : Built) (prog : Prog)
    (hb : build tree backrefs = .ok b) (hk : b.kind = .fancy prog)
    (hs3 : s3ok (fun g => backrefs.contains g) b.raw true = true) (hws : wellShaped b.raw = true)
    (hz : noBareEndZ b.raw = true) (hlen : c.len < UNSET) (hpos : c.pos ≤ c.len) (limit fuel : Nat) :
    bOK c b prog limit fuel = true :=
  bOK_of_bTame c tree backrefs b prog hb hk hpos limit fuel
    (bTame_s3 c tree backrefs b prog hb hk hs3 hws hz hlen hpos limit fuel)

include hceq hU in
/-- **stage S3: `runB` = mapped `run`**, no side condition -/
theorem runB_refines_built (tree : Expr) (backrefs : List Nat) (b : Built) (prog : Prog)
    (hb : build tree backrefs = .ok b) (hk : b.kind = .fancy prog)
    (hs3 : s3ok (fun g => backrefs.contains g) b.raw true = true) (hws : wellShaped b.raw = true)
    (hz : noBareEndZ b.raw = true) (hlen : c.len < UNSET) (hpos : c.pos ≤ c.len) (limit fuel : Nat) :
    runB (BCtx.ofCtx c) prog ⟨limit, maxStackDefault⟩ fuel =
      (mapOut (tauOf prog.body b.nGroups) (offOf c.text) (run c prog ⟨limit, maxStackDefault⟩ fuel).1,
        (run c prog ⟨limit, maxStackDefault⟩ fuel).2) :=
  runB_refines_built_of_tame c hceq hU tree backrefs b prog hb hk limit fuel
    (bOK_s3 c tree backrefs b prog hb hk hs3 hws hz hlen hpos limit fuel)

include hceq hU in
/-- **stage S3: the byte machine never panics** -/
theorem C05_bytes_no_panic_s3 (tree : Expr) (backrefs : List Nat) (b : Built) (prog : Prog)
    (hb : build tree backrefs = .ok b) (hk : b.kind = .fancy prog)
    (hs3 : s3ok (fun g => backrefs.contains g) b.raw true = true) (hws : wellShaped b.raw = true)
    (hz : noBareEndZ b.raw = true) (hlen : c.len < UNSET) (hpos : c.pos ≤ c.len) (limit fuel : Nat)
    (site : String) : (runB (BCtx.ofCtx c) prog ⟨limit, maxStackDefault⟩ fuel).1 ≠ .panic site :=
  C05_bytes_no_panic_s3_of_tame c hceq hU tree backrefs b prog hb hk hs3 hws hz hlen hpos limit fuel
    (bOK_s3 c tree backrefs b prog hb hk hs3 hws hz hlen hpos limit fuel) site

include hceq hU in
/-- **stage S3: every capture offset the byte machine reports is `UNSET` or a character boundary inside
    the text; the overall match satisfies `pos ≤ start ≤ end ≤ byte length`** -/
theorem C05_bytes_offsets_valid (tree : Expr) (backrefs : List Nat) (b : Built) (prog : Prog)
    (hb : build tree backrefs = .ok b) (hk : b.kind = .fancy prog)
    (hs3 : s3ok (fun g => backrefs.contains g) b.raw true = true) (hws : wellShaped b.raw = true)
    (hz : noBareEndZ b.raw = true) (hlen : c.len < UNSET) (hpos : c.pos ≤ c.len) (limit fuel : Nat)
    (savesB : List Nat)
    (hm : (runB (BCtx.ofCtx c) prog ⟨limit, maxStackDefault⟩ fuel).1 = .matched savesB) :
    (∀ i w, i < 2 * b.nGroups → savesB[i]? = some w →
      w = UNSET ∨ (isBoundary (bytesOfChars c.text) w = true ∧ w ≤ (bytesOfChars c.text).length)) ∧
    (∃ s e, savesB[0]? = some s ∧ savesB[1]? = some e ∧
      (BCtx.ofCtx c).pos ≤ s ∧ s ≤ e ∧ e ≤ (bytesOfChars c.text).length ∧
      isBoundary (bytesOfChars c.text) s = true ∧ isBoundary (bytesOfChars c.text) e = true) :=
  C05_bytes_offsets_valid_of_tame c hceq hU tree backrefs b prog hb hk
    (C01_vm_correct_s3 tree backrefs b prog c hb hk hs3 hws hz (build_progDelegOK tree backrefs b prog hb hk) hlen hpos)
    limit fuel (bOK_s3 c tree backrefs b prog hb hk hs3 hws hz hlen hpos limit fuel) savesB hm

include hceq hU in
/-- **stage S3: the byte machine's answer is the reference search's, in byte offsets** -/
theorem C01_bytes_vm_correct_s3 (tree : Expr) (backrefs : List Nat) (b : Built) (prog : Prog)
    (hb : build tree backrefs = .ok b) (hk : b.kind = .fancy prog)
    (hs3 : s3ok (fun g => backrefs.contains g) b.raw true = true) (hws : wellShaped b.raw = true)
    (hz : noBareEndZ b.raw = true) (hlen : c.len < UNSET) (hpos : c.pos ≤ c.len) (limit fuel : Nat) :
    (runB (BCtx.ofCtx c) prog ⟨limit, maxStackDefault⟩ fuel).1 = .outOfFuel ∨
    (runB (BCtx.ofCtx c) prog ⟨limit, maxStackDefault⟩ fuel).1 = .errStack ∨
    (runB (BCtx.ofCtx c) prog ⟨limit, maxStackDefault⟩ fuel).1 = .errLimit ∨
    match refSearch c b.raw b.nGroups with
    | some f => ∃ savesB, (runB (BCtx.ofCtx c) prog ⟨limit, maxStackDefault⟩ fuel).1 = .matched savesB ∧
        (viewSlots savesB).take (b.nGroups * 2) = f.slots.map (Option.map (offOf c.text))
    | none => (runB (BCtx.ofCtx c) prog ⟨limit, maxStackDefault⟩ fuel).1 = .noMatch :=
  C01_bytes_vm_correct_s3_of_tame c hceq hU tree backrefs b prog hb hk hs3 hws hz hlen hpos limit fuel
    (bOK_s3 c tree backrefs b prog hb hk hs3 hws hz hlen hpos limit fuel)

/-! #### from the pattern string -/

theorem bTame_pipeline (isAlnum : Char → Bool) (cs : List Char) (casei : Bool) (t : Parse.Tree) (b : Built)
    (prog : Prog) (hp : Parse.parseStr isAlnum cs casei = .ok t) (hb : build t.expr t.backrefs = .ok b)
    (hk : b.kind = .fancy prog) (hst : s3Pattern t b = true)
    (hlen : c.len < UNSET) (hpos : c.pos ≤ c.len) (limit fuel : Nat) :
    bTame c b prog limit fuel = true := by
  simp only [s3Pattern, Bool.and_eq_true] at hst
  exact bTame_s3 c t.expr t.backrefs b prog hb hk hst.1 (Parse.parse_build_wellShaped isAlnum cs casei t b hp hb).2
    (build_raw_noBareEndZ t.expr t.backrefs b hb hst.2) hlen hpos limit fuel

include hceq hU in
theorem runB_refines_pipeline (isAlnum : Char → Bool) (cs : List Char) (casei : Bool) (t : Parse.Tree) (b : Built)
    (prog : Prog) (hp : Parse.parseStr isAlnum cs casei = .ok t) (hb : build t.expr t.backrefs = .ok b)
    (hk : b.kind = .fancy prog) (hst : s3Pattern t b = true)
    (hlen : c.len < UNSET) (hpos : c.pos ≤ c.len) (limit fuel : Nat) :
    runB (BCtx.ofCtx c) prog ⟨limit, maxStackDefault⟩ fuel =
      (mapOut (tauOf prog.body b.nGroups) (offOf c.text) (run c prog ⟨limit, maxStackDefault⟩ fuel).1,
        (run c prog ⟨limit, maxStackDefault⟩ fuel).2) := by
  simp only [s3Pattern, Bool.and_eq_true] at hst
  exact runB_refines_built c hceq hU t.expr t.backrefs b prog hb hk hst.1
    (Parse.parse_build_wellShaped isAlnum cs casei t b hp hb).2 (build_raw_noBareEndZ t.expr t.backrefs b hb hst.2)
    hlen hpos limit fuel

include hceq hU in
theorem C05_bytes_no_panic_pipeline (isAlnum : Char → Bool) (cs : List Char) (casei : Bool) (t : Parse.Tree)
    (b : Built) (prog : Prog) (hp : Parse.parseStr isAlnum cs casei = .ok t) (hb : build t.expr t.backrefs = .ok b)
    (hk : b.kind = .fancy prog) (hst : s3Pattern t b = true)
    (hlen : c.len < UNSET) (hpos : c.pos ≤ c.len) (limit fuel : Nat) (site : String) :
    (runB (BCtx.ofCtx c) prog ⟨limit, maxStackDefault⟩ fuel).1 ≠ .panic site := by
  simp only [s3Pattern, Bool.and_eq_true] at hst
  exact C05_bytes_no_panic_s3 c hceq hU t.expr t.backrefs b prog hb hk hst.1
    (Parse.parse_build_wellShaped isAlnum cs casei t b hp hb).2 (build_raw_noBareEndZ t.expr t.backrefs b hb hst.2)
    hlen hpos limit fuel site

include hceq hU in
theorem C05_bytes_offsets_valid_pipeline (isAlnum : Char → Bool) (cs : List Char) (casei : Bool) (t : Parse.Tree)
    (b : Built) (prog : Prog) (hp : Parse.parseStr isAlnum cs casei = .ok t) (hb : build t.expr t.backrefs = .ok b)
    (hk : b.kind = .fancy prog) (hst : s3Pattern t b = true)
    (hlen : c.len < UNSET) (hpos : c.pos ≤ c.len) (limit fuel : Nat) (savesB : List Nat)
    (hm : (runB (BCtx.ofCtx c) prog ⟨limit, maxStackDefault⟩ fuel).1 = .matched savesB) :
    (∀ i w, i < 2 * b.nGroups → savesB[i]? = some w →
      w = UNSET ∨ (isBoundary (bytesOfChars c.text) w = true ∧ w ≤ (bytesOfChars c.text).length)) ∧
    (∃ s e, savesB[0]? = some s ∧ savesB[1]? = some e ∧
      (BCtx.ofCtx c).pos ≤ s ∧ s ≤ e ∧ e ≤ (bytesOfChars c.text).length ∧
      isBoundary (bytesOfChars c.text) s = true ∧ isBoundary (bytesOfChars c.text) e = true) := by
  simp only [s3Pattern, Bool.and_eq_true] at hst
  exact C05_bytes_offsets_valid c hceq hU t.expr t.backrefs b prog hb hk hst.1
    (Parse.parse_build_wellShaped isAlnum cs casei t b hp hb).2 (build_raw_noBareEndZ t.expr t.backrefs b hb hst.2)
    hlen hpos limit fuel savesB hm

include hceq hU in
theorem C01_bytes_vm_correct_pipeline (isAlnum : Char → Bool) (cs : List Char) (casei : Bool) (t : Parse.Tree)
    (b : Built) (prog : Prog) (hp : Parse.parseStr isAlnum cs casei = .ok t) (hb : build t.expr t.backrefs = .ok b)
    (hk : b.kind = .fancy prog) (hst : s3Pattern t b = true)
    (hlen : c.len < UNSET) (hpos : c.pos ≤ c.len) (limit fuel : Nat) :
    (runB (BCtx.ofCtx c) prog ⟨limit, maxStackDefault⟩ fuel).1 = .outOfFuel ∨
    (runB (BCtx.ofCtx c) prog ⟨limit, maxStackDefault⟩ fuel).1 = .errStack ∨
    (runB (BCtx.ofCtx c) prog ⟨limit, maxStackDefault⟩ fuel).1 = .errLimit ∨
    match refSearch c b.raw b.nGroups with
    | some f => ∃ savesB, (runB (BCtx.ofCtx c) prog ⟨limit, maxStackDefault⟩ fuel).1 = .matched savesB ∧
        (viewSlots savesB).take (b.nGroups * 2) = f.slots.map (Option.map (offOf c.text))
    | none => (runB (BCtx.ofCtx c) prog ⟨limit, maxStackDefault⟩ fuel).1 = .noMatch := by
  simp only [s3Pattern, Bool.and_eq_true] at hst
  exact C01_bytes_vm_correct_s3 c hceq hU t.expr t.backrefs b prog hb hk hst.1
    (Parse.parse_build_wellShaped isAlnum cs casei t b hp hb).2 (build_raw_noBareEndZ t.expr t.backrefs b hb hst.2)
    hlen hpos limit fuel

end S3

/-! ### Non-vacuity: the text "aé😀b" (1 + 2 + 4 + 1 bytes), a program with `Any`, `Lit`, `GoBack`, `Backref`

`Save 0; Any; Any; Save 2; Any; Save 3; Lit "b"; GoBack 2; Backref 2; Save 1; End`: group 1 captures
"😀" (characters 2..3 = bytes 3..7); after the literal, `GoBack 2` walks back two characters (5 bytes)
and the back-reference compares the 4-byte slice. -/

def exBCtx : Ctx := ⟨['a', 'é', '😀', 'b'], 0, false, fun _ => false, fun _ _ _ => false, fun _ a b => a == b⟩
def exBProg : Prog :=
  ⟨[.save 0, .any, .any, .save 2, .any, .save 3, .lit ['b'], .goBack 2, .backref 2, .save 1, .end_], 4⟩
def exBτ : Nat → Bool := fun i => decide (i < 4)

theorem exB_text : bytesOfChars exBCtx.text = [97, 195, 169, 240, 159, 152, 128, 98] := by decide
theorem exB_wt : wellTyped exBτ exBProg.body = true := by decide
theorem exB_ok : okLoop exBCtx exBτ 4 exBProg.body ⟨100, 100⟩ 20 0 0 (State.new 4 100) 0 = true := by decide
theorem exB_hU : (bytesOfChars exBCtx.text).length < UNSET := by decide
theorem exB_hτ : ∀ i, 4 ≤ i → exBτ i = false := by intro i hi; simp [exBτ]; omega

theorem exB_runB : runB (BCtx.ofCtx exBCtx) exBProg ⟨100, 100⟩ 20 = (.matched [0, 7, 3, 7], ⟨11, 0, 0⟩) := by decide

theorem exB_run : run exBCtx exBProg ⟨100, 100⟩ 20 = (.matched [0, 3, 2, 3], ⟨11, 0, 0⟩) := by decide

/-- `runB_refines` instantiated: the byte answer is the code-point answer through the offset map -/
example : runB (BCtx.ofCtx exBCtx) exBProg ⟨100, 100⟩ 20 =
    (mapOut exBτ (offOf exBCtx.text) (run exBCtx exBProg ⟨100, 100⟩ 20).1, (run exBCtx exBProg ⟨100, 100⟩ 20).2) :=
  runB_refines exBCtx exBτ 4 (fun _ _ => rfl) exB_hU exB_hτ exBProg ⟨100, 100⟩ 20 exB_wt exB_ok

example : mapOut exBτ (offOf exBCtx.text) (.matched [0, 3, 2, 3]) = .matched [0, 7, 3, 7] := by decide

/-- `C05_bytes_no_slice_panic_of_typed` instantiated -/
example (site : String) : (runB (BCtx.ofCtx exBCtx) exBProg ⟨100, 100⟩ 20).1 ≠ .panic site := by
  intro h
  have := C05_bytes_no_slice_panic_of_typed exBCtx exBτ 4 (fun _ _ => rfl) exB_hU exB_hτ exBProg ⟨100, 100⟩ 20 exB_wt exB_ok site h
  rw [exB_run] at this; cases this

/-- `C13_goback_counts_characters` instantiated: from byte 8 (character 4) back 2 characters is byte 3 -/
example (s : State) : stepB (BCtx.ofCtx exBCtx) exBProg.body 7 8 s = .cont 8 3 s :=
  ((C13_goback_counts_characters exBCtx exBProg.body 7 4 2 s rfl (by decide)).1 (by decide)).1

/-- … and from byte 1 (character 1) it fails: there is only one character before -/
example (s : State) : stepB (BCtx.ofCtx exBCtx) exBProg.body 7 1 s = .fail s :=
  (C13_goback_counts_characters exBCtx exBProg.body 7 1 2 s rfl (by decide)).2 (by decide)

end Fancy
