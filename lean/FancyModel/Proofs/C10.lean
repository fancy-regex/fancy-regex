import FancyModel.Proofs.C08
/-!
# C10 — split and splitn partition the text around the find_iter matches

`Split` / `SplitN` (mirrors of the Rust iterators) over an arbitrary search oracle that is
well-formed (`WFOracle`: what C05 provides). Items are byte ranges `(a, b)` of the target; the text
of a piece is `&target[a..b]`. Error items pass through unchanged.
-/
namespace Fancy.Api
open Fancy.Utf8

/-- the pieces a drained `find_iter` sequence induces, starting from `ns` (= `next_start`) -/
def toPieces (len : Nat) : List (Except SearchErr (Nat × Nat)) → Nat → List Item
  | [], ns => if ns > len then [] else [.piece ns len]
  | .ok (s, e) :: rest, ns => .piece ns s :: toPieces len rest e
  | .error e :: rest, ns => .err e :: toPieces len rest ns

/-- `Split::next` in terms of `Matches::next` (one step of the state machine) -/
theorem C10_step (f : Oracle (Nat × Nat)) (text : Bytes) (sp : Split) :
    Split.next f text sp =
      match Iter.next f id text (text.length + 2) sp.it with
      | (none, it', _) =>
        if sp.nextStart > text.length then (none, { sp with it := it' })
        else (some (.piece sp.nextStart text.length), ⟨it', text.length + 1⟩)
      | (some (.ok (ms, me)), it', _) => (some (.piece sp.nextStart ms), ⟨it', me⟩)
      | (some (.error e), it', _) => (some (.err e), { sp with it := it' }) := by
  rfl

/-- once `next()` has returned `None`, `split` yields the rest of the text and then nothing -/
theorem split_collect_done (f : Oracle (Nat × Nat)) (text : Bytes) {it it' : Iter}
    (hn : Iter.next f id text (text.length + 2) it = (none, it', false)) {ns : Nat} (hns : ns ≤ text.length)
    (k : Nat) : Split.collect f text (k + 2) ⟨it, ns⟩ = [.piece ns text.length] := by
  have hf := C08_fused f id text _ (text.length + 1) it it' hn
  generalize hn2 : Iter.next f id text (text.length + 2) it' = r2 at hf
  obtain ⟨i2, it2, o2⟩ := r2
  cases hf
  simp [Split.collect, Split.next, hn, hn2, Nat.not_lt.mpr hns]

theorem split_collect_eq (f : Oracle (Nat × Nat)) (text : Bytes) (hwf : WFOracle f id text.length)
    (n : Nat) (it : Iter) (hj : it.J) (ns : Nat) (hns : ns ≤ text.length)
    (hshort : (Iter.collect f id text n it).length < n) :
    Split.collect f text (n + 1) ⟨it, ns⟩ = toPieces text.length (Iter.collect f id text n it) ns := by
  refine Iter.collect_cases f id text
    (P := fun n it l => it.J → ∀ ns, ns ≤ text.length → l.length < n →
      Split.collect f text (n + 1) ⟨it, ns⟩ = toPieces text.length l ns) ?_ ?_ ?_ ?_ n it hj ns hns hshort
  · intro _ _ _ _ h; cases h
  · intro n it it' oof hn _ ns hns _
    have hoof := C08_terminates f id text hwf it
    rw [hn] at hoof; cases hoof
    rw [split_collect_done f text hn hns, toPieces, if_neg (Nat.not_lt.mpr hns)]
  · -- the iterator is exhausted after an error item: one final piece
    intro n it e it' oof hn _ ns hns hlt
    obtain ⟨n, rfl⟩ : ∃ m, n = m + 1 := ⟨n - 1, by simp at hlt; omega⟩
    have hl := next_err_spec f id text _ it it' e oof hn
    rw [Split.collect]
    simp only [Split.next, hn, toPieces, if_neg (Nat.not_lt.mpr hns)]
    rw [split_collect_done f text (Iter.next_past f id text _ it' (by omega)) hns]
  · intro n it p it' oof rest hn ih hj ns hns hlt
    obtain ⟨_, _, r3, _, _, _, _, r8⟩ := next_ok_spec f id text hwf _ it it' p oof hj hn
    rw [Split.collect]
    simp only [Split.next, hn, toPieces]
    rw [ih r8 p.2 r3 (by simpa using hlt)]

/-- **pieces**: `split` yields exactly the substrings between consecutive `find_iter` matches and
    then the rest of the text — one more piece than there are matches -/
theorem C10_pieces (f : Oracle (Nat × Nat)) (text : Bytes) (hwf : WFOracle f id text.length) :
    split f text = toPieces text.length (findIter f text) 0 := by
  unfold split findIter
  exact split_collect_eq f text hwf (text.length + 3) Iter.start Iter.J_start 0 (Nat.zero_le _)
    (by have := C08_length_bound f text hwf; unfold findIter at this; omega)

/-- for an error-free match list the pieces are the statement's: `#matches + 1` of them -/
theorem toPieces_ok (len : Nat) (ms : List (Nat × Nat)) (ns : Nat) (hns : ns ≤ len)
    (hms : ∀ m ∈ ms, m.2 ≤ len) :
    toPieces len (ms.map .ok) ns
      = (ApiSpec.piecesFrom len ms ns).map fun p => Item.piece p.1 p.2 := by
  induction ms generalizing ns with
  | nil => simp [toPieces, ApiSpec.piecesFrom, Nat.not_lt.mpr hns]
  | cons m ms ih =>
    obtain ⟨s, e⟩ := m
    simp only [List.map_cons, toPieces, ApiSpec.piecesFrom, List.cons.injEq, true_and]
    exact ih e (hms (s, e) (by simp)) (fun m hm => hms m (by simp [hm]))

theorem piecesFrom_length (len : Nat) (ms : List (Nat × Nat)) (ns : Nat) :
    (ApiSpec.piecesFrom len ms ns).length = ms.length + 1 := by
  induction ms generalizing ns with
  | nil => rfl
  | cons m ms ih => obtain ⟨s, e⟩ := m; simp [ApiSpec.piecesFrom, ih]

theorem findIter_ok_ends (f : Oracle (Nat × Nat)) (text : Bytes) (hwf : WFOracle f id text.length)
    (ms : List (Nat × Nat)) (hms : findIter f text = ms.map .ok) : ∀ m ∈ ms, m.2 ≤ text.length := by
  have hord := C08_find_iter_ordered f text hwf
  rw [hms] at hord
  clear hms
  generalize (0 : Nat) = lo at hord
  generalize (none : Option Nat) = lm at hord
  induction ms generalizing lo lm with
  | nil => intro m hm; cases hm
  | cons x xs ih =>
    intro m hm
    rcases List.mem_cons.mp hm with rfl | hm
    · exact hord.2.2.1
    · exact ih _ _ hord.2.2.2.2 m hm

/-- **the statement, for an error-free run**: if `find_iter` yields the matches `ms`, `split`
    yields the `ms.length + 1` substrings between them -/
theorem C10_split_spec (f : Oracle (Nat × Nat)) (text : Bytes) (hwf : WFOracle f id text.length)
    (ms : List (Nat × Nat)) (hms : findIter f text = ms.map .ok) :
    split f text = (ApiSpec.pieces text.length ms).map (fun p => Item.piece p.1 p.2) ∧
      (split f text).length = ms.length + 1 := by
  have hends := findIter_ok_ends f text hwf ms hms
  have h1 : split f text = (ApiSpec.pieces text.length ms).map (fun p => Item.piece p.1 p.2) := by
    rw [C10_pieces f text hwf, hms, toPieces_ok _ _ _ (Nat.zero_le _) hends]; rfl
  exact ⟨h1, by rw [h1]; simp [ApiSpec.pieces, piecesFrom_length]⟩

/-- **rebuild**: interleaving the pieces with the matched texts gives back the input -/
def rebuild (text : Bytes) : List (Nat × Nat) → Nat → Bytes
  | [], last => text.drop last
  | (s, e) :: ms, last => (text.drop last).take (s - last) ++ ((text.drop s).take (e - s) ++ rebuild text ms e)

theorem drop_take_append_drop (l : Bytes) (a b : Nat) (h : a ≤ b) :
    (l.drop a).take (b - a) ++ l.drop b = l.drop a := by
  have : l.drop b = (l.drop a).drop (b - a) := by rw [List.drop_drop]; congr 1; omega
  rw [this, List.take_append_drop]

theorem C10_rebuild (text : Bytes) (ms : List (Nat × Nat)) (last : Nat)
    (hsorted : List.Pairwise (fun a b : Nat × Nat => a.2 ≤ b.1) ms)
    (hwf : ∀ m ∈ ms, last ≤ m.1 ∧ m.1 ≤ m.2) :
    rebuild text ms last = text.drop last := by
  induction ms generalizing last with
  | nil => rfl
  | cons m ms ih =>
    obtain ⟨s, e⟩ := m
    have h1 := hwf (s, e) (by simp)
    simp only [rebuild]
    rw [ih e (List.Pairwise.of_cons hsorted)]
    · rw [drop_take_append_drop text s e h1.2, drop_take_append_drop text last s h1.1]
    · intro m hm
      have hp := List.rel_of_pairwise_cons hsorted hm
      have := hwf m (by simp [hm])
      exact ⟨hp, this.2⟩

/-! ### splitn: the statement's clauses as equations of the state machine -/

/-- `n = 0` yields nothing -/
theorem C10_splitn_zero (f : Oracle (Nat × Nat)) (text : Bytes) : splitn f text 0 = [] := by
  simp [splitn, SplitN.collect, SplitN.next]

/-- the last permitted item (`limit = 1`) is the untouched remainder of the text -/
theorem C10_splitn_last (f : Oracle (Nat × Nat)) (text : Bytes) (sp : Split) :
    SplitN.next f text ⟨sp, 1⟩ =
      if sp.nextStart > text.length then (none, ⟨sp, 0⟩)
      else (some (.piece sp.nextStart text.length), ⟨{ sp with nextStart := text.length + 1 }, 0⟩) := by
  simp only [SplitN.next]
  split <;> simp_all

/-- before that (`limit ≥ 2`) an item of `splitn` is the item of `split` -/
theorem C10_splitn_step (f : Oracle (Nat × Nat)) (text : Bytes) (sp : Split) (k : Nat) :
    SplitN.next f text ⟨sp, k + 2⟩ =
      ((Split.next f text sp).1, ⟨(Split.next f text sp).2, k + 1⟩) := by
  simp [SplitN.next]

/-- after the limit is used up nothing more is yielded (fused) -/
theorem C10_splitn_done (f : Oracle (Nat × Nat)) (text : Bytes) (sp : Split) :
    SplitN.next f text ⟨sp, 0⟩ = (none, ⟨sp, 0⟩) := by
  simp [SplitN.next]

/-! ### Non-vacuity -/

example : split demoOracle [97, 97, 98] = [.piece 0 0, .piece 2 3, .piece 3 3] := by rfl
example : splitn demoOracle [97, 97, 98] 2 = [.piece 0 0, .piece 2 3] := by rfl

end Fancy.Api
