import FancyModel.Proofs.C03
/-!
# C19 — equivalent spellings of a pattern behave identically

Spellings whose *trees* are the same (comments and free-spacing whitespace, scoped vs inline
flags, escape spellings, relative vs absolute back-references, possessive vs atomic) are in
Proofs/C19b.lean, on the parser model `Model/Parse.lean` (named vs numbered groups:
`C16_named_group`, Proofs/C16b.lean). What is proved here are the spellings
whose trees legitimately differ but whose reference semantics coincide, for all contexts and
states:

* a one-element concatenation or alternation is its element (`(?:a)` vs `a`);
* nested concatenations flatten (`a(?:bc)` vs `abc`), nested alternations flatten (`a|(?:b|c)`);
* an empty expression in a concatenation is neutral (what a dropped `(?#…)` comment, an inline
  flag group `(?i)` or free-spacing whitespace leaves behind);
* `x{1}` is `x`, `x{0}` and `x{0,0}` are empty.
-/
namespace Fancy

theorem C19_singleton_concat (c : Ctx) (e : Expr) (st : St) : sem c (.concat [e]) st = sem c e st := by
  simp only [sem, semConcat]
  exact flatMap_semConcat_nil c _

theorem C19_singleton_alt (c : Ctx) (e : Expr) (st : St) : sem c (.alt [e]) st = sem c e st := by
  simp [sem, semAlt]

theorem semConcat_as_concat (c : Ctx) (es : List Expr) (st : St) : sem c (.concat es) st = semConcat c es st := by
  simp [sem]

/-- nested concatenation flattens -/
theorem C19_flatten_concat (c : Ctx) (pre inner post : List Expr) (st : St) :
    sem c (.concat (pre ++ .concat inner :: post)) st = sem c (.concat (pre ++ inner ++ post)) st := by
  simp only [sem]
  rw [semConcat_append, List.append_assoc, semConcat_append]
  congr 1
  funext r
  simp only [semConcat, sem]
  rw [semConcat_append]

/-- nested alternation flattens -/
theorem C19_flatten_alt (c : Ctx) (pre inner post : List Expr) (st : St) :
    sem c (.alt (pre ++ .alt inner :: post)) st = sem c (.alt (pre ++ inner ++ post)) st := by
  simp only [sem, semAlt_append, semAlt, List.append_assoc]

/-- an empty expression in a concatenation is neutral -/
theorem C19_empty_neutral (c : Ctx) (pre post : List Expr) (st : St) :
    sem c (.concat (pre ++ .empty :: post)) st = sem c (.concat (pre ++ post)) st := by
  simp only [sem]
  rw [semConcat_append, semConcat_append]
  congr 1
  funext r
  simp [semConcat, sem]

/-- `x{0}` matches the empty string once -/
theorem C19_repeat_zero (c : Ctx) (e : Expr) (greedy : Bool) (st : St) :
    sem c (.repeat e 0 (some 0) greedy) st = [st] := by
  simp [sem, repLoop]

/-- `x{1}` is `x` -/
theorem C19_repeat_one (c : Ctx) (e : Expr) (greedy : Bool) (st : St) :
    sem c (.repeat e 1 (some 1) greedy) st = sem c e st := by
  simp only [sem]
  have h2 : ∀ fuel (r : St), repLoop (sem c e) 1 (some 1) greedy (fuel + 1) 1 r = [r] := by
    intro fuel r; simp [repLoop]
  have : max 1 ((some 1 : Option Nat).getD 0) + c.len + 2 = (c.len + 1) + 1 + 1 := by simp; omega
  rw [this]
  simp only [repLoop, Option.some.injEq, Nat.zero_ne_one, ↓reduceIte, Option.isNone_some, Bool.false_and,
    Bool.false_eq_true, Nat.lt_add_one, Nat.zero_add]
  have : ∀ l : List St, (l.flatMap fun r => repLoop (sem c e) 1 (some 1) greedy (c.len + 1 + 1) 1 r) = l := by
    intro l
    induction l with
    | nil => rfl
    | cons a as ih => simp [h2 (c.len + 1) a, ih]
  exact this _

end Fancy
