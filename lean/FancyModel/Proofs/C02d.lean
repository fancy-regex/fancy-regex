import FancyModel.Proofs.C01d
import FancyModel.Proofs.C02b
/-!
# C02 — capture groups of compiled programs, delegation included (engine refinement, stage S3)
-/
namespace Fancy

theorem C02_groups_s3 (tree : Expr) (backrefs : List Nat) (b : Built) (prog : Prog) (c : Ctx)
    (hb : build tree backrefs = .ok b) (hk : b.kind = .fancy prog)
    (hok : s3ok (fun g => backrefs.contains g) b.raw true = true) (hws : wellShaped b.raw = true)
    (hz : noBareEndZ b.raw = true) (hdok : progDelegOK prog.nSaves prog.body = true)
    (hlen : c.len < UNSET) (hpos : c.pos ≤ c.len) (limit fuel : Nat) (slots : List (Option Nat))
    (hfound : (b.captures c limit fuel).1 = .found slots) :
    ∃ f, refSearch c b.raw b.nGroups = some f ∧ ∀ i : Nat, slots[i]? = f.slots[i]? := by
  exact groups_of_vmCorrectR (C01_vm_correct_s3 tree backrefs b prog c hb hk hok hws hz hdok hlen hpos) limit fuel slots
    hfound

end Fancy
