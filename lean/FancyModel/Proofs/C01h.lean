import FancyModel.Lemmas.SimCompile5
import FancyModel.Proofs.C01g
/-!
# C01h — stage S5: delegated runs with capture groups anywhere in the pattern

Stage S4 (Proofs/C01g.lean) accepts an easy constant-size run that owns capture groups and is not linear
— compiled to ONE `Delegate`, which yields only the first result of the run — in the concatenation at the
TOP of the pattern. Stage S5 accepts such runs in every concatenation the compiler meets: inside groups,
alternations, repeats (`?`, `*`, `+`, `{m,n}`, greedy and lazy), look-around bodies (ahead and behind, all
four layouts of a look-behind), atomic groups and the branches of conditionals: `(?:(?:x(a)|y(b))(?=c))+`, `(?=(?:x(a)|y(b))\b)z`, `(z)|(?:x(a)|y(b))(?!c)`.

* machine half (`Lemmas/SimCompile5.lean`, `sim5_visit`): the code of `e` simulates the semantics of
  `atomizeP br e hard`, the tree with those runs wrapped in atomic groups;
* semantic half (`Lemmas/Atomize2.lean`, `dom_sem`, `atomizeP_head`): from every good state the result
  list of the atomized tree is DOMINATED by that of the original tree — it is obtained by dropping
  results that agree, outside the slots `U` of the atomized runs, with an earlier kept result — and
  domination is kept by every constructor of `sem` (concatenation, alternation, the loop `repLoop` for all
  bounds, look-aheads, look-behinds with their backward reading of the body, atomic groups, conditionals)
  as long as nothing READS a slot of `U`; dominated lists have the same head;
* the side condition `unref5OK br raw` (Spec/Stage5.lean) is the conservative one: no back-reference and
  no group test ANYWHERE in the raw tree names a group owned by an atomized run. (Stage S4 asks less of
  the top-level concatenation — only of what comes after the run — so `s5Stage` is defined as
  `s4Stage || …`.)

-/
namespace Fancy

/-- **the structured machine reaches the reference answer, stage S5** -/
theorem big2_s5 (tree : Expr) (backrefs : List Nat) (b : Built) (prog : Prog) (c : Ctx)
    (hb : build tree backrefs = .ok b) (hk : b.kind = .fancy prog)
    (hok : s5ok (fun g => backrefs.contains g) b.raw true = true)
    (hu : unref5OK (fun g => backrefs.contains g) b.raw = true) (hws : wellShaped b.raw = true)
    (hz : noBareEndZ b.raw = true) (hlen : c.len < UNSET) (hpos : c.pos ≤ c.len) :
    Big2 c prog.body prog.nSaves (.run 0 c.pos (List.replicate prog.nSaves UNSET) [] []) (refAns c b) := by
  obtain ⟨code, nsv, rfl, hv, hn0, h3⟩ := build_fancy_visit tree backrefs b prog hb hk hws
  obtain ⟨hw, _, _, hhard, _⟩ := build_fancy tree backrefs b _ hb hk
  generalize (fun g => backrefs.contains g) = br at hhard hv hok hu
  have hwh : isHard br b.wrapped = true := by rw [hw]; simp [isHard, isHardAny, hhard]
  have hokw : s5ok br b.wrapped false = true := by
    rw [hw, s5ok]
    simp [isHard, isHardAny, hhard, s5okAll, s5ok, hok, noBareEndZAll, noBareEndZ, hz, minSize]
  obtain ⟨hle, hsim⟩ := sim5_visit c (2 * b.nGroups) nsv br hlen b.wrapped false 0 (b.nGroups * 2) 0 code nsv
    (code ++ [Insn.end_]) hokw h3 hv ⟨[], [Insn.end_], by simp, rfl⟩ (by omega)
  have hbig := big2_of_sim2_top c b.nGroups nsv code _ (hsim (Nat.le_refl _) true (Or.inr rfl)) hn0 (by omega) hpos
  -- the semantic half: the atomized wrapped tree and the wrapped tree have the same first result
  have hnrw : noRead (atzSlots br b.raw true) b.wrapped = true := by
    rw [hw]
    simp only [noRead, noReadAll, Bool.and_true, Bool.true_and]
    exact hu
  have hUw : ∀ i, i ∈ atzSlots br b.wrapped false → i ∈ atzSlots br b.raw true := by
    intro i hi
    have hsp := concatSplit_wrapped br b.raw 0 (by simp [isHard, hhard])
    rw [hw, atzSlots] at hi
    rw [← hw] at hi
    simp only [hwh, Bool.not_true, Bool.and_false, Bool.false_eq_true, ↓reduceIte, hsp, List.take_zero, runSlots,
      groupCountList, BEq.rfl, Bool.true_or, List.nil_append, List.append_nil, atzSlotsAll, List.mem_append] at hi
    rcases hi with hi | hi
    · rw [atzSlots] at hi
      simp only [Bool.not_true, Bool.false_and, Bool.false_eq_true, ↓reduceIte] at hi
      rw [atzSlots.eq_def] at hi
      simp at hi
    · rw [atzSlots] at hi
      simpa only [Bool.not_true, Bool.false_and, Bool.false_eq_true, ↓reduceIte] using hi
  have hst0 : (⟨c.pos, initSlots b.nGroups⟩ : St).Good c (2 * b.nGroups) :=
    ⟨hpos, by simp [initSlots], by intro v hv; simp [initSlots] at hv⟩
  rw [atomizeP_head c (2 * b.nGroups) (atzSlots br b.raw true) br hlen b.wrapped false hokw h3.ws hnrw hUw _ hst0] at hbig
  exact hbig

/-- **C01 (and C02, C15), stage S5**: the statement of `C01_vm_correct_s3` for the larger stage -/
theorem C01_vm_correct_s5 (tree : Expr) (backrefs : List Nat) (b : Built) (prog : Prog) (c : Ctx)
    (hb : build tree backrefs = .ok b) (hk : b.kind = .fancy prog)
    (hok : s5Raw (fun g => backrefs.contains g) b.raw = true) (hws : wellShaped b.raw = true)
    (hz : noBareEndZ b.raw = true) (hlen : c.len < UNSET) (hpos : c.pos ≤ c.len) : VmCorrectR b c := by
  simp only [s5Raw, Bool.and_eq_true] at hok
  exact VmCorrectR_of_big2 tree backrefs b prog c hb hk (big2_s5 tree backrefs b prog c hb hk hok.1 hok.2 hws hz hlen hpos)
    hlen hpos

/-- **C05, stage S5: the search never panics** -/
theorem C05_no_panic_s5 (tree : Expr) (backrefs : List Nat) (b : Built) (prog : Prog) (c : Ctx)
    (hb : build tree backrefs = .ok b) (hk : b.kind = .fancy prog)
    (hok : s5Raw (fun g => backrefs.contains g) b.raw = true) (hws : wellShaped b.raw = true)
    (hz : noBareEndZ b.raw = true) (hlen : c.len < UNSET) (hpos : c.pos ≤ c.len) (limit fuel : Nat) (site : String) :
    (b.captures c limit fuel).1 ≠ .panic site :=
  VmCorrectR_not_panic (C01_vm_correct_s5 tree backrefs b prog c hb hk hok hws hz hlen hpos) limit fuel site

/-- **C07, stage S5: the search terminates** -/
theorem C07_terminates_s5 (tree : Expr) (backrefs : List Nat) (b : Built) (prog : Prog) (c : Ctx)
    (hb : build tree backrefs = .ok b) (hk : b.kind = .fancy prog)
    (hok : s5Raw (fun g => backrefs.contains g) b.raw = true) (hws : wellShaped b.raw = true)
    (hz : noBareEndZ b.raw = true) (hlen : c.len < UNSET) (hpos : c.pos ≤ c.len) (limit : Nat) :
    ∃ N, ∀ fuel, N ≤ fuel → (b.captures c limit fuel).1 ≠ .outOfFuel := by
  simp only [s5Raw, Bool.and_eq_true] at hok
  exact captures_terminates_of_big2 tree backrefs b prog c hb hk
    (big2_s5 tree backrefs b prog c hb hk hok.1 hok.2 hws hz hlen hpos) limit

/-! ### the decidable stage, the from-the-string form -/

/-- the new part of stage S5 (what `C01_vm_correct_s5` asks for) -/
def s5New (tree : Expr) (backrefs : List Nat) : Bool :=
  match build tree backrefs with
  | .ok b => (match b.kind with
    | .fancy _ => s5Raw (fun g => backrefs.contains g) b.raw && wellShaped b.raw && noBareEndZ b.raw
    | .wrap => false)
  | .error _ => false

/-- the decidable stage S5 (what the driver prints as `s5=`): stage S4, or the side conditions of
    `C01_vm_correct_s5` -/
def s5Stage (tree : Expr) (backrefs : List Nat) : Bool := s4Stage tree backrefs || s5New tree backrefs

theorem s5New_spec (tree : Expr) (backrefs : List Nat) (h : s5New tree backrefs = true) :
    ∃ b prog, build tree backrefs = .ok b ∧ b.kind = .fancy prog ∧
      s5Raw (fun g => backrefs.contains g) b.raw = true ∧ wellShaped b.raw = true ∧ noBareEndZ b.raw = true := by
  unfold s5New at h
  cases hb : build tree backrefs with
  | error e => simp [hb] at h
  | ok b =>
    simp only [hb] at h
    cases hk : b.kind with
    | wrap => simp [hk] at h
    | fancy prog =>
      simp only [hk, Bool.and_eq_true] at h
      exact ⟨b, prog, rfl, hk, h.1.1, h.1.2, h.2⟩

/-- S5 ⊇ S4 ⊇ S3 at the level of the decidable stages -/
theorem s5Stage_of_s3Stage (tree : Expr) (backrefs : List Nat) (h : s3Stage tree backrefs = true) :
    s5Stage tree backrefs = true := by
  simp [s5Stage, s4Stage_of_s3Stage tree backrefs h]

/-- the form the driver checks per pattern -/
theorem C01_checked_s5 (tree : Expr) (backrefs : List Nat) (h : s5Stage tree backrefs = true) (c : Ctx)
    (hlen : c.len < UNSET) (hpos : c.pos ≤ c.len) :
    ∃ b, build tree backrefs = .ok b ∧ VmCorrectR b c := by
  rcases (Bool.or_eq_true _ _).mp h with h4 | h5
  · exact C01_checked_s4 tree backrefs h4 c hlen hpos
  · obtain ⟨b, prog, hb, hk, hok, hws, hz⟩ := s5New_spec tree backrefs h5
    exact ⟨b, hb, C01_vm_correct_s5 tree backrefs b prog c hb hk hok hws hz hlen hpos⟩

def s5Pattern (t : Parse.Tree) (b : Built) : Bool :=
  s4Pattern t b || (s5Raw (fun g => t.backrefs.contains g) b.raw && noBareEndZ t.expr)

/-- **from the pattern string** (the form of `C01_pipeline_s3`) -/
theorem C01_pipeline_s5 (isAlnum : Char → Bool) (cs : List Char) (casei : Bool) (t : Parse.Tree) (b : Built)
    (prog : Prog) (c : Ctx)
    (hp : Parse.parseStr isAlnum cs casei = .ok t) (hb : build t.expr t.backrefs = .ok b)
    (hk : b.kind = .fancy prog) (hst : s5Pattern t b = true)
    (hlen : c.len < UNSET) (hpos : c.pos ≤ c.len) : VmCorrectR b c := by
  rcases (Bool.or_eq_true _ _).mp hst with h4 | h5
  · exact C01_pipeline_s4 isAlnum cs casei t b prog c hp hb hk h4 hlen hpos
  · simp only [Bool.and_eq_true] at h5
    exact C01_vm_correct_s5 t.expr t.backrefs b prog c hb hk h5.1
      (Parse.parse_build_wellShaped isAlnum cs casei t b hp hb).2
      (build_raw_noBareEndZ t.expr t.backrefs b hb h5.2) hlen hpos

/-! ### Examples -/

/-- `(?:x(a)|y(b))` as the parser delivers it (the groups are numbered by `build`) -/
def exRun : Expr := .alt [.concat [.literal ['x'] false, .group 0 (.literal ['a'] false)],
  .concat [.literal ['y'] false, .group 0 (.literal ['b'] false)]]

/-- `(?:(?:x(a)|y(b))(?=c))+`: the run is the prefix of a concatenation inside an unbounded loop -/
def ex5a : Expr := .repeat (.concat [exRun, .look (.literal ['c'] false) .ahead]) 1 none true

/-- `(?=(?:x(a)|y(b))\b)z`: the run is the prefix of the body of a look-ahead -/
def ex5b : Expr := .concat [.look (.concat [exRun, .assertion .wordB]) .ahead, .literal ['z'] false]

/-- `(z)|(?:x(a)|y(b))(?!c)`: the run is the prefix of the second alternative -/
def ex5c : Expr := .alt [.group 0 (.literal ['z'] false),
  .concat [exRun, .look (.literal ['c'] false) .aheadNeg]]

/-- `(?<=(?:x(a)|y(b))\b)z`: the run is the prefix of the body of a look-behind -/
def ex5d : Expr := .concat [.look (.concat [exRun, .assertion .wordB]) .behind, .literal ['z'] false]

/-- `(?<!(?:x(a)|y(b))\b|qqq\b)w`: a negative look-behind whose alternatives have different sizes (compiled to a
    sequence of negative look-behinds); the run is the prefix of the first alternative -/
def ex5e : Expr := .concat [.look (.alt [.concat [exRun, .assertion .wordB],
  .concat [.literal ['q'] false, .literal ['q'] false, .literal ['q'] false, .assertion .wordB]]) .behindNeg,
  .literal ['w'] false]

/-- all five are in stage S5 and not in stage S4: the stage predicates, the compiler included, evaluated on the five
    trees in one go (what they share, `exRun` above all, is evaluated once) -/
theorem ex5_stages :
    (s5Stage ex5a [] = true ∧ s4Stage ex5a [] = false) ∧ (s5Stage ex5b [] = true ∧ s4Stage ex5b [] = false) ∧
    (s5Stage ex5c [] = true ∧ s4Stage ex5c [] = false) ∧ (s5Stage ex5d [] = true ∧ s4Stage ex5d [] = false) ∧
    (s5Stage ex5e [] = true ∧ s4Stage ex5e [] = false) := by
  simp [s5Stage, s5New, s5Raw, s5ok, s5okAll, s5okAlts, unref5OK, noRead, noReadAll, s4Stage, s4ok, unrefOK, untouched,
    untouchedAll, ownSlotsListS, linearE, linearAll, build, ex5a, ex5b, ex5c, ex5d, ex5e, exRun, wrapTree, renumber,
    renumberList, checkRefs, checkRefsList, isHard, isHardAny, compile, visit, visitMiddle, visitAlt, lookBehindNegAlts,
    concatSplit, groupCount, groupCountList, constSize, constSizeAll, minSize, minSizeMin, minSizeSum, allMinSize,
    compileDelegates, compileDelegate, isLiteral, isLiteralAll, s3ok, s3okAll, s3okAlts, condFree, condFreeAll, boundsEq,
    satAdd, UNSET, Assertion.isHard, wrapPosLook, wrapNegLook, posLookBodyPc, negLookBodyPc, pushLiteral, wellShaped,
    wellShapedAll, noBareEndZ, noBareEndZAll]

theorem ex5a_stage : s5Stage ex5a [] = true ∧ s4Stage ex5a [] = false := ex5_stages.1

theorem ex5b_stage : s5Stage ex5b [] = true ∧ s4Stage ex5b [] = false := ex5_stages.2.1

theorem ex5c_stage : s5Stage ex5c [] = true ∧ s4Stage ex5c [] = false := ex5_stages.2.2.1

theorem ex5d_stage : s5Stage ex5d [] = true ∧ s4Stage ex5d [] = false := ex5_stages.2.2.2.1

theorem ex5e_stage : s5Stage ex5e [] = true ∧ s4Stage ex5e [] = false := ex5_stages.2.2.2.2

/-- the engine theorem for the three patterns, every text, start position, limit and fuel -/
example (c : Ctx) (hlen : c.len < UNSET) (hpos : c.pos ≤ c.len) : ∃ b, build ex5a [] = .ok b ∧ VmCorrectR b c :=
  C01_checked_s5 ex5a [] ex5a_stage.1 c hlen hpos

example (c : Ctx) (hlen : c.len < UNSET) (hpos : c.pos ≤ c.len) : ∃ b, build ex5b [] = .ok b ∧ VmCorrectR b c :=
  C01_checked_s5 ex5b [] ex5b_stage.1 c hlen hpos

example (c : Ctx) (hlen : c.len < UNSET) (hpos : c.pos ≤ c.len) : ∃ b, build ex5c [] = .ok b ∧ VmCorrectR b c :=
  C01_checked_s5 ex5c [] ex5c_stage.1 c hlen hpos

example (c : Ctx) (hlen : c.len < UNSET) (hpos : c.pos ≤ c.len) : ∃ b, build ex5d [] = .ok b ∧ VmCorrectR b c :=
  C01_checked_s5 ex5d [] ex5d_stage.1 c hlen hpos

example (c : Ctx) (hlen : c.len < UNSET) (hpos : c.pos ≤ c.len) : ∃ b, build ex5e [] = .ok b ∧ VmCorrectR b c :=
  C01_checked_s5 ex5e [] ex5e_stage.1 c hlen hpos

end Fancy
