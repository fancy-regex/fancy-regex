import FancyModel.Proofs.C05
import FancyModel.Proofs.C01c
import FancyModel.Lemmas.AVM2
import FancyModel.Lemmas.SemGood
/-!
# C05c — no VM instruction panics, and every state stays valid

Part 1 — instructions. `Proofs/C05.lean` (`C05_step_no_panic`) covers every instruction except the
four whose safety depends on the discipline of the program: `BeginAtomic`, `EndAtomic`,
`FailNegativeLookAround`, `Delegate`. Here they are settled on a state satisfying the
auxiliary-stack invariant `Inv2 nS s σ` (Lemmas/AuxStack.lean), with the EXACT panic conditions:

* `BeginAtomic` never panics (`C05_beginAtomic_ok`);
* `EndAtomic` (`C05_endAtomic_cases`, `C05_endAtomic_no_panic_iff`): with a non-empty auxiliary
  stack `count :: rest` it panics (`backtrack_cut`: `&self.stack[count + 1..]` out of range) iff
  `count` exceeds the branch-stack height; with an EMPTY auxiliary stack (the territory of finding
  F8: an `EndAtomic` whose `BeginAtomic` entry was lost) it panics at `stack_pop`
  (`saves[explicit_sp]` out of range) iff the pointer cell was never created, at `backtrack_cut` iff
  the branch stack has at most `nS` entries, and otherwise does NOT panic but leaves the invariant:
  the pointer cell then holds `nS`, below its base, and the vector represents no `(slots, astk)`;
* `FailNegativeLookAround` panics (`self.stack.pop().unwrap()` running off the stack) iff no pending
  branch has the marker pc `pc + 1` (`C05_failNegLook_no_panic_iff`);
* `Delegate` (slots of its groups inside the ordinary slots, `eg * 2 ≤ nS`) panics
  (`inner_slots[..].unwrap()`) iff the oracle's result has a group in range with the start set and
  the end unset (`C05_delegate_no_panic_iff`).

`C05_step_no_panic_all` packages the four with `C05_step_no_panic`; `C05_step_total` is the clean
form: wherever the structured machine `sstep` is defined, the interpreter does not panic and the
next state is again valid (`Inv2`); `C05_sstep_defined` says when `sstep` is defined.

Part 2 — runs: `C05_run_no_panic` (`Big2` reaches an answer ⇒ `runLoop` never returns a panic),
`C05_run_no_panic_initial`, `C05_compiled_no_panic` (stage S2 programs).

Part 3 — offsets: `C05_offsets_valid` (stage S2, VM path) and `C05_offsets_valid_wrap` (Wrap path):
a reported vector has the `2 * n_groups` capture slots, every reported slot is `≤ len`, every group
with both ends set has `start ≤ end`, and the overall span is `pos ≤ start ≤ end ≤ len`
(`SlotsValid`). Reference side: `sem_adv` (no result is before its start position; ordered pairs of
groups `≥ 1` stay ordered) — this needs `noSelfNest` (no group inside a group of the same number):
WITHOUT it the statement is false of `sem` (`(?<1>(?=x(?<1>a)))` on `xa` gives the pair `(1, 0)`, see
the `example` at the end); `renumber` always produces such trees (`noSelfNest_renumber`), so the
property theorems carry no extra hypothesis. `\K` moves slot 0 only; `finish` caps it into
`[pos, end]` (`finish_valid`).
-/
namespace Fancy
open State

/-! ## Part 1: the four disciplined instructions -/

/-- `BeginAtomic` never panics; the next state is valid -/
theorem C05_beginAtomic_ok (c : Ctx) (prog : List Insn) (nS pc ix : Nat) (s : State) (σ : SState)
    (h : Inv2 nS s σ) (hpc : prog[pc]? = some .beginAtomic) :
    ∃ s', step c prog pc ix s = .cont (pc + 1) ix s' ∧
      Inv2 nS s' { σ with astk := σ.stack.length :: σ.astk } := by
  obtain ⟨s', e1, e2, _⟩ := rep_stackPush h s.backtrackCount
  refine ⟨s', ?_, ?_⟩
  · unfold step; simp only [hpc, e1]
  · rw [rep_backtrackCount h] at e2; exact e2

theorem c05_backtrackCut_none_of_lt (s : State) (count : Nat) (h : s.stack.length < count) :
    s.backtrackCut count = none := by
  unfold State.backtrackCut
  have h1 : (s.stack.length == count) = false := by simp; omega
  simp [h1, h]

/-- **`EndAtomic`, every case**, from a state satisfying `Inv2` -/
theorem C05_endAtomic_cases (c : Ctx) (prog : List Insn) (nS pc ix : Nat) (s : State) (σ : SState)
    (h : Inv2 nS s σ) (hpc : prog[pc]? = some .endAtomic) :
    match σ.astk with
    | count :: rest =>
      if count ≤ σ.stack.length then
        ∃ s', step c prog pc ix s = .cont (pc + 1) ix s' ∧
          Inv2 nS s' ⟨σ.slots, rest, σ.stack.drop (σ.stack.length - count)⟩
      else step c prog pc ix s = .done (.panic "backtrack_cut")
    | [] =>
      if s.saves.length = nS then step c prog pc ix s = .done (.panic "stack_pop")
      else if σ.stack.length ≤ nS then step c prog pc ix s = .done (.panic "backtrack_cut")
      else ∃ s', step c prog pc ix s = .cont (pc + 1) ix s' ∧ Inv s' ∧ s'.explicitSp = nS ∧
          s'.saves = s.saves.set nS nS ∧ s'.stack.length = nS + 1 ∧ ∀ sl ak, ¬ Rep nS s'.saves sl ak := by
  have hl := h.stack_length
  cases hak : σ.astk with
  | cons count rest =>
    simp only
    obtain ⟨s1, e1, e2, e3, _⟩ := rep_stackPop h count rest hak
    split
    · rename_i hc
      obtain ⟨s2, g1, g2, _⟩ := rep_cut e2 count hc
      exact ⟨s2, by unfold step; simp only [hpc, e1, g1], g2⟩
    · rename_i hc
      have : s1.backtrackCut count = none := c05_backtrackCut_none_of_lt s1 count (by omega)
      unfold step; simp only [hpc, e1, this]
  | nil =>
    simp only
    rcases rep_stackPop_empty h hak with ⟨a, b⟩ | ⟨a, s1, e1, e2, e3, e4, e5, _, e7⟩
    · rw [if_pos a]
      unfold step; simp only [hpc, b]
    · rw [if_neg (by omega)]
      split
      · rename_i hc
        have : s1.backtrackCut (nS + 1) = none := c05_backtrackCut_none_of_lt s1 _ (by omega)
        unfold step; simp only [hpc, e1, this]
      · rename_i hc
        obtain ⟨s2, g1, g2, g3, _⟩ := cut_spec s1 e3 (nS + 1) (by omega)
        obtain ⟨f1, _, f3⟩ := cut_fields s1 s2 _ g1
        refine ⟨s2, by unfold step; simp only [hpc, e1, g1], g3, by rw [f1, e4], by rw [f3, e2], ?_,
          by rw [f3]; exact e7⟩
        have := congrArg (fun a => a.stack.length) g2
        simp only [abs_stack_length_eq, AState.cut, List.length_drop] at this
        omega

/-- `EndAtomic` does not panic exactly when the top of the auxiliary stack is `≤` the branch-stack
    height, or — auxiliary stack empty — the pointer cell exists and the branch stack is higher than
    `nS` (the silent case: no panic, but the state is no longer represented) -/
theorem C05_endAtomic_no_panic_iff (c : Ctx) (prog : List Insn) (nS pc ix : Nat) (s : State) (σ : SState)
    (h : Inv2 nS s σ) (hpc : prog[pc]? = some .endAtomic) :
    (∀ site, step c prog pc ix s ≠ .done (.panic site)) ↔
      (∃ count rest, σ.astk = count :: rest ∧ count ≤ σ.stack.length) ∨
      (σ.astk = [] ∧ nS < s.saves.length ∧ nS < σ.stack.length) := by
  have hc := C05_endAtomic_cases c prog nS pc ix s σ h hpc
  have hge := h.len_ge
  cases hak : σ.astk with
  | cons count rest =>
    simp only [hak] at hc
    split at hc
    · rename_i hle
      obtain ⟨s', e, _⟩ := hc
      constructor
      · intro _; exact Or.inl ⟨count, rest, rfl, hle⟩
      · intro _ site hh; rw [e] at hh; cases hh
    · rename_i hle
      constructor
      · intro hn; exact absurd hc (hn _)
      · rintro (⟨c', r', e, hle'⟩ | ⟨e, _⟩)
        · cases e; exact absurd hle' hle
        · cases e
  | nil =>
    simp only [hak] at hc
    split at hc
    · rename_i hq
      constructor
      · intro hn; exact absurd hc (hn _)
      · rintro (⟨c', r', e, _⟩ | ⟨_, hlt, _⟩)
        · cases e
        · omega
    · rename_i hq
      split at hc
      · rename_i hle
        constructor
        · intro hn; exact absurd hc (hn _)
        · rintro (⟨c', r', e, _⟩ | ⟨_, _, hlt⟩)
          · cases e
          · omega
      · rename_i hle
        obtain ⟨s', e, _⟩ := hc
        constructor
        · intro _; exact Or.inr ⟨rfl, by omega, by omega⟩
        · intro _ site hh; rw [e] at hh; cases hh

/-- the disciplined case of `EndAtomic`: no panic and the next state is valid -/
theorem C05_endAtomic_ok (c : Ctx) (prog : List Insn) (nS pc ix : Nat) (s : State) (σ : SState)
    (h : Inv2 nS s σ) (hpc : prog[pc]? = some .endAtomic) (count : Nat) (rest : List Nat)
    (hak : σ.astk = count :: rest) (hle : count ≤ σ.stack.length) :
    ∃ s', step c prog pc ix s = .cont (pc + 1) ix s' ∧
      Inv2 nS s' ⟨σ.slots, rest, σ.stack.drop (σ.stack.length - count)⟩ := by
  have hc := C05_endAtomic_cases c prog nS pc ix s σ h hpc
  simp only [hak, hle, ↓reduceIte] at hc
  exact hc

/-- `FailNegativeLookAround` with the marker on the stack: no panic, the next state is valid -/
theorem C05_failNegLook_ok (c : Ctx) (prog : List Insn) (nS pc ix : Nat) (s : State) (σ : SState)
    (h : Inv2 nS s σ) (hpc : prog[pc]? = some .failNegLook)
    (pre : List SBranch) (b : SBranch) (rest : List SBranch)
    (hs : pre ++ b :: rest = σ.stack) (hb : b.pc = pc + 1) (hpre : ∀ x ∈ pre, x.pc ≠ pc + 1) :
    ∃ s', step c prog pc ix s = .fail s' ∧ Inv2 nS s' ⟨b.slots, b.astk, rest⟩ := by
  obtain ⟨s', e1, e2, _⟩ := rep_popUntil h (pc + 1) pre b rest hs hb hpre
  exact ⟨s', by unfold step; simp only [hpc, e1], e2⟩

/-- `FailNegativeLookAround` does not panic iff a branch with the marker pc is on the stack -/
theorem C05_failNegLook_no_panic_iff (c : Ctx) (prog : List Insn) (nS pc ix : Nat) (s : State) (σ : SState)
    (h : Inv2 nS s σ) (hpc : prog[pc]? = some .failNegLook) :
    (∀ site, step c prog pc ix s ≠ .done (.panic site)) ↔ ∃ b ∈ σ.stack, b.pc = pc + 1 := by
  constructor
  · intro hn
    apply Classical.byContradiction
    intro hne
    have hall : ∀ x ∈ σ.stack, x.pc ≠ pc + 1 := fun x hx hp => hne ⟨x, hx, hp⟩
    have := rep_popUntil_none (pc + 1) σ.stack (s.stack.length + 1) s σ h rfl hall
    apply hn "failNegLook pop"
    unfold step; simp only [hpc, this]
  · intro hex site hh
    obtain ⟨pre, b, rest, e, hb, hp⟩ := exists_first_pc (pc + 1) σ.stack hex
    obtain ⟨s', e1, _⟩ := C05_failNegLook_ok c prog nS pc ix s σ h hpc pre b rest e hb hp
    rw [e1] at hh; cases hh

/-- `copyGroups` succeeds when every group in range has the start unset or the end set -/
theorem c05_copyGroups_ok {nS : Nat} (r : St) (sg : Nat) :
    ∀ (n : Nat) (s : State) (σ : SState), Inv2 nS s σ → (sg + n) * 2 ≤ nS →
      (∀ g, sg ≤ g → g < sg + n → r.slot (g * 2) = none ∨ (r.slot (g * 2 + 1)).isSome) →
      ∃ s' sl', copyGroups r sg n s = some s' ∧ Inv2 nS s' { σ with slots := sl' } := by
  intro n
  induction n with
  | zero => intro s σ h _ _; exact ⟨s, σ.slots, rfl, h⟩
  | succ n ih =>
    intro s σ h hle hp
    obtain ⟨s1, sl1, e1, i1⟩ := ih s σ h (by omega) (fun g h1 h2 => hp g h1 (by omega))
    unfold copyGroups
    simp only [e1]
    rcases hp (sg + n) (by omega) (by omega) with hx | hy
    · simp only [hx]
      exact ⟨s1, sl1, rfl, i1⟩
    · cases hx : r.slot ((sg + n) * 2) with
      | none => exact ⟨s1, sl1, rfl, i1⟩
      | some a =>
        cases hy' : r.slot ((sg + n) * 2 + 1) with
        | none => rw [hy'] at hy; cases hy
        | some b =>
          simp only
          obtain ⟨s2, f1, i2, _⟩ := rep_save i1 ((sg + n) * 2) a (by omega)
          obtain ⟨s3, g1, i3, _⟩ := rep_save i2 ((sg + n) * 2 + 1) b (by omega)
          exact ⟨s3, _, by simp only [f1, Option.bind_some, g1], i3⟩

/-- … and fails (`inner_slots[..].unwrap()` on `None`) when some group in range has the start set
    and the end unset -/
theorem c05_copyGroups_none (r : St) (sg : Nat) :
    ∀ (n : Nat) (s : State),
      (∃ g, sg ≤ g ∧ g < sg + n ∧ (r.slot (g * 2)).isSome ∧ r.slot (g * 2 + 1) = none) →
      copyGroups r sg n s = none := by
  intro n
  induction n with
  | zero => intro s ⟨g, h1, h2, _⟩; omega
  | succ n ih =>
    intro s ⟨g, h1, h2, h3, h4⟩
    unfold copyGroups
    cases hrec : copyGroups r sg n s with
    | none => rfl
    | some s1 =>
      simp only
      by_cases hg : g = sg + n
      · subst hg
        cases hx : r.slot ((sg + n) * 2) with
        | none => rw [hx] at h3; cases h3
        | some a => simp only [h4]
      · have := ih s ⟨g, h1, by omega, h3, h4⟩
        rw [this] at hrec; cases hrec

/-- `Delegate` whose oracle result is well-formed: no panic, the next state is valid -/
theorem C05_delegate_ok (c : Ctx) (prog : List Insn) (nS pc ix : Nat) (s : State) (σ : SState)
    (h : Inv2 nS s σ) (es : List Expr) (sg eg : Nat) (hpc : prog[pc]? = some (.delegate es sg eg))
    (hle : eg * 2 ≤ nS)
    (hr : ∀ r, delegateOracle c es sg eg ix s.saves = some r → ∀ g, sg ≤ g → g < eg →
      r.slot (g * 2) = none ∨ (r.slot (g * 2 + 1)).isSome) :
    step c prog pc ix s = .fail s ∨
    ∃ ix' s' sl', step c prog pc ix s = .cont (pc + 1) ix' s' ∧ Inv2 nS s' { σ with slots := sl' } := by
  unfold step
  simp only [hpc]
  cases ho : delegateOracle c es sg eg ix s.saves with
  | none => left; rfl
  | some r =>
    right
    simp only
    by_cases hq : (sg == eg) = true
    · rw [if_pos hq]; exact ⟨r.ix, s, σ.slots, rfl, h⟩
    · rw [if_neg hq]
      by_cases hlt : sg ≤ eg
      · obtain ⟨s', sl', e1, e2⟩ := c05_copyGroups_ok (nS := nS) r sg (eg - sg) s σ h
          (by have : sg + (eg - sg) = eg := by omega
              rw [this]; exact hle)
          (fun g g1 g2 => hr r ho g g1 (by omega))
        simp only [e1]
        exact ⟨r.ix, s', sl', rfl, e2⟩
      · have : eg - sg = 0 := by omega
        simp only [this, copyGroups]
        exact ⟨r.ix, s, σ.slots, rfl, h⟩

/-- `Delegate` (its group slots inside the ordinary slots) does not panic iff the oracle's result has,
    for every group in range, the start unset or the end set -/
theorem C05_delegate_no_panic_iff (c : Ctx) (prog : List Insn) (nS pc ix : Nat) (s : State) (σ : SState)
    (h : Inv2 nS s σ) (es : List Expr) (sg eg : Nat) (hpc : prog[pc]? = some (.delegate es sg eg))
    (hle : eg * 2 ≤ nS) :
    (∀ site, step c prog pc ix s ≠ .done (.panic site)) ↔
      ∀ r, delegateOracle c es sg eg ix s.saves = some r → ∀ g, sg ≤ g → g < eg →
        r.slot (g * 2) = none ∨ (r.slot (g * 2 + 1)).isSome := by
  constructor
  · intro hn r ho g g1 g2
    apply Classical.byContradiction
    intro hbad
    have hx : (r.slot (g * 2)).isSome := by
      cases hx : r.slot (g * 2) with
      | none => exact absurd (Or.inl hx) hbad
      | some a => rfl
    have hy : r.slot (g * 2 + 1) = none := by
      cases hy : r.slot (g * 2 + 1) with
      | none => rfl
      | some b => exact absurd (Or.inr (by rw [hy]; rfl)) hbad
    have hcg := c05_copyGroups_none r sg (eg - sg) s ⟨g, g1, by omega, hx, hy⟩
    apply hn "delegate copy"
    unfold step
    have hq : (sg == eg) = false := by simp; omega
    simp only [hpc, ho, hq, Bool.false_eq_true, ↓reduceIte, hcg]
  · intro hr site hh
    rcases C05_delegate_ok c prog nS pc ix s σ h es sg eg hpc hle hr with e | ⟨_, _, _, e, _⟩
    · rw [e] at hh; cases hh
    · rw [e] at hh; cases hh

/-- the exact no-panic condition of each disciplined instruction on a state representing `σ` -/
def DiscOK (c : Ctx) (nS pc ix : Nat) (s : State) (σ : SState) : Insn → Prop
  | .endAtomic =>
    (∃ count rest, σ.astk = count :: rest ∧ count ≤ σ.stack.length) ∨
      (σ.astk = [] ∧ nS < s.saves.length ∧ nS < σ.stack.length)
  | .failNegLook => ∃ b ∈ σ.stack, b.pc = pc + 1
  | .delegate es sg eg =>
    eg * 2 ≤ nS ∧ ∀ r, delegateOracle c es sg eg ix s.saves = some r → ∀ g, sg ≤ g → g < eg →
      r.slot (g * 2) = none ∨ (r.slot (g * 2 + 1)).isSome
  | _ => True

/-- **no instruction panics**: every instruction whose slot operands lie inside the slot vector and
    which satisfies its discipline condition (`DiscOK`: trivial except for `EndAtomic`,
    `FailNegativeLookAround`, `Delegate`, and for those three exact) — on every state satisfying
    `Inv2`. Together with `prog[pc]? = none → panic "prog index"` these are all panic sites of `step`. -/
theorem C05_step_no_panic_all (c : Ctx) (prog : List Insn) (nS pc ix : Nat) (s : State) (σ : SState)
    (h : Inv2 nS s σ) (insn : Insn) (hpc : prog[pc]? = some insn)
    (hs : SlotsOK s.saves.length insn) (hd : DiscOK c nS pc ix s σ insn) :
    ∀ site, step c prog pc ix s ≠ .done (.panic site) := by
  by_cases hdisc : Disciplined insn = false
  · exact C05_step_no_panic c prog pc ix s h.inv insn hpc hs hdisc
  · cases insn with
    | beginAtomic =>
      intro site hh
      obtain ⟨s', e, _⟩ := C05_beginAtomic_ok c prog nS pc ix s σ h hpc
      rw [e] at hh; cases hh
    | endAtomic => exact (C05_endAtomic_no_panic_iff c prog nS pc ix s σ h hpc).mpr hd
    | failNegLook => exact (C05_failNegLook_no_panic_iff c prog nS pc ix s σ h hpc).mpr hd
    | delegate es sg eg => exact (C05_delegate_no_panic_iff c prog nS pc ix s σ h es sg eg hpc hd.1).mpr hd.2
    | _ => simp [Disciplined] at hdisc

/-- the loop's own panic site (`self.stack.pop().unwrap()` after a failure, taken only when the stack
    is non-empty) is unreachable from a state satisfying the undo-log invariant -/
theorem C05_pop_no_panic (s : State) (hi : Inv s) (hne : s.stack.isEmpty = false) : s.pop ≠ none := by
  cases hst : s.stack with
  | nil => rw [hst] at hne; cases hne
  | cons b rest =>
    obtain ⟨s', e, _⟩ := pop_spec s hi b rest hst
    rw [e]; intro hh; cases hh

/-- **wherever the structured machine is defined, the interpreter does not panic** — and its next
    state is again valid: `StepRel2` carries `Inv2` for the successor (`.cont` / `.fail`), or the step
    is the branch-stack cap `StackOverflow` -/
theorem C05_step_total (c : Ctx) (prog : List Insn) (nS pc ix : Nat) (s : State) (σ : SState)
    (h : Inv2 nS s σ) (hd : DelegOK c prog nS) (cfg' : SCfg)
    (hs : sstep c prog nS pc ix σ.slots σ.astk σ.stack = some cfg') :
    (∀ site, step c prog pc ix s ≠ .done (.panic site)) ∧ StepRel2 nS (step c prog pc ix s) cfg' := by
  have hrel := step_sim2 c prog nS pc ix s σ h hd cfg' hs
  refine ⟨?_, hrel⟩
  intro site hh
  rw [hh] at hrel
  cases hrel

/-- the successor state of a step the structured machine can take is valid -/
theorem C05_step_valid (c : Ctx) (prog : List Insn) (nS pc ix : Nat) (s : State) (σ : SState)
    (h : Inv2 nS s σ) (hd : DelegOK c prog nS) (cfg' : SCfg)
    (hs : sstep c prog nS pc ix σ.slots σ.astk σ.stack = some cfg') :
    (∀ pc' ix' s', step c prog pc ix s = .cont pc' ix' s' →
      ∃ σ', Inv2 nS s' σ' ∧ cfg' = .run pc' ix' σ'.slots σ'.astk σ'.stack) ∧
    (∀ s', step c prog pc ix s = .fail s' → ∃ σ', Inv2 nS s' σ' ∧ cfg' = .fail σ'.stack) := by
  have hrel := step_sim2 c prog nS pc ix s σ h hd cfg' hs
  constructor
  · intro pc' ix' s' hh
    rw [hh] at hrel
    cases hrel with
    | cont _ _ _ σ' hi => exact ⟨σ', hi, rfl⟩
  · intro s' hh
    rw [hh] at hrel
    cases hrel with
    | fail _ σ' hi => exact ⟨σ', hi, rfl⟩

/-! ### when `sstep` is defined -/

theorem c05_dropUntil_isSome (target : Nat) (l : List SBranch) (h : ∃ b ∈ l, b.pc = target) :
    (dropUntil target l).isSome := by
  induction l with
  | nil => obtain ⟨b, hb, _⟩ := h; cases hb
  | cons y ys ih =>
    unfold dropUntil
    by_cases hy : y.pc = target
    · simp [hy]
    · have : (y.pc == target) = false := by simp [hy]
      simp only [this, Bool.false_eq_true, ↓reduceIte]
      obtain ⟨b, hb, hbt⟩ := h
      rcases List.mem_cons.mp hb with rfl | hb
      · exact absurd hbt hy
      · exact ih ⟨b, hb, hbt⟩

theorem c05_copyGroupsA_ok (r : St) (sg : Nat) :
    ∀ (n : Nat) (sl : List Nat), (sg + n) * 2 ≤ sl.length →
      (∀ g, sg ≤ g → g < sg + n → r.slot (g * 2) = none ∨ (r.slot (g * 2 + 1)).isSome) →
      ∃ sl', copyGroupsA r sg n sl = some sl' ∧ sl'.length = sl.length := by
  intro n
  induction n with
  | zero => intro sl _ _; exact ⟨sl, rfl, rfl⟩
  | succ n ih =>
    intro sl hle hp
    obtain ⟨sl1, e1, l1⟩ := ih sl (by omega) (fun g h1 h2 => hp g h1 (by omega))
    unfold copyGroupsA
    simp only [e1]
    rcases hp (sg + n) (by omega) (by omega) with hx | hy
    · simp only [hx]; exact ⟨sl1, rfl, l1⟩
    · cases hx : r.slot ((sg + n) * 2) with
      | none => exact ⟨sl1, rfl, l1⟩
      | some a =>
        cases hy' : r.slot ((sg + n) * 2 + 1) with
        | none => rw [hy'] at hy; cases hy
        | some b =>
          simp only
          rw [if_pos (by omega)]
          exact ⟨_, rfl, by simp [l1]⟩

/-- the discipline conditions at the structured level -/
def DiscOKσ (c : Ctx) (nS pc ix : Nat) (slots astk : List Nat) (stack : List SBranch) : Insn → Prop
  | .end_ => False
  | .endAtomic => ∃ count rest, astk = count :: rest ∧ count ≤ stack.length
  | .failNegLook => ∃ b ∈ stack, b.pc = pc + 1
  | .delegate es sg eg =>
    eg * 2 ≤ nS ∧ ∀ r, delegateOracle c es sg eg ix slots = some r → ∀ g, sg ≤ g → g < eg →
      r.slot (g * 2) = none ∨ (r.slot (g * 2 + 1)).isSome
  | .restore slot => ∀ v, slots[slot]? = some v → v ≤ c.len
  | .repeatGr _ hi _ rep | .repeatNg _ hi _ rep => hi = none → ∀ v, slots[rep]? = some v → v ≤ c.len
  | _ => True

/-- **when the structured machine is defined**: at every instruction other than `End`, with slot
    operands inside the ordinary slots and the discipline condition of the instruction -/
theorem C05_sstep_defined (c : Ctx) (prog : List Insn) (nS pc ix : Nat) (slots astk : List Nat)
    (stack : List SBranch) (hl : slots.length = nS) (insn : Insn) (hpc : prog[pc]? = some insn)
    (hs : SlotsOK nS insn) (hd : DiscOKσ c nS pc ix slots astk stack insn) :
    (sstep c prog nS pc ix slots astk stack).isSome := by
  have hget : ∀ i, i < nS → ∃ v, slots[i]? = some v := fun i hi =>
    ⟨_, List.getElem?_eq_getElem (hl ▸ hi)⟩
  have ite {p : Prop} [Decidable p] {a b : Option SCfg} (ha : a.isSome) (hb : b.isSome) :
      (if p then a else b).isSome := by
    split <;> assumption
  unfold sstep
  simp only [hpc]
  cases insn with
  | end_ => exact hd.elim
  | any => simp only; split <;> rfl
  | anyNoNL =>
    simp only
    split
    · exact ite rfl rfl
    · rfl
  | lit val => exact ite rfl rfl
  | assertion a => exact ite rfl rfl
  | split x y => rfl
  | jmp t => rfl
  | save slot => simp only [if_pos (show slot < nS from hs)]; rfl
  | save0 slot => simp only [if_pos (show slot < nS from hs)]; rfl
  | restore slot =>
    obtain ⟨v, hv⟩ := hget slot hs
    simp only [if_pos (show slot < nS from hs), hv, if_pos (hd v hv)]; rfl
  | repeatGr lo hi next rep =>
    obtain ⟨v, hv⟩ := hget rep hs
    have hb : (hi == none && decide (c.len < v)) = false := by
      cases hi with
      | none => have := hd rfl v hv; simp; omega
      | some x => rfl
    simp only [if_pos (show rep < nS from hs), hv, hb, Bool.false_eq_true, ↓reduceIte]
    exact ite rfl (ite rfl rfl)
  | repeatNg lo hi next rep =>
    obtain ⟨v, hv⟩ := hget rep hs
    have hb : (hi == none && decide (c.len < v)) = false := by
      cases hi with
      | none => have := hd rfl v hv; simp; omega
      | some x => rfl
    simp only [if_pos (show rep < nS from hs), hv, hb, Bool.false_eq_true, ↓reduceIte]
    exact ite rfl (ite rfl rfl)
  | repeatEpsGr lo next rep check =>
    obtain ⟨v, hv⟩ := hget rep hs.1
    obtain ⟨w, hw⟩ := hget check hs.2
    simp only [if_pos (show rep < nS ∧ check < nS from hs), hv, hw]
    exact ite rfl (ite rfl rfl)
  | repeatEpsNg lo next rep check =>
    obtain ⟨v, hv⟩ := hget rep hs.1
    obtain ⟨w, hw⟩ := hget check hs.2
    simp only [if_pos (show rep < nS ∧ check < nS from hs), hv, hw]
    exact ite rfl (ite rfl rfl)
  | goBack n => simp only; split <;> rfl
  | failNegLook =>
    have := c05_dropUntil_isSome (pc + 1) stack hd
    simp only
    cases hdu : dropUntil (pc + 1) stack with
    | none => rw [hdu] at this; cases this
    | some rest => rfl
  | backref slot =>
    obtain ⟨v, hv⟩ := hget slot (Nat.lt_of_succ_lt hs)
    obtain ⟨w, hw⟩ := hget (slot + 1) hs
    simp only [if_pos (show slot + 1 < nS from hs), hv, hw]
    exact ite rfl (ite rfl (ite rfl rfl))
  | backrefExists g =>
    obtain ⟨v, hv⟩ := hget (g * 2) hs
    simp only [if_pos (show g * 2 < nS from hs), hv]
    exact ite rfl rfl
  | beginAtomic => rfl
  | endAtomic =>
    obtain ⟨count, rest, e, hle⟩ := hd
    simp only [e, if_pos hle]; rfl
  | delegate es sg eg =>
    obtain ⟨hle, hr⟩ := hd
    simp only
    cases ho : delegateOracle c es sg eg ix slots with
    | none => rfl
    | some r =>
      refine ite rfl ?_
      by_cases hlt : sg ≤ eg
      · obtain ⟨sl', e1, _⟩ := c05_copyGroupsA_ok r sg (eg - sg) slots
          (by rw [Nat.add_sub_cancel' hlt, hl]; exact hle)
          (fun g g1 g2 => hr r ho g g1 (by omega))
        simp only [e1]; rfl
      · have : eg - sg = 0 := by omega
        simp only [this, copyGroupsA]; rfl
  | contPrev => exact ite rfl rfl

/-! ### Part 1, concrete instances (`exS`, `exσ`, `exInv2` of Lemmas/AuxStack.lean: one pending
alternative with pc 5, auxiliary stack `[9]`; `exProg` of Lemmas/AVM2.lean) -/
example (c : Ctx) : ∃ s', step c exProg 1 7 exS = .cont 2 7 s' ∧ Inv2 2 s' { exσ with astk := 1 :: exσ.astk } :=
  C05_beginAtomic_ok c exProg 2 1 7 exS exσ exInv2 rfl

example (c : Ctx) : ∃ s s', Inv2 2 s { exσ with astk := 1 :: exσ.astk } ∧ step c exProg 3 7 s = .cont 4 7 s' := by
  obtain ⟨s, _, h, _⟩ := rep_stackPush exInv2 1
  obtain ⟨s', e, _⟩ := C05_endAtomic_ok c exProg 2 3 7 s _ h rfl 1 [9] rfl (by decide)
  exact ⟨s, s', h, e⟩

example (c : Ctx) : step c exProg 3 7 exS = .done (.panic "backtrack_cut") := by
  have := C05_endAtomic_cases c exProg 2 3 7 exS exσ exInv2 rfl
  simpa [exσ] using this

example (c : Ctx) : step c exProg 3 0 (State.new 2 10) = .done (.panic "stack_pop") := by
  have := C05_endAtomic_cases c exProg 2 3 0 _ _ (inv2_init 2 10) rfl
  simpa [State.new] using this

example (c : Ctx) : ∀ site, step c [.any, .any, .any, .any, .failNegLook] 4 0 exS ≠ .done (.panic site) :=
  (C05_failNegLook_no_panic_iff c _ 2 4 0 exS exσ exInv2 rfl).mpr ⟨⟨5, 1, [7, 8], []⟩, by simp [exσ], rfl⟩

example (c : Ctx) : ∀ site, step c exProg 4 3 exS ≠ .done (.panic site) := by
  refine (C05_delegate_no_panic_iff c exProg 2 4 3 exS exσ exInv2 [] 0 1 rfl (by decide)).mpr ?_
  intro r hr g _ hg
  have : g = 0 := by omega
  subst this
  simp only [delegateOracle, semKConcat, Option.some.injEq] at hr
  subst hr
  left
  simp [St.slot, clearGroups, viewSlots, exS]

example (c : Ctx) : ∀ site, step c [.any, .any, .any, .any, .failNegLook] 4 0 exS ≠ .done (.panic site) :=
  C05_step_no_panic_all c _ 2 4 0 exS exσ exInv2 .failNegLook rfl trivial
    ⟨⟨5, 1, [7, 8], []⟩, by simp [exσ], rfl⟩

example (c : Ctx) : ∀ site, step c exProg 1 7 exS ≠ .done (.panic site) :=
  (C05_step_total c exProg 2 1 7 exS exσ exInv2 (exDelegOK c) _ rfl).1

example (c : Ctx) : (sstep c exProg 2 3 0 [0, 0] [0] []).isSome :=
  C05_sstep_defined c exProg 2 3 0 [0, 0] [0] [] rfl .endAtomic rfl trivial ⟨0, [], rfl, by decide⟩

/-! ## Part 2: whole runs -/

theorem Good2_not_panic {nS : Nat} {out : Outcome} {a : Ans} (h : Good2 nS out a) :
    ∀ site, out ≠ .panic site := by
  intro site he
  subst he
  rcases h with h | h | h | h
  · cases h
  · cases h
  · cases h
  · cases a with
    | noMatch => cases h
    | matched sl => obtain ⟨_, h, _⟩ := h; cases h

/-- **a run never panics**: if the structured machine reaches an answer from `cfg`, then `runLoop`
    from ANY concrete state representing `cfg` (any fuel, any limits) never returns a panic -/
theorem C05_run_no_panic (c : Ctx) (prog : List Insn) (nS : Nat) (o : VMOpts) (hd : DelegOK c prog nS)
    (pc ix : Nat) (slots astk : List Nat) (stack : List SBranch) (a : Ans)
    (h : Big2 c prog nS (.run pc ix slots astk stack) a)
    (s : State) (hi : Inv2 nS s ⟨slots, astk, stack⟩) (fuel : Nat) (st : Stats) :
    ∀ site, (runLoop c prog o fuel pc ix s st).1 ≠ .panic site :=
  Good2_not_panic (link2 c prog nS o hd _ a h s _ hi rfl fuel st)

/-- the same from a failing configuration (what the loop does after a failed instruction) -/
theorem C05_run_no_panic_fail (c : Ctx) (prog : List Insn) (nS : Nat) (o : VMOpts) (hd : DelegOK c prog nS)
    (stack : List SBranch) (a : Ans) (h : Big2 c prog nS (.fail stack) a)
    (s : State) (σ : SState) (hi : Inv2 nS s σ) (hσ : σ.stack = stack) (fuel : Nat) (st : Stats) :
    ∀ site, (afterFail c prog o fuel s st).1 ≠ .panic site :=
  Good2_not_panic (link2 c prog nS o hd _ a h s σ hi hσ fuel st)

/-- … and from the initial configuration of `vm::run` -/
theorem C05_run_no_panic_initial (c : Ctx) (p : Prog) (o : VMOpts) (hd : DelegOK c p.body p.nSaves) (a : Ans)
    (h : Big2 c p.body p.nSaves (.run 0 c.pos (List.replicate p.nSaves UNSET) [] []) a) (fuel : Nat) :
    ∀ site, (run c p o fuel).1 ≠ .panic site :=
  Good2_not_panic (link2_initial c p o hd a h fuel)

example (c : Ctx) (o : VMOpts) (fuel : Nat) : ∀ site, (run c ⟨exProg, 2⟩ o fuel).1 ≠ .panic site :=
  C05_run_no_panic_initial c ⟨exProg, 2⟩ o (exDelegOK c) _ (exBig2 c) fuel

theorem VmCorrectR_not_panic {b : Built} {c : Ctx} (h : VmCorrectR b c) (limit fuel : Nat) :
    ∀ site, (b.captures c limit fuel).1 ≠ .panic site := by
  intro site he
  rcases h limit fuel with h | h | h | h
  · rw [he] at h; cases h
  · rw [he] at h; cases h
  · rw [he] at h; cases h
  · rw [he] at h
    cases hr : refSearch c b.raw b.nGroups with
    | none => rw [hr] at h; cases h
    | some f => rw [hr] at h; cases h

/-- a panic of the VM run is a panic of the search -/
theorem captures_panic_of_run (b : Built) (prog : Prog) (c : Ctx) (hk : b.kind = .fancy prog)
    (limit fuel : Nat) (site : String)
    (h : (run c prog ⟨limit, maxStackDefault⟩ fuel).1 = .panic site) :
    (b.captures c limit fuel).1 = .panic site := by
  unfold Built.captures
  simp only [hk]
  generalize run c prog ⟨limit, maxStackDefault⟩ fuel = res at h ⊢
  obtain ⟨out, st⟩ := res
  simp only at h
  subst h
  rfl

/-- **compiled programs of the proved stage never panic**: for every pattern in stage S2 whose program
    has no `Delegate`, every text, every start offset, every backtrack limit (and every fuel of the
    model's loop): neither the search (`captures`) nor the VM run it performs returns a panic -/
theorem C05_compiled_no_panic (tree : Expr) (backrefs : List Nat) (b : Built) (prog : Prog) (c : Ctx)
    (hb : build tree backrefs = .ok b) (hk : b.kind = .fancy prog)
    (hok : s2ok b.raw = true) (hnd : noDeleg prog.body = true)
    (hlen : c.len < UNSET) (hpos : c.pos ≤ c.len) (limit fuel : Nat) :
    ∀ site, (b.captures c limit fuel).1 ≠ .panic site ∧
      (run c prog ⟨limit, maxStackDefault⟩ fuel).1 ≠ .panic site := by
  intro site
  have h := VmCorrectR_not_panic (C01_vm_correct_s2 tree backrefs b prog c hb hk hok hnd hlen hpos) limit fuel
  exact ⟨h site, fun hr => h site (captures_panic_of_run b prog c hk limit fuel site hr)⟩


example (c : Ctx) (o : VMOpts) (fuel : Nat) (st : Stats) :
    ∀ site, (runLoop c exProg o fuel 0 c.pos (State.new 2 o.maxStack) st).1 ≠ .panic site :=
  C05_run_no_panic c exProg 2 o (exDelegOK c) _ _ _ _ _ _ (exBig2 c) _ (inv2_init 2 o.maxStack) fuel st

/-! ## Part 3: every reported offset is valid -/

mutual
/-- no capture group is nested inside a group with the same number (and `\K`, which writes slot 0, is
    not inside a group numbered 0): true of every tree numbered by `renumber` from `n ≥ 1` -/
def noSelfNest : Expr → Bool
  | .group g e => !(ownSlots e).contains (2 * g) && noSelfNest e
  | .concat es => noSelfNestAll es
  | .alt es => noSelfNestAll es
  | .look e _ => noSelfNest e
  | .repeat e _ _ _ => noSelfNest e
  | .atomic e => noSelfNest e
  | .cond c y n => noSelfNest c && noSelfNest y && noSelfNest n
  | _ => true
def noSelfNestAll : List Expr → Bool
  | [] => true
  | e :: es => noSelfNest e && noSelfNestAll es
end

theorem noSelfNestAll_mem : ∀ (es : List Expr), noSelfNestAll es = true → ∀ e ∈ es, noSelfNest e = true
  | [], _, e, he => by cases he
  | x :: xs, h, e, he => by
    simp only [noSelfNestAll, Bool.and_eq_true] at h
    rcases List.mem_cons.mp he with rfl | he
    · exact h.1
    · exact noSelfNestAll_mem xs h.2 e he

/-- the pair of group `g` is ordered (vacuous unless both ends are set) -/
def PairOK (st : St) (g : Nat) : Prop :=
  ∀ a b, st.slot (2 * g) = some a → st.slot (2 * g + 1) = some b → a ≤ b

/-- what every result of every expression satisfies w.r.t. the state it started from: the position
    did not move backwards, and every ordered pair (groups `≥ 1`) is still ordered -/
def PairAdv (st r : St) : Prop := st.ix ≤ r.ix ∧ ∀ g, 1 ≤ g → PairOK st g → PairOK r g

theorem PairAdv.refl (st : St) : PairAdv st st := ⟨Nat.le_refl _, fun _ _ h => h⟩
theorem PairAdv.trans {a b d : St} (h1 : PairAdv a b) (h2 : PairAdv b d) : PairAdv a d :=
  ⟨Nat.le_trans h1.1 h2.1, fun g hg h => h2.2 g hg (h1.2 g hg h)⟩
theorem PairAdv.withIx {st r : St} (h : PairAdv st r) (k : Nat) (hk : st.ix ≤ k) : PairAdv st { r with ix := k } :=
  ⟨hk, h.2⟩
theorem PairAdv.ofIx (st : St) (k : Nat) (hk : st.ix ≤ k) : PairAdv st { st with ix := k } :=
  (PairAdv.refl st).withIx k hk

theorem c05_slot_setSlot_ne (st : St) (i j : Nat) (v : Option Nat) (h : i ≠ j) :
    (st.setSlot i v).slot j = st.slot j := by
  simp only [St.slot, St.setSlot]
  rw [List.getElem?_set_ne h]

theorem c05_slot_setSlot_self (st : St) (i v b : Nat) (h : (st.setSlot i (some v)).slot i = some b) : b = v := by
  simp only [St.slot, St.setSlot] at h
  by_cases hi : i < st.slots.length
  · rw [List.getElem?_set_self hi] at h
    simp at h; exact h.symm
  · rw [List.getElem?_eq_none (by simp; omega)] at h
    simp at h

theorem PairOK_setSlot_ne (st : St) (i g : Nat) (v : Option Nat) (h1 : i ≠ 2 * g) (h2 : i ≠ 2 * g + 1) :
    PairOK (st.setSlot i v) g ↔ PairOK st g := by
  unfold PairOK
  rw [c05_slot_setSlot_ne st i _ v h1, c05_slot_setSlot_ne st i _ v h2]

/-- pairs only (a look-behind body starts at an earlier position) -/
def PairKeeps (st r : St) : Prop := ∀ g, 1 ≤ g → PairOK st g → PairOK r g

theorem noSelfNest_behindAlts {e : Expr} (hn : noSelfNest e = true) : ∀ e' ∈ e.behindAlts, noSelfNest e' = true := by
  cases e with
  | alt es => exact noSelfNestAll_mem es (by simpa only [noSelfNest] using hn)
  | _ => intro e' he'; rw [List.mem_singleton.1 he']; exact hn

/-- every result of every (not self-nested) expression: position not before the start, ordered
    pairs stay ordered -/
theorem sem_adv (c : Ctx) : ∀ (e : Expr) (st r : St), noSelfNest e = true → r ∈ sem c e st → PairAdv st r := by
  intro e
  induction e using Expr.inductBehind with
  | empty => intro st r _ h; exact mem_sem_empty h ▸ PairAdv.refl _
  | any nl => intro st r _ h; exact (mem_sem_any h).1 ▸ PairAdv.ofIx st _ (Nat.le_succ _)
  | assertion a => intro st r _ h; exact mem_sem_assertion h ▸ PairAdv.refl _
  | literal val casei => intro st r _ h; exact (mem_sem_literal h).1 ▸ PairAdv.ofIx st _ (Nat.le_add_right _ _)
  | concat es ih =>
    intro st r hn h
    simp only [sem] at h; simp only [noSelfNest] at hn
    exact semConcat_rel_of PairAdv.refl (fun _ _ _ => PairAdv.trans) c es
      (fun e he st r => ih e he st r (noSelfNestAll_mem es hn e he)) st r h
  | alt es ih =>
    intro st r hn h
    simp only [sem] at h; simp only [noSelfNest] at hn
    exact semAlt_rel_of c es (fun e he st r => ih e he st r (noSelfNestAll_mem es hn e he)) st r h
  | group g e ih =>
    intro st r hn h
    obtain ⟨r', hr', rfl⟩ := mem_sem_group h
    simp only [noSelfNest, Bool.and_eq_true, Bool.not_eq_eq_eq_not, Bool.not_true] at hn
    have hown : 2 * g ∉ ownSlots e := by
      intro hm
      have := List.contains_iff_mem.mpr hm
      rw [hn.1] at this; cases this
    have h1 := ih _ r' hn.2 hr'
    refine ⟨by simpa [St.setSlot] using h1.1, ?_⟩
    intro g' hg' hp
    by_cases hgg : g' = g
    · subst hgg
      intro a b ha hb
      rw [c05_slot_setSlot_ne _ _ _ _ (by omega)] at ha
      have hfr := C02_frame c e _ r' hr' (2 * g') hown
      have ha' : (st.setSlot (2 * g') (some st.ix)).slot (2 * g') = some a := by
        simp only [St.slot] at ha ⊢
        rw [← hfr]; exact ha
      have e1 := c05_slot_setSlot_self _ _ _ _ ha'
      have e2 := c05_slot_setSlot_self _ _ _ _ hb
      have := h1.1
      simp only [St.setSlot] at this
      omega
    · rw [PairOK_setSlot_ne _ _ _ _ (by omega) (by omega)]
      apply h1.2 g' hg'
      rw [PairOK_setSlot_ne _ _ _ _ (by omega) (by omega)]
      exact hp
  | look e la ih iha =>
    intro st r hn h
    simp only [noSelfNest] at hn
    cases la with
    | ahead =>
      obtain ⟨r', hr', rfl⟩ := mem_sem_ahead h
      exact (ih st r' hn hr').withIx _ (Nat.le_refl _)
    | aheadNeg => exact mem_sem_aheadNeg h ▸ PairAdv.refl _
    | behind =>
      obtain ⟨r', hr', rfl⟩ := mem_sem_behind h
      exact ⟨Nat.le_refl _, semBehindAlts_rel_of (T := PairKeeps) (fun _ _ _ _ hk => hk) c e.behindAlts
        (fun e' he' st r hr => (iha e' he' st r (noSelfNest_behindAlts hn e' he') hr).2) st r' hr'⟩
    | behindNeg => exact mem_sem_behindNeg h ▸ PairAdv.refl _
  | «repeat» e lo hi greedy ih =>
    intro st r hn h
    simp only [sem] at h
    simp only [noSelfNest] at hn
    exact repLoop_rel PairAdv.refl (fun _ _ _ => PairAdv.trans) (sem c e)
      (fun st r hr => ih st r hn hr) lo hi greedy _ 0 st r h
  | delegate inner size casei =>
    intro st r _ h
    obtain ⟨k, rfl, _, _⟩ := mem_sem_delegate h
    exact PairAdv.ofIx st _ (Nat.le_add_right _ _)
  | backref g =>
    intro st r _ h
    obtain ⟨k, rfl, _⟩ := mem_sem_backref h
    exact PairAdv.ofIx st _ (Nat.le_add_right _ _)
  | atomic e ih => intro st r hn h; exact ih st r (by simpa only [noSelfNest] using hn) (mem_sem_atomic h)
  | keepOut =>
    intro st r _ h
    rw [mem_sem_keepOut h]
    refine ⟨Nat.le_refl _, fun g hg hp => ?_⟩
    rw [PairOK_setSlot_ne _ _ _ _ (by omega) (by omega)]
    exact hp
  | contPrev => intro st r _ h; exact mem_sem_contPrev h ▸ PairAdv.refl _
  | backrefExists g => intro st r _ h; exact mem_sem_backrefExists h ▸ PairAdv.refl _
  | cond cnd y f ihc ihy ihf =>
    intro st r hn h
    simp only [noSelfNest, Bool.and_eq_true] at hn
    rcases mem_sem_cond h with ⟨r1, hr1, hr⟩ | hr
    · exact (ihc st r1 hn.1.1 hr1).trans (ihy r1 r hn.1.2 hr)
    · exact ihf st r hn.2 hr
  | subroutine g => intro st r _ h; exact absurd h not_mem_sem_subroutine

/-! ### trees numbered by `renumber` are not self-nested -/

mutual
theorem ownSlots_renumber : ∀ (e : Expr) (n i : Nat), i ∈ ownSlots (renumber e n).1 → i = 0 ∨ 2 * n ≤ i
  | .group g e, n, i, h => by
    simp only [renumber, ownSlots, List.mem_cons] at h
    rcases h with h | h | h
    · omega
    · omega
    · have := ownSlots_renumber e (n + 1) i h; omega
  | .concat es, n, i, h => by
    simp only [renumber, ownSlots] at h; exact ownSlotsList_renumber es n i h
  | .alt es, n, i, h => by
    simp only [renumber, ownSlots] at h; exact ownSlotsList_renumber es n i h
  | .look e la, n, i, h => by
    simp only [renumber, ownSlots] at h; exact ownSlots_renumber e n i h
  | .repeat e lo hi gr, n, i, h => by
    simp only [renumber, ownSlots] at h; exact ownSlots_renumber e n i h
  | .atomic e, n, i, h => by
    simp only [renumber, ownSlots] at h; exact ownSlots_renumber e n i h
  | .cond cnd y f, n, i, h => by
    simp only [renumber, ownSlots, List.mem_append] at h
    have r1 := renumber_snd cnd n
    have r2 := renumber_snd y (renumber cnd n).2
    rcases h with (h | h) | h
    · exact ownSlots_renumber cnd n i h
    · have := ownSlots_renumber y _ i h; omega
    · have := ownSlots_renumber f _ i h; omega
  | .keepOut, n, i, h => by simp [renumber, ownSlots] at h; exact Or.inl h
  | .empty, _, _, h | .any _, _, _, h | .assertion _, _, _, h | .literal _ _, _, _, h
  | .delegate _ _ _, _, _, h | .contPrev, _, _, h | .subroutine _, _, _, h | .backref _, _, _, h
  | .backrefExists _, _, _, h => by simp [renumber, ownSlots] at h
theorem ownSlotsList_renumber : ∀ (es : List Expr) (n i : Nat), i ∈ ownSlotsList (renumberList es n).1 →
    i = 0 ∨ 2 * n ≤ i
  | [], _, _, h => by simp [renumberList, ownSlotsList] at h
  | e :: es, n, i, h => by
    simp only [renumberList, ownSlotsList, List.mem_append] at h
    have r1 := renumber_snd e n
    rcases h with h | h
    · exact ownSlots_renumber e n i h
    · have := ownSlotsList_renumber es _ i h; omega
end

mutual
theorem noSelfNest_renumber : ∀ (e : Expr) (n : Nat), 1 ≤ n → noSelfNest (renumber e n).1 = true
  | .group g e, n, hn => by
    simp only [renumber, noSelfNest, Bool.and_eq_true, Bool.not_eq_eq_eq_not, Bool.not_true]
    refine ⟨?_, noSelfNest_renumber e (n + 1) (by omega)⟩
    cases hc : (ownSlots (renumber e (n + 1)).1).contains (2 * n) with
    | false => rfl
    | true =>
      have := ownSlots_renumber e (n + 1) (2 * n) (List.contains_iff_mem.mp hc)
      omega
  | .concat es, n, hn => by simp only [renumber, noSelfNest]; exact noSelfNestAll_renumber es n hn
  | .alt es, n, hn => by simp only [renumber, noSelfNest]; exact noSelfNestAll_renumber es n hn
  | .look e la, n, hn => by simp only [renumber, noSelfNest]; exact noSelfNest_renumber e n hn
  | .repeat e lo hi gr, n, hn => by simp only [renumber, noSelfNest]; exact noSelfNest_renumber e n hn
  | .atomic e, n, hn => by simp only [renumber, noSelfNest]; exact noSelfNest_renumber e n hn
  | .cond cnd y f, n, hn => by
    simp only [renumber, noSelfNest, Bool.and_eq_true]
    have r1 := renumber_snd cnd n
    have r2 := renumber_snd y (renumber cnd n).2
    exact ⟨⟨noSelfNest_renumber cnd n hn, noSelfNest_renumber y _ (by omega)⟩,
      noSelfNest_renumber f _ (by omega)⟩
  | .empty, _, _ | .any _, _, _ | .assertion _, _, _ | .literal _ _, _, _
  | .delegate _ _ _, _, _ | .contPrev, _, _ | .subroutine _, _, _ | .backref _, _, _
  | .backrefExists _, _, _ | .keepOut, _, _ => by simp [renumber, noSelfNest]
theorem noSelfNestAll_renumber : ∀ (es : List Expr) (n : Nat), 1 ≤ n → noSelfNestAll (renumberList es n).1 = true
  | [], _, _ => by simp [renumberList, noSelfNestAll]
  | e :: es, n, hn => by
    simp only [renumberList, noSelfNestAll, Bool.and_eq_true]
    have r1 := renumber_snd e n
    exact ⟨noSelfNest_renumber e n hn, noSelfNestAll_renumber es _ (by omega)⟩
end

theorem build_noSelfNest (tree : Expr) (backrefs : List Nat) (b : Built) (h : build tree backrefs = .ok b) :
    noSelfNest b.raw = true := by
  rw [build_raw tree backrefs b h]; exact noSelfNest_renumber tree 1 (Nat.le_refl _)

/-! ### what a search reports -/

/-- validity of a reported slot vector (`n` slots): every set offset is inside the text, every group
    with both ends set has `start ≤ end`, and the overall span satisfies
    `pos ≤ start ≤ end ≤ len` -/
structure SlotsValid (c : Ctx) (n : Nat) (slots : List (Option Nat)) : Prop where
  len : slots.length = n
  le_len : ∀ v, some v ∈ slots → v ≤ c.len
  pairs : ∀ g a b, slots[2 * g]? = some (some a) → slots[2 * g + 1]? = some (some b) → a ≤ b
  span : 1 < n → ∃ s e, slots[0]? = some (some s) ∧ slots[1]? = some (some e) ∧
    c.pos ≤ s ∧ s ≤ e ∧ e ≤ c.len

theorem c05_slot_eq_of_getElem? (st : St) (i a : Nat) (h : st.slots[i]? = some (some a)) : st.slot i = some a := by
  simp [St.slot, h]

/-- what `finish` makes of a result of the expression started at `start ∈ [pos, len]` -/
theorem finish_valid (c : Ctx) (e : Expr) (nG start : Nat) (r : St) (hn : noSelfNest e = true)
    (hps : c.pos ≤ start) (hsl : start ≤ c.len)
    (hr : r ∈ sem c e ⟨start, (initSlots nG).set 0 (some start)⟩) :
    SlotsValid c (2 * nG) (finish c r).slots := by
  have h0 : (⟨start, initSlots nG⟩ : St).Good c (2 * nG) :=
    ⟨hsl, by simp [initSlots], by intro v hv; simp [initSlots] at hv⟩
  have hg : r.Good c (2 * nG) := sem_good c _ e _ r (h0.setSlot 0 start hsl) hr
  have ha := sem_adv c e _ r hn hr
  have hix : start ≤ r.ix := ha.1
  have hrl := hg.ix
  have hl := hg.len
  -- the capped start
  have hs0 : ∀ s0, s0 = (if (if (r.slot 0).getD r.ix > r.ix then r.ix else (r.slot 0).getD r.ix) < c.pos then c.pos
        else (if (r.slot 0).getD r.ix > r.ix then r.ix else (r.slot 0).getD r.ix)) →
      c.pos ≤ s0 ∧ s0 ≤ r.ix := by
    intro s0 h
    subst h
    split <;> (try split) <;> omega
  simp only [finish]
  generalize hs0' : (if (if (r.slot 0).getD r.ix > r.ix then r.ix else (r.slot 0).getD r.ix) < c.pos then c.pos
        else (if (r.slot 0).getD r.ix > r.ix then r.ix else (r.slot 0).getD r.ix)) = s0
  obtain ⟨b1, b2⟩ := hs0 s0 hs0'.symm
  refine ⟨by simp [hl], ?_, ?_, ?_⟩
  · intro v hv
    rcases List.mem_or_eq_of_mem_set hv with hm | he
    · rcases List.mem_or_eq_of_mem_set hm with hm2 | he2
      · exact hg.vals v hm2
      · cases he2; omega
    · cases he; exact hrl
  · intro g a b ha' hb'
    by_cases hg0 : g = 0
    · subst hg0
      simp only [Nat.mul_zero, Nat.zero_add] at ha' hb'
      rw [List.getElem?_set_ne (by omega), List.getElem?_set] at ha'
      rw [List.getElem?_set] at hb'
      simp only [↓reduceIte, List.length_set] at ha' hb'
      split at ha'
      · split at hb'
        · cases ha'; cases hb'; exact b2
        · cases hb'
      · cases ha'
    · rw [List.getElem?_set_ne (by omega), List.getElem?_set_ne (by omega)] at ha' hb'
      have hp0 : PairOK ⟨start, (initSlots nG).set 0 (some start)⟩ g := by
        intro a' b' h1 _
        simp only [St.slot, initSlots] at h1
        rw [List.getElem?_set_ne (by omega)] at h1
        simp only [List.getElem?_replicate] at h1
        split at h1 <;> simp at h1
      exact ha.2 g (by omega) hp0 a b (c05_slot_eq_of_getElem? r _ a ha') (c05_slot_eq_of_getElem? r _ b hb')
  · intro h1
    refine ⟨s0, r.ix, ?_, ?_, b1, b2, hrl⟩
    · rw [List.getElem?_set_ne (by omega), List.getElem?_set_self (by omega)]
    · rw [List.getElem?_set_self (by simp; omega)]

theorem c05_scanFrom_some (c : Ctx) (e : Expr) (nG : Nat) : ∀ (n start : Nat) (f : Found),
    scanFrom c e nG n start = some f →
    ∃ k r, k < n ∧ r ∈ sem c e ⟨start + k, (initSlots nG).set 0 (some (start + k))⟩ ∧ f = finish c r := by
  intro n
  induction n with
  | zero => intro start f h; simp [scanFrom] at h
  | succ n ih =>
    intro start f h
    unfold scanFrom at h
    cases hh : (sem c e ⟨start, (initSlots nG).set 0 (some start)⟩).head? with
    | some r =>
      simp only [hh, Option.some.injEq] at h
      exact ⟨0, r, by omega, List.mem_of_mem_head? hh, h.symm⟩
    | none =>
      simp only [hh] at h
      obtain ⟨k, r, hk, hr, hf⟩ := ih (start + 1) f h
      refine ⟨k + 1, r, by omega, ?_, hf⟩
      have : start + 1 + k = start + (k + 1) := by omega
      rw [this] at hr; exact hr

/-- **the reference search reports valid offsets only**, for every not self-nested expression -/
theorem refSearch_valid (c : Ctx) (e : Expr) (nG : Nat) (hn : noSelfNest e = true) (f : Found)
    (h : refSearch c e nG = some f) : SlotsValid c (2 * nG) f.slots := by
  unfold refSearch at h
  split at h
  · rename_i hpos
    obtain ⟨k, r, hk, hr, rfl⟩ := c05_scanFrom_some c e nG _ _ f h
    exact finish_valid c e nG (c.pos + k) r hn (by omega) (by omega) hr
  · cases h

/-- **every reported offset is valid** (stage S2 programs, VM path): whenever a search of a pattern
    of the proved stage reports a match, the reported vector has the `2 * n_groups` capture slots,
    every reported slot is `≤` the text length, every reported group has `start ≤ end`, and the
    overall span satisfies `pos ≤ start ≤ end ≤ len`. (Offsets are character positions; the byte
    offsets of character positions are exactly the character boundaries: `C05_boundary_iff`.) -/
theorem C05_offsets_valid (tree : Expr) (backrefs : List Nat) (b : Built) (prog : Prog) (c : Ctx)
    (hb : build tree backrefs = .ok b) (hk : b.kind = .fancy prog)
    (hok : s2ok b.raw = true) (hnd : noDeleg prog.body = true)
    (hlen : c.len < UNSET) (hpos : c.pos ≤ c.len) (limit fuel : Nat) (slots : List (Option Nat))
    (hfound : (b.captures c limit fuel).1 = .found slots) :
    SlotsValid c (2 * b.nGroups) slots := by
  have h := C01_vm_correct_s2 tree backrefs b prog c hb hk hok hnd hlen hpos limit fuel
  rw [hfound] at h
  rcases h with h | h | h | h
  · cases h
  · cases h
  · cases h
  · cases href : refSearch c b.raw b.nGroups with
    | none => rw [href] at h; cases h
    | some f =>
      rw [href] at h
      simp only [SearchResult.found.injEq] at h
      subst h
      exact refSearch_valid c b.raw b.nGroups (build_noSelfNest tree backrefs b hb) f href

/-- the same on the Wrap path (whole pattern handed to the automata engine, modelled by the reference
    search: assumption A-RA) — for every pattern -/
theorem C05_offsets_valid_wrap (tree : Expr) (backrefs : List Nat) (b : Built) (c : Ctx)
    (hb : build tree backrefs = .ok b) (hk : b.kind = .wrap) (limit fuel : Nat)
    (slots : List (Option Nat)) (hfound : (b.captures c limit fuel).1 = .found slots) :
    SlotsValid c (2 * b.nGroups) slots := by
  unfold Built.captures at hfound
  simp only [hk, C01_refSearchK_eq] at hfound
  cases href : refSearch c b.raw b.nGroups with
  | none => rw [href] at hfound; cases hfound
  | some f =>
    rw [href] at hfound
    simp only [SearchResult.found.injEq] at hfound
    subst hfound
    exact refSearch_valid c b.raw b.nGroups (build_noSelfNest tree backrefs b hb) f href


/-! ### Part 3, concrete instances -/

/-- the hypothesis of `sem_adv` / `refSearch_valid` holds of a concrete tree -/
example : noSelfNest exTree2 = true := by
  simp [noSelfNest, noSelfNestAll, ownSlots, exTree2]

/-- why `sem_adv` needs `noSelfNest`: with a group nested inside a look-ahead inside a group of the
    SAME number — `(?<1>(?=x(?<1>a)))` on `xa` — the reference semantics yields the pair `(1, 0)`.
    `renumber` never produces such a tree (`noSelfNest_renumber`). -/
def c05Ctx : Ctx := ⟨['x', 'a'], 0, false, fun _ => false, fun _ _ _ => false, fun _ a b => a == b⟩

example : sem c05Ctx (.group 1 (.look (.concat [.literal ['x'] false, .group 1 (.literal ['a'] false)]) .ahead))
    ⟨0, [none, none, none, none]⟩ = [⟨0, [none, none, some 1, some 0]⟩] := by
  simp [sem, semConcat, Ctx.litAt, Ctx.at?, firstOnly, St.setSlot, c05Ctx]

/-- shape of a successful stage-S2 check (the decidable side conditions the driver evaluates) -/
theorem s2AndNoDeleg_spec (tree : Expr) (backrefs : List Nat) (h : s2AndNoDeleg tree backrefs = true) :
    ∃ b prog, build tree backrefs = .ok b ∧ b.kind = .fancy prog ∧ s2ok b.raw = true ∧
      noDeleg prog.body = true := by
  unfold s2AndNoDeleg at h
  cases hb : build tree backrefs with
  | error e => simp [hb] at h
  | ok b =>
    simp only [hb] at h
    cases hk : b.kind with
    | wrap => simp [hk] at h
    | fancy prog =>
      simp only [hk, Bool.and_eq_true] at h
      exact ⟨b, prog, rfl, hk, h.1, h.2⟩

/-- `C05_compiled_no_panic` and `C05_offsets_valid` in the form the driver checks per pattern -/
theorem C05_checked (tree : Expr) (backrefs : List Nat) (h : s2AndNoDeleg tree backrefs = true) (c : Ctx)
    (hlen : c.len < UNSET) (hpos : c.pos ≤ c.len) (limit fuel : Nat) :
    ∃ b, build tree backrefs = .ok b ∧ (∀ site, (b.captures c limit fuel).1 ≠ .panic site) ∧
      ∀ slots, (b.captures c limit fuel).1 = .found slots → SlotsValid c (2 * b.nGroups) slots := by
  obtain ⟨b, prog, hb, hk, hok, hnd⟩ := s2AndNoDeleg_spec tree backrefs h
  exact ⟨b, hb, fun site => (C05_compiled_no_panic tree backrefs b prog c hb hk hok hnd hlen hpos limit fuel site).1,
    fun slots hf => C05_offsets_valid tree backrefs b prog c hb hk hok hnd hlen hpos limit fuel slots hf⟩

set_option linter.unusedSimpArgs false in
/-- non-vacuity: `(a)(?>\1|b)(?=c)` (group, atomic group over a hard alternation, look-ahead) -/
example (c : Ctx) (hlen : c.len < UNSET) (hpos : c.pos ≤ c.len) (limit fuel : Nat) :
    ∃ b, build exTree2 [1] = .ok b ∧ (∀ site, (b.captures c limit fuel).1 ≠ .panic site) ∧
      ∀ slots, (b.captures c limit fuel).1 = .found slots → SlotsValid c (2 * b.nGroups) slots :=
  C05_checked exTree2 [1] (by
    simp [s2AndNoDeleg, build, exTree2, wrapTree, renumber, renumberList, checkRefs, checkRefsList, isHard, isHardAny,
      compile, visit, visitMiddle, visitAlt, concatSplit, groupCount, groupCountList, constSize, constSizeAll, minSize, minSizeMin,
      allMinSize, compileDelegates, compileDelegate, isLiteral, isLiteralAll, s2ok, s2okAll, condFree, condFreeAll, noDeleg,
      Insn.isDelegate, boundsEq, satMul, sureReps, UNSET, Assertion.isHard, wrapPosLook, posLookBodyPc, pushLiteral])
    c hlen hpos limit fuel

end Fancy
