import FancyModel.Model.Utf8
import FancyModel.Model.VM
/-!
# C05b — the UTF-8 layer: byte offsets of character positions

The engine model indexes the text by code point; the Rust code indexes by byte.  This file is the
bridge (DESIGN.md §3.1): for a text `cs : List Nat` of scalar values, `text := encode cs` is its
UTF-8 encoding and `off cs k := (encode (cs.take k)).length` is the byte offset of the `k`-th
character.  The theorems say that the byte-level helpers of `src/lib.rs` / `src/vm.rs`
(`codepoint_len`, `next_utf8`, `prev_codepoint_ix`, `is_char_boundary`, `&text[a..b]`, `GoBack`,
`Lit`) act on the offsets `off cs k` exactly as "+1 / -1 / substring / prefix" act on character
positions `k`.

Remark on hypotheses.  The structural theorems below hold for **every** `cs : List Nat`, not only for
lists of scalar values (the encoder's lead byte is `≥ 0xf0` for everything `≥ 0x10000`, so the shape of
the encoding never depends on the upper bound), hence they carry no scalar hypothesis.
`isScalar` is needed exactly once: `C05_bytes_lt_256` (the encoder really produces bytes, and lead
bytes `≤ 0xf4`).
-/
namespace Fancy.Utf8

/-- Unicode scalar value: in range and not a surrogate -/
def isScalar (c : Nat) : Prop := c < 0x110000 ∧ ¬ (0xD800 ≤ c ∧ c < 0xE000)

instance : DecidablePred isScalar := fun c => by unfold isScalar; exact inferInstance

/-- byte offset of the `k`-th character of `cs` in `encode cs` -/
def off (cs : List Nat) (k : Nat) : Nat := (encode (cs.take k)).length

/-! ## the encoder -/

theorem encode_nil : encode [] = [] := rfl

theorem encode_cons (c : Nat) (cs : List Nat) : encode (c :: cs) = encodeChar c ++ encode cs := by
  simp [encode]

theorem encode_append (a b : List Nat) : encode (a ++ b) = encode a ++ encode b := by
  simp [encode]

/-- the encoding is the base-64 digits of `c` under the marker bits of lead and continuation bytes -/
theorem encodeChar_cases (c : Nat) :
    c < 0x80 ∧ encodeChar c = [c] ∨
    (∃ q r, c = q * 64 + r ∧ q < 32 ∧ r < 64 ∧ encodeChar c = [0xc0 + q, 0x80 + r]) ∨
    (∃ q r s, c = (q * 64 + r) * 64 + s ∧ q < 16 ∧ r < 64 ∧ s < 64 ∧
      encodeChar c = [0xe0 + q, 0x80 + r, 0x80 + s]) ∨
    (∃ q r s t, c = ((q * 64 + r) * 64 + s) * 64 + t ∧ r < 64 ∧ s < 64 ∧ t < 64 ∧
      encodeChar c = [0xf0 + q, 0x80 + r, 0x80 + s, 0x80 + t]) := by
  have m (n : Nat) : n % 64 < 64 := Nat.mod_lt _ (by decide)
  have e2 : c / 64 / 64 = c / 4096 := Nat.div_div_eq_div_mul c 64 64
  have e3 : c / 4096 / 64 = c / 262144 := Nat.div_div_eq_div_mul c 4096 64
  by_cases h1 : c < 0x80
  · exact .inl ⟨h1, if_pos h1⟩
  by_cases h2 : c < 0x800
  · exact .inr (.inl ⟨c / 64, c % 64, (Nat.div_add_mod' c 64).symm, Nat.div_lt_of_lt_mul h2, m c,
      (if_neg h1).trans (if_pos h2)⟩)
  by_cases h3 : c < 0x10000
  · refine .inr (.inr (.inl ⟨c / 64 / 64, c / 64 % 64, c % 64, ?_,
      Nat.div_lt_of_lt_mul (Nat.div_lt_of_lt_mul (k := 64 * 16) h3), m _, m c, ?_⟩))
    · rw [Nat.div_add_mod', Nat.div_add_mod']
    · rw [e2]; exact (if_neg h1).trans ((if_neg h2).trans (if_pos h3))
  · refine .inr (.inr (.inr ⟨c / 64 / 64 / 64, c / 64 / 64 % 64, c / 64 % 64, c % 64, ?_, m _, m _,
      m c, ?_⟩))
    · rw [Nat.div_add_mod', Nat.div_add_mod', Nat.div_add_mod']
    · rw [e2, e3]; exact (if_neg h1).trans ((if_neg h2).trans (if_neg h3))

theorem isLead_of_ge (b : Nat) (h : 0xc0 ≤ b) : isLead b = true := by
  simp [isLead, h]

theorem isLead_cont (r : Nat) (h : r < 64) : isLead (0x80 + r) = false := by
  simp [isLead]; omega

/-- shape of one encoded character: a lead byte whose `codepointLen` is the length of the encoding,
followed by continuation bytes only -/
theorem encodeChar_shape (c : Nat) :
    ∃ b rest, encodeChar c = b :: rest ∧ isLead b = true ∧ codepointLen b = rest.length + 1 ∧
      ∀ x ∈ rest, isLead x = false := by
  rcases encodeChar_cases c with ⟨h, he⟩ | ⟨q, r, -, hq, hr, he⟩ | ⟨q, r, s, -, hq, hr, hs, he⟩ |
      ⟨q, r, s, t, -, hr, hs, ht, he⟩
  · exact ⟨_, _, he, by simp [isLead, h], if_pos h, by simp⟩
  · exact ⟨_, _, he, isLead_of_ge _ (by omega), (if_neg (by omega)).trans (if_pos (by omega)),
      by simp [isLead_cont, hr]⟩
  · exact ⟨_, _, he, isLead_of_ge _ (by omega),
      (if_neg (by omega)).trans ((if_neg (by omega)).trans (if_pos (by omega))),
      by simp [isLead_cont, hr, hs]⟩
  · exact ⟨_, _, he, isLead_of_ge _ (by omega),
      (if_neg (by omega)).trans ((if_neg (by omega)).trans (if_neg (by omega))),
      by simp [isLead_cont, hr, hs, ht]⟩

theorem encodeChar_length_pos (c : Nat) : 0 < (encodeChar c).length := by
  obtain ⟨b, rest, he, _⟩ := encodeChar_shape c
  simp [he]

theorem encodeChar_length_le (c : Nat) : (encodeChar c).length ≤ 4 := by
  rcases encodeChar_cases c with ⟨_, he⟩ | ⟨_, _, _, _, _, he⟩ | ⟨_, _, _, _, _, _, _, he⟩ |
      ⟨_, _, _, _, _, _, _, _, he⟩ <;> simp [he]

/-- reads a scalar value back off the front of a byte string: the lead byte alone says how many
bytes belong to it -/
def decodeFront (l : Bytes) : Nat :=
  if l.getD 0 0 < 0x80 then l.getD 0 0
  else if l.getD 0 0 < 0xe0 then (l.getD 0 0 - 0xc0) * 64 + (l.getD 1 0 - 0x80)
  else if l.getD 0 0 < 0xf0 then
    ((l.getD 0 0 - 0xe0) * 64 + (l.getD 1 0 - 0x80)) * 64 + (l.getD 2 0 - 0x80)
  else (((l.getD 0 0 - 0xf0) * 64 + (l.getD 1 0 - 0x80)) * 64 + (l.getD 2 0 - 0x80)) * 64
    + (l.getD 3 0 - 0x80)

theorem decodeFront_encodeChar (c : Nat) (X : Bytes) : decodeFront (encodeChar c ++ X) = c := by
  rcases encodeChar_cases c with ⟨h, he⟩ | ⟨q, r, rfl, hq, _, he⟩ | ⟨q, r, s, rfl, hq, _, _, he⟩ |
      ⟨q, r, s, t, rfl, _, _, _, he⟩ <;>
    simp only [he, decodeFront, List.cons_append, List.getD_cons_zero, List.getD_cons_succ,
      Nat.add_sub_cancel_left]
  · exact if_pos h
  · rw [if_neg (by omega), if_pos (by omega)]
  · rw [if_neg (by omega), if_neg (by omega), if_pos (by omega)]
  · rw [if_neg (by omega), if_neg (by omega), if_neg (by omega)]

/-- the encoder is injective and, more strongly, prefix-free -/
theorem encodeChar_prefix_free (c d : Nat) (X Y : Bytes)
    (h : encodeChar c ++ X <+: encodeChar d ++ Y) : c = d := by
  obtain ⟨t, ht⟩ := h
  rw [← decodeFront_encodeChar c (X ++ t), ← List.append_assoc, ht, decodeFront_encodeChar]

theorem encode_split (cs : List Nat) (k : Nat) :
    encode cs = encode (cs.take k) ++ encode (cs.drop k) := by
  rw [← encode_append, List.take_append_drop]

theorem encode_split3 (cs : List Nat) (k : Nat) (h : k < cs.length) :
    encode cs = encode (cs.take k) ++ (encodeChar cs[k] ++ encode (cs.drop (k + 1))) := by
  rw [← encode_cons, ← List.drop_eq_getElem_cons h]
  exact encode_split cs k

/-! ## offsets -/

theorem off_zero (cs : List Nat) : off cs 0 = 0 := by simp [off, encode]

theorem off_succ (cs : List Nat) (k : Nat) (h : k < cs.length) :
    off cs (k + 1) = off cs k + (encodeChar cs[k]).length := by
  unfold off
  rw [List.take_succ_eq_append_getElem h, encode_append]
  simp [encode]

theorem off_of_ge (cs : List Nat) (k : Nat) (h : cs.length ≤ k) :
    off cs k = (encode cs).length := by
  unfold off
  rw [List.take_of_length_le h]

theorem off_length (cs : List Nat) : off cs cs.length = (encode cs).length :=
  off_of_ge cs _ (Nat.le_refl _)

theorem off_le_length (cs : List Nat) (k : Nat) : off cs k ≤ (encode cs).length := by
  have := congrArg List.length (encode_split cs k)
  simp only [List.length_append] at this
  unfold off
  omega

theorem off_lt_succ (cs : List Nat) (k : Nat) (h : k < cs.length) : off cs k < off cs (k + 1) := by
  have := encodeChar_length_pos cs[k]
  rw [off_succ cs k h]
  omega

theorem off_lt_of_lt (cs : List Nat) (j k : Nat) (hjk : j < k) (hk : k ≤ cs.length) :
    off cs j < off cs k := by
  induction k with
  | zero => omega
  | succ k ih =>
    have h1 := off_lt_succ cs k (by omega)
    by_cases hj : j = k
    · subst hj; exact h1
    · have := ih (by omega) (by omega); omega

theorem off_le_of_le (cs : List Nat) (j k : Nat) (hjk : j ≤ k) (hk : k ≤ cs.length) :
    off cs j ≤ off cs k := by
  by_cases h : j = k
  · subst h; exact Nat.le_refl _
  · exact Nat.le_of_lt (off_lt_of_lt cs j k (by omega) hk)

theorem off_add (cs : List Nat) (a n : Nat) :
    off cs (a + n) = off cs a + (encode ((cs.drop a).take n)).length := by
  unfold off
  rw [List.take_add, encode_append, List.length_append]

theorem drop_off (cs : List Nat) (k : Nat) : (encode cs).drop (off cs k) = encode (cs.drop k) := by
  rw [encode_split cs k]
  unfold off
  simp

/-- the bytes of the `k`-th character sit at `off cs k …` -/
theorem get_at (cs : List Nat) (k j : Nat) (h : k < cs.length)
    (hj : j < (encodeChar cs[k]).length) :
    (encode cs)[off cs k + j]? = (encodeChar cs[k])[j]? := by
  rw [encode_split3 cs k h]
  have hoff : off cs k = (encode (cs.take k)).length := rfl
  rw [List.getElem?_append_right (by omega), hoff, Nat.add_sub_cancel_left,
    List.getElem?_append_left hj]

/-- every byte position lies inside exactly one character -/
theorem cover (cs : List Nat) (i : Nat) (hi : i < (encode cs).length) :
    ∃ k, ∃ h : k < cs.length, off cs k ≤ i ∧ i < off cs k + (encodeChar cs[k]).length := by
  have gen : ∀ n, n ≤ cs.length → i < off cs n →
      ∃ k, ∃ h : k < cs.length, off cs k ≤ i ∧ i < off cs k + (encodeChar cs[k]).length := by
    intro n
    induction n with
    | zero => intro _ h; rw [off_zero] at h; omega
    | succ n ih =>
      intro hn h
      by_cases h' : i < off cs n
      · exact ih (by omega) h'
      · refine ⟨n, by omega, by omega, ?_⟩
        rw [off_succ cs n (by omega)] at h
        exact h
  exact gen cs.length (Nat.le_refl _) (by rw [off_length]; exact hi)

theorem lead_at (cs : List Nat) (k : Nat) (h : k < cs.length) :
    ∃ b, (encode cs)[off cs k]? = some b ∧ isLead b = true ∧
      codepointLen b = (encodeChar cs[k]).length := by
  obtain ⟨b, rest, he, hl, hc, _⟩ := encodeChar_shape cs[k]
  have := get_at cs k 0 h (encodeChar_length_pos _)
  rw [Nat.add_zero, he] at this
  refine ⟨b, by simpa using this, hl, ?_⟩
  rw [he, hc]; simp

theorem cont_at (cs : List Nat) (k j : Nat) (h : k < cs.length) (hj0 : 0 < j)
    (hj : j < (encodeChar cs[k]).length) :
    ∃ b, (encode cs)[off cs k + j]? = some b ∧ isLead b = false := by
  obtain ⟨b, rest, he, _, _, hr⟩ := encodeChar_shape cs[k]
  have := get_at cs k j h hj
  rw [he] at this hj
  obtain ⟨j', rfl⟩ : ∃ j', j = j' + 1 := ⟨j - 1, by omega⟩
  have hj' : j' < rest.length := Nat.lt_of_succ_lt_succ hj
  rw [List.getElem?_cons_succ, List.getElem?_eq_getElem hj'] at this
  exact ⟨rest[j'], this, hr _ (List.getElem_mem hj')⟩

/-! ## 1. character boundaries are exactly the character offsets -/

/-- `is_char_boundary(text, i)` holds exactly for the byte offsets of character positions
`0 … cs.length`.  (No restriction on `i`: beyond `text.length` both sides are false, see
`C05_boundary_beyond`.) -/
theorem C05_boundary_iff (cs : List Nat) (i : Nat) :
    isBoundary (encode cs) i = true ↔ ∃ k, k ≤ cs.length ∧ i = off cs k := by
  constructor
  · intro hb
    simp only [isBoundary, Bool.or_eq_true, beq_iff_eq] at hb
    rcases hb with (h0 | hlen) | hlead
    · exact ⟨0, by omega, by rw [off_zero]; exact h0⟩
    · exact ⟨cs.length, Nat.le_refl _, by rw [off_length]; exact hlen⟩
    · cases hget : (encode cs)[i]? with
      | none => rw [hget] at hlead; simp at hlead
      | some b =>
        rw [hget] at hlead
        simp only at hlead
        have hi : i < (encode cs).length := by
          rcases List.getElem?_eq_some_iff.mp hget with ⟨h, _⟩; exact h
        obtain ⟨k, hk, hle, hlt⟩ := cover cs i hi
        by_cases hj : i = off cs k
        · exact ⟨k, by omega, hj⟩
        · obtain ⟨b', hb', hnl⟩ := cont_at cs k (i - off cs k) hk (by omega) (by omega)
          rw [show off cs k + (i - off cs k) = i by omega, hget] at hb'
          cases hb'
          rw [hlead] at hnl; cases hnl
  · rintro ⟨k, hk, rfl⟩
    simp only [isBoundary, Bool.or_eq_true, beq_iff_eq]
    by_cases hk' : k = cs.length
    · subst hk'; exact Or.inl (Or.inr (off_length cs))
    · obtain ⟨b, hb, hl, _⟩ := lead_at cs k (by omega)
      right
      rw [hb]; exact hl

/-- beyond the end of the text nothing is a boundary (and nothing is a character offset) -/
theorem C05_boundary_beyond (cs : List Nat) (i : Nat) (hi : (encode cs).length < i) :
    isBoundary (encode cs) i = false := by
  cases h : isBoundary (encode cs) i with
  | false => rfl
  | true =>
    obtain ⟨k, _, rfl⟩ := (C05_boundary_iff cs i).mp h
    have := off_le_length cs k
    omega

example : isBoundary (encode [0x61, 0xe9, 0x20ac, 0x1f600]) 3 = true ∧
    isBoundary (encode [0x61, 0xe9, 0x20ac, 0x1f600]) 4 = false ∧
    off [0x61, 0xe9, 0x20ac, 0x1f600] 2 = 3 := by decide

/-! ## 2. stepping forward one character -/

/-- `next_utf8` from a character offset lands on the next character offset, and `codepoint_len`
of the byte there (what `Insn::Any` adds) is the encoded length of that character. -/
theorem C05_next_boundary (cs : List Nat) (k : Nat) (hk : k < cs.length) :
    nextUtf8 (encode cs) (off cs k) = off cs (k + 1) ∧
    ∃ h : off cs k < (encode cs).length,
      codepointLen ((encode cs)[off cs k]'h) = (encodeChar cs[k]).length := by
  obtain ⟨b, hb, _, hc⟩ := lead_at cs k hk
  obtain ⟨hlt, hget⟩ := List.getElem?_eq_some_iff.mp hb
  refine ⟨?_, hlt, ?_⟩
  · simp only [nextUtf8, hb]
    rw [off_succ cs k hk, hc]
  · rw [hget, hc]

/-- at the end of the text `next_utf8` goes to `len + 1` (the `None => i + 1` arm), which is the
only way it leaves the set of character offsets -/
theorem C05_next_at_end (cs : List Nat) :
    nextUtf8 (encode cs) (off cs cs.length) = (encode cs).length + 1 := by
  unfold nextUtf8
  rw [off_length, List.getElem?_eq_none (Nat.le_refl _)]

example : nextUtf8 (encode [0x61, 0xe9, 0x20ac, 0x1f600]) (off [0x61, 0xe9, 0x20ac, 0x1f600] 2)
    = off [0x61, 0xe9, 0x20ac, 0x1f600] 3 := by decide

/-! ## 3. stepping back one character -/

theorem prev_aux (cs : List Nat) (k j : Nat) (h : k < cs.length)
    (hj : j < (encodeChar cs[k]).length) :
    prevCodepointIx (encode cs) (off cs k + j + 1) = some (off cs k) := by
  induction j with
  | zero =>
    obtain ⟨b, hb, hl, _⟩ := lead_at cs k h
    rw [prevCodepointIx, hb]
    simp [hl]
  | succ j ih =>
    obtain ⟨b, hb, hl⟩ := cont_at cs k (j + 1) h (by omega) hj
    rw [prevCodepointIx, hb]
    simp only [hl]
    exact ih (by omega)

/-- `prev_codepoint_ix` from the offset of character position `k > 0` does not underflow and lands
exactly on the offset of position `k - 1`; at `0` it would underflow (the VM checks `ix == 0`
first). -/
theorem C05_prev_boundary (cs : List Nat) :
    (∀ k, 0 < k → k ≤ cs.length →
      prevCodepointIx (encode cs) (off cs k) = some (off cs (k - 1))) ∧
    prevCodepointIx (encode cs) 0 = none := by
  refine ⟨?_, rfl⟩
  intro k hk0 hk
  obtain ⟨k', rfl⟩ : ∃ k', k = k' + 1 := ⟨k - 1, by omega⟩
  have hlen := encodeChar_length_pos cs[k']
  have := prev_aux cs k' ((encodeChar cs[k']).length - 1) (by omega) (by omega)
  rw [off_succ cs k' (by omega), Nat.add_sub_cancel]
  rw [show off cs k' + ((encodeChar cs[k']).length - 1) + 1
      = off cs k' + (encodeChar cs[k']).length by omega] at this
  exact this

example : prevCodepointIx (encode [0x61, 0xe9, 0x20ac, 0x1f600])
    (off [0x61, 0xe9, 0x20ac, 0x1f600] 4) = some (off [0x61, 0xe9, 0x20ac, 0x1f600] 3) := by decide

/-! ## 4. offsets are strictly increasing; `GoBack n` -/

/-- `off` is strictly increasing on `0 … cs.length`, starts at `0`, ends at `text.length` -/
theorem C05_off_strict_mono (cs : List Nat) :
    (∀ j k, j < k → k ≤ cs.length → off cs j < off cs k) ∧
    off cs 0 = 0 ∧ off cs cs.length = (encode cs).length :=
  ⟨off_lt_of_lt cs, off_zero cs, off_length cs⟩

/-- a character is between one and four bytes: `off (k+1) - off k ∈ {1,…,4}` -/
theorem C05_off_step (cs : List Nat) (k : Nat) (hk : k < cs.length) :
    off cs k + 1 ≤ off cs (k + 1) ∧ off cs (k + 1) ≤ off cs k + 4 := by
  have h1 := encodeChar_length_pos cs[k]
  have h2 := encodeChar_length_le cs[k]
  rw [off_succ cs k hk]
  omega

/-- byte-level `Insn::GoBack(count)` of src/vm.rs:
`for _ in 0..count { if ix == 0 { break 'fail } ix = prev_codepoint_ix(s, ix) }`.
Outer `none` = panic (index underflow / out of range inside `prev_codepoint_ix`),
`some none` = the thread fails, `some (some ix)` = continue at byte `ix`. -/
def goBackBytes (text : Bytes) : Nat → Nat → Option (Option Nat)
  | 0, ix => some (some ix)
  | n + 1, ix =>
    if ix = 0 then some none
    else match prevCodepointIx text ix with
      | none => none
      | some ix' => goBackBytes text n ix'

/-- going back `n` characters from character position `k ≥ n`, byte-wise, lands on `off (k - n)` -/
theorem C05_goback_chars (cs : List Nat) (n k : Nat) (hk : k ≤ cs.length) (hn : n ≤ k) :
    goBackBytes (encode cs) n (off cs k) = some (some (off cs (k - n))) := by
  induction n generalizing k with
  | zero => rfl
  | succ n ih =>
    have hpos : off cs 0 < off cs k := off_lt_of_lt cs 0 k (by omega) hk
    rw [off_zero] at hpos
    rw [goBackBytes, if_neg (by omega), (C05_prev_boundary cs).1 k (by omega) hk]
    simp only
    rw [ih (k - 1) (by omega) (by omega)]
    rw [show k - 1 - n = k - (n + 1) by omega]

/-- … and from a position `k < n` the thread fails (never panics) -/
theorem C05_goback_fail (cs : List Nat) (n k : Nat) (hk : k ≤ cs.length) (hn : k < n) :
    goBackBytes (encode cs) n (off cs k) = some none := by
  induction n generalizing k with
  | zero => omega
  | succ n ih =>
    by_cases hk0 : k = 0
    · subst hk0; rw [off_zero]; rfl
    · have hpos : off cs 0 < off cs k := off_lt_of_lt cs 0 k (by omega) hk
      rw [off_zero] at hpos
      rw [goBackBytes, if_neg (by omega), (C05_prev_boundary cs).1 k (by omega) hk]
      simp only
      exact ih (k - 1) (by omega) (by omega)

/-- the byte-level `GoBack` is the model's code-point `goBack` transported along `off` -/
theorem C05_goback_model (cs : List Nat) (n k : Nat) (hk : k ≤ cs.length) :
    goBackBytes (encode cs) n (off cs k) = some ((Fancy.goBack k n).map (off cs)) := by
  unfold Fancy.goBack
  by_cases hn : n ≤ k
  · rw [C05_goback_chars cs n k hk hn, if_pos hn]; rfl
  · rw [C05_goback_fail cs n k hk (by omega), if_neg hn]; rfl

example : goBackBytes (encode [0x61, 0xe9, 0x20ac, 0x1f600]) 2
    (off [0x61, 0xe9, 0x20ac, 0x1f600] 3) = some (some (off [0x61, 0xe9, 0x20ac, 0x1f600] 1)) := by
  decide

/-! ## 5. slicing between character positions -/

/-- `&text[off a .. off b]` never panics and is the encoding of the characters `a … b-1` -/
theorem C05_slice_ok (cs : List Nat) (a b : Nat) (hab : a ≤ b) (hb : b ≤ cs.length) :
    slice (encode cs) (off cs a) (off cs b) = some (encode ((cs.drop a).take (b - a))) := by
  have h1 : off cs a ≤ off cs b := off_le_of_le cs a b hab hb
  have h2 : off cs b ≤ (encode cs).length := off_le_length cs b
  have h3 : isBoundary (encode cs) (off cs a) = true :=
    (C05_boundary_iff cs _).mpr ⟨a, by omega, rfl⟩
  have h4 : isBoundary (encode cs) (off cs b) = true :=
    (C05_boundary_iff cs _).mpr ⟨b, hb, rfl⟩
  have h5 : off cs b = off cs a + (encode ((cs.drop a).take (b - a))).length := by
    rw [← off_add]; congr 1; omega
  unfold slice
  rw [if_pos (by simp [h1, h2, h3, h4])]
  rw [drop_off, h5, Nat.add_sub_cancel_left]
  congr 1
  rw [encode_split (cs.drop a) (b - a)]
  simp

example : slice (encode [0x61, 0xe9, 0x20ac, 0x1f600]) (off [0x61, 0xe9, 0x20ac, 0x1f600] 1)
    (off [0x61, 0xe9, 0x20ac, 0x1f600] 3) = some (encode [0xe9, 0x20ac]) := by decide

/-! ## 6. literals: UTF-8 is prefix-free -/

theorem encode_prefix_iff (l₁ l₂ : List Nat) : encode l₁ <+: encode l₂ ↔ l₁ <+: l₂ := by
  constructor
  · intro h
    induction l₁ generalizing l₂ with
    | nil => exact List.nil_prefix
    | cons c l₁ ih =>
      cases l₂ with
      | nil =>
        rw [encode_nil, List.prefix_nil, encode_cons] at h
        have := encodeChar_length_pos c
        have h' := congrArg List.length h
        rw [List.length_append, List.length_nil] at h'
        omega
      | cons d l₂ =>
        rw [encode_cons, encode_cons] at h
        have hcd := encodeChar_prefix_free c d _ _ h
        subst hcd
        rw [List.prefix_append_right_inj] at h
        rw [List.cons_prefix_cons]
        exact ⟨rfl, ih l₂ h⟩
  · rintro ⟨t, rfl⟩
    rw [encode_append]
    exact List.prefix_append _ _

/-- `Insn::Lit`: the bytes of `encode lit` occur at byte offset `off k` iff `lit` is a prefix of the
characters from position `k` on … -/
theorem C05_lit_prefix (cs lit : List Nat) (k : Nat) :
    encode lit <+: (encode cs).drop (off cs k) ↔ lit <+: cs.drop k := by
  rw [drop_off, encode_prefix_iff]

/-- … in the form `matches_literal` computes it (`s.as_bytes()[ix..ix_end] == val`) … -/
theorem C05_lit_prefix_take (cs lit : List Nat) (k : Nat) :
    ((encode cs).drop (off cs k)).take (encode lit).length = encode lit ↔ lit <+: cs.drop k := by
  rw [← C05_lit_prefix cs lit k, List.prefix_iff_eq_take]
  exact eq_comm

/-- … and then the end `ix_end = ix + val.len()` is the offset of character position
`k + lit.length`, a character boundary inside the text. -/
theorem C05_lit_end (cs lit : List Nat) (k : Nat) (hk : k ≤ cs.length) (h : lit <+: cs.drop k) :
    off cs k + (encode lit).length = off cs (k + lit.length) ∧
    k + lit.length ≤ cs.length ∧
    isBoundary (encode cs) (off cs k + (encode lit).length) = true := by
  have hlen : lit.length ≤ cs.length - k := by
    have := h.length_le; simpa using this
  have h1 : off cs k + (encode lit).length = off cs (k + lit.length) := by
    have ht : (cs.drop k).take lit.length = lit := (List.prefix_iff_eq_take.mp h).symm
    rw [off_add, ht]
  refine ⟨h1, by omega, ?_⟩
  rw [h1]
  exact (C05_boundary_iff cs _).mpr ⟨_, by omega, rfl⟩

example : encode [0xe9, 0x20ac] <+:
    (encode [0x61, 0xe9, 0x20ac, 0x1f600]).drop (off [0x61, 0xe9, 0x20ac, 0x1f600] 1) := by
  rw [C05_lit_prefix]; decide

/-! ## the encoder produces bytes; counting characters -/

theorem encodeChar_lt_256 (c : Nat) (h : isScalar c) : ∀ b ∈ encodeChar c, b < 256 := by
  have hc : c < 0x110000 := h.1
  rcases encodeChar_cases c with ⟨h, he⟩ | ⟨q, r, rfl, hq, _, he⟩ | ⟨q, r, s, rfl, hq, _, _, he⟩ |
      ⟨q, r, s, t, rfl, _, _, _, he⟩ <;> simp [he] <;> omega

/-- for scalar values the encoding consists of bytes -/
theorem C05_bytes_lt_256 (cs : List Nat) (hcs : ∀ c ∈ cs, isScalar c) :
    ∀ b ∈ encode cs, b < 256 := by
  intro b hb
  unfold encode at hb
  obtain ⟨c, hc, hbc⟩ := List.mem_flatMap.mp hb
  exact encodeChar_lt_256 c (hcs c hc) b hbc

/-- the number of lead bytes is the number of characters (what "counting characters, not bytes"
means at byte level, cf. C13) -/
theorem C05_count_lead (cs : List Nat) : (encode cs).countP isLead = cs.length := by
  induction cs with
  | nil => rfl
  | cons c cs ih =>
    obtain ⟨b, rest, he, hl, _, hr⟩ := encodeChar_shape c
    rw [encode_cons, List.countP_append, ih, he, List.countP_cons_of_pos hl]
    have : rest.countP isLead = 0 := by
      rw [List.countP_eq_zero]
      intro x hx; rw [hr x hx]; simp
    simp [this]; omega

example : (∀ c ∈ [0x61, 0xe9, 0x20ac, 0x1f600], isScalar c) := by decide

end Fancy.Utf8
