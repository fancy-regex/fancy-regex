import FancyModel.Proofs.C13
import FancyModel.Lemmas.SemGood
import FancyModel.Model.Compile
import FancyModel.Model.VM
import FancyModel.Lemmas.ExprInduct
/-!
# C13b — exactness of the static size facts, and the look-behind "go back" rule

* `C13_const_exact`: an expression judged constant-size matches **exactly** `minSize` characters.
* `C13_lookbehind_exact`: for such a body, the specification's look-behind ("some start `j ≤ ix`
  has a result ending exactly at `ix`") equals what the compiled code does ("go back `minSize`
  characters, run the body, do not check where it ends; fail if that would be before the start").
* `C13_goback`: `goBack` fails rather than reading before the start of the text.
* `C13_accept_*`: which look-behinds the compiler accepts (`C13_accept_iff`, `C13_accept_iff_alt`).

Finding (not a defect of the crate): `constSize`/`minSize` are NOT exact for the bare node
`Delegate{"\n*$", size 0}` (`C13_const_exact_false_for_bare_endZ`), and a look-behind whose body is
that bare node would be decided wrongly by "go back 0" (second `example` of section 2). The parser
only produces the node as `LookAround(Delegate{..}, LookAhead)` (src/parse.rs, escape `\Z`), which
is covered by `noBareEndZ`; the real crate gives the expected answers for `(?<=a\Z)`, `(?<=\Z)`.

Side conditions of exactness (each one is necessary, see the `example`s next to the theorems):
* `wellShaped` (literals are one character: `min_size` counts a literal as 1);
* `noBareEndZ`: no `Delegate{"\n*$", size 0}` (`\Z`) outside a look-around. That node is declared
  size 0 / constant-size by the analyzer but consumes the trailing newlines. The parser only ever
  produces it directly under a look-ahead, which restores the position.
* `r.ix ≤ st.ix + UNSET`: the analyzer's sums saturate at `usize::MAX`, so an expression whose true
  size exceeds `usize::MAX` has `minSize = UNSET`, which is then not its size. The hypothesis says
  the distance actually matched fits `usize`; it is implied by the conclusion whenever
  `minSize e ≤ UNSET` (`C06_sizes_no_overflow`), so it is the weakest possible
  (`C13_const_exact_bound_necessary`).
-/
namespace Fancy

/-! ## repetition loops with equal bounds -/

theorem repLoop_mono (body : St → List St) (hbody : ∀ st r, r ∈ body st → st.ix ≤ r.ix)
    (lo : Nat) (hi : Option Nat) (greedy : Bool) (fuel count : Nat) (st r : St)
    (h : r ∈ repLoop body lo hi greedy fuel count st) : st.ix ≤ r.ix := by
  have := repLoop_min body 0 (fun st r hr => by have := hbody st r hr; omega) lo hi greedy fuel count st r h
  simpa using this

/-- `{lo,lo}`: exactly `lo` iterations -/
theorem repLoop_exact_some (body : St → List St) (m B : Nat)
    (hmono : ∀ st r, r ∈ body st → st.ix ≤ r.ix)
    (hbody : ∀ st r, r ∈ body st → r.ix ≤ st.ix + B → r.ix = st.ix + m)
    (lo : Nat) (greedy : Bool) (fuel count : Nat) (st r : St) (hc : count ≤ lo)
    (h : r ∈ repLoop body lo (some lo) greedy fuel count st) (hB : r.ix ≤ st.ix + B) :
    r.ix = st.ix + (lo - count) * m := by
  induction fuel generalizing count st r with
  | zero => simp [repLoop] at h
  | succ fuel ih =>
    unfold repLoop at h
    split at h
    · rename_i hhi
      simp only [List.mem_singleton] at h
      subst h
      have : lo = count := by simpa using hhi
      subst this; simp
    · rename_i hhi
      have hlt : count < lo := by
        have : lo ≠ count := by simpa using hhi
        omega
      simp only [hlt, if_true] at h
      simp only [List.mem_flatMap] at h
      obtain ⟨r', hr', hmem⟩ := h
      simp only [Option.isNone_some, Bool.false_and, Bool.false_eq_true, if_false] at hmem
      have h1 := hmono st r' hr'
      have h2 := repLoop_mono body hmono lo (some lo) greedy fuel (count + 1) r' r hmem
      have h3 := hbody st r' hr' (by omega)
      have h4 := ih (count + 1) r' r (by omega) hmem (by omega)
      have : lo - count = (lo - (count + 1)) + 1 := by omega
      rw [this, Nat.add_mul]; omega

/-- `{lo,}`: at least `lo` iterations -/
theorem repLoop_exact_none (body : St → List St) (m B : Nat)
    (hmono : ∀ st r, r ∈ body st → st.ix ≤ r.ix)
    (hbody : ∀ st r, r ∈ body st → r.ix ≤ st.ix + B → r.ix = st.ix + m)
    (lo : Nat) (greedy : Bool) (fuel count : Nat) (st r : St)
    (h : r ∈ repLoop body lo none greedy fuel count st) (hB : r.ix ≤ st.ix + B) :
    ∃ k, lo ≤ count + k ∧ r.ix = st.ix + k * m := by
  induction fuel generalizing count st r with
  | zero => simp [repLoop] at h
  | succ fuel ih =>
    unfold repLoop at h
    simp only [reduceCtorEq, if_false] at h
    have hiters : ∀ q, q ∈ ((body st).flatMap fun r' =>
          if (none : Option Nat).isNone && decide (lo ≤ count) && r'.ix == st.ix then [r']
          else repLoop body lo none greedy fuel (count + 1) r') → q.ix ≤ st.ix + B →
        ∃ k, lo ≤ count + k ∧ q.ix = st.ix + k * m := by
      intro q hq hqB
      simp only [List.mem_flatMap] at hq
      obtain ⟨r', hr', hmem⟩ := hq
      have h1 := hmono st r' hr'
      split at hmem
      · rename_i hcond
        simp only [List.mem_singleton] at hmem
        subst hmem
        simp only [Bool.and_eq_true, decide_eq_true_eq] at hcond
        have h3 := hbody st q hr' hqB
        exact ⟨1, by omega, by omega⟩
      · have h2 := repLoop_mono body hmono lo none greedy fuel (count + 1) r' q hmem
        have h3 := hbody st r' hr' (by omega)
        obtain ⟨k, hk1, hk2⟩ := ih (count + 1) r' q hmem (by omega)
        refine ⟨k + 1, by omega, ?_⟩
        rw [Nat.add_mul]; omega
    split at h
    · exact hiters r h hB
    · rename_i hcl
      split at h
      · rcases List.mem_append.mp h with h | h
        · exact hiters r h hB
        · simp only [List.mem_singleton] at h; subst h; exact ⟨0, by omega, by simp⟩
      · rcases List.mem_cons.mp h with h | h
        · subst h; exact ⟨0, by omega, by simp⟩
        · exact hiters r h hB

/-- arithmetic of the saturating product, with the bound as a variable (keeps the kernel away
    from the numeral `usize::MAX`) -/
theorem satMul_gen_exact (U lo m : Nat) (h : lo * m ≤ U) : min (m * lo) U = lo * m := by
  rw [Nat.mul_comm m lo]; omega

theorem satMul_gen_many (U k m : Nat) (hkm : k * m ≤ U) (hk : U ≤ k) : min (m * U) U = k * m := by
  rcases Nat.eq_zero_or_pos m with hm | hm
  · subst hm; simp
  · have h1 : U * m ≤ k * m := Nat.mul_le_mul_right _ hk
    have h2 : U ≤ U * m := Nat.le_mul_of_pos_right _ hm
    rw [Nat.mul_comm m U]
    omega

theorem satMul_exact (lo m : Nat) (h : lo * m ≤ UNSET) : satMul m lo = lo * m :=
  satMul_gen_exact UNSET lo m h

theorem satMul_many (k m : Nat) (hkm : k * m ≤ UNSET) (hk : UNSET ≤ k) : satMul m UNSET = k * m :=
  satMul_gen_many UNSET k m hkm hk

theorem allMinSize_minSizeMin (m : Nat) : ∀ (es : List Expr), es ≠ [] → allMinSize m es = true →
    minSizeMin es = m
  | [], h, _ => by simp at h
  | [e], _, h => by
    simp only [allMinSize, Bool.and_true, beq_iff_eq] at h
    simp [minSizeMin, h]
  | e :: y :: ys, _, h => by
    simp only [allMinSize, Bool.and_eq_true, beq_iff_eq] at h
    have := allMinSize_minSizeMin m (y :: ys) (by simp) (by
      simp only [allMinSize, Bool.and_eq_true, beq_iff_eq]; exact h.2)
    simp only [minSizeMin] at this ⊢
    omega

/-! ## 1. constant size is exact -/

theorem satMul_gen_lt (U m lo : Nat) (h : min (m * lo) U < U) : m * lo < U := by omega

theorem satMul_gen_lt_self (U m : Nat) (h : min (m * U) U < U) : m = 0 := by
  rcases Nat.eq_zero_or_pos m with hm | hm
  · exact hm
  · have : U ≤ m * U := Nat.le_mul_of_pos_left _ hm
    omega

theorem mul_lt_left (U m lo : Nat) (h : m * lo < U) (hlo : 0 < lo) : m < U := by
  have : m ≤ m * lo := Nat.le_mul_of_pos_right _ hlo
  omega

/-- the statement for one expression.  The analyzer's sums saturate at `usize::MAX`, so exactness needs one of
    two things: the distance matched fits `usize`, or the computed size did not saturate. -/
def ConstExactP (c : Ctx) (e : Expr) : Prop :=
  wellShaped e = true → constSize e = true → noBareEndZ e = true → ∀ (st r : St), r ∈ sem c e st →
    r.ix ≤ st.ix + UNSET ∨ minSize e < UNSET → r.ix = st.ix + minSize e

theorem constExact_concat (c : Ctx) : ∀ (es : List Expr), (∀ e ∈ es, ConstExactP c e) →
    wellShapedAll es = true → constSizeAll es = true → noBareEndZAll es = true → ∀ (st r : St),
    r ∈ semConcat c es st → r.ix ≤ st.ix + UNSET ∨ minSizeSum es < UNSET → r.ix = st.ix + minSizeSum es
  | [], _, _, _, _, st, r, h, _ => by simp [semConcat] at h; subst h; simp [minSizeSum]
  | e :: es, ih, hw, hc, hz, st, r, h, hB => by
    simp only [semConcat, List.mem_flatMap] at h
    obtain ⟨r1, hr1, hr⟩ := h
    simp only [wellShapedAll, Bool.and_eq_true] at hw
    simp only [constSizeAll, Bool.and_eq_true] at hc
    simp only [noBareEndZAll, Bool.and_eq_true] at hz
    simp only [minSizeSum, satAdd] at hB ⊢
    have m1 := C13_min_sound c e hw.1 st r1 hr1
    have m2 := min_sound_concat c es hw.2 r1 r hr
    have h1 := ih e (List.mem_cons_self ..) hw.1 hc.1 hz.1 st r1 hr1 (by omega)
    have h2 := constExact_concat c es (fun x hx => ih x (List.mem_cons_of_mem _ hx)) hw.2 hc.2 hz.2 r1 r hr
      (by omega)
    omega

theorem constExact_alt (c : Ctx) : ∀ (es : List Expr) (m : Nat), (∀ e ∈ es, ConstExactP c e) →
    wellShapedAll es = true → constSizeAll es = true → allMinSize m es = true → noBareEndZAll es = true →
    ∀ (st r : St), r ∈ semAlt c es st → r.ix ≤ st.ix + UNSET ∨ m < UNSET → r.ix = st.ix + m
  | [], _, _, _, _, _, _, st, r, h, _ => by simp [semAlt] at h
  | e :: es, m, ih, hw, hc, ha, hz, st, r, h, hB => by
    simp only [semAlt, List.mem_append] at h
    simp only [wellShapedAll, Bool.and_eq_true] at hw
    simp only [constSizeAll, Bool.and_eq_true] at hc
    simp only [allMinSize, Bool.and_eq_true, beq_iff_eq] at ha
    simp only [noBareEndZAll, Bool.and_eq_true] at hz
    rcases h with h | h
    · have := ih e (List.mem_cons_self ..) hw.1 hc.1 hz.1 st r h (by omega)
      omega
    · exact constExact_alt c es m (fun x hx => ih x (List.mem_cons_of_mem _ hx)) hw.2 hc.2 ha.2 hz.2 st r h hB

theorem constExactP_repeat (c : Ctx) {e : Expr} {lo : Nat} {hi : Option Nat} {greedy : Bool}
    (ih : ConstExactP c e) : ConstExactP c (.repeat e lo hi greedy) := by
  intro hw hc hz st r h hB
  simp only [sem] at h
  simp only [wellShaped] at hw
  simp only [constSize, Bool.and_eq_true] at hc
  simp only [noBareEndZ] at hz
  have hmono : ∀ st r, r ∈ sem c e st → st.ix ≤ r.ix := fun st r hr => by
    have := C13_min_sound c e hw st r hr; omega
  have hbounded : ∀ st r, r ∈ sem c e st → r.ix ≤ st.ix + UNSET → r.ix = st.ix + minSize e :=
    fun st r hr hb => ih hw hc.1 hz st r hr (.inl hb)
  have hbe := hc.2
  simp only [boundsEq, Bool.or_eq_true, Bool.and_eq_true, beq_iff_eq] at hbe
  simp only [minSize] at hB ⊢
  rcases hbe with hbe | ⟨hnone, hlo⟩
  · subst hbe
    have hs : sureReps lo (some lo) = lo := by simp [sureReps]
    rw [hs] at hB ⊢
    rcases hB with hB | hU
    · have := repLoop_exact_some (sem c e) (minSize e) UNSET hmono hbounded lo greedy _ 0 st r
        (by omega) h hB
      simp only [Nat.sub_zero] at this
      rw [this, satMul_exact lo (minSize e) (by omega)]
    · have hlt : minSize e * lo < UNSET := satMul_gen_lt UNSET _ _ hU
      rcases Nat.eq_zero_or_pos lo with hz0 | hpos
      · subst hz0
        simp [repLoop, satMul] at h ⊢
        subst h; rfl
      · have hm : minSize e < UNSET := mul_lt_left UNSET _ _ hlt hpos
        have hbody : ∀ st' r', r' ∈ sem c e st' → r'.ix ≤ st'.ix + r.ix → r'.ix = st'.ix + minSize e :=
          fun st' r' hr _ => ih hw hc.1 hz st' r' hr (.inr hm)
        have := repLoop_exact_some (sem c e) (minSize e) r.ix hmono hbody lo greedy _ 0 st r
          (by omega) h (by omega)
        simp only [Nat.sub_zero] at this
        rw [this, satMul_exact lo (minSize e) (by rw [Nat.mul_comm]; omega)]
  · have hnone' : hi = none := by
      cases hi with
      | none => rfl
      | some _ => simp at hnone
    subst hnone'
    have hs : sureReps lo none = UNSET := by simp [sureReps, hlo]
    rw [hs] at hB ⊢
    rcases hB with hB | hU
    · obtain ⟨k, hk1, hk2⟩ := repLoop_exact_none (sem c e) (minSize e) UNSET hmono hbounded lo greedy _ 0
        st r h hB
      rw [hk2, satMul_many k (minSize e) (by omega) (by omega)]
    · have hm0 : minSize e = 0 := satMul_gen_lt_self UNSET _ hU
      have hbody : ∀ st' r', r' ∈ sem c e st' → r'.ix ≤ st'.ix + r.ix → r'.ix = st'.ix + minSize e :=
        fun st' r' hr _ => ih hw hc.1 hz st' r' hr (.inr (by rw [hm0]; simp [UNSET]))
      obtain ⟨k, _, hk2⟩ := repLoop_exact_none (sem c e) (minSize e) r.ix hmono hbody lo greedy _ 0
        st r h (by omega)
      rw [hk2, hm0]
      simp [satMul]

theorem constExactP_all (c : Ctx) (e : Expr) : ConstExactP c e := by
  induction e using Expr.induct with
  | empty => intro _ _ _ st r h _; rw [mem_sem_empty h]; rfl
  | any nl => intro _ _ _ st r h _; rw [(mem_sem_any h).1]; rfl
  | assertion a => intro _ _ _ st r h _; rw [mem_sem_assertion h]; rfl
  | literal val casei =>
    intro hw _ _ st r h _
    simp only [wellShaped, beq_iff_eq] at hw
    rw [(mem_sem_literal h).1, hw]; rfl
  | concat es ih =>
    intro hw hc hz st r h hB
    simp only [sem] at h
    exact constExact_concat c es ih hw hc hz st r h hB
  | alt es ih =>
    intro hw hc hz st r h hB
    simp only [sem] at h
    simp only [wellShaped, Bool.and_eq_true] at hw
    simp only [constSize, Bool.and_eq_true] at hc
    cases es with
    | nil => simp [semAlt] at h
    | cons e0 es' =>
      simp only at hc
      have hm := allMinSize_minSizeMin (minSize e0) (e0 :: es') (by simp) hc.2
      simp only [minSize] at hB ⊢
      rw [hm] at hB ⊢
      exact constExact_alt c (e0 :: es') (minSize e0) ih hw.2 hc.1 hc.2 hz st r h hB
  | group g e ih =>
    intro hw hc hz st r h hB
    obtain ⟨r', hr', rfl⟩ := mem_sem_group h
    exact ih hw hc hz (st.setSlot (2 * g) (some st.ix)) r' hr' hB
  | look e la _ =>
    intro _ _ _ st r h _
    cases la with
    | ahead => obtain ⟨r', _, rfl⟩ := mem_sem_ahead h; rfl
    | behind => obtain ⟨r', _, rfl⟩ := mem_sem_behind h; rfl
    | aheadNeg => rw [mem_sem_aheadNeg h]; rfl
    | behindNeg => rw [mem_sem_behindNeg h]; rfl
  | «repeat» e lo hi greedy ih => exact constExactP_repeat c ih
  | delegate inner size casei =>
    intro _ _ hz st r h _
    simp only [sem, delegateSem] at h
    simp only [noBareEndZ, Bool.not_eq_true'] at hz
    by_cases hs : (size == 1) = true
    · rw [if_pos hs] at h
      cases beq_iff_eq.1 hs
      cases hat : c.at? st.ix with
      | none => rw [hat] at h; cases h
      | some ch => rw [hat] at h; rw [(mem_ite_singleton h).2]; rfl
    · rw [if_neg hs, hz, if_neg Bool.false_ne_true] at h; cases h
  | backref g => intro _ hc; simp [constSize] at hc
  | atomic e ih => intro hw hc hz st r h hB; exact ih hw hc hz st r (mem_sem_atomic h) hB
  | keepOut => intro _ _ _ st r h _; rw [mem_sem_keepOut h]; rfl
  | contPrev => intro _ _ _ st r h _; rw [mem_sem_contPrev h]; rfl
  | backrefExists g => intro _ _ _ st r h _; rw [mem_sem_backrefExists h]; rfl
  | cond cnd y n ihc ihy ihn =>
    intro hw hc hz st r h hB
    simp only [wellShaped, Bool.and_eq_true] at hw
    simp only [constSize, Bool.and_eq_true, beq_iff_eq] at hc
    simp only [noBareEndZ, Bool.and_eq_true] at hz
    simp only [minSize] at hB ⊢
    have hs := hc.2
    simp only [satAdd] at hs hB ⊢
    rcases mem_sem_cond h with ⟨r1, hm1, h⟩ | h
    · have m1 := C13_min_sound c cnd hw.1.1 st r1 hm1
      have m2 := C13_min_sound c y hw.1.2 r1 r h
      have h1 := ihc hw.1.1 hc.1.1.1 hz.1.1 st r1 hm1 (by omega)
      have h2 := ihy hw.1.2 hc.1.1.2 hz.1.2 r1 r h (by omega)
      omega
    · have h3 := ihn hw.2 hc.1.2 hz.2 st r h (by omega)
      omega
  | subroutine g => intro _ _ _ st r h; exact absurd h not_mem_sem_subroutine

/-- **no sub-expression matches a different number of characters than its computed size when it is
    judged constant-size** -/
theorem C13_const_exact (c : Ctx) : ∀ (e : Expr), wellShaped e = true → constSize e = true →
    noBareEndZ e = true → ∀ (st r : St), r ∈ sem c e st → r.ix ≤ st.ix + UNSET →
    r.ix = st.ix + minSize e :=
  fun e hw hc hz st r h hB => constExactP_all c e hw hc hz st r h (.inl hB)

theorem const_exact_concat (c : Ctx) : ∀ (es : List Expr), wellShapedAll es = true →
    constSizeAll es = true → noBareEndZAll es = true → ∀ (st r : St),
    r ∈ semConcat c es st → r.ix ≤ st.ix + UNSET → r.ix = st.ix + minSizeSum es :=
  fun es hw hc hz st r h hB => constExact_concat c es (fun e _ => constExactP_all c e) hw hc hz st r h (.inl hB)

/-- if the computed size did not saturate, a constant-size expression matches exactly that many
    characters (no hypothesis on the result) -/
theorem C13_const_exact_unsat (c : Ctx) : ∀ (e : Expr), wellShaped e = true → constSize e = true →
    noBareEndZ e = true → minSize e < UNSET → ∀ (st r : St), r ∈ sem c e st →
    r.ix = st.ix + minSize e :=
  fun e hw hc hz hU st r h => constExactP_all c e hw hc hz st r h (.inr hU)

theorem const_exact_unsat_concat (c : Ctx) : ∀ (es : List Expr), wellShapedAll es = true →
    constSizeAll es = true → noBareEndZAll es = true → minSizeSum es < UNSET → ∀ (st r : St),
    r ∈ semConcat c es st → r.ix = st.ix + minSizeSum es :=
  fun es hw hc hz hU st r h => constExact_concat c es (fun e _ => constExactP_all c e) hw hc hz st r h (.inr hU)

theorem const_exact_unsat_alt (c : Ctx) : ∀ (es : List Expr) (m : Nat), wellShapedAll es = true →
    constSizeAll es = true → allMinSize m es = true → noBareEndZAll es = true → m < UNSET →
    ∀ (st r : St), r ∈ semAlt c es st → r.ix = st.ix + m :=
  fun es m hw hc ha hz hU st r h =>
    constExact_alt c es m (fun e _ => constExactP_all c e) hw hc ha hz st r h (.inr hU)

/-- the bound hypothesis of `C13_const_exact` is implied by its conclusion as soon as the computed
    size fits `usize` (which `C06_sizes_no_overflow` proves for every tree with `leafSizesOK`):
    it cannot be weakened -/
theorem C13_const_exact_bound_necessary (e : Expr) (st r : St) (hle : minSize e ≤ UNSET)
    (h : r.ix = st.ix + minSize e) : r.ix ≤ st.ix + UNSET := by omega

/-- a context for the examples: exact character comparison, classes accept everything -/
def exCtx (text : List Char) : Ctx :=
  ⟨text, 0, false, fun _ => false, fun _ _ _ => true, fun _ a b => a == b⟩

/-- hypotheses of `C13_const_exact` are satisfiable: `a.{2}` on "abc" -/
example :
    let e : Expr := .concat [.literal ['a'] false, .repeat (.any true) 2 (some 2) true]
    wellShaped e = true ∧ constSize e = true ∧ noBareEndZ e = true ∧
      (⟨3, []⟩ : St) ∈ sem (exCtx ['a', 'b', 'c']) e ⟨0, []⟩ ∧ (3 : Nat) ≤ 0 + UNSET ∧ minSize e = 3 := by
  simp [wellShaped, wellShapedAll, constSize, constSizeAll, boundsEq, noBareEndZ, noBareEndZAll,
    sem, semConcat, repLoop, exCtx, Ctx.litAt, Ctx.at?, Ctx.len, minSize, minSizeSum, satAdd, satMul,
    sureReps, UNSET]

/-- **`noBareEndZ` is necessary**: the bare `\Z` delegate is declared constant-size 0 but consumes
    the trailing newline of "\n" -/
example :
    let e : Expr := .delegate ['\n', '*', '$'] 0 false
    wellShaped e = true ∧ constSize e = true ∧ minSize e = 0 ∧
      sem (exCtx ['\n']) e ⟨0, []⟩ = [⟨1, []⟩] := by
  simp [wellShaped, constSize, minSize, sem, delegateSem, exCtx, Ctx.newlinesFrom, Ctx.len]

theorem C13_const_exact_false_for_bare_endZ :
    ¬ (∀ (c : Ctx) (e : Expr), wellShaped e = true → constSize e = true → ∀ (st r : St),
        r ∈ sem c e st → r.ix ≤ st.ix + UNSET → r.ix = st.ix + minSize e) := by
  intro h
  have := h (exCtx ['\n']) (.delegate ['\n', '*', '$'] 0 false) (by simp [wellShaped])
    (by simp [constSize]) ⟨0, []⟩ ⟨1, []⟩
    (by simp [sem, delegateSem, exCtx, Ctx.newlinesFrom, Ctx.len]) (by simp [UNSET])
  simp [minSize] at this

/-! ## 2. look-behind: "go back `minSize` characters" is exact -/

theorem flatMap_range_single {α : Type} (g : Nat → List α) (m : Nat) : ∀ (n : Nat),
    (∀ k, k < n → k ≠ m → g k = []) → (List.range n).flatMap g = if m < n then g m else []
  | 0, _ => by simp
  | n + 1, h => by
    rw [List.range_succ, List.flatMap_append, flatMap_range_single g m n (fun k hk => h k (by omega))]
    simp only [List.flatMap_cons, List.flatMap_nil, List.append_nil]
    rcases Nat.lt_trichotomy m n with hlt | heq | hgt
    · have : g n = [] := h n (by omega) (by omega)
      simp [hlt, this, show m < n + 1 by omega]
    · subst heq; simp
    · have : g n = [] := h n (by omega) (by omega)
      simp [this, show ¬ m < n by omega, show ¬ m < n + 1 by omega]

/-- over any body that matches exactly `m` characters from every start `≤ ix`, the specification's
    look-behind is "go back `m`, run the body" -/
theorem behindOne_eq_goBack (body : St → List St) (m : Nat) (st : St)
    (hex : ∀ k, k ≤ st.ix → ∀ r, r ∈ body { st with ix := st.ix - k } → r.ix = st.ix - k + m) :
    behindOne body st = if m ≤ st.ix then body { st with ix := st.ix - m } else [] := by
  unfold behindOne
  rw [flatMap_range_single _ m]
  · by_cases hm : m ≤ st.ix
    · simp only [show m < st.ix + 1 by omega, hm, if_true]
      rw [List.filter_eq_self]
      intro r hr
      have := hex m hm r hr
      simp only [beq_iff_eq]; omega
    · simp [hm, show ¬ m < st.ix + 1 by omega]
  · intro k hk hne
    rw [List.filter_eq_nil_iff]
    intro r hr
    have := hex k (by omega) r hr
    simp only [beq_iff_eq]; omega

/-- **An accepted look-behind holds at a position iff its body matches the text ending exactly
    there**: for a constant-size body, "go back `minSize` characters (fail if that is before the
    start), run the body, do not check where it ends" — the compiled code — is the specification's
    "some start `j ≤ ix` has a result ending exactly at `ix`". The text must fit `usize`
    (`c.len ≤ UNSET`; Rust guarantees `len ≤ isize::MAX`). -/
theorem C13_lookbehind_exact (c : Ctx) (n : Nat) (e : Expr) (hw : wellShaped e = true)
    (hc : constSize e = true) (hz : noBareEndZ e = true) (st : St) (hg : st.Good c n)
    (hlen : c.len ≤ UNSET) :
    behindOne (sem c e) st =
      if minSize e ≤ st.ix then sem c e { st with ix := st.ix - minSize e } else [] := by
  apply behindOne_eq_goBack
  intro k hk r hr
  have hg' : ({ st with ix := st.ix - k } : St).Good c n := hg.withIx _ (by have := hg.ix; omega)
  have := (sem_good c n e _ r hg' hr).ix
  exact C13_const_exact c e hw hc hz _ r hr (by simp only; omega)

/-- the same without any hypothesis on the state or the text, when the computed size did not
    saturate (`minSize e < usize::MAX`: always the case for a pattern a machine can hold) -/
theorem C13_lookbehind_exact_unsat (c : Ctx) (e : Expr) (hw : wellShaped e = true)
    (hc : constSize e = true) (hz : noBareEndZ e = true) (hU : minSize e < UNSET) (st : St) :
    behindOne (sem c e) st =
      if minSize e ≤ st.ix then sem c e { st with ix := st.ix - minSize e } else [] := by
  apply behindOne_eq_goBack
  intro k _ r hr
  exact C13_const_exact_unsat c e hw hc hz hU _ r hr

/-- positive look-behind with a non-alternation body -/
theorem C13_lookbehind_pos (c : Ctx) (n : Nat) (e : Expr) (hna : ∀ es, e ≠ .alt es)
    (hw : wellShaped e = true) (hc : constSize e = true) (hz : noBareEndZ e = true) (st : St)
    (hg : st.Good c n) (hlen : c.len ≤ UNSET) :
    sem c (.look e .behind) st =
      (firstOnly (if minSize e ≤ st.ix then sem c e { st with ix := st.ix - minSize e } else [])).map
        fun r => { r with ix := st.ix } := by
  simp only [sem]
  rw [semBehind_of_not_alt c hna, C13_lookbehind_exact c n e hw hc hz st hg hlen]

/-- negative look-behind with a non-alternation body -/
theorem C13_lookbehind_neg (c : Ctx) (n : Nat) (e : Expr) (hna : ∀ es, e ≠ .alt es)
    (hw : wellShaped e = true) (hc : constSize e = true) (hz : noBareEndZ e = true) (st : St)
    (hg : st.Good c n) (hlen : c.len ≤ UNSET) :
    sem c (.look e .behindNeg) st =
      if (if minSize e ≤ st.ix then sem c e { st with ix := st.ix - minSize e } else []).isEmpty
      then [st] else [] := by
  simp only [sem]
  rw [semBehind_of_not_alt c hna, C13_lookbehind_exact c n e hw hc hz st hg hlen]

/-- the per-alternative go-backs, in order -/
def goBackAlts (c : Ctx) (es : List Expr) (st : St) : List St :=
  es.flatMap fun e => if minSize e ≤ st.ix then sem c e { st with ix := st.ix - minSize e } else []

/-- alternation body whose alternatives are each constant-size (possibly of different sizes):
    the ordered union of the per-alternative go-backs -/
theorem C13_lookbehind_alts (c : Ctx) (n : Nat) : ∀ (es : List Expr), wellShapedAll es = true →
    constSizeAll es = true → noBareEndZAll es = true → ∀ (st : St), st.Good c n → c.len ≤ UNSET →
    semBehindAlts c es st = goBackAlts c es st
  | [], _, _, _, st, _, _ => by simp [semBehindAlts, goBackAlts]
  | e :: es, hw, hc, hz, st, hg, hlen => by
    simp only [wellShapedAll, Bool.and_eq_true] at hw
    simp only [constSizeAll, Bool.and_eq_true] at hc
    simp only [noBareEndZAll, Bool.and_eq_true] at hz
    simp only [semBehindAlts, goBackAlts, List.flatMap_cons]
    rw [C13_lookbehind_exact c n e hw.1 hc.1 hz.1 st hg hlen,
      C13_lookbehind_alts c n es hw.2 hc.2 hz.2 st hg hlen]
    rfl

theorem C13_lookbehind_pos_alt (c : Ctx) (n : Nat) (es : List Expr) (hw : wellShapedAll es = true)
    (hc : constSizeAll es = true) (hz : noBareEndZAll es = true) (st : St) (hg : st.Good c n)
    (hlen : c.len ≤ UNSET) :
    sem c (.look (.alt es) .behind) st =
      (firstOnly (goBackAlts c es st)).map fun r => { r with ix := st.ix } := by
  simp only [sem, semBehind]
  rw [C13_lookbehind_alts c n es hw hc hz st hg hlen]

theorem C13_lookbehind_neg_alt (c : Ctx) (n : Nat) (es : List Expr) (hw : wellShapedAll es = true)
    (hc : constSizeAll es = true) (hz : noBareEndZAll es = true) (st : St) (hg : st.Good c n)
    (hlen : c.len ≤ UNSET) :
    sem c (.look (.alt es) .behindNeg) st = if (goBackAlts c es st).isEmpty then [st] else [] := by
  simp only [sem, semBehind]
  rw [C13_lookbehind_alts c n es hw hc hz st hg hlen]

/-- hypotheses of `C13_lookbehind_exact` are satisfiable: `(?<=a)` at position 1 of "ab" -/
example :
    let c := exCtx ['a', 'b']
    let e : Expr := .literal ['a'] false
    let st : St := ⟨1, []⟩
    wellShaped e = true ∧ constSize e = true ∧ noBareEndZ e = true ∧ st.Good c 0 ∧ c.len ≤ UNSET ∧
      behindOne (sem c e) st = [⟨1, []⟩] := by
  refine ⟨by simp [wellShaped], by simp [constSize], by simp [noBareEndZ],
    ⟨by simp [exCtx, Ctx.len], rfl, by simp⟩, by simp [exCtx, Ctx.len, UNSET], ?_⟩
  simp [behindOne, List.range_succ, sem, exCtx, Ctx.litAt, Ctx.at?]

/-- **`noBareEndZ` is necessary for the look-behind rule too**: with a bare `\Z` as body, at
    position 0 of "\n" the specification's look-behind fails (no result ends at 0) while "go back 0
    and run the body" succeeds. The parser cannot produce this tree. -/
example :
    let c := exCtx ['\n']
    let e : Expr := .delegate ['\n', '*', '$'] 0 false
    let st : St := ⟨0, []⟩
    behindOne (sem c e) st = [] ∧
      (if minSize e ≤ st.ix then sem c e { st with ix := st.ix - minSize e } else []) = [⟨1, []⟩] := by
  simp [behindOne, List.range_succ, sem, delegateSem, exCtx, Ctx.newlinesFrom, Ctx.len, minSize]

/-! ## 3. `GoBack` fails rather than reading before the start of the text -/

theorem C13_goback (ix n : Nat) :
    (goBack ix n = some (ix - n) ↔ n ≤ ix) ∧ (goBack ix n = none ↔ ix < n) := by
  unfold goBack
  by_cases h : n ≤ ix
  · simp [h]
  · simp [h]; omega

example : goBack 3 2 = some 1 ∧ goBack 1 2 = none := by simp [goBack]

/-! ## 4. which look-behinds the compiler accepts -/

theorem C13_accept_behind_not_const (br : Nat → Bool) (e : Expr) (hna : ∀ es, e ≠ .alt es)
    (hc : constSize e = false) (hard : Bool) (pc nsv gix : Nat) :
    visit br (.look e .behind) hard pc nsv gix = .error .lookBehindNotConst := by
  rw [visit]
  · simp [isHard, hc]
  · intro es h; exact hna es h

theorem C13_accept_behind_const (br : Nat → Bool) (e : Expr) (hna : ∀ es, e ≠ .alt es)
    (hc : constSize e = true) (hard : Bool) (pc nsv gix : Nat) :
    visit br (.look e .behind) hard pc nsv gix =
      match visit br e false (posLookBodyPc (isHard br e) true pc) (nsv + 1) gix with
      | .error err => .error err
      | .ok (code, nsv') => .ok (wrapPosLook (isHard br e) true nsv (minSize e) code, nsv') := by
  rw [visit]
  · simp only [isHard, hc, Bool.not_true, Bool.and_false, Bool.false_eq_true, if_false]
    rfl
  · intro es h; exact hna es h

theorem C13_accept_behindNeg_not_const (br : Nat → Bool) (e : Expr) (hna : ∀ es, e ≠ .alt es)
    (hc : constSize e = false) (hard : Bool) (pc nsv gix : Nat) :
    visit br (.look e .behindNeg) hard pc nsv gix = .error .lookBehindNotConst := by
  rw [visit]
  · simp [isHard, hc]
  · intro es h; exact hna es h

theorem C13_accept_behindNeg_const (br : Nat → Bool) (e : Expr) (hna : ∀ es, e ≠ .alt es)
    (hc : constSize e = true) (hard : Bool) (pc nsv gix : Nat) :
    visit br (.look e .behindNeg) hard pc nsv gix =
      match visit br e false (negLookBodyPc true pc) nsv gix with
      | .error err => .error err
      | .ok (code, nsv') => .ok (wrapNegLook true pc (minSize e) code, nsv') := by
  rw [visit]
  · simp only [isHard, hc, Bool.not_true, Bool.and_false, Bool.false_eq_true, if_false]
    rfl
  · intro es h; exact hna es h

/-- **non-alternation body**: provided the body's own compilation does not report
    `LookBehindNotConst` (a nested bad look-behind), the look-behind is rejected with that error iff
    its body is not constant-size -/
theorem C13_accept_iff (br : Nat → Bool) (e : Expr) (hna : ∀ es, e ≠ .alt es)
    (hsub : ∀ hard pc nsv gix, visit br e hard pc nsv gix ≠ .error .lookBehindNotConst)
    (hard : Bool) (pc nsv gix : Nat) :
    (visit br (.look e .behind) hard pc nsv gix = .error .lookBehindNotConst ↔ constSize e = false) ∧
    (visit br (.look e .behindNeg) hard pc nsv gix = .error .lookBehindNotConst ↔ constSize e = false) := by
  constructor
  · constructor
    · intro h
      cases hc : constSize e with
      | false => rfl
      | true =>
        rw [C13_accept_behind_const br e hna hc] at h
        split at h
        · rename_i heq; cases h; exact absurd heq (hsub _ _ _ _)
        · cases h
    · intro hc; exact C13_accept_behind_not_const br e hna hc hard pc nsv gix
  · constructor
    · intro h
      cases hc : constSize e with
      | false => rfl
      | true =>
        rw [C13_accept_behindNeg_const br e hna hc] at h
        split at h
        · rename_i heq; cases h; exact absurd heq (hsub _ _ _ _)
        · cases h
    · intro hc; exact C13_accept_behindNeg_not_const br e hna hc hard pc nsv gix

/-- some alternative's own compilation fails with `err` (e.g. a nested bad look-behind) -/
def subErr (br : Nat → Bool) (es : List Expr) (err : CompileErr) : Prop :=
  ∃ e, e ∈ es ∧ ∃ hard pc nsv gix, visit br e hard pc nsv gix = .error err

theorem subErr_cons (br : Nat → Bool) (e : Expr) (es : List Expr) (err : CompileErr)
    (h : subErr br es err) : subErr br (e :: es) err := by
  obtain ⟨e', he', h'⟩ := h
  exact ⟨e', by simp [he'], h'⟩

theorem subErr_head (br : Nat → Bool) (e : Expr) (es : List Expr) (err : CompileErr)
    (hard : Bool) (pc nsv gix : Nat) (h : visit br e hard pc nsv gix = .error err) :
    subErr br (e :: es) err := ⟨e, by simp, hard, pc, nsv, gix, h⟩

theorem constSizeAll_false_iff : ∀ (es : List Expr),
    constSizeAll es = false ↔ ∃ e, e ∈ es ∧ constSize e = false
  | [] => by simp [constSizeAll]
  | e :: es => by
    simp only [constSizeAll, Bool.and_eq_false_iff, constSizeAll_false_iff es, List.mem_cons]
    constructor
    · rintro (h | ⟨e', he', h'⟩)
      · exact ⟨e, Or.inl rfl, h⟩
      · exact ⟨e', Or.inr he', h'⟩
    · rintro ⟨e', (rfl | he'), h'⟩
      · exact Or.inl h'
      · exact Or.inr ⟨e', he', h'⟩

theorem lookBehindAlts_ok_const (br : Nat → Bool) : ∀ (es : List Expr) (pc nsv gix : Nat)
    (x : (Nat → Code) × Nat × Nat), lookBehindAlts br es pc nsv gix = .ok x → constSizeAll es = true
  | [], _, _, _, _, _ => by simp [constSizeAll]
  | [e], pc, nsv, gix, x, h => by
    simp only [lookBehindAlts] at h
    split at h
    · cases h
    · simp_all [constSizeAll]
  | e :: e2 :: es, pc, nsv, gix, x, h => by
    simp only [lookBehindAlts] at h
    split at h
    · cases h
    · split at h
      · cases h
      · split at h
        · cases h
        · rename_i heq
          have := lookBehindAlts_ok_const br (e2 :: es) _ _ _ _ heq
          simp_all [constSizeAll]

theorem lookBehindAlts_error (br : Nat → Bool) : ∀ (es : List Expr) (pc nsv gix : Nat)
    (err : CompileErr), lookBehindAlts br es pc nsv gix = .error err →
    (err = .lookBehindNotConst ∧ constSizeAll es = false) ∨ subErr br es err
  | [], _, _, _, _, h => by simp [lookBehindAlts] at h
  | [e], pc, nsv, gix, err, h => by
    simp only [lookBehindAlts] at h
    split at h
    · cases h; left; simp_all [constSizeAll]
    · split at h
      · rename_i heq
        cases h
        exact Or.inr (subErr_head br e [] _ _ _ _ _ heq)
      · cases h
  | e :: e2 :: es, pc, nsv, gix, err, h => by
    simp only [lookBehindAlts] at h
    split at h
    · cases h; left; simp_all [constSizeAll]
    · split at h
      · rename_i heq
        cases h
        exact Or.inr (subErr_head br e _ _ _ _ _ _ heq)
      · split at h
        · rename_i heq
          cases h
          rcases lookBehindAlts_error br (e2 :: es) _ _ _ _ heq with ⟨h1, h2⟩ | h1
          · left; refine ⟨h1, ?_⟩
            simp only [constSizeAll] at h2 ⊢
            simp [h2]
          · exact Or.inr (subErr_cons br e _ _ h1)
        · cases h

theorem lookBehindNegAlts_ok_const (br : Nat → Bool) : ∀ (es : List Expr) (pc nsv gix : Nat)
    (x : Code × Nat), lookBehindNegAlts br es pc nsv gix = .ok x → constSizeAll es = true
  | [], _, _, _, _, _ => by simp [constSizeAll]
  | e :: es, pc, nsv, gix, x, h => by
    simp only [lookBehindNegAlts] at h
    split at h
    · cases h
    · split at h
      · cases h
      · split at h
        · cases h
        · rename_i heq
          have := lookBehindNegAlts_ok_const br es _ _ _ _ heq
          simp_all [constSizeAll]

theorem lookBehindNegAlts_error (br : Nat → Bool) : ∀ (es : List Expr) (pc nsv gix : Nat)
    (err : CompileErr), lookBehindNegAlts br es pc nsv gix = .error err →
    (err = .lookBehindNotConst ∧ constSizeAll es = false) ∨ subErr br es err
  | [], _, _, _, _, h => by simp [lookBehindNegAlts] at h
  | e :: es, pc, nsv, gix, err, h => by
    simp only [lookBehindNegAlts] at h
    split at h
    · cases h; left; simp_all [constSizeAll]
    · split at h
      · rename_i heq
        cases h
        exact Or.inr (subErr_head br e _ _ _ _ _ _ heq)
      · split at h
        · rename_i heq
          cases h
          rcases lookBehindNegAlts_error br es _ _ _ _ heq with ⟨h1, h2⟩ | h1
          · left; refine ⟨h1, ?_⟩
            simp only [constSizeAll]
            simp [h2]
          · exact Or.inr (subErr_cons br e _ _ h1)
        · cases h

theorem visitAlt_error (br : Nat → Bool) : ∀ (es : List Expr) (hard : Bool) (pc nsv gix : Nat)
    (err : CompileErr), visitAlt br es hard pc nsv gix = .error err → subErr br es err
  | [], _, _, _, _, _, h => by simp [visitAlt] at h
  | [e], hard, pc, nsv, gix, err, h => by
    simp only [visitAlt] at h
    split at h
    · rename_i heq
      cases h
      exact subErr_head br e [] _ _ _ _ _ heq
    · cases h
  | e :: e2 :: es, hard, pc, nsv, gix, err, h => by
    simp only [visitAlt] at h
    split at h
    · rename_i heq
      cases h
      exact subErr_head br e _ _ _ _ _ _ heq
    · split at h
      · rename_i heq
        cases h
        exact subErr_cons br e _ _ (visitAlt_error br (e2 :: es) _ _ _ _ _ heq)
      · cases h

theorem visitAltBody_error (br : Nat → Bool) (es : List Expr) (pc nsv gix : Nat)
    (err : CompileErr) (h : visitAltBody br es pc nsv gix = .error err) : subErr br es err := by
  rw [visitAltBody] at h
  split at h
  · cases h
  · split at h
    · rename_i heq
      cases h
      exact visitAlt_error br es _ _ _ _ _ heq
    · cases h

theorem constSize_alt_all (es : List Expr) (h : constSize (.alt es) = true) : constSizeAll es = true := by
  simp only [constSize, Bool.and_eq_true] at h
  exact h.1

/-- an accepted look-behind over an alternation has only constant-size alternatives (they may have
    different sizes) -/
theorem C13_accept_behind_alt_ok (br : Nat → Bool) (es : List Expr) (hard : Bool) (pc nsv gix : Nat)
    (x : Code × Nat) (h : visit br (.look (.alt es) .behind) hard pc nsv gix = .ok x) :
    constSizeAll es = true := by
  rw [visit] at h
  simp only [isHard, Bool.not_true, Bool.and_false, Bool.false_eq_true, if_false] at h
  split at h
  · split at h
    · cases h
    · rename_i heq
      exact lookBehindAlts_ok_const br es _ _ _ _ heq
  · rename_i hc
    exact constSize_alt_all es (by simpa using hc)

/-- a rejected one: either some alternative is not constant-size (`LookBehindNotConst`), or the
    compilation of an alternative itself failed -/
theorem C13_accept_behind_alt_error (br : Nat → Bool) (es : List Expr) (hard : Bool)
    (pc nsv gix : Nat) (err : CompileErr)
    (h : visit br (.look (.alt es) .behind) hard pc nsv gix = .error err) :
    (err = .lookBehindNotConst ∧ constSizeAll es = false) ∨ subErr br es err := by
  rw [visit] at h
  simp only [isHard, Bool.not_true, Bool.and_false, Bool.false_eq_true, if_false] at h
  split at h
  · split at h
    · rename_i heq
      cases h
      exact lookBehindAlts_error br es _ _ _ _ heq
    · cases h
  · split at h
    · rename_i heq
      cases h
      exact Or.inr (visitAltBody_error br es _ _ _ _ heq)
    · cases h

theorem C13_accept_behindNeg_alt_ok (br : Nat → Bool) (es : List Expr) (hard : Bool) (pc nsv gix : Nat)
    (x : Code × Nat) (h : visit br (.look (.alt es) .behindNeg) hard pc nsv gix = .ok x) :
    constSizeAll es = true := by
  rw [visit] at h
  simp only [isHard, Bool.not_true, Bool.and_false, Bool.false_eq_true, if_false] at h
  split at h
  · exact lookBehindNegAlts_ok_const br es _ _ _ _ h
  · rename_i hc
    exact constSize_alt_all es (by simpa using hc)

theorem C13_accept_behindNeg_alt_error (br : Nat → Bool) (es : List Expr) (hard : Bool)
    (pc nsv gix : Nat) (err : CompileErr)
    (h : visit br (.look (.alt es) .behindNeg) hard pc nsv gix = .error err) :
    (err = .lookBehindNotConst ∧ constSizeAll es = false) ∨ subErr br es err := by
  rw [visit] at h
  simp only [isHard, Bool.not_true, Bool.and_false, Bool.false_eq_true, if_false] at h
  split at h
  · exact lookBehindNegAlts_error br es _ _ _ _ h
  · split at h
    · rename_i heq
      cases h
      exact Or.inr (visitAltBody_error br es _ _ _ _ heq)
    · cases h


/-- **alternation body**: provided the alternatives themselves compile, `(?<=a|bb|…)` /
    `(?<!a|bb|…)` is rejected iff some alternative is not constant-size, and then the error is
    `LookBehindNotConst` -/
theorem C13_accept_iff_alt (br : Nat → Bool) (es : List Expr) (hsub : ∀ err, ¬ subErr br es err)
    (la : Look) (hla : la = .behind ∨ la = .behindNeg) (hard : Bool) (pc nsv gix : Nat) :
    ((∃ err, visit br (.look (.alt es) la) hard pc nsv gix = .error err) ↔
        ∃ e, e ∈ es ∧ constSize e = false) ∧
    (∀ err, visit br (.look (.alt es) la) hard pc nsv gix = .error err → err = .lookBehindNotConst) := by
  have hok : ∀ x, visit br (.look (.alt es) la) hard pc nsv gix = .ok x → constSizeAll es = true := by
    intro x h
    rcases hla with rfl | rfl
    · exact C13_accept_behind_alt_ok br es hard pc nsv gix x h
    · exact C13_accept_behindNeg_alt_ok br es hard pc nsv gix x h
  have herr : ∀ err, visit br (.look (.alt es) la) hard pc nsv gix = .error err →
      err = .lookBehindNotConst ∧ constSizeAll es = false := by
    intro err h
    have : (err = .lookBehindNotConst ∧ constSizeAll es = false) ∨ subErr br es err := by
      rcases hla with rfl | rfl
      · exact C13_accept_behind_alt_error br es hard pc nsv gix err h
      · exact C13_accept_behindNeg_alt_error br es hard pc nsv gix err h
    rcases this with h1 | h1
    · exact h1
    · exact absurd h1 (hsub err)
  refine ⟨⟨?_, ?_⟩, fun err h => (herr err h).1⟩
  · rintro ⟨err, h⟩
    exact (constSizeAll_false_iff es).mp (herr err h).2
  · intro h
    have hf := (constSizeAll_false_iff es).mpr h
    cases hv : visit br (.look (.alt es) la) hard pc nsv gix with
    | error err => exact ⟨err, rfl⟩
    | ok x => have := hok x hv; simp [hf] at this

/-- the decision is not vacuous: `(?<=a|bb)` (different sizes, each constant) is accepted,
    `(?<=a|b*)` is rejected -/
example :
    (∃ x, visit (fun _ => false) (.look (.alt [.literal ['a'] false,
        .concat [.literal ['b'] false, .literal ['b'] false]]) .behind) true 0 0 0 = .ok x) ∧
    visit (fun _ => false) (.look (.alt [.literal ['a'] false,
        .repeat (.literal ['b'] false) 0 none true]) .behind) true 0 0 0 = .error .lookBehindNotConst := by
  constructor
  · rw [visit]
    simp [isHard, isHardAny, constSize, constSizeAll, allMinSize, minSize, minSizeSum, satAdd, UNSET,
      lookBehindAlts, visit]
  · rw [visit]
    simp [isHard, constSize, constSizeAll, boundsEq, UNSET, lookBehindAlts, visit]

theorem visit_literal_ok (br : Nat → Bool) (v : List Char) (hard : Bool) (pc nsv gix : Nat)
    (err : CompileErr) : visit br (.literal v false) hard pc nsv gix ≠ .error err := by
  rw [visit]
  split
  · simp
  · simp

/-- the side hypotheses of `C13_accept_iff` / `C13_accept_iff_alt` are satisfiable -/
example : (∀ hard pc nsv gix, visit (fun _ => false) (.literal ['a'] false) hard pc nsv gix ≠
      .error .lookBehindNotConst) ∧
    (∀ err, ¬ subErr (fun _ => false) [.literal ['a'] false, .literal ['b'] false] err) := by
  refine ⟨fun hard pc nsv gix => visit_literal_ok _ _ _ _ _ _ _, ?_⟩
  rintro err ⟨e, he, hard, pc, nsv, gix, h⟩
  simp only [List.mem_cons, List.not_mem_nil, or_false] at he
  rcases he with rfl | rfl <;> exact visit_literal_ok _ _ _ _ _ _ _ h

end Fancy
