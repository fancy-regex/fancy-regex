import FancyModel.Proofs.C15c
/-!
# C14 (parser part) — `RegexBuilder::case_insensitive(true)` on `P` versus `(?i)P`

The builder option seeds the parser's `i` flag (`parse_with_case_insensitive(re, true)`, F9 repair).
Whether that equals `(?i)P`, on the parser model:

**The statement "`parseStr P true` and `parseStr ("(?i)" ++ P) false` succeed/fail together with
the same tree" is FALSE** — `C14_parse_flag_false_brace` (`P = {2}`: the builder form is three
literals, `(?i){2}` is `TargetNotRepeatable`; reproduced on the real crate),
`C14_parse_flag_false_backref` (`P = \\1`: the `group < re.len() / 2` bound moves with the four
prefix bytes), `C14_parse_flag_not_together`.

**The corrected statement is proved**: `C14_parse_flag_partial` (readable forms
`C14_parse_flag_ok`, `C14_parse_flag_err`, `C14_parse_flag_conv`): if `P` does not begin with a
`(?#…)` comment nor with something `parse_piece` reads as a quantifier, the run on `P` with the
flag seeded and the run on `"(?i)" ++ P` give the same `ExprTree` / the same error four bytes
later / `NamedBackrefOnly` in both — up to the two length-dependent back-reference errors.  It rests
on the **shift invariance of the whole parser model** (`descSim`: all nine functions of the descent
and every leaf scanner, run on `re1` from `ix` against `pre ++ re1` from `ix + |pre|`, any fuels
`f` / `f + c`), which is the invariant "a run at offset `ix` of `P` against a run at offset
`ix + 4` of `(?i)P`".

What holds for every pattern that begins with `(?i)` (no side condition):
* `parseAtom_i` / `parsePiece_i`: the flag group is an `Empty` atom of four bytes that sets the `i`
  flag and nothing else, and what follows it is read as *its quantifier* if it looks like one;
* `C14_flag_group_seeds`: otherwise the loop of `parse_branch` continues after the group in the
  state `{ flags := { casei := true } }`, which is literally the initial state of
  `parse_with_case_insensitive(re, true)`, and the group contributes no child (so the tree is the
  tree of `P`, not `Concat [Empty, …]`: `branchLoop` drops `Empty` pieces).
-/
namespace Fancy.Parse
open Fancy.Utf8 (codepointLen isLead)
open Fancy

/-! ## the statement as given is false: two witnesses -/

/-- **C14_parse_flag is FALSE as stated** (witness 1, also a divergence of the real crate):
    `P = {2}`.  With the builder option the parser reads `{`, `2`, `}` as three literals
    (`parse_atom` has no case for `{`), so the pattern builds and matches the text `{2}`.  In
    `(?i){2}` the flag group is an (empty) atom and `{2}` **is read as its quantifier**:
    `TargetNotRepeatable` at 6.  The two do not succeed/fail together. -/
theorem C14_parse_flag_false_brace :
    parseStr (fun c => c.isAlphanum) "{2}".toList true =
      .ok ⟨.concat [.literal ['{'] true, .literal ['2'] true, .literal ['}'] true], [], []⟩ ∧
    parseStr (fun c => c.isAlphanum) "(?i){2}".toList false = .err .targetNotRepeatable 6 :=
  ⟨isTree_sound (by decide +kernel), isErr_sound (by decide +kernel)⟩

/-- **witness 2**: `P = \\1`.  The parser rejects a back-reference `group ≥ re.len() / 2` ("protect
    BitSet against unreasonably large value"); the four bytes of `(?i)` raise that bound by 2, so
    `\\1` alone is `ParseError(1, InvalidBackref)` while `(?i)\\1` parses (and fails only later, in
    the analysis, with a different error: `CompileError(InvalidBackref)`) -/
theorem C14_parse_flag_false_backref :
    parseStr (fun c => c.isAlphanum) "\\1".toList true = .err .invalidBackref 1 ∧
    parseStr (fun c => c.isAlphanum) "(?i)\\1".toList false = .ok ⟨.backref 1, [1], []⟩ :=
  ⟨isErr_sound (by decide +kernel), isTree_sound (by decide +kernel)⟩

/-- hence no statement of the form "both succeed with related trees, or both fail" holds for all
    patterns -/
theorem C14_parse_flag_not_together :
    ¬ ∀ p : List Char,
      ((∃ t, parseStr (fun c => c.isAlphanum) p true = .ok t) ↔
       (∃ t, parseStr (fun c => c.isAlphanum) ("(?i)".toList ++ p) false = .ok t)) := by
  intro h
  have h1 := (h "{2}".toList).mp ⟨_, C14_parse_flag_false_brace.1⟩
  obtain ⟨t, ht⟩ := h1
  have : "(?i)".toList ++ "{2}".toList = "(?i){2}".toList := by decide
  rw [this, C14_parse_flag_false_brace.2] at ht
  cases ht

/-! ## what does hold: the flag group `(?i)` seeds exactly the builder's initial state -/

/-- `optional_whitespace` stops at a byte that is neither `#`, white space nor `(` — whatever the
    flags -/
theorem optWs_plain {re : Bytes} (fl : Flags) {ix b : Nat} (hg : re[ix]? = some b)
    (h1 : b ≠ ch '#') (h2 : b ≠ ch ' ') (h3 : b ≠ ch '\r') (h4 : b ≠ ch '\n') (h5 : b ≠ ch '\t')
    (h6 : b ≠ ch '(') : optWs re fl ix = .ok ix := by
  rw [optWs_step hg]
  have e1 : (b == ch '#') = false := by simpa using h1
  have e2 : (b == ch ' ') = false := by simpa using h2
  have e3 : (b == ch '\r') = false := by simpa using h3
  have e4 : (b == ch '\n') = false := by simpa using h4
  have e5 : (b == ch '\t') = false := by simpa using h5
  have e6 : (b == ch '(') = false := by simpa using h6
  simp only [e1, e2, e3, e4, e5, e6, Bool.false_and, Bool.or_self, Bool.false_eq_true, ↓reduceIte]

/-- the state after `(?i)` -/
def withI (st : PState) : PState := { st with flags := { st.flags with casei := true } }

/-- `parse_flags` on `?i)`: an `Empty` piece, three bytes, the `i` flag set, nothing else changed -/
theorem parseFlags_i (isAlnum : Char → Bool) {re : Bytes} (f : Nat) (st : PState) {ix : Nat} (d : Nat)
    (h1 : re[ix + 1]? = some (ch 'i')) (h2 : re[ix + 2]? = some (ch ')')) :
    parseFlags isAlnum (f + 1) re st ix d = .ok (ix + 3, .empty, withI st) := by
  have hlt := lt_size_of_get h2
  have w1 : ∀ fl, optWs re fl (ix + 1) = .ok (ix + 1) := fun fl =>
    optWs_plain fl h1 (by decide) (by decide) (by decide) (by decide) (by decide) (by decide)
  have w2 : ∀ fl, optWs re fl (ix + 1 + 1) = .ok (ix + 1 + 1) := fun fl =>
    optWs_plain fl h2 (by decide) (by decide) (by decide) (by decide) (by decide) (by decide)
  have n1 : (ix + 1 == re.size) = false := by simpa using (by omega : ix + 1 ≠ re.size)
  have n2 : (ix + 1 + 1 == re.size) = false := by simpa using (by omega : ix + 1 + 1 ≠ re.size)
  have hloop : flagsLoop (re.size + 2) re st.flags (ix + 1) (ix + 1) false =
      .ok (.close (ix + 2), { st.flags with casei := true }) := by
    rw [show re.size + 2 = (re.size) + 1 + 1 by omega, flagsLoop]
    simp only [w1, n1, Bool.false_eq_true, ↓reduceIte, h1]
    have c1 : (ch 'i' == ch 'i' || ch 'i' == ch 'm' || ch 'i' == ch 's' || ch 'i' == ch 'U' ||
      ch 'i' == ch 'x') = true := by decide
    simp only [c1, ↓reduceIte]
    rw [flagsLoop]
    simp only [w2, n2, Bool.false_eq_true, ↓reduceIte, h2]
    have c2 : (ch ')' == ch 'i' || ch ')' == ch 'm' || ch ')' == ch 's' || ch ')' == ch 'U' ||
      ch ')' == ch 'x') = false := by decide
    have c3 : (ch ')' == ch 'u') = false := by decide
    have c4 : (ch ')' == ch '-') = false := by decide
    have c5 : (ix + 1 + 1 == ix + 1) = false := by simp
    simp only [c2, c3, c4, c5, Bool.false_eq_true, ↓reduceIte, beq_self_eq_true, Bool.false_and,
      Bool.or_self]
    simp [updateFlag, ch]
  rw [parseFlags]
  simp only [hloop, Res.ok_bind, withI]

theorem parseGroup_i (isAlnum : Char → Bool) {re : Bytes} (f : Nat) (st : PState) {ix : Nat} (d : Nat)
    (hd : d + 1 < Generated.maxRecursion)
    (h1 : re[ix + 1]? = some (ch '?')) (h2 : re[ix + 2]? = some (ch 'i'))
    (h3 : re[ix + 3]? = some (ch ')')) :
    parseGroup isAlnum (f + 2) re st ix d = .ok (ix + 4, .empty, withI st) := by
  rw [parseGroup_query isAlnum (f + 1) st d h1 h2 (by decide) hd, if_neg (by decide), if_neg (by decide)]
  exact parseFlags_i isAlnum f st (d + 1) h2 h3

/-- `parse_atom` at the `(` of `(?i)`: four bytes, an `Empty` atom, the `i` flag set -/
theorem parseAtom_i (isAlnum : Char → Bool) {re : Bytes} (f : Nat) (st : PState) {ix : Nat} (d : Nat)
    (hd : d + 1 < Generated.maxRecursion) (h0 : re[ix]? = some (ch '('))
    (h1 : re[ix + 1]? = some (ch '?')) (h2 : re[ix + 2]? = some (ch 'i'))
    (h3 : re[ix + 3]? = some (ch ')')) :
    parseAtom isAlnum (f + 3) re st ix d = .ok (ix + 4, .empty, withI st) := by
  have hlt := lt_size_of_get h0
  have hws : optWs re st.flags ix = .ok ix := by
    rw [optWs_step h0]
    have e1 : (ch '(' == ch '#') = false := by decide
    have e2 : (ch '(' == ch ' ' || ch '(' == ch '\r' || ch '(' == ch '\n' || ch '(' == ch '\t') = false := by
      decide
    have e3 : startsWithAt re ix [ch '(', ch '?', ch '#'] = false := by
      have : ch 'i' ≠ ch '#' := by decide
      simp [startsWithAt, h0, h1, h2, this]
    simp only [e1, e2, e3, Bool.false_and, Bool.and_false, Bool.false_eq_true, ↓reduceIte]
  have hne : (ix == re.size) = false := by simpa using (by omega : ix ≠ re.size)
  have c1 : (ch '(' == ch '.') = false := by decide
  have c2 : (ch '(' == ch '^') = false := by decide
  have c3 : (ch '(' == ch '$') = false := by decide
  rw [parseAtom]
  simp only [hws, Res.ok_bind, hne, Bool.false_eq_true, ↓reduceIte, byteAt, h0, c1, c2, c3,
    beq_self_eq_true]
  exact parseGroup_i isAlnum f st d hd h1 h2 h3

/-- `parse_piece` at `(?i)`: the flag group is an `Empty` atom that made progress, so whatever
    follows (after comments / free-spacing white space) **is read as its quantifier if it looks
    like one** — `TargetNotRepeatable`, the source of `C14_parse_flag_false_brace` — and otherwise
    the piece is `Empty` -/
theorem parsePiece_i (isAlnum : Char → Bool) {re : Bytes} (f : Nat) (st : PState) {ix ix' : Nat} (d : Nat)
    (hd : d + 1 < Generated.maxRecursion) (h0 : re[ix]? = some (ch '('))
    (h1 : re[ix + 1]? = some (ch '?')) (h2 : re[ix + 2]? = some (ch 'i'))
    (h3 : re[ix + 3]? = some (ch ')'))
    (hw : optWs re (withI st).flags (ix + 4) = .ok ix') :
    parsePiece isAlnum (f + 4) re st ix d =
      match re[ix']? with
      | none => .ok (ix', .empty, withI st)
      | some b =>
        quantAt re (withI st).flags ix' b >>= fun q =>
          match q with
          | none => .ok (ix', .empty, withI st)
          | some (_, _, qe) => .err .targetNotRepeatable qe := by
  rw [parsePiece_eq, parseAtom_i isAlnum f st d hd h0 h1 h2 h3]
  simp only [Res.ok_bind, hw]
  cases hg : re[ix']? with
  | none =>
    have : ¬ (ix' < re.size) := by
      intro h; rw [Array.getElem?_eq_none_iff] at hg; omega
    simp only [this, ↓reduceIte]
  | some b =>
    have hlt := lt_size_of_get hg
    simp only [hlt, ↓reduceIte, byteAt, hg, Res.ok_bind]
    congr 1

/-- **C14_flag_group_seeds**: in any pattern that begins with `(?i)` — in particular
    `"(?i)" ++ P` — the loop of `parse_branch` started at 0 in the parser's initial state (`{}`:
    what `Regex::new` starts with) continues, after the flag group, at the first byte `ix'` that
    `optional_whitespace` does not skip, in the state `{ flags := { casei := true } }` — which is
    **literally the initial state `parse_with_case_insensitive(re, true)` starts with** (what
    `RegexBuilder::case_insensitive(true)` seeds) — and the flag group contributes no child.
    Hypothesis `hq`: the byte at `ix'` does not read as a quantifier (`?`, `*`, `+`, or a `{n,m}`
    that `parse_repeat` accepts); without it the result is `TargetNotRepeatable` (`parsePiece_i`),
    which is how the full statement fails. -/
theorem C14_flag_group_seeds (isAlnum : Char → Bool) {re : Bytes} (f : Nat) {ix' : Nat}
    (h0 : re[0]? = some (ch '(')) (h1 : re[1]? = some (ch '?')) (h2 : re[2]? = some (ch 'i'))
    (h3 : re[3]? = some (ch ')'))
    (hw : optWs re { casei := true } 4 = .ok ix')
    (hq : ∀ b, re[ix']? = some b → quantAt re { casei := true } ix' b = .ok none) :
    branchLoop isAlnum (f + 5) re {} 0 0 =
      branchLoop isAlnum (f + 4) re { flags := { casei := true } } ix' 0 := by
  have hlt := lt_size_of_get h0
  have hge : 4 ≤ ix' := by
    have := (C06_optionalWhitespace_bounds re { casei := true } 4 (by have := lt_size_of_get h3; omega)).1
      ix' hw
    exact this.1
  have hp := parsePiece_i isAlnum f {} (ix := 0) (ix' := ix') 0 (by decide) h0 h1 h2 h3 hw
  have hp' : parsePiece isAlnum (f + 4) re {} 0 0 = .ok (ix', .empty, { flags := { casei := true } }) := by
    rw [hp]
    have e : (withI ({} : PState)).flags = { casei := true } := rfl
    rw [e]
    cases hg : re[ix']? with
    | none => rfl
    | some b => simp only [hq b hg, Res.ok_bind]; rfl
  have hne : (ix' == 0) = false := by simpa using (by omega : ix' ≠ 0)
  rw [branchLoop]
  simp only [hlt, ↓reduceIte, hp', Res.ok_bind, hne, Bool.false_eq_true, Expr.isEmpty]
  cases branchLoop isAlnum (f + 4) re { flags := { casei := true } } ix' 0 <;> rfl
/-! ## shift invariance of the parser: a run on `re1` from `ix` against a run on
`re2 = pre ++ re1` from `ix + |pre|` -/

/-- `re2` is `re1` with `k` bytes in front, and `k` is a character boundary of `re2` -/
structure Shift (re1 re2 : Bytes) (k : Nat) : Prop where
  list : ∃ pre : List Nat, pre.length = k ∧ re2.toList = pre ++ re1.toList
  bnd0 : isBoundary re2 k = true

namespace Shift
variable {re1 re2 : Bytes} {k : Nat}

theorem size (S : Shift re1 re2 k) : re2.size = re1.size + k := by
  obtain ⟨pre, hk, h⟩ := S.list
  have := size_of_split h
  simp only [Array.length_toList] at this
  omega

theorem get (S : Shift re1 re2 k) (i : Nat) : re2[i + k]? = re1[i]? := by
  obtain ⟨pre, hk, h⟩ := S.list
  rw [← Array.getElem?_toList, h, ← hk, List.getElem?_append_right (by omega)]
  simp

theorem drop (S : Shift re1 re2 k) (i : Nat) : re2.toList.drop (i + k) = re1.toList.drop i := by
  obtain ⟨pre, hk, h⟩ := S.list
  rw [h, ← hk, Nat.add_comm, ← List.drop_drop]
  simp

theorem extract (S : Shift re1 re2 k) (a b : Nat) :
    (re2.extract (a + k) (b + k)).toList = (re1.extract a b).toList := by
  rw [Array.toList_extract, Array.toList_extract, List.extract_eq_take_drop, List.extract_eq_take_drop,
    S.drop, show b + k - (a + k) = b - a by omega]

theorem isBoundary (S : Shift re1 re2 k) (i : Nat) : isBoundary re2 (i + k) = isBoundary re1 i := by
  by_cases h0 : i = 0
  · subst h0
    rw [Nat.zero_add, S.bnd0, isBoundary_zero]
  · unfold Parse.isBoundary
    rw [S.get, S.size]
    have e1 : (i + k == 0) = false := by simpa using (by omega : i + k ≠ 0)
    have e2 : (i == 0) = false := by simpa using h0
    have e3 : (i + k == re1.size + k) = (i == re1.size) := by
      by_cases h : i = re1.size
      · subst h; simp
      · have h' : i + k ≠ re1.size + k := by omega
        rw [beq_false_of_ne h, beq_false_of_ne h']
    rw [e1, e2, e3]

theorem startsWithAt (S : Shift re1 re2 k) : ∀ (l : List Nat) (i : Nat),
    startsWithAt re2 (i + k) l = startsWithAt re1 i l := by
  intro l
  induction l with
  | nil => intro i; rfl
  | cons c cs ih =>
    intro i
    simp only [Parse.startsWithAt, S.get]
    rw [show i + k + 1 = i + 1 + k by omega, ih]

theorem lt_size (S : Shift re1 re2 k) (i : Nat) : (i + k < re2.size) = (i < re1.size) := by
  rw [S.size]; simp

theorem eq_size (S : Shift re1 re2 k) (i : Nat) : (i + k == re2.size) = (i == re1.size) := by
  rw [S.size]
  by_cases h : i = re1.size
  · subst h; simp
  · have h' : i + k ≠ re1.size + k := by omega
    rw [beq_false_of_ne h, beq_false_of_ne h']

end Shift

/-! ### the simulation relation -/

/-- the two errors whose occurrence depends on the length of the pattern (`group < re.len() / 2`) -/
def BadErr : PErr → Prop
  | .invalidBackref => True
  | .invalidGroupNameBackref _ => True
  | _ => False

/-- run 2 does what run 1 does, `k` bytes to the right: same value (shifted by `sh`), same error
    `k` bytes later — unless run 1 stops at a length-dependent back-reference error; nothing is
    claimed if run 1 panics or runs out of fuel (it never does, C06) -/
def SimB {α β : Type} (bad : PErr → Prop) (k : Nat) (sh : α → β) (r1 : Res α) (r2 : Res β) : Prop :=
  match r1 with
  | .ok a => r2 = .ok (sh a)
  | .err e p => bad e ∨ r2 = .err e (p + k)
  | .cerr => r2 = .cerr
  | .panic _ => True
  | .outOfFuel => True

/-- the simulation up to the length-dependent back-reference errors -/
abbrev Sim {α β : Type} (k : Nat) (sh : α → β) (r1 : Res α) (r2 : Res β) : Prop := SimB BadErr k sh r1 r2

theorem SimB.bind {α β α' β' : Type} {bad : PErr → Prop} {k : Nat} {sh : α → α'} {sh' : β → β'} {x1 : Res α} {x2 : Res α'}
    {f1 : α → Res β} {f2 : α' → Res β'} (hx : SimB bad k sh x1 x2)
    (hf : ∀ a, SimB bad k sh' (f1 a) (f2 (sh a))) : SimB bad k sh' (x1 >>= f1) (x2 >>= f2) := by
  cases x1 with
  | ok a => simp only [SimB] at hx; subst hx; exact hf a
  | err e p =>
    simp only [SimB] at hx
    rcases hx with h | h
    · exact Or.inl h
    · subst h; exact Or.inr rfl
  | cerr => simp only [SimB] at hx; subst hx; rfl
  | panic s => trivial
  | outOfFuel => trivial

/-- `SimB.bind` after a step whose value is the same in both runs -/
theorem SimB.bind_id {α β β' : Type} {bad : PErr → Prop} {k : Nat} {sh' : β → β'} {x1 x2 : Res α}
    {f1 : α → Res β} {f2 : α → Res β'} (hx : SimB bad k id x1 x2)
    (hf : ∀ a, SimB bad k sh' (f1 a) (f2 a)) : SimB bad k sh' (x1 >>= f1) (x2 >>= f2) :=
  SimB.bind hx hf

theorem SimB.ite {α β : Type} {bad : PErr → Prop} {k : Nat} {sh : α → β} {c1 c2 : Prop} [Decidable c1] [Decidable c2]
    {t1 e1 : Res α} {t2 e2 : Res β} (hc : c2 ↔ c1) (ht : c1 → SimB bad k sh t1 t2)
    (he : ¬ c1 → SimB bad k sh e1 e2) : SimB bad k sh (if c1 then t1 else e1) (if c2 then t2 else e2) := by
  by_cases h : c1
  · rw [if_pos h, if_pos (hc.mpr h)]; exact ht h
  · rw [if_neg h, if_neg (fun h2 => h (hc.mp h2))]; exact he h

theorem SimB.ok {α β : Type} {bad : PErr → Prop} {k : Nat} {sh : α → β} (a : α) : SimB bad k sh (.ok a) (.ok (sh a)) := rfl
theorem SimB.ok' {α β : Type} {bad : PErr → Prop} {k : Nat} {sh : α → β} {a : α} {b : β} (h : b = sh a) :
    SimB bad k sh (.ok a) (.ok b) := by subst h; rfl
theorem SimB.err' {α β : Type} {bad : PErr → Prop} {k : Nat} {sh : α → β} {e : PErr} {p q : Nat} (h : q = p + k) :
    SimB bad k sh (.err e p : Res α) (.err e q : Res β) := by subst h; exact Or.inr rfl
theorem SimB.pure {α β : Type} {bad : PErr → Prop} {k : Nat} {sh : α → β} (a : α) :
    SimB bad k sh (pure a : Res α) (pure (sh a) : Res β) := rfl
theorem SimB.err {α β : Type} {bad : PErr → Prop} {k : Nat} {sh : α → β} (e : PErr) (p : Nat) :
    SimB bad k sh (.err e p : Res α) (.err e (p + k) : Res β) := Or.inr rfl
theorem SimB.panic {α β : Type} {bad : PErr → Prop} {k : Nat} {sh : α → β} (s : String) (r2 : Res β) :
    SimB bad k sh (.panic s : Res α) r2 := trivial

theorem SimB.mono {α β : Type} {bad : PErr → Prop} {k : Nat} {sh sh' : α → β} {r1 : Res α} {r2 : Res β}
    (h : SimB bad k sh r1 r2) (hs : ∀ a, sh a = sh' a) : SimB bad k sh' r1 r2 := by
  have : sh = sh' := funext hs
  subst this; exact h

/-- shift of a result whose first component is an index -/
def shIx (k : Nat) {α : Type} : Nat × α → Nat × α := fun r => (r.1 + k, r.2)

theorem SimB.okIx {α : Type} {bad : PErr → Prop} {k a b : Nat} {r : α} (h : b = a + k) :
    SimB bad k (shIx k) (.ok (a, r)) (.ok (b, r)) := by subst h; rfl

/-- `SimB.bind` after a step that returns an index and two more values -/
theorem SimB.bindIx {α β γ γ' : Type} {bad : PErr → Prop} {k : Nat} {sh' : γ → γ'}
    {x1 x2 : Res (Nat × α × β)} {f1 : Nat × α × β → Res γ} {f2 : Nat × α × β → Res γ'}
    (hx : SimB bad k (shIx k) x1 x2) (hf : ∀ i a b, SimB bad k sh' (f1 (i, a, b)) (f2 (i + k, a, b))) :
    SimB bad k sh' (x1 >>= f1) (x2 >>= f2) :=
  SimB.bind hx fun r => hf r.1 r.2.1 r.2.2

/-! ### leaves

Every lemma takes the position `j` of run 2 as a variable with `j = i + k`, so that it applies
whatever form the position has at the call. -/
section leaves
variable {re1 re2 : Bytes} {k : Nat} {bad : PErr → Prop}

theorem sliceOk_shift (S : Shift re1 re2 k) (a b : Nat) : sliceOk re2 (a + k) (b + k) = sliceOk re1 a b := by
  unfold sliceOk
  rw [S.isBoundary, S.isBoundary, S.size]
  have e1 : decide (a + k ≤ b + k) = decide (a ≤ b) := by simp
  have e2 : decide (b + k ≤ re1.size + k) = decide (b ≤ re1.size) := by simp
  rw [e1, e2]

theorem Shift.beq_size (S : Shift re1 re2 k) (i : Nat) : (i + k == re2.size) = true ↔ (i == re1.size) = true := by
  rw [S.eq_size]

theorem sim_byteAt (S : Shift re1 re2 k) {i j : Nat} (h : j = i + k) (site : String) :
    SimB bad k id (byteAt re1 i site) (byteAt re2 j site) := by
  subst h
  unfold byteAt
  rw [S.get]
  cases re1[i]? with
  | none => trivial
  | some b => rfl

theorem sim_slice (S : Shift re1 re2 k) {a b a' b' : Nat} (ha : a' = a + k) (hb : b' = b + k)
    (site : String) : SimB bad k id (slice re1 a b site) (slice re2 a' b' site) := by
  subst ha hb
  unfold slice
  rw [sliceOk_shift S, S.extract]
  split
  · rfl
  · trivial

theorem sim_sliceFrom (S : Shift re1 re2 k) {i j : Nat} (h : j = i + k) (site : String) :
    SimB bad k id (sliceFrom re1 i site) (sliceFrom re2 j site) := by
  subst h
  unfold sliceFrom sliceFromOk
  rw [S.isBoundary]
  split
  · rfl
  · trivial

theorem sim_parseDecimal (S : Shift re1 re2 k) {i j : Nat} (h : j = i + k) :
    SimB bad k (Option.map (shIx k)) (parseDecimal re1 i) (parseDecimal re2 j) := by
  subst h
  unfold parseDecimal
  simp only [S.drop]
  generalize (re1.toList.drop i).takeWhile isDigit = ds
  rw [show i + k + ds.length = i + ds.length + k by omega, sliceOk_shift S]
  refine SimB.ite Iff.rfl (fun _ => SimB.panic _ _) (fun _ => ?_)
  refine SimB.ite Iff.rfl (fun _ => SimB.ok _) (fun _ => ?_)
  exact SimB.ite Iff.rfl (fun _ => SimB.ok _) (fun _ => SimB.ok _)

/-- the comment loop: same steps; run 2 may have more fuel -/
theorem sim_skipComment (S : Shift re1 re2 k) : ∀ (f c : Nat) {i j : Nat}, j = i + k →
    SimB bad k (· + k) (skipComment f re1 i) (skipComment (f + c) re2 j) := by
  intro f
  induction f with
  | zero => intro c i j h; trivial
  | succ f ih =>
    intro c i j h
    subst h
    rw [show f + 1 + c = (f + c) + 1 by omega, skipComment, skipComment, S.size, S.get]
    refine SimB.ite (by omega) (fun _ => SimB.err _ _) (fun _ => ?_)
    cases re1[i]? with
    | none => exact SimB.panic _ _
    | some b =>
      refine SimB.ite Iff.rfl (fun _ => SimB.ok' (by omega)) (fun _ => ?_)
      exact SimB.ite Iff.rfl (fun _ => ih c (by omega)) (fun _ => ih c (by omega))

/-- one iteration of `optional_whitespace`, as a composition -/
theorem optionalWhitespace_succ (f : Nat) (re : Bytes) (fl : Flags) (ix : Nat) :
    optionalWhitespace (f + 1) re fl ix =
      (if ix == re.size then .ok ix
      else do
        let b ← byteAt re ix "optional_whitespace: bytes[ix]"
        if b == ch '#' && fl.ignoreSpace then
          match (re.toList.drop ix).findIdx? (· == 10) with
          | some x => optionalWhitespace f re fl (ix + x + 1)
          | none => .ok re.size
        else if (b == ch ' ' || b == ch '\r' || b == ch '\n' || b == ch '\t') && fl.ignoreSpace then
          optionalWhitespace f re fl (ix + 1)
        else if b == ch '(' && startsWithAt re ix [ch '(', ch '?', ch '#'] then
          skipComment (re.size + 1) re (ix + 3) >>= optionalWhitespace f re fl
        else .ok ix) := by
  rw [optionalWhitespace]
  by_cases h : (ix == re.size) = true
  · rw [if_pos h, if_pos h]
  · rw [if_neg h, if_neg h, byteAt]
    cases re[ix]? with
    | none => rfl
    | some b =>
      simp only [Res.ok_bind]
      cases (re.toList.drop ix).findIdx? (· == 10) <;>
        cases skipComment (re.size + 1) re (ix + 3) <;> rfl

/-- `optional_whitespace`: same steps; run 2 may have more fuel -/
theorem sim_optionalWhitespace (S : Shift re1 re2 k) (fl : Flags) : ∀ (f c : Nat) {i j : Nat}, j = i + k →
    SimB bad k (· + k) (optionalWhitespace f re1 fl i) (optionalWhitespace (f + c) re2 fl j) := by
  intro f
  induction f with
  | zero => intro c i j h; trivial
  | succ f ih =>
    intro c i j h
    subst h
    rw [show f + 1 + c = (f + c) + 1 by omega, optionalWhitespace_succ, optionalWhitespace_succ,
      S.drop, S.startsWithAt, S.size]
    refine SimB.ite (by simp) (fun _ => SimB.ok _) (fun _ => ?_)
    refine SimB.bind_id (sim_byteAt S rfl _) (fun b => ?_)
    refine SimB.ite Iff.rfl (fun _ => ?_) (fun _ => ?_)
    · cases (re1.toList.drop i).findIdx? (· == 10) with
      | none => exact SimB.ok _
      | some x => exact ih c (by omega)
    refine SimB.ite Iff.rfl (fun _ => ih c (by omega)) (fun _ => ?_)
    refine SimB.ite Iff.rfl (fun _ => ?_) (fun _ => SimB.ok _)
    rw [show re1.size + k + 1 = re1.size + 1 + k by omega]
    exact SimB.bind (sim_skipComment S _ _ (by omega)) (fun _ => ih c rfl)

theorem sim_optWs (S : Shift re1 re2 k) (fl : Flags) {i j : Nat} (h : j = i + k) :
    SimB bad k (· + k) (optWs re1 fl i) (optWs re2 fl j) := by
  unfold optWs
  rw [S.size, show re1.size + k + 2 = re1.size + 2 + k by omega]
  exact sim_optionalWhitespace S fl _ _ h

theorem sim_parseRepeat (S : Shift re1 re2 k) (fl : Flags) {i j : Nat} (h : j = i + k) :
    SimB bad k (shIx k) (parseRepeat re1 fl i) (parseRepeat re2 fl j) := by
  unfold parseRepeat
  refine SimB.bind (sim_optWs S fl (by omega)) (fun ix1 => ?_)
  refine SimB.ite (S.beq_size ix1) (fun _ => SimB.err _ _) (fun _ => ?_)
  refine SimB.bind_id (sim_byteAt S rfl _) (fun b => ?_)
  refine SimB.bind (sh := fun p : Nat × Nat => (p.1, p.2 + k)) ?_ (fun lo_end => ?_)
  · refine SimB.ite Iff.rfl (fun _ => SimB.pure _) (fun _ => ?_)
    refine SimB.bind (sim_parseDecimal S rfl) (fun r => ?_)
    cases r with
    | none => exact SimB.err _ _
    | some p => exact SimB.pure _
  refine SimB.bind (sim_optWs S fl rfl) (fun ix2 => ?_)
  refine SimB.ite (S.beq_size ix2) (fun _ => SimB.err _ _) (fun _ => ?_)
  refine SimB.bind_id (sim_byteAt S rfl _) (fun b2 => ?_)
  refine SimB.bind (sh := fun p : Nat × Nat => (p.1, p.2 + k)) ?_ (fun hi_end => ?_)
  · refine SimB.ite Iff.rfl (fun _ => SimB.pure _) (fun _ => ?_)
    refine SimB.ite Iff.rfl (fun _ => ?_) (fun _ => SimB.err _ _)
    refine SimB.bind (sim_optWs S fl (by omega)) (fun e => ?_)
    refine SimB.bind (sim_parseDecimal S rfl) (fun r => ?_)
    cases r with
    | none => exact SimB.pure _
    | some p => exact SimB.pure _
  refine SimB.bind (sim_optWs S fl rfl) (fun ix3 => ?_)
  refine SimB.ite (S.beq_size ix3) (fun _ => SimB.err _ _) (fun _ => ?_)
  refine SimB.bind_id (sim_byteAt S rfl _) (fun b3 => ?_)
  exact SimB.ite Iff.rfl (fun _ => SimB.err _ _) (fun _ => SimB.okIx (by omega))

theorem decodeAt_shift (S : Shift re1 re2 k) (ix b : Nat) : decodeAt re2 (ix + k) b = decodeAt re1 ix b := by
  unfold decodeAt
  dsimp only
  rw [show ix + k + codepointLen b = ix + codepointLen b + k by omega, S.extract]

theorem sim_findNot (S : Shift re1 re2 k) (pred : Char → Bool) : ∀ (f c : Nat) {i j : Nat}, j = i + k →
    SimB bad k (Option.map (· + k)) (findNot pred f re1 i) (findNot pred (f + c) re2 j) := by
  intro f
  induction f with
  | zero => intro c i j h; trivial
  | succ f ih =>
    intro c i j h
    subst h
    rw [show f + 1 + c = (f + c) + 1 by omega, findNot, findNot, S.get]
    cases re1[i]? with
    | none => exact SimB.ok _
    | some b =>
      simp only [decodeAt_shift S]
      exact SimB.ite Iff.rfl (fun _ => ih c (by omega)) (fun _ => SimB.ok _)

/-- shift of the result of `parse_id` -/
def shId (k : Nat) : Option (Nat × Nat × Nat) → Option (Nat × Nat × Nat) :=
  Option.map fun t => (t.1 + k, t.2.1 + k, t.2.2)

theorem sim_parseId (S : Shift re1 re2 k) (isAlnum : Char → Bool) {i j : Nat} (h : j = i + k)
    (open_ close : List Nat) (allowRel : Bool) :
    SimB bad k (shId k) (parseId isAlnum re1 i open_ close allowRel)
      (parseId isAlnum re2 j open_ close allowRel) := by
  subst h
  unfold parseId
  dsimp only
  refine SimB.ite Iff.rfl (fun _ => trivial) (fun _ => ?_)
  rw [S.startsWithAt]
  refine SimB.ite Iff.rfl (fun _ => SimB.ok _) (fun _ => ?_)
  refine SimB.bind_id (sim_sliceFrom S (by omega) _) (fun _ => ?_)
  rw [show i + k + open_.length = i + open_.length + k by omega, S.get, S.size,
    show re1.size + k + 1 = re1.size + 1 + k by omega]
  refine SimB.bind (sh := Option.map (· + k)) ?_ (fun afterId => ?_)
  · exact SimB.ite Iff.rfl (fun _ => sim_findNot S _ _ _ (by omega)) (fun _ => sim_findNot S _ _ _ rfl)
  refine SimB.bind_id ?_ (fun idLen => ?_)
  · cases afterId with
    | none =>
      rw [Option.map_none, show re1.size + k - (i + k) = re1.size - i by omega]
      exact SimB.ite Iff.rfl (fun _ => rfl) (fun _ => rfl)
    | some p =>
      rw [Option.map_some]
      refine SimB.bind_id (sim_sliceFrom S rfl _) (fun _ => ?_)
      rw [S.startsWithAt, show p + k - (i + open_.length + k) = p - (i + open_.length) by omega]
      exact SimB.ite Iff.rfl (fun _ => rfl) (fun _ => rfl)
  cases idLen with
  | none => exact SimB.ok _
  | some l =>
    cases l with
    | zero => exact SimB.ok _
    | succ l =>
      simp only
      rw [show i + open_.length + k + (l + 1) = i + open_.length + (l + 1) + k by omega, sliceOk_shift S]
      refine SimB.ite Iff.rfl (fun _ => trivial) (fun _ => SimB.ok' ?_)
      simp only [shId, Option.map_some]
      rw [show i + open_.length + (l + 1) + k - (i + k) = i + open_.length + (l + 1) - i by omega]

theorem half_le (S : Shift re1 re2 k) : re1.size / 2 ≤ re2.size / 2 := by
  rw [S.size]; omega

theorem sim_parseNumberedBackref (S : Shift re1 re2 k) (st : PState) {i j : Nat} (h : j = i + k)
    (kind : RefKind) :
    Sim k (shIx k) (parseNumberedBackref re1 st i kind) (parseNumberedBackref re2 st j kind) := by
  subst h
  unfold parseNumberedBackref
  refine SimB.bind (sim_parseDecimal S rfl) (fun r => ?_)
  cases r with
  | none => exact Or.inl trivial
  | some p =>
    obtain ⟨e, g⟩ := p
    simp only [Option.map_some, shIx]
    have := half_le S
    by_cases hg : g < re1.size / 2
    · rw [if_pos hg, if_pos (by omega)]; rfl
    · rw [if_neg hg]; exact Or.inl trivial

theorem sim_parseNamedBackref (S : Shift re1 re2 k) (isAlnum : Char → Bool) (st : PState) {i j : Nat}
    (h : j = i + k) (open_ close : List Nat) (allowRel : Bool) (kind : RefKind) :
    Sim k (shIx k) (parseNamedBackref isAlnum re1 st i open_ close allowRel kind)
      (parseNamedBackref isAlnum re2 st j open_ close allowRel kind) := by
  subst h
  unfold parseNamedBackref
  refine SimB.bind_id (sim_sliceFrom S rfl _) (fun _ => ?_)
  refine SimB.bind (sim_parseId S isAlnum rfl open_ close allowRel) (fun r => ?_)
  cases r with
  | none => exact SimB.err _ _
  | some t =>
    obtain ⟨a, b, skip⟩ := t
    simp only [shId, Option.map_some, S.extract]
    have key : ∀ group : Option Nat, Sim k (shIx k)
        (match group.filter (fun g => decide (g < re1.size / 2)) with
          | some g => Res.ok (i + skip, kind.mk g, { st with backrefs := bitsetInsert st.backrefs g })
          | none => Res.err (.invalidGroupNameBackref (re1.extract a b).toList) i)
        (match group.filter (fun g => decide (g < re2.size / 2)) with
          | some g => Res.ok (i + k + skip, kind.mk g, { st with backrefs := bitsetInsert st.backrefs g })
          | none => Res.err (.invalidGroupNameBackref (re1.extract a b).toList) (i + k)) := by
      intro group
      have := half_le S
      cases group with
      | none => exact Or.inl trivial
      | some g =>
        by_cases hg : g < re1.size / 2
        · rw [Option.filter_some, Option.filter_some, if_pos (by simpa using hg), if_pos (by simp; omega)]
          exact SimB.okIx (by omega)
        · rw [Option.filter_some, if_neg (by simpa using hg)]; exact Or.inl trivial
    exact key _

theorem sim_hexBraceLoop (S : Shift re1 re2 k) (ix : Nat) {s s' : Nat} (hs : s' = s + k) :
    ∀ (f : Nat) {e e' : Nat}, e' = e + k →
    SimB bad k (· + k) (hexBraceLoop f re1 ix s e) (hexBraceLoop f re2 (ix + k) s' e') := by
  subst hs
  intro f
  induction f with
  | zero => intro e e' h; trivial
  | succ f ih =>
    intro e e' h
    subst h
    rw [hexBraceLoop, hexBraceLoop, S.eq_size, S.get]
    refine SimB.ite Iff.rfl (fun _ => SimB.err _ _) (fun _ => ?_)
    cases re1[e]? with
    | none => trivial
    | some b =>
      refine SimB.ite (by simp) (fun _ => SimB.ok _) (fun _ => ?_)
      exact SimB.ite (by simp; omega) (fun _ => ih (by omega)) (fun _ => SimB.err _ _)

theorem sim_parseHex (S : Shift re1 re2 k) (fl : Flags) {i j : Nat} (h : j = i + k) (digits : Nat) :
    SimB bad k (shIx k) (parseHex re1 fl i digits) (parseHex re2 fl j digits) := by
  subst h
  unfold parseHex
  refine SimB.ite (by rw [S.size]; omega) (fun _ => SimB.err _ _) (fun _ => ?_)
  refine SimB.bind_id (sim_byteAt S rfl _) (fun b => ?_)
  refine SimB.bind (sh := shIx k) ?_ (fun es => ?_)
  · rw [show i + k + digits = i + digits + k by omega, S.extract, S.size]
    refine SimB.ite (by simp) (fun _ => ?_) (fun _ => ?_)
    · exact SimB.bind_id (sim_slice S rfl rfl _) (fun s => SimB.pure _)
    refine SimB.ite Iff.rfl (fun _ => ?_) (fun _ => SimB.err _ _)
    refine SimB.bind (sim_hexBraceLoop S i (by omega) 16 (by omega)) (fun e => ?_)
    exact SimB.bind_id (sim_slice S (by omega) rfl _) (fun s => SimB.okIx (by omega))
  obtain ⟨e, s⟩ := es
  simp only [shIx]
  cases parseHexU32 s with
  | none => trivial
  | some cp => exact SimB.ite Iff.rfl (fun _ => SimB.okIx rfl) (fun _ => SimB.err _ _)

theorem sim_uniNameLoop (S : Shift re1 re2 k) (ix : Nat) : ∀ (f c : Nat) {e e' : Nat}, e' = e + k →
    SimB bad k (· + k) (uniNameLoop f re1 ix e) (uniNameLoop (f + c) re2 (ix + k) e') := by
  intro f
  induction f with
  | zero => intro c e e' h; trivial
  | succ f ih =>
    intro c e e' h
    subst h
    rw [show f + 1 + c = (f + c) + 1 by omega, uniNameLoop, uniNameLoop, S.eq_size, S.get]
    refine SimB.ite Iff.rfl (fun _ => SimB.err _ _) (fun _ => ?_)
    cases re1[e]? with
    | none => trivial
    | some b => exact SimB.ite Iff.rfl (fun _ => SimB.ok' (by omega)) (fun _ => ih c (by omega))

theorem sim_parseEscape (S : Shift re1 re2 k) (isAlnum : Char → Bool) (st : PState) {i j : Nat}
    (h : j = i + k) (inClass : Bool) :
    Sim k (shIx k) (parseEscape isAlnum re1 st i inClass) (parseEscape isAlnum re2 st j inClass) := by
  subst h
  unfold parseEscape
  rw [show i + k + 1 = i + 1 + k by omega, S.get]
  cases re1[i + 1]? with
  | none => exact SimB.err _ _
  | some b =>
    simp only
    rw [show i + 1 + k + codepointLen b = i + 1 + codepointLen b + k by omega]
    generalize i + 1 + codepointLen b = e
    rw [S.get, S.eq_size]
    have hne : (e + k != re2.size) = (e != re1.size) := by
      unfold bne; rw [S.eq_size]
    rw [hne]
    have hnamed : ∀ (o c : List Nat) (kind : RefKind),
        Sim k (shIx k) (parseNamedBackref isAlnum re1 st e o c true kind)
          (parseNamedBackref isAlnum re2 st (e + k) o c true kind) :=
      fun o c kind => sim_parseNamedBackref S isAlnum st rfl o c true kind
    have hok : ∀ (x : Expr), Sim k (shIx k) (.ok (e, x, st)) (.ok (e + k, x, st)) := fun x => SimB.okIx rfl
    have hhex : ∀ digits, Sim k (shIx k)
        (do let (e', x) ← parseHex re1 st.flags e digits; Res.ok (e', x, st))
        (do let (e', x) ← parseHex re2 st.flags (e + k) digits; Res.ok (e', x, st)) :=
      fun digits => SimB.bind (sim_parseHex S st.flags rfl digits) (fun _ => SimB.okIx rfl)
    -- digit
    refine SimB.ite Iff.rfl (fun _ => sim_parseNumberedBackref S st rfl _) (fun _ => ?_)
    -- \k
    refine SimB.ite Iff.rfl (fun _ => ?_) (fun _ => ?_)
    · exact SimB.ite Iff.rfl (fun _ => hnamed _ _ _) (fun _ => hnamed _ _ _)
    -- \A \z \Z
    refine SimB.ite Iff.rfl (fun _ => hok _) (fun _ => ?_)
    refine SimB.ite Iff.rfl (fun _ => hok _) (fun _ => ?_)
    refine SimB.ite Iff.rfl (fun _ => hok _) (fun _ => ?_)
    -- \b
    refine SimB.ite Iff.rfl (fun _ => ?_) (fun _ => ?_)
    · refine SimB.ite Iff.rfl (fun _ => ?_) (fun _ => hok _)
      exact SimB.bind_id (sim_slice S rfl rfl _) (fun s => SimB.err _ _)
    -- \B
    refine SimB.ite Iff.rfl (fun _ => ?_) (fun _ => ?_)
    · refine SimB.ite Iff.rfl (fun _ => ?_) (fun _ => hok _)
      exact SimB.bind_id (sim_slice S rfl rfl _) (fun s => SimB.err _ _)
    -- \< \>
    refine SimB.ite Iff.rfl (fun _ => hok _) (fun _ => ?_)
    refine SimB.ite Iff.rfl (fun _ => hok _) (fun _ => ?_)
    -- \d \s \w
    refine SimB.ite Iff.rfl (fun _ => ?_) (fun _ => ?_)
    · exact SimB.bind_id (sim_slice S rfl rfl _) (fun s => hok _)
    -- \h
    refine SimB.ite Iff.rfl (fun _ => hok _) (fun _ => ?_)
    -- \x \u \U
    refine SimB.ite Iff.rfl (fun _ => hhex 2) (fun _ => ?_)
    refine SimB.ite Iff.rfl (fun _ => hhex 4) (fun _ => ?_)
    refine SimB.ite Iff.rfl (fun _ => hhex 8) (fun _ => ?_)
    -- \p
    refine SimB.ite Iff.rfl (fun _ => ?_) (fun _ => ?_)
    · refine SimB.bind_id (sim_byteAt S rfl _) (fun b2 => ?_)
      refine SimB.bind (sh := (· + k)) ?_ (fun e2 => ?_)
      · refine SimB.ite Iff.rfl (fun _ => ?_) (fun _ => SimB.ok' (by omega))
        rw [S.size, show re1.size + k + 1 = re1.size + 1 + k by omega]
        exact sim_uniNameLoop S i _ _ (by omega)
      exact SimB.bind_id (sim_slice S rfl rfl _) (fun s => SimB.okIx rfl)
    -- \K \G
    refine SimB.ite Iff.rfl (fun _ => hok _) (fun _ => ?_)
    refine SimB.ite Iff.rfl (fun _ => hok _) (fun _ => ?_)
    -- \g
    refine SimB.ite Iff.rfl (fun _ => ?_) (fun _ => ?_)
    · refine SimB.ite Iff.rfl (fun _ => SimB.err _ _) (fun _ => ?_)
      refine SimB.bind_id (sim_byteAt S rfl _) (fun b2 => ?_)
      refine SimB.ite Iff.rfl (fun _ => sim_parseNumberedBackref S st rfl _) (fun _ => ?_)
      exact SimB.ite Iff.rfl (fun _ => hnamed _ _ _) (fun _ => hnamed _ _ _)
    -- single letters
    refine SimB.ite Iff.rfl (fun _ => hok _) (fun _ => ?_)
    refine SimB.ite Iff.rfl (fun _ => hok _) (fun _ => ?_)
    refine SimB.ite Iff.rfl (fun _ => hok _) (fun _ => ?_)
    refine SimB.ite Iff.rfl (fun _ => hok _) (fun _ => ?_)
    refine SimB.ite Iff.rfl (fun _ => hok _) (fun _ => ?_)
    refine SimB.ite Iff.rfl (fun _ => hok _) (fun _ => ?_)
    refine SimB.ite Iff.rfl (fun _ => hok _) (fun _ => ?_)
    refine SimB.ite Iff.rfl (fun _ => hok _) (fun _ => ?_)
    refine SimB.ite Iff.rfl (fun _ => hok _) (fun _ => ?_)
    refine SimB.bind_id (sim_slice S rfl rfl _) (fun s => ?_)
    exact SimB.ite Iff.rfl (fun _ => SimB.err _ _) (fun _ => hok _)

/-- what the class loop does with an escape it has read -/
def classEscape (isAlnum : Char → Bool) (f : Nat) (re : Bytes) (ix : Nat) (nest : Int) (rcls : List Char)
    (r : Nat × Expr × PState) : Res (Nat × List Char × PState) :=
  match r.2.1 with
  | .literal val _ =>
    if val.length != 1 then .panic "parse_class: debug_assert_eq!(val.chars().count(), 1)"
    else classLoop isAlnum f re r.2.2 r.1 nest ((escapeInto val).reverse ++ rcls)
  | .delegate inner _ _ => classLoop isAlnum f re r.2.2 r.1 nest (inner.reverse ++ rcls)
  | _ => .err .invalidClass ix

theorem classLoop_succ (isAlnum : Char → Bool) (f : Nat) (re : Bytes) (st : PState) (ix : Nat) (nest : Int)
    (rcls : List Char) :
    classLoop isAlnum (f + 1) re st ix nest rcls =
      (if ix == re.size then .err .invalidClass ix
      else do
        let b ← byteAt re ix "parse_class: bytes[ix]"
        if b == ch '\\' then
          parseEscape isAlnum re st ix true >>= classEscape isAlnum f re ix nest rcls
        else if b == ch '[' then classLoop isAlnum f re st (ix + 1) (nest + 1) ('[' :: rcls)
        else if b == ch ']' then
          if nest - 1 == 0 then .ok (ix, ']' :: rcls, st)
          else classLoop isAlnum f re st (ix + 1) (nest - 1) (']' :: rcls)
        else do
          let s ← slice re ix (ix + codepointLen b) "parse_class: self.re[ix..end]"
          classLoop isAlnum f re st (ix + codepointLen b) nest ((decodeList s).reverse ++ rcls)) := by
  rw [classLoop]
  by_cases h : (ix == re.size) = true
  · rw [if_pos h, if_pos h]
  · rw [if_neg h, if_neg h, byteAt]
    cases re[ix]? with
    | none => rfl
    | some b =>
      simp only [Res.ok_bind]
      by_cases hb : (b == ch '\\') = true
      · rw [if_pos hb, if_pos hb]
        cases parseEscape isAlnum re st ix true with
        | ok r =>
          obtain ⟨e, x, st'⟩ := r
          cases x <;> rfl
        | _ => rfl
      · rw [if_neg hb, if_neg hb]
        cases slice re ix (ix + codepointLen b) "parse_class: self.re[ix..end]" <;> rfl
theorem sim_classLoop (S : Shift re1 re2 k) (isAlnum : Char → Bool) : ∀ (f c : Nat) (st : PState)
    {i j : Nat}, j = i + k → ∀ (nest : Int) (rcls : List Char),
    Sim k (shIx k) (classLoop isAlnum f re1 st i nest rcls) (classLoop isAlnum (f + c) re2 st j nest rcls) := by
  intro f
  induction f with
  | zero => intro c st i j h nest rcls; trivial
  | succ f ih =>
    intro c st i j h nest rcls
    subst h
    rw [show f + 1 + c = (f + c) + 1 by omega, classLoop_succ, classLoop_succ]
    refine SimB.ite (S.beq_size i) (fun _ => SimB.err _ _) (fun _ => ?_)
    refine SimB.bind_id (sim_byteAt S rfl _) (fun b => ?_)
    refine SimB.ite Iff.rfl (fun _ => ?_) (fun _ => ?_)
    · refine SimB.bindIx (sim_parseEscape S isAlnum st rfl true) (fun end_ e st' => ?_)
      cases e with
      | literal val ci => exact SimB.ite Iff.rfl (fun _ => trivial) (fun _ => ih _ _ rfl _ _)
      | delegate inner size ci => exact ih _ _ rfl _ _
      | _ => exact SimB.err _ _
    refine SimB.ite Iff.rfl (fun _ => ih _ _ (by omega) _ _) (fun _ => ?_)
    refine SimB.ite Iff.rfl (fun _ => ?_) (fun _ => ?_)
    · exact SimB.ite Iff.rfl (fun _ => SimB.okIx rfl) (fun _ => ih _ _ (by omega) _ _)
    · exact SimB.bind_id (sim_slice S rfl (by omega) _) (fun s => ih _ _ (by omega) _ _)

/-- `parse_class` from the start of the class text: the loop, then the node -/
theorem sim_classTail (S : Shift re1 re2 k) (isAlnum : Char → Bool) (st : PState) {i j : Nat}
    (h : j = i + k) (rcls : List Char) :
    Sim k (shIx k)
      (classLoop isAlnum (re1.size + 2) re1 st i 1 rcls >>= fun r =>
        .ok (r.1 + 1, Expr.delegate r.2.1.reverse 1 r.2.2.flags.casei, r.2.2))
      (classLoop isAlnum (re2.size + 2) re2 st j 1 rcls >>= fun r =>
        .ok (r.1 + 1, Expr.delegate r.2.1.reverse 1 r.2.2.flags.casei, r.2.2)) := by
  rw [S.size, show re1.size + k + 2 = re1.size + 2 + k by omega]
  exact SimB.bindIx (sim_classLoop S isAlnum _ _ st h 1 _) (fun _ _ _ => SimB.okIx (by omega))

theorem sim_parseClass (S : Shift re1 re2 k) (isAlnum : Char → Bool) (st : PState) {i j : Nat}
    (h : j = i + k) :
    Sim k (shIx k) (parseClass isAlnum re1 st i) (parseClass isAlnum re2 st j) := by
  subst h
  unfold parseClass
  dsimp only
  rw [show i + k + 1 = i + 1 + k by omega, S.get]
  by_cases h1 : (re1[i + 1]? == some (ch '^')) = true
  · rw [if_pos h1, if_pos h1]
    dsimp only
    rw [show i + 1 + k + 1 = i + 1 + 1 + k by omega, S.get]
    by_cases h2 : (re1[i + 1 + 1]? == some (ch ']')) = true
    · rw [if_pos h2, if_pos h2]; exact sim_classTail S isAlnum st (by omega) _
    · rw [if_neg h2, if_neg h2]; exact sim_classTail S isAlnum st rfl _
  · rw [if_neg h1, if_neg h1]
    dsimp only
    rw [S.get]
    by_cases h2 : (re1[i + 1]? == some (ch ']')) = true
    · rw [if_pos h2, if_pos h2]; exact sim_classTail S isAlnum st (by omega) _
    · rw [if_neg h2, if_neg h2]; exact sim_classTail S isAlnum st rfl _

theorem sim_checkForCloseParen (S : Shift re1 re2 k) (fl : Flags) {i j : Nat} (h : j = i + k) :
    SimB bad k (· + k) (checkForCloseParen re1 fl i) (checkForCloseParen re2 fl j) := by
  unfold checkForCloseParen
  refine SimB.bind (sim_optWs S fl h) (fun ix1 => ?_)
  refine SimB.ite (S.beq_size ix1) (fun _ => SimB.err _ _) (fun _ => ?_)
  refine SimB.bind_id (sim_byteAt S rfl _) (fun b => ?_)
  exact SimB.ite Iff.rfl (fun _ => SimB.err _ _) (fun _ => SimB.ok' (by omega))

theorem sim_unknownFlag (S : Shift re1 re2 k) (start e : Nat) :
    SimB bad k id (unknownFlag re1 start e) (unknownFlag re2 (start + k) (e + k)) := by
  unfold unknownFlag
  refine SimB.bind_id (sim_byteAt S rfl _) (fun b => ?_)
  exact SimB.bind_id (sim_slice S rfl (by omega) _) (fun s => SimB.ok _)

/-- shift of where the letter loop of `parse_flags` stops -/
def shFE (k : Nat) : FlagsEnd × Flags → FlagsEnd × Flags
  | (.close i, fl) => (.close (i + k), fl)
  | (.colon i, fl) => (.colon (i + k), fl)

/-- how `parse_flags` rejects the byte at `ix`: `Err(unknown_flag(..))` at `start` -/
def flagErr (re : Bytes) (start ix : Nat) : Res (FlagsEnd × Flags) :=
  unknownFlag re start ix >>= fun e => .err e start

/-- one iteration of the letter loop of `parse_flags`, as a composition -/
theorem flagsLoop_succ (f : Nat) (re : Bytes) (fl : Flags) (start ix : Nat) (neg : Bool) :
    flagsLoop (f + 1) re fl start ix neg = (do
      let ix ← optWs re fl ix
      if ix == re.size then .err .unclosedOpenParen ix
      else
        let b ← byteAt re ix "parse_flags: bytes[ix]"
        if b == ch 'i' || b == ch 'm' || b == ch 's' || b == ch 'U' || b == ch 'x' then
          flagsLoop f re (updateFlag fl b neg) start (ix + 1) neg
        else if b == ch 'u' then
          if neg then .err .nonUnicodeUnsupported ix else flagsLoop f re fl start (ix + 1) neg
        else if b == ch '-' then
          if neg then flagErr re start ix else flagsLoop f re fl start (ix + 1) true
        else if b == ch ')' then
          if ix == start || (neg && ix == start + 1) then flagErr re start ix else .ok (.close ix, fl)
        else if b == ch ':' then
          if neg && ix == start + 1 then flagErr re start ix else .ok (.colon ix, fl)
        else flagErr re start ix) := by
  rw [flagsLoop]
  cases optWs re fl ix with
  | ok ix1 =>
    simp only [Res.ok_bind]
    by_cases h : (ix1 == re.size) = true
    · rw [if_pos h, if_pos h]
    · rw [if_neg h, if_neg h, byteAt]
      cases re[ix1]? with
      | none => rfl
      | some b =>
        simp only [Res.ok_bind, flagErr]
        cases unknownFlag re start ix1 <;> rfl
  | _ => rfl

theorem sim_flagErr (S : Shift re1 re2 k) (start ix : Nat) :
    SimB bad k (shFE k) (flagErr re1 start ix) (flagErr re2 (start + k) (ix + k)) :=
  SimB.bind (sim_unknownFlag S start ix) (fun _ => SimB.err _ _)

theorem sim_flagsLoop (S : Shift re1 re2 k) (start : Nat) : ∀ (f c : Nat) (fl : Flags) {i j : Nat},
    j = i + k → ∀ (neg : Bool),
    SimB bad k (shFE k) (flagsLoop f re1 fl start i neg) (flagsLoop (f + c) re2 fl (start + k) j neg) := by
  intro f
  induction f with
  | zero => intro c fl i j h neg; trivial
  | succ f ih =>
    intro c fl i j h neg
    rw [show f + 1 + c = (f + c) + 1 by omega, flagsLoop_succ, flagsLoop_succ]
    refine SimB.bind (sim_optWs S fl h) (fun ix1 => ?_)
    have next : ∀ fl' neg', SimB bad k (shFE k) (flagsLoop f re1 fl' start (ix1 + 1) neg')
        (flagsLoop (f + c) re2 fl' (start + k) (ix1 + k + 1) neg') :=
      fun fl' neg' => ih c fl' (by omega) neg'
    have uf := sim_flagErr (bad := bad) S start ix1
    refine SimB.ite (S.beq_size ix1) (fun _ => SimB.err _ _) (fun _ => ?_)
    refine SimB.bind_id (sim_byteAt S rfl _) (fun b => ?_)
    refine SimB.ite Iff.rfl (fun _ => next _ _) (fun _ => ?_)
    refine SimB.ite Iff.rfl (fun _ => ?_) (fun _ => ?_)
    · exact SimB.ite Iff.rfl (fun _ => SimB.err _ _) (fun _ => next _ _)
    refine SimB.ite Iff.rfl (fun _ => ?_) (fun _ => ?_)
    · exact SimB.ite Iff.rfl (fun _ => uf) (fun _ => next _ _)
    refine SimB.ite Iff.rfl (fun _ => ?_) (fun _ => ?_)
    · exact SimB.ite (by simp [Nat.add_right_comm start k 1]) (fun _ => uf) (fun _ => SimB.ok _)
    refine SimB.ite Iff.rfl (fun _ => ?_) (fun _ => uf)
    exact SimB.ite (by simp [Nat.add_right_comm start k 1]) (fun _ => uf) (fun _ => SimB.ok _)

theorem lookOf_shift (S : Shift re1 re2 k) (ix : Nat) : lookOf re2 (ix + k) = lookOf re1 ix := by
  unfold lookOf
  simp only [S.startsWithAt]

end leaves

/-! ### the descent -/
section descent
variable {re1 re2 : Bytes} {k : Nat} {isAlnum : Char → Bool}

/-- the induction hypothesis: all nine functions, run 1 with fuel `f`, run 2 with fuel `f + c` -/
structure DescSim (re1 re2 : Bytes) (k : Nat) (isAlnum : Char → Bool) (f c : Nat) : Prop where
  re_ : ∀ st {i j} d, j = i + k →
    Sim k (shIx k) (parseRe isAlnum f re1 st i d) (parseRe isAlnum (f + c) re2 st j d)
  alt_ : ∀ st {i j} d, j = i + k →
    Sim k (shIx k) (reAltLoop isAlnum f re1 st i d) (reAltLoop isAlnum (f + c) re2 st j d)
  branch_ : ∀ st {i j} d, j = i + k →
    Sim k (shIx k) (parseBranch isAlnum f re1 st i d) (parseBranch isAlnum (f + c) re2 st j d)
  bloop_ : ∀ st {i j} d, j = i + k →
    Sim k (shIx k) (branchLoop isAlnum f re1 st i d) (branchLoop isAlnum (f + c) re2 st j d)
  piece_ : ∀ st {i j} d, j = i + k →
    Sim k (shIx k) (parsePiece isAlnum f re1 st i d) (parsePiece isAlnum (f + c) re2 st j d)
  atom_ : ∀ st {i j} d, j = i + k →
    Sim k (shIx k) (parseAtom isAlnum f re1 st i d) (parseAtom isAlnum (f + c) re2 st j d)
  group_ : ∀ st {i j} d, j = i + k →
    Sim k (shIx k) (parseGroup isAlnum f re1 st i d) (parseGroup isAlnum (f + c) re2 st j d)
  flags_ : ∀ st {i j} d, j = i + k →
    Sim k (shIx k) (parseFlags isAlnum f re1 st i d) (parseFlags isAlnum (f + c) re2 st j d)
  cond_ : ∀ st {i j} d, j = i + k →
    Sim k (shIx k) (parseConditional isAlnum f re1 st i d) (parseConditional isAlnum (f + c) re2 st j d)

/-- what `parse_re` does after its first `parse_branch` -/
def reRest (isAlnum : Char → Bool) (g : Nat) (re : Bytes) (depth : Nat) (r : Nat × Expr × PState) :
    Res (Nat × Expr × PState) := do
  let ix ← optWs re r.2.2.flags r.1
  sliceFrom re ix "parse_re: self.re[ix..]"
  if re[ix]? == some (ch '|') then
    let (ix, rest, st) ← reAltLoop isAlnum g re r.2.2 ix depth
    .ok (ix, .alt (r.2.1 :: rest), { st with lastReHadAlt := true })
  else
    let st := { r.2.2 with lastReHadAlt := false }
    if st.numericBackrefs && !st.namedGroups.isEmpty then .cerr
    else .ok (ix, r.2.1, st)

theorem parseRe_eq (isAlnum : Char → Bool) (g : Nat) (re : Bytes) (st : PState) (ix depth : Nat) :
    parseRe isAlnum (g + 1) re st ix depth =
      (parseBranch isAlnum g re st ix depth >>= reRest isAlnum g re depth) := by
  rw [parseRe]; rfl

theorem sim_reRest (S : Shift re1 re2 k) {g g' : Nat} (d : Nat)
    (halt : ∀ st {i j}, j = i + k →
      Sim k (shIx k) (reAltLoop isAlnum g re1 st i d) (reAltLoop isAlnum g' re2 st j d))
    (r : Nat × Expr × PState) :
    Sim k (shIx k) (reRest isAlnum g re1 d r) (reRest isAlnum g' re2 d (shIx k r)) := by
  obtain ⟨ix1, child, st1⟩ := r
  unfold reRest
  refine SimB.bind (sim_optWs S _ rfl) (fun ix2 => ?_)
  refine SimB.bind_id (sim_sliceFrom S rfl _) (fun _ => ?_)
  rw [S.get]
  refine SimB.ite Iff.rfl (fun _ => ?_) (fun _ => ?_)
  · exact SimB.bindIx (halt st1 rfl) (fun _ _ _ => SimB.okIx rfl)
  · exact SimB.ite Iff.rfl (fun _ => rfl) (fun _ => SimB.okIx rfl)

variable {f c : Nat} {i j : Nat}

theorem sstep_parseRe (S : Shift re1 re2 k) (h : DescSim re1 re2 k isAlnum f c) (st : PState) (d : Nat)
    (hj : j = i + k) :
    Sim k (shIx k) (parseRe isAlnum (f + 1) re1 st i d) (parseRe isAlnum (f + 1 + c) re2 st j d) := by
  rw [show f + 1 + c = (f + c) + 1 by omega, parseRe_eq, parseRe_eq]
  exact SimB.bind (h.branch_ st d hj) (sim_reRest S d fun st _ _ => h.alt_ st d)

theorem sstep_reAltLoop (S : Shift re1 re2 k) (h : DescSim re1 re2 k isAlnum f c) (st : PState) (d : Nat)
    (hj : j = i + k) :
    Sim k (shIx k) (reAltLoop isAlnum (f + 1) re1 st i d) (reAltLoop isAlnum (f + 1 + c) re2 st j d) := by
  subst hj
  rw [show f + 1 + c = (f + c) + 1 by omega, reAltLoop, reAltLoop]
  refine SimB.bind_id (sim_sliceFrom S rfl _) (fun _ => ?_)
  rw [S.get]
  refine SimB.ite Iff.rfl (fun _ => ?_) (fun _ => SimB.okIx rfl)
  refine SimB.bindIx (h.branch_ st d (by omega)) (fun ix1 child st1 => ?_)
  refine SimB.bind (sim_optWs S _ rfl) (fun ix2 => ?_)
  exact SimB.bindIx (h.alt_ st1 d rfl) (fun _ _ _ => SimB.okIx rfl)

theorem sstep_parseBranch (h : DescSim re1 re2 k isAlnum f c) (st : PState) (d : Nat) (hj : j = i + k) :
    Sim k (shIx k) (parseBranch isAlnum (f + 1) re1 st i d) (parseBranch isAlnum (f + 1 + c) re2 st j d) := by
  rw [show f + 1 + c = (f + c) + 1 by omega, parseBranch, parseBranch]
  refine SimB.bindIx (h.bloop_ st d hj) (fun ix1 children st1 => ?_)
  match children with
  | [] => exact SimB.okIx rfl
  | [_] => exact SimB.okIx rfl
  | _ :: _ :: _ => exact SimB.okIx rfl

theorem sstep_branchLoop (S : Shift re1 re2 k) (h : DescSim re1 re2 k isAlnum f c) (st : PState) (d : Nat)
    (hj : j = i + k) :
    Sim k (shIx k) (branchLoop isAlnum (f + 1) re1 st i d) (branchLoop isAlnum (f + 1 + c) re2 st j d) := by
  subst hj
  rw [show f + 1 + c = (f + c) + 1 by omega, branchLoop, branchLoop]
  refine SimB.ite (by rw [S.size]; omega) (fun _ => ?_) (fun _ => SimB.okIx rfl)
  refine SimB.bindIx (h.piece_ st d rfl) (fun next child st1 => ?_)
  refine SimB.ite (by simp) (fun _ => SimB.okIx rfl) (fun _ => ?_)
  exact SimB.bindIx (h.bloop_ st1 d rfl) (fun _ _ _ => SimB.okIx rfl)

/-- shift of the quantifier read by `parse_piece` -/
def shQ (k : Nat) : Option (Nat × Nat × Nat) → Option (Nat × Nat × Nat) :=
  Option.map fun q => (q.1, q.2.1, q.2.2 + k)

theorem sim_quantAt (S : Shift re1 re2 k) (fl : Flags) (ix b : Nat) :
    Sim k (shQ k) (quantAt re1 fl ix b) (quantAt re2 fl (ix + k) b) := by
  unfold quantAt
  refine SimB.ite Iff.rfl (fun _ => SimB.pure _) (fun _ => ?_)
  refine SimB.ite Iff.rfl (fun _ => SimB.pure _) (fun _ => ?_)
  refine SimB.ite Iff.rfl (fun _ => SimB.pure _) (fun _ => ?_)
  refine SimB.ite Iff.rfl (fun _ => ?_) (fun _ => SimB.pure _)
  have hrep := sim_parseRepeat (bad := fun _ => False) S fl (rfl : ix + k = ix + k)
  generalize parseRepeat re1 fl ix = x1 at hrep ⊢
  generalize parseRepeat re2 fl (ix + k) = x2 at hrep ⊢
  cases x1 with
  | ok r =>
    obtain ⟨next, lo, hi⟩ := r
    simp only [SimB, shIx] at hrep; subst hrep
    simp only
    by_cases hz : next = 0
    · subst hz; simp only [beq_self_eq_true, ↓reduceIte]; trivial
    · have e1 : (next == 0) = false := by simpa using hz
      have e2 : (next + k == 0) = false := by simpa using (by omega : next + k ≠ 0)
      simp only [e1, e2, Bool.false_eq_true, ↓reduceIte]
      exact SimB.ok' (by simp only [shQ, Option.map_some]; rw [show next + k - 1 = next - 1 + k by omega])
  | err e p =>
    rcases hrep with h | h
    · exact h.elim
    · subst h; exact SimB.pure _
  | cerr => simp only [SimB] at hrep; subst hrep; exact SimB.pure _
  | panic s => trivial
  | outOfFuel => trivial

theorem lazyAt_shift (S : Shift re1 re2 k) (ix : Nat) : lazyAt re2 (ix + k) = lazyAt re1 ix := by
  unfold lazyAt
  rw [S.get, S.size]
  have : decide (ix + k < re1.size + k) = decide (ix < re1.size) := by simp
  rw [this]

theorem afterLazy_shift (S : Shift re1 re2 k) (ix : Nat) : afterLazy re2 (ix + k) = afterLazy re1 ix + k := by
  unfold afterLazy
  rw [lazyAt_shift S]
  split <;> omega

theorem repNode_shift (S : Shift re1 re2 k) (st : PState) (child : Expr) (lo hi ix : Nat) :
    repNode re2 st child lo hi (ix + k) = repNode re1 st child lo hi ix := by
  unfold repNode
  rw [lazyAt_shift S]

theorem sstep_parsePiece (S : Shift re1 re2 k) (h : DescSim re1 re2 k isAlnum f c) (st : PState) (d : Nat)
    (hj : j = i + k) :
    Sim k (shIx k) (parsePiece isAlnum (f + 1) re1 st i d) (parsePiece isAlnum (f + 1 + c) re2 st j d) := by
  rw [show f + 1 + c = (f + c) + 1 by omega, parsePiece_eq, parsePiece_eq]
  refine SimB.bindIx (h.atom_ st d hj) (fun ix1 child st1 => ?_)
  refine SimB.bind (sim_optWs S _ rfl) (fun ix2 => ?_)
  refine SimB.ite (by rw [S.size]; omega) (fun _ => ?_) (fun _ => SimB.okIx rfl)
  refine SimB.bind_id (sim_byteAt S rfl _) (fun b => ?_)
  refine SimB.bind (sim_quantAt S st1.flags ix2 b) (fun q => ?_)
  cases q with
  | none => exact SimB.okIx rfl
  | some p =>
    obtain ⟨lo, hi, qe⟩ := p
    simp only [shQ, Option.map_some]
    refine SimB.ite Iff.rfl (fun _ => SimB.err _ _) (fun _ => ?_)
    refine SimB.bind (sim_optWs S _ (by omega)) (fun ix3 => ?_)
    rw [afterLazy_shift S, S.get, repNode_shift S]
    exact SimB.ite Iff.rfl (fun _ => SimB.okIx (by omega)) (fun _ => SimB.okIx rfl)

theorem sstep_parseAtom (S : Shift re1 re2 k) (h : DescSim re1 re2 k isAlnum f c) (st : PState) (d : Nat)
    (hj : j = i + k) :
    Sim k (shIx k) (parseAtom isAlnum (f + 1) re1 st i d) (parseAtom isAlnum (f + 1 + c) re2 st j d) := by
  rw [show f + 1 + c = (f + c) + 1 by omega, parseAtom, parseAtom]
  refine SimB.bind (sim_optWs S _ hj) (fun ix1 => ?_)
  refine SimB.ite (S.beq_size ix1) (fun _ => SimB.okIx rfl) (fun _ => ?_)
  refine SimB.bind_id (sim_byteAt S rfl _) (fun b => ?_)
  refine SimB.ite Iff.rfl (fun _ => SimB.okIx (by omega)) (fun _ => ?_)
  refine SimB.ite Iff.rfl (fun _ => SimB.okIx (by omega)) (fun _ => ?_)
  refine SimB.ite Iff.rfl (fun _ => SimB.okIx (by omega)) (fun _ => ?_)
  refine SimB.ite Iff.rfl (fun _ => h.group_ st d rfl) (fun _ => ?_)
  refine SimB.ite Iff.rfl (fun _ => sim_parseEscape S isAlnum st rfl false) (fun _ => ?_)
  refine SimB.ite Iff.rfl (fun _ => SimB.okIx rfl) (fun _ => ?_)
  refine SimB.ite Iff.rfl (fun _ => sim_parseClass S isAlnum st rfl) (fun _ => ?_)
  exact SimB.bind_id (sim_slice S rfl (by omega) _) (fun s => SimB.okIx (by omega))

/-- the local closure `body` of `parse_group` -/
def groupBody (isAlnum : Char → Bool) (f : Nat) (re : Bytes) (ix depth : Nat) (la : Option Look)
    (skip : Nat) (st : PState) : Res (Nat × Expr × PState) := do
  let ix := ix + skip
  let (ix, child, st) ← parseRe isAlnum f re st ix depth
  let ix ← checkForCloseParen re st.flags ix
  match la with
  | some la => .ok (ix, .look child la, st)
  | none => if skip == 2 then .ok (ix, .atomic child, st) else .ok (ix, .group 0 child, st)

/-- `parse_group` with its closure named -/
theorem parseGroup_eq (isAlnum : Char → Bool) (re : Bytes) (f : Nat) (st : PState) (ix depth : Nat) :
    parseGroup isAlnum (f + 1) re st ix depth = (do
      if depth + 1 ≥ Generated.maxRecursion then .err .recursionExceeded ix
      else
        let ix ← optWs re st.flags (ix + 1)
        sliceFrom re ix "parse_group: self.re[ix..]"
        match lookOf re ix with
        | some (la, skip) => groupBody isAlnum f re ix (depth + 1) (some la) skip st
        | none =>
          if startsWithAt re ix [ch '?', ch '<'] then
            let st := { st with currGroup := st.currGroup + 1 }
            sliceFrom re (ix + 1) "parse_group: self.re[ix + 1..]"
            match ← parseId isAlnum re (ix + 1) [ch '<'] [ch '>'] false with
            | some (a, b, skip) =>
              let st := { st with namedGroups := namedInsert st.namedGroups (re.extract a b).toList st.currGroup }
              groupBody isAlnum f re ix (depth + 1) none (skip + 1) st
            | none => .err .invalidGroupName ix
          else if startsWithAt re ix [ch '?', ch 'P', ch '<'] then
            let st := { st with currGroup := st.currGroup + 1 }
            sliceFrom re (ix + 2) "parse_group: self.re[ix + 2..]"
            match ← parseId isAlnum re (ix + 2) [ch '<'] [ch '>'] false with
            | some (a, b, skip) =>
              let st := { st with namedGroups := namedInsert st.namedGroups (re.extract a b).toList st.currGroup }
              groupBody isAlnum f re ix (depth + 1) none (skip + 2) st
            | none => .err .invalidGroupName ix
          else if startsWithAt re ix [ch '?', ch 'P', ch '='] then
            parseNamedBackref isAlnum re st (ix + 3) [] [ch ')'] false .backref
          else if startsWithAt re ix [ch '?', ch '>'] then groupBody isAlnum f re ix (depth + 1) none 2 st
          else if startsWithAt re ix [ch '?', ch '('] then
            parseConditional isAlnum f re st (ix + 2) (depth + 1)
          else if startsWithAt re ix [ch '?', ch 'P', ch '>'] then
            parseNamedBackref isAlnum re st (ix + 3) [] [ch ')'] false .subroutine
          else if startsWithAt re ix [ch '?'] then parseFlags isAlnum f re st ix (depth + 1)
          else groupBody isAlnum f re ix (depth + 1) none 0 { st with currGroup := st.currGroup + 1 }) := by
  rw [parseGroup]
  rfl

theorem sim_groupBody (S : Shift re1 re2 k) (h : DescSim re1 re2 k isAlnum f c) (d : Nat) (la : Option Look)
    (skip : Nat) (st : PState) (hj : j = i + k) :
    Sim k (shIx k) (groupBody isAlnum f re1 i d la skip st) (groupBody isAlnum (f + c) re2 j d la skip st) := by
  unfold groupBody
  refine SimB.bindIx (h.re_ st d (by omega)) (fun ix2 child st2 => ?_)
  refine SimB.bind (sim_checkForCloseParen S _ rfl) (fun ix3 => ?_)
  cases la with
  | some la => exact SimB.okIx rfl
  | none => exact SimB.ite Iff.rfl (fun _ => SimB.okIx rfl) (fun _ => SimB.okIx rfl)

theorem sstep_parseGroup (S : Shift re1 re2 k) (h : DescSim re1 re2 k isAlnum f c) (st : PState) (d : Nat)
    (hj : j = i + k) :
    Sim k (shIx k) (parseGroup isAlnum (f + 1) re1 st i d) (parseGroup isAlnum (f + 1 + c) re2 st j d) := by
  subst hj
  rw [show f + 1 + c = (f + c) + 1 by omega, parseGroup_eq, parseGroup_eq]
  refine SimB.ite Iff.rfl (fun _ => SimB.err _ _) (fun _ => ?_)
  refine SimB.bind (sim_optWs S _ (by omega)) (fun ix1 => ?_)
  refine SimB.bind_id (sim_sliceFrom S rfl _) (fun _ => ?_)
  have body := fun la skip st => sim_groupBody S h (d + 1) la skip st (rfl : ix1 + k = ix1 + k)
  rw [lookOf_shift S]
  cases lookOf re1 ix1 with
  | some p => exact body _ _ _
  | none =>
    simp only [S.startsWithAt]
    -- (?<name>, (?P<name>
    refine SimB.ite Iff.rfl (fun _ => ?_) (fun _ => ?_)
    · refine SimB.bind_id (sim_sliceFrom S (by omega) _) (fun _ => ?_)
      refine SimB.bind (sim_parseId S isAlnum (by omega) _ _ _) (fun r => ?_)
      rcases r with _ | ⟨a, b, skip⟩
      · exact SimB.err _ _
      · simp only [shId, Option.map_some, S.extract]
        exact body _ _ _
    refine SimB.ite Iff.rfl (fun _ => ?_) (fun _ => ?_)
    · refine SimB.bind_id (sim_sliceFrom S (by omega) _) (fun _ => ?_)
      refine SimB.bind (sim_parseId S isAlnum (by omega) _ _ _) (fun r => ?_)
      rcases r with _ | ⟨a, b, skip⟩
      · exact SimB.err _ _
      · simp only [shId, Option.map_some, S.extract]
        exact body _ _ _
    -- (?P=name)
    refine SimB.ite Iff.rfl (fun _ => sim_parseNamedBackref S isAlnum st (by omega) _ _ _ _) (fun _ => ?_)
    -- (?>
    refine SimB.ite Iff.rfl (fun _ => body _ _ _) (fun _ => ?_)
    -- (?(
    refine SimB.ite Iff.rfl (fun _ => h.cond_ st _ (by omega)) (fun _ => ?_)
    -- (?P>name)
    refine SimB.ite Iff.rfl (fun _ => sim_parseNamedBackref S isAlnum st (by omega) _ _ _ _) (fun _ => ?_)
    -- (?flags
    exact SimB.ite Iff.rfl (fun _ => h.flags_ st _ rfl) (fun _ => body _ _ _)

theorem sstep_parseFlags (S : Shift re1 re2 k) (h : DescSim re1 re2 k isAlnum f c) (st : PState) (d : Nat)
    (hj : j = i + k) :
    Sim k (shIx k) (parseFlags isAlnum (f + 1) re1 st i d) (parseFlags isAlnum (f + 1 + c) re2 st j d) := by
  subst hj
  rw [show f + 1 + c = (f + c) + 1 by omega, parseFlags, parseFlags]
  dsimp only
  rw [show i + k + 1 = i + 1 + k by omega, S.size, show re1.size + k + 2 = re1.size + 2 + k by omega]
  refine SimB.bind (sim_flagsLoop S (i + 1) _ _ st.flags rfl false) (fun r => ?_)
  obtain ⟨e, fl⟩ := r
  cases e with
  | close ix => exact SimB.okIx (by omega)
  | colon ix =>
    simp only [shFE]
    refine SimB.bindIx (h.re_ _ d (by omega)) (fun ix2 child st2 => ?_)
    refine SimB.ite (by simp) (fun _ => SimB.err _ _) (fun _ => ?_)
    refine SimB.bind_id (sim_byteAt S rfl _) (fun b => ?_)
    exact SimB.ite Iff.rfl (fun _ => SimB.err _ _) (fun _ => SimB.okIx (by omega))

theorem sim_condBranches (k : Nat) (child : Expr) (hasElse : Bool) :
    Sim k id (condBranches child hasElse) (condBranches child hasElse) := by
  unfold condBranches
  split
  · split
    · trivial
    · split <;> rfl
  · rfl

theorem sim_condResult (S : Shift re1 re2 k) (gt : Bool) (condition : Expr) (next2 : Nat)
    (r : Nat × Expr × PState) :
    Sim k (shIx k) (condResult re1 gt condition next2 r) (condResult re2 gt condition (next2 + k) (shIx k r)) := by
  obtain ⟨end_, child, st2⟩ := r
  unfold condResult
  refine SimB.ite (by simp [shIx]) (fun _ => ?_) (fun _ => ?_)
  · cases gt <;> cases condition <;>
      first
      | exact SimB.err _ _
      | exact SimB.bind (sim_checkForCloseParen S _ rfl) (fun _ => SimB.okIx rfl)
  · refine SimB.bind_id (sim_condBranches k child st2.lastReHadAlt) (fun br => ?_)
    refine SimB.bind (sim_checkForCloseParen S _ rfl) (fun after => ?_)
    exact SimB.ite Iff.rfl (fun _ => SimB.okIx rfl) (fun _ => SimB.okIx rfl)

theorem sstep_parseConditional (S : Shift re1 re2 k) (h : DescSim re1 re2 k isAlnum f c) (st : PState)
    (d : Nat) (hj : j = i + k) :
    Sim k (shIx k) (parseConditional isAlnum (f + 1) re1 st i d)
      (parseConditional isAlnum (f + 1 + c) re2 st j d) := by
  subst hj
  rw [show f + 1 + c = (f + c) + 1 by omega, parseConditional_succ, parseConditional_succ]
  refine SimB.ite (by rw [S.size]; omega) (fun _ => SimB.err _ _) (fun _ => ?_)
  refine SimB.bind_id (sim_byteAt S rfl _) (fun b => ?_)
  refine SimB.bindIx ?_ (fun next condition st1 => ?_)
  · unfold condPart
    refine SimB.ite Iff.rfl (fun _ => sim_parseNumberedBackref S st rfl _) (fun _ => ?_)
    refine SimB.ite Iff.rfl (fun _ => sim_parseNamedBackref S isAlnum st rfl _ _ _ _) (fun _ => ?_)
    exact SimB.ite Iff.rfl (fun _ => sim_parseNamedBackref S isAlnum st rfl _ _ _ _) (fun _ => h.re_ st d rfl)
  refine SimB.bind (sim_checkForCloseParen S _ rfl) (fun next2 => ?_)
  exact SimB.bind (h.re_ st1 d rfl) (sim_condResult S _ _ _)

/-- **the parser is shift-invariant** (up to the length-dependent back-reference bound): for every
    fuel `f` of run 1 and every surplus `c` of run 2 -/
theorem descSim (S : Shift re1 re2 k) (isAlnum : Char → Bool) (c : Nat) :
    ∀ f, DescSim re1 re2 k isAlnum f c := by
  intro f
  induction f with
  | zero =>
    constructor
    · intro st i j d _; rw [parseRe]; trivial
    · intro st i j d _; rw [reAltLoop]; trivial
    · intro st i j d _; rw [parseBranch]; trivial
    · intro st i j d _; rw [branchLoop]; trivial
    · intro st i j d _; rw [parsePiece]; trivial
    · intro st i j d _; rw [parseAtom]; trivial
    · intro st i j d _; rw [parseGroup]; trivial
    · intro st i j d _; rw [parseFlags]; trivial
    · intro st i j d _; rw [parseConditional]; trivial
  | succ f ih =>
    exact {
      re_ := fun st _ _ => sstep_parseRe S ih st
      alt_ := fun st _ _ => sstep_reAltLoop S ih st
      branch_ := fun st _ _ => sstep_parseBranch ih st
      bloop_ := fun st _ _ => sstep_branchLoop S ih st
      piece_ := fun st _ _ => sstep_parsePiece S ih st
      atom_ := fun st _ _ => sstep_parseAtom S ih st
      group_ := fun st _ _ => sstep_parseGroup S ih st
      flags_ := fun st _ _ => sstep_parseFlags S ih st
      cond_ := fun st _ _ => sstep_parseConditional S ih st }

end descent

/-! ## C14: the builder option against the `(?i)` prefix -/

theorem bytesOf_append (a b : List Char) : (bytesOf (a ++ b)).toList = (bytesOf a).toList ++ (bytesOf b).toList := by
  simp only [bytesOf, List.map_append, Utf8.encode_append]

theorem shift_flag_prefix (p : List Char) : Shift (bytesOf p) (bytesOf ("(?i)".toList ++ p)) 4 := by
  have hl : (bytesOf ("(?i)".toList ++ p)).toList = [ch '(', ch '?', ch 'i', ch ')'] ++ (bytesOf p).toList := by
    rw [bytesOf_append]; rfl
  refine ⟨⟨_, rfl, hl⟩, ?_⟩
  have h3 : (bytesOf ("(?i)".toList ++ p))[3]? = some (ch ')') := by
    have := get_of_split (re := bytesOf ("(?i)".toList ++ p)) (pre := [ch '(', ch '?', ch 'i'])
      (b := ch ')') (post := (bytesOf p).toList) (by rw [hl]; rfl)
    simpa using this
  exact (WF_bytesOf _).step_ascii h3 (by decide)

/-- **C14_parse_flag_partial** — the corrected statement.  For every pattern `P` that does not
    begin with a `(?#…)` comment (`H0`) nor with something `parse_piece` reads as a quantifier
    (`H1`: `?`, `*`, `+`, or a `{n,m}` that `parse_repeat` accepts — the counterexample
    `C14_parse_flag_false_brace`), the parser started with the `i` flag seeded on `P` (what
    `RegexBuilder::case_insensitive(true)` does) and the parser on `"(?i)" ++ P` do the same thing,
    four bytes apart (`Sim 4 id`):
    * if the first returns a tree, the second returns **the same `ExprTree`** (expression,
      back-reference set, named groups) — not `Concat [Empty, t]`: the loop of `parse_branch` drops
      the `Empty` piece of the flag group;
    * if the first reports a parse error at `pos`, the second reports the same error at `pos + 4`
      — except for the two length-dependent errors `InvalidBackref` / `InvalidGroupNameBackref`
      (`group < re.len() / 2`; counterexample `C14_parse_flag_false_backref`);
    * `CompileError::NamedBackrefOnly` in both. -/
theorem C14_parse_flag_partial (isAlnum : Char → Bool) (p : List Char)
    (H0 : optWs (bytesOf p) { casei := true } 0 = .ok 0)
    (H1 : ∀ b, (bytesOf p)[0]? = some b → quantAt (bytesOf p) { casei := true } 0 b = .ok none) :
    Sim 4 id (parseStr isAlnum p true) (parseStr isAlnum ("(?i)".toList ++ p) false) := by
  have S := shift_flag_prefix p
  generalize hre1 : bytesOf p = re1 at *
  generalize hre2 : bytesOf ("(?i)".toList ++ p) = re2 at *
  obtain ⟨pre, hk, hl⟩ := S.list
  have hpre : pre = [ch '(', ch '?', ch 'i', ch ')'] := by
    have h2 : re2.toList = [ch '(', ch '?', ch 'i', ch ')'] ++ re1.toList := by
      rw [← hre2, ← hre1, bytesOf_append]; rfl
    rw [h2] at hl
    exact (List.append_inj_left hl (by simp [hk])).symm
  subst hpre
  have g0 : re2[0]? = some (ch '(') := by rw [← Array.getElem?_toList, hl]; rfl
  have g1 : re2[1]? = some (ch '?') := by rw [← Array.getElem?_toList, hl]; rfl
  have g2 : re2[2]? = some (ch 'i') := by rw [← Array.getElem?_toList, hl]; rfl
  have g3 : re2[3]? = some (ch ')') := by rw [← Array.getElem?_toList, hl]; rfl
  -- the flag group seeds the state
  have hw : optWs re2 { casei := true } 4 = .ok 4 := by
    have := sim_optWs (bad := BadErr) S { casei := true } (rfl : 0 + 4 = 0 + 4)
    rw [H0] at this
    simpa [SimB] using this
  have hq : ∀ b, re2[4]? = some b → quantAt re2 { casei := true } 4 b = .ok none := by
    intro b hb
    have hb' : re1[0]? = some b := by rw [← S.get 0]; simpa using hb
    have := sim_quantAt S { casei := true } 0 b
    rw [H1 b hb'] at this
    simpa [SimB, shQ] using this
  -- fuels
  obtain ⟨g, hg⟩ : ∃ g, descentFuel re1.size = g + 2 := ⟨descentFuel re1.size - 2, by
    simp only [descentFuel]; omega⟩
  have hg2 : descentFuel re2.size = g + 18 := by
    rw [S.size]; simp only [descentFuel] at hg ⊢; omega
  have hseed := C14_flag_group_seeds isAlnum (re := re2) (g + 11) g0 g1 g2 g3 hw hq
  have hbr2 : parseBranch isAlnum (g + 17) re2 {} 0 0 =
      parseBranch isAlnum (g + 16) re2 { flags := { casei := true } } 4 0 := by
    rw [parseBranch, parseBranch, hseed]
  have hsim : Sim 4 (shIx 4) (parseRe isAlnum (g + 2) re1 { flags := { casei := true } } 0 0)
      (parseRe isAlnum (g + 18) re2 {} 0 0) := by
    rw [parseRe_eq, parseRe_eq, hbr2]
    exact SimB.bind ((descSim S isAlnum 15 (g + 1)).branch_ _ 0 (rfl : 0 + 4 = 0 + 4))
      (sim_reRest S 0 fun st _ _ => (descSim S isAlnum 16 (g + 1)).alt_ st 0)
  unfold parseStr parseBytes
  rw [hre1, hre2, hg, hg2]
  simp only
  generalize parseRe isAlnum (g + 2) re1 { flags := { casei := true } } 0 0 = x1 at hsim ⊢
  generalize parseRe isAlnum (g + 18) re2 {} 0 0 = x2 at hsim ⊢
  cases x1 with
  | ok r =>
    obtain ⟨ix, e, st⟩ := r
    simp only [SimB, shIx] at hsim; subst hsim
    simp only
    rw [S.size]
    by_cases hlt : ix < re1.size
    · rw [if_pos hlt, if_pos (by omega)]; exact Or.inr rfl
    · rw [if_neg hlt, if_neg (by omega)]; rfl
  | err e q =>
    rcases hsim with h | h
    · exact Or.inl h
    · subst h; exact Or.inr rfl
  | cerr => simp only [SimB] at hsim; subst hsim; rfl
  | panic s => trivial
  | outOfFuel => trivial

/-- the first reading of `C14_parse_flag_partial`: same `ExprTree` -/
theorem C14_parse_flag_ok (isAlnum : Char → Bool) (p : List Char)
    (H0 : optWs (bytesOf p) { casei := true } 0 = .ok 0)
    (H1 : ∀ b, (bytesOf p)[0]? = some b → quantAt (bytesOf p) { casei := true } 0 b = .ok none)
    {t : Tree} (h : parseStr isAlnum p true = .ok t) :
    parseStr isAlnum ("(?i)".toList ++ p) false = .ok t := by
  have := C14_parse_flag_partial isAlnum p H0 H1
  rw [h] at this
  exact this

/-- the second: same error, four bytes later -/
theorem C14_parse_flag_err (isAlnum : Char → Bool) (p : List Char)
    (H0 : optWs (bytesOf p) { casei := true } 0 = .ok 0)
    (H1 : ∀ b, (bytesOf p)[0]? = some b → quantAt (bytesOf p) { casei := true } 0 b = .ok none)
    {e : PErr} {pos : Nat} (h : parseStr isAlnum p true = .err e pos) (hb : ¬ BadErr e) :
    parseStr isAlnum ("(?i)".toList ++ p) false = .err e (pos + 4) := by
  have := C14_parse_flag_partial isAlnum p H0 H1
  rw [h] at this
  rcases this with h' | h'
  · exact absurd h' hb
  · exact h'

/-- the converse: if `(?i)P` parses, then `P` with the option parses to the same tree — or stops
    at one of the two length-dependent back-reference errors -/
theorem C14_parse_flag_conv (isAlnum : Char → Bool) (hal : AlnumOK isAlnum) (p : List Char)
    (H0 : optWs (bytesOf p) { casei := true } 0 = .ok 0)
    (H1 : ∀ b, (bytesOf p)[0]? = some b → quantAt (bytesOf p) { casei := true } 0 b = .ok none)
    {t : Tree} (h : parseStr isAlnum ("(?i)".toList ++ p) false = .ok t) :
    parseStr isAlnum p true = .ok t ∨ ∃ e pos, BadErr e ∧ parseStr isAlnum p true = .err e pos := by
  have hs := C14_parse_flag_partial isAlnum p H0 H1
  have hnp := C06_parse_no_panic isAlnum hal p true
  have hnf := C06_parse_total isAlnum hal p true
  cases h1 : parseStr isAlnum p true with
  | ok t1 =>
    rw [h1, h] at hs
    simp only [SimB, id, Res.ok.injEq] at hs
    exact Or.inl (by rw [hs])
  | err e pos =>
    rw [h1, h] at hs
    rcases hs with hb | hb
    · exact Or.inr ⟨e, pos, hb, rfl⟩
    · cases hb
  | cerr => rw [h1, h] at hs; cases hs
  | panic s => exact absurd h1 (hnp s)
  | outOfFuel => exact absurd h1 hnf

-- the hypotheses hold for `a|B(c)\1`, and the conclusion there
example : parseStr (fun c => c.isAlphanum) "(?i)a|B(c)\\1".toList false =
    parseStr (fun c => c.isAlphanum) "a|B(c)\\1".toList true := by
  have h : parseStr (fun c => c.isAlphanum) "a|B(c)\\1".toList true =
      .ok ⟨.alt [.literal ['a'] true, .concat [.literal ['B'] true, .group 0 (.literal ['c'] true),
        .backref 1]], [1], []⟩ := isTree_sound (by decide +kernel)
  rw [h]
  refine C14_parse_flag_ok _ "a|B(c)\\1".toList (isOkVal_sound (by decide +kernel)) ?_ h
  intro b hb
  have hb' : (bytesOf "a|B(c)\\1".toList)[0]? = some 97 := by decide +kernel
  rw [hb'] at hb; cases hb
  simp [quantAt, ch]; rfl

end Fancy.Parse
