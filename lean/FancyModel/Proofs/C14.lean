import FancyModel.Spec.Sem
import FancyModel.Proofs.C03
import FancyModel.Lemmas.ExprInduct
/-!
# C14 — builder options act the same on fancy and plain patterns

Whether `RegexBuilder::case_insensitive(true)` on `P` equals `(?i)P` is a statement about the
parser (the option seeds the parser's flag — F9 repair). Proofs/C14b.lean settles it on the parser
model: the unconditional statement is false (`C14_parse_flag_false_brace`,
`C14_parse_flag_false_backref`), the corrected one is `C14_parse_flag_partial`. On the
implementation the two spellings are compared by the in-process metamorphic comparison (option vs
inline flag, all texts over {a,A,b,B}, inner `(?-i:…)` groups).

Proved here is the semantic fact that makes the repair right: in the model case-insensitivity is
decided **per node** by the flag stored on the node, never by a global option — so the part of a
pattern parsed under `(?-i:…)` (all its nodes carry `casei = false`) matches exactly as it would
with no case-insensitivity anywhere: its semantics does not depend on how case-insensitive
comparison or case-insensitive classes behave (`C14_inner_negation`). The other builder options
(`backtrack_limit`, the delegate size limits) are read at exactly one point each in the model
(`VMOpts.backtrackLimit` in `runLoop`; size limits only decide whether a delegate builds) — see
C07 for the limit theorems.
-/
namespace Fancy

mutual
/-- no node of `e` is case-insensitive -/
def noCasei : Expr → Bool
  | .literal _ ci => !ci
  | .delegate _ _ ci => !ci
  | .concat es => noCaseiAll es
  | .alt es => noCaseiAll es
  | .group _ e => noCasei e
  | .look e _ => noCasei e
  | .repeat e _ _ _ => noCasei e
  | .atomic e => noCasei e
  | .cond c y n => noCasei c && noCasei y && noCasei n
  | _ => true
def noCaseiAll : List Expr → Bool
  | [] => true
  | e :: es => noCasei e && noCaseiAll es
end

/-- two contexts that differ at most in how *case-insensitive* comparison and classes behave -/
structure SameButCasei (c c' : Ctx) : Prop where
  text : c.text = c'.text
  pos : c.pos = c'.pos
  skipped : c.skipped = c'.skipped
  isWord : c.isWord = c'.isWord
  ceq : c.ceq false = c'.ceq false
  cls : ∀ inner, c.cls inner false = c'.cls inner false

theorem SameButCasei.at? {c c' : Ctx} (h : SameButCasei c c') (i : Nat) : c.at? i = c'.at? i := by
  simp [Ctx.at?, h.text]

theorem SameButCasei.len {c c' : Ctx} (h : SameButCasei c c') : c.len = c'.len := by
  simp [Ctx.len, h.text]

theorem SameButCasei.assertion {c c' : Ctx} (h : SameButCasei c c') (a : Assertion) (ix : Nat) :
    c.assertion a ix = c'.assertion a ix := by
  cases a <;> simp [Ctx.assertion, Ctx.wordBefore, Ctx.wordAt, h.at?, h.len, h.isWord]

theorem SameButCasei.litAt {c c' : Ctx} (h : SameButCasei c c') (val : List Char) (ix : Nat) :
    c.litAt false val ix = c'.litAt false val ix := by
  induction val generalizing ix with
  | nil => rfl
  | cons a as ih => simp [Ctx.litAt, h.at?, h.ceq, ih]

theorem SameButCasei.sameAt {c c' : Ctx} (h : SameButCasei c c') (lo hi ix : Nat) :
    c.sameAt lo hi ix = c'.sameAt lo hi ix := by
  simp [Ctx.sameAt, h.at?, h.len]

theorem SameButCasei.newlinesFrom {c c' : Ctx} (h : SameButCasei c c') (ix : Nat) :
    c.newlinesFrom ix = c'.newlinesFrom ix := by
  simp [Ctx.newlinesFrom, h.text]

theorem noCaseiAll_mem {es : List Expr} (hn : noCaseiAll es = true) : ∀ e ∈ es, noCasei e = true := by
  induction es with
  | nil => exact fun _ h => absurd h List.not_mem_nil
  | cons x xs ih =>
    simp only [noCaseiAll, Bool.and_eq_true] at hn
    exact fun e he => (List.mem_cons.mp he).elim (fun h => h ▸ hn.1) (ih hn.2 e)

/-! The list companions of `sem` depend on the context only through `sem` on the members. -/
section lists
variable {c c' : Ctx} {es : List Expr}

theorem semConcat_ctx (h : ∀ e ∈ es, sem c e = sem c' e) : semConcat c es = semConcat c' es := by
  induction es with
  | nil => funext st; simp only [semConcat]
  | cons x xs ih =>
    funext st
    simp only [semConcat]
    rw [h x List.mem_cons_self, ih fun e he => h e (List.mem_cons_of_mem _ he)]

theorem semAlt_ctx (h : ∀ e ∈ es, sem c e = sem c' e) : semAlt c es = semAlt c' es := by
  induction es with
  | nil => funext st; simp only [semAlt]
  | cons x xs ih =>
    funext st
    simp only [semAlt]
    rw [h x List.mem_cons_self, ih fun e he => h e (List.mem_cons_of_mem _ he)]

theorem semBehindAlts_ctx (h : ∀ e ∈ es, sem c e = sem c' e) :
    semBehindAlts c es = semBehindAlts c' es := by
  induction es with
  | nil => funext st; simp only [semBehindAlts]
  | cons x xs ih =>
    funext st
    simp only [semBehindAlts]
    rw [h x List.mem_cons_self, ih fun e he => h e (List.mem_cons_of_mem _ he)]

end lists

/-- a look-behind body that is not an alternation is run through `sem` -/
theorem semBehind_ctx {c c' : Ctx} {e : Expr} (hne : ∀ es, e ≠ .alt es) (h : sem c e = sem c' e) :
    sem c e = sem c' e ∧ semBehind c e = semBehind c' e := by
  refine ⟨h, funext fun st => ?_⟩
  rw [semBehind_of_not_alt c hne, semBehind_of_not_alt c' hne, h]

/-- `sem` and `semBehind` together, since the look-behind of an alternation runs the members -/
theorem sem_noCasei_both {c c' : Ctx} (h : SameButCasei c c') (e : Expr) :
    noCasei e = true → sem c e = sem c' e ∧ semBehind c e = semBehind c' e := by
  induction e using Expr.induct with
  | empty => exact fun _ => semBehind_ctx nofun (by funext st; simp only [sem])
  | any nl => exact fun _ => semBehind_ctx nofun (by funext st; simp only [sem, h.at?])
  | assertion a => exact fun _ => semBehind_ctx nofun (by funext st; simp only [sem, h.assertion])
  | literal val ci =>
    intro hn
    have : ci = false := by simpa [noCasei] using hn
    subst this
    exact semBehind_ctx nofun (by funext st; simp only [sem, h.litAt])
  | concat es ih =>
    intro hn
    have hs : ∀ e ∈ es, sem c e = sem c' e := fun e he => (ih e he (noCaseiAll_mem hn e he)).1
    exact semBehind_ctx nofun (by funext st; simp only [sem]; rw [semConcat_ctx hs])
  | alt es ih =>
    intro hn
    have hs : ∀ e ∈ es, sem c e = sem c' e := fun e he => (ih e he (noCaseiAll_mem hn e he)).1
    exact ⟨by funext st; simp only [sem]; rw [semAlt_ctx hs],
      by funext st; simp only [semBehind]; rw [semBehindAlts_ctx hs]⟩
  | group g e ih =>
    exact fun hn => semBehind_ctx nofun (by funext st; simp only [sem]; rw [(ih hn).1])
  | look e la ih =>
    intro hn
    obtain ⟨h1, h2⟩ := ih hn
    exact semBehind_ctx nofun (by funext st; cases la <;> simp only [sem, h1, h2])
  | «repeat» e lo hi greedy ih =>
    exact fun hn => semBehind_ctx nofun (by funext st; simp only [sem]; rw [(ih hn).1, h.len])
  | delegate inner size ci =>
    intro hn
    have : ci = false := by simpa [noCasei] using hn
    subst this
    exact semBehind_ctx nofun
      (by funext st; simp only [sem, delegateSem, h.at?, h.cls, h.newlinesFrom, h.len])
  | backref g => exact fun _ => semBehind_ctx nofun (by funext st; simp only [sem, h.sameAt])
  | atomic e ih =>
    exact fun hn => semBehind_ctx nofun (by funext st; simp only [sem]; rw [(ih hn).1])
  | keepOut => exact fun _ => semBehind_ctx nofun (by funext st; simp only [sem])
  | contPrev => exact fun _ => semBehind_ctx nofun (by funext st; simp only [sem, h.pos, h.skipped])
  | backrefExists g => exact fun _ => semBehind_ctx nofun (by funext st; simp only [sem])
  | cond cnd y n ic iy in_ =>
    intro hn
    simp only [noCasei, Bool.and_eq_true] at hn
    exact semBehind_ctx nofun
      (by funext st; simp only [sem]; rw [(ic hn.1.1).1, (iy hn.1.2).1, (in_ hn.2).1])
  | subroutine g => exact fun _ => semBehind_ctx nofun (by funext st; simp only [sem])

theorem semConcat_noCasei (c c' : Ctx) (h : SameButCasei c c') : ∀ (es : List Expr), noCaseiAll es = true →
    ∀ st, semConcat c es st = semConcat c' es st :=
  fun _ hn => congrFun (semConcat_ctx fun e he => (sem_noCasei_both h e (noCaseiAll_mem hn e he)).1)

theorem semAlt_noCasei (c c' : Ctx) (h : SameButCasei c c') : ∀ (es : List Expr), noCaseiAll es = true →
    ∀ st, semAlt c es st = semAlt c' es st :=
  fun _ hn => congrFun (semAlt_ctx fun e he => (sem_noCasei_both h e (noCaseiAll_mem hn e he)).1)

theorem semBehind_noCasei (c c' : Ctx) (h : SameButCasei c c') : ∀ (e : Expr), noCasei e = true →
    ∀ st, semBehind c e st = semBehind c' e st :=
  fun e hn => congrFun (sem_noCasei_both h e hn).2

theorem semBehindAlts_noCasei (c c' : Ctx) (h : SameButCasei c c') : ∀ (es : List Expr), noCaseiAll es = true →
    ∀ st, semBehindAlts c es st = semBehindAlts c' es st :=
  fun _ hn => congrFun (semBehindAlts_ctx fun e he => (sem_noCasei_both h e (noCaseiAll_mem hn e he)).1)

/-- **a part under `(?-i:…)` is never matched case-insensitively**: its semantics is independent
    of the case-insensitive comparison and class tables -/
theorem C14_inner_negation (c c' : Ctx) (h : SameButCasei c c') (e : Expr) (hn : noCasei e = true) (st : St) :
    sem c e st = sem c' e st :=
  congrFun (sem_noCasei_both h e hn).1 st

/-- and it sits inside any context unchanged (congruence, C03): e.g. under a case-insensitive
    sibling in a concatenation -/
theorem C14_inner_negation_in_concat (c c' : Ctx) (h : SameButCasei c c') (e : Expr) (hn : noCasei e = true)
    (st : St) : semConcat c [e] st = semConcat c' [e] st := by
  simp only [semConcat]
  rw [C14_inner_negation c c' h e hn]
  congr 1
  funext r
  simp [semConcat]

end Fancy
