import FancyModel.Lemmas.SemK
import FancyModel.Spec.Domain
import FancyModel.Model.Analyze
/-!
# C13 — the engine's static size facts are sound

About the reference semantics only (no VM): **no sub-expression can match fewer characters than
its computed minimum** (`C13_min_sound`), for every expression whose literals are single characters
(what the parser produces: `wellShaped`), every context, every start state. The analyzer's
arithmetic saturates at `usize::MAX`; saturation only lowers the bound, so no overflow hypothesis
is needed. This is what makes "go back `min_size` characters" in a look-behind safe, and it is the
statement whose conditional case was wrong before the F3 repair (`cond + min(yes, no)`) and whose
counted-repeat case was wrong for reversed bounds `{3,2}` before the F18 repair.
-/
namespace Fancy

theorem satAdd_le (a b : Nat) : satAdd a b ≤ a + b := by unfold satAdd; omega
theorem satMul_le (a b : Nat) : satMul a b ≤ a * b := by unfold satMul; omega

/-- results of the repetition loop: at least `sureReps - count` further iterations of `≥ m` each -/
theorem repLoop_min (body : St → List St) (m : Nat) (hbody : ∀ st r, r ∈ body st → st.ix + m ≤ r.ix)
    (lo : Nat) (hi : Option Nat) (greedy : Bool) (fuel count : Nat) (st r : St)
    (h : r ∈ repLoop body lo hi greedy fuel count st) : st.ix + (sureReps lo hi - count) * m ≤ r.ix := by
  induction fuel generalizing count st r with
  | zero => cases h
  | succ fuel ih =>
    have hsure : sureReps lo hi ≤ lo ∧ (hi = some count → sureReps lo hi ≤ count) := by
      unfold sureReps; cases hi <;> simp <;> omega
    rcases mem_repLoop_succ h with ⟨rfl, hstop⟩ | ⟨_, h⟩
    · -- the loop may stop here: no iteration is owed any more
      have : sureReps lo hi - count = 0 := by
        rcases hstop with h0 | h1
        · have := hsure.2 h0; omega
        · omega
      simp [this]
    · obtain ⟨r', hr', ⟨rfl, hnone, hlo, _⟩ | hq⟩ := mem_repStep h
      · have hb := hbody st _ hr'
        have : sureReps lo hi - count = 0 := by omega
        simp only [this, Nat.zero_mul, Nat.add_zero]; omega
      · have hb := hbody st r' hr'
        have := ih (count + 1) r' r hq
        have hle : (sureReps lo hi - count) * m ≤ m + (sureReps lo hi - (count + 1)) * m := by
          rcases Nat.lt_or_ge count (sureReps lo hi) with hlt | hge
          · have : sureReps lo hi - count = (sureReps lo hi - (count + 1)) + 1 := by omega
            rw [this, Nat.add_mul]; omega
          · have : sureReps lo hi - count = 0 := by omega
            simp [this]
        omega

theorem behindOne_ix (body : St → List St) (st r : St) (h : r ∈ behindOne body st) : r.ix = st.ix := by
  simp only [behindOne, List.mem_flatMap, List.mem_filter] at h
  obtain ⟨_, _, _, h⟩ := h
  simpa using h

theorem setSlot_ix (st : St) (i : Nat) (v : Option Nat) : (st.setSlot i v).ix = st.ix := rfl

theorem minSizeMin_le (e : Expr) (es : List Expr) (h : e ∈ es) : minSizeMin es ≤ minSize e := by
  induction es with
  | nil => simp at h
  | cons x xs ih =>
    cases xs with
    | nil => simp at h; subst h; simp [minSizeMin]
    | cons y ys =>
      simp only [minSizeMin]
      rcases List.mem_cons.mp h with rfl | h
      · omega
      · have := ih h; omega

theorem min_sound_concat_of (c : Ctx) (es : List Expr)
    (h : ∀ e ∈ es, wellShaped e = true → ∀ (st r : St), r ∈ sem c e st → st.ix + minSize e ≤ r.ix) :
    wellShapedAll es = true → ∀ (st r : St), r ∈ semConcat c es st → st.ix + minSizeSum es ≤ r.ix := by
  induction es with
  | nil => intro _ st r hr; simp only [semConcat] at hr; simp [List.mem_singleton.1 hr, minSizeSum]
  | cons e es ih =>
    intro hw st r hr
    simp only [semConcat, List.mem_flatMap] at hr
    obtain ⟨r1, hr1, hr⟩ := hr
    simp only [wellShapedAll, Bool.and_eq_true] at hw
    have h1 := h e List.mem_cons_self hw.1 st r1 hr1
    have h2 := ih (fun e' he' => h e' (List.mem_cons_of_mem _ he')) hw.2 r1 r hr
    have := satAdd_le (minSize e) (minSizeSum es)
    simp only [minSizeSum]
    omega

theorem min_sound_alt_of (c : Ctx) (es : List Expr)
    (h : ∀ e ∈ es, wellShaped e = true → ∀ (st r : St), r ∈ sem c e st → st.ix + minSize e ≤ r.ix) :
    wellShapedAll es = true → ∀ (st r : St), r ∈ semAlt c es st → st.ix + minSizeMin es ≤ r.ix := by
  induction es with
  | nil => intro _ st r hr; simp only [semAlt] at hr; cases hr
  | cons e es ih =>
    intro hw st r hr
    simp only [semAlt, List.mem_append] at hr
    simp only [wellShapedAll, Bool.and_eq_true] at hw
    rcases hr with hr | hr
    · have := h e List.mem_cons_self hw.1 st r hr
      have := minSizeMin_le e (e :: es) List.mem_cons_self
      omega
    · have h2 := ih (fun e' he' => h e' (List.mem_cons_of_mem _ he')) hw.2 st r hr
      cases es with
      | nil => simp only [semAlt] at hr; cases hr
      | cons y ys =>
        simp only [minSizeMin] at h2 ⊢
        omega

/-- **no sub-expression matches fewer characters than its computed minimum** -/
theorem C13_min_sound (c : Ctx) : ∀ (e : Expr), wellShaped e = true → ∀ (st r : St),
    r ∈ sem c e st → st.ix + minSize e ≤ r.ix := by
  intro e
  induction e using Expr.induct with
  | empty => intro _ st r h; simp [mem_sem_empty h, minSize]
  | any nl => intro _ st r h; simp [(mem_sem_any h).1, minSize]
  | assertion a => intro _ st r h; simp [mem_sem_assertion h, minSize]
  | literal val casei =>
    intro hw st r h
    simp only [wellShaped, beq_iff_eq] at hw
    simp [(mem_sem_literal h).1, minSize, hw]
  | concat es ih =>
    intro hw st r h
    simp only [sem] at h
    simp only [wellShaped] at hw
    simpa [minSize] using min_sound_concat_of c es ih hw st r h
  | alt es ih =>
    intro hw st r h
    simp only [sem] at h
    simp only [wellShaped, Bool.and_eq_true] at hw
    simpa [minSize] using min_sound_alt_of c es ih hw.2 st r h
  | group g e ih =>
    intro hw st r h
    obtain ⟨r', hr', rfl⟩ := mem_sem_group h
    simp only [wellShaped] at hw
    have := ih hw _ _ hr'
    simpa [minSize, setSlot_ix] using this
  | look e la ih =>
    intro _ st r h
    cases la with
    | ahead => obtain ⟨r', _, rfl⟩ := mem_sem_ahead h; simp [minSize]
    | aheadNeg => simp [mem_sem_aheadNeg h, minSize]
    | behind => obtain ⟨r', _, rfl⟩ := mem_sem_behind h; simp [minSize]
    | behindNeg => simp [mem_sem_behindNeg h, minSize]
  | «repeat» e lo hi greedy ih =>
    intro hw st r h
    simp only [sem] at h
    simp only [wellShaped] at hw
    have := repLoop_min (sem c e) (minSize e) (ih hw) lo hi greedy _ 0 st r h
    have h2 : minSize (.repeat e lo hi greedy) ≤ sureReps lo hi * minSize e := by
      simp only [minSize]
      have := satMul_le (minSize e) (sureReps lo hi)
      rw [Nat.mul_comm] at this
      exact this
    simp only [Nat.sub_zero] at this
    omega
  | delegate inner size casei =>
    intro _ st r h
    obtain ⟨k, rfl, hk, _⟩ := mem_sem_delegate h
    simp only [minSize]
    omega
  | backref g => intro _ st r h; obtain ⟨k, rfl, _⟩ := mem_sem_backref h; simp [minSize]
  | atomic e ih =>
    intro hw st r h
    simp only [wellShaped] at hw
    simpa [minSize] using ih hw st r (mem_sem_atomic h)
  | keepOut => intro _ st r h; simp [mem_sem_keepOut h, minSize, setSlot_ix]
  | contPrev => intro _ st r h; simp [mem_sem_contPrev h, minSize]
  | backrefExists g => intro _ st r h; simp [mem_sem_backrefExists h, minSize]
  | cond cnd y n ihc ihy ihn =>
    intro hw st r h
    simp only [wellShaped, Bool.and_eq_true] at hw
    have hm : minSize (.cond cnd y n) ≤ minSize cnd + minSize y ∧ minSize (.cond cnd y n) ≤ minSize n := by
      simp only [minSize]
      have := satAdd_le (minSize cnd) (minSize y)
      omega
    rcases mem_sem_cond h with ⟨r1, hr1, h⟩ | h
    · have h1 := ihc hw.1.1 st r1 hr1
      have h2 := ihy hw.1.2 r1 r h
      omega
    · have h3 := ihn hw.2 st r h
      omega
  | subroutine g => intro _ st r h; exact absurd h not_mem_sem_subroutine

theorem min_sound_concat (c : Ctx) : ∀ (es : List Expr), wellShapedAll es = true → ∀ (st r : St),
    r ∈ semConcat c es st → st.ix + minSizeSum es ≤ r.ix :=
  fun es => min_sound_concat_of c es fun e _ => C13_min_sound c e

theorem min_sound_alt (c : Ctx) : ∀ (es : List Expr), wellShapedAll es = true → ∀ (st r : St),
    r ∈ semAlt c es st → st.ix + minSizeMin es ≤ r.ix :=
  fun es => min_sound_alt_of c es fun e _ => C13_min_sound c e

end Fancy
