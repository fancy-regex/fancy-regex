import FancyModel.Proofs.C01c
import FancyModel.Proofs.C02b
/-!
# C02 — capture groups of compiled programs (engine refinement, stage S2)

`C01_vm_correct_s2` relates the whole slot vector; spelled out per group: atomic groups, look-arounds
(captures set inside a look-around are retained), conditionals, counted repeats (the last iteration
that entered the group wins) are all covered.
-/
namespace Fancy

theorem C02_groups_s2 (tree : Expr) (backrefs : List Nat) (b : Built) (prog : Prog) (c : Ctx)
    (hb : build tree backrefs = .ok b) (hk : b.kind = .fancy prog)
    (hok : s2ok b.raw = true) (hnd : noDeleg prog.body = true)
    (hlen : c.len < UNSET) (hpos : c.pos ≤ c.len) (limit fuel : Nat) (slots : List (Option Nat))
    (hfound : (b.captures c limit fuel).1 = .found slots) :
    ∃ f, refSearch c b.raw b.nGroups = some f ∧ ∀ i : Nat, slots[i]? = f.slots[i]? := by
  exact groups_of_vmCorrectR (C01_vm_correct_s2 tree backrefs b prog c hb hk hok hnd hlen hpos) limit fuel slots hfound

end Fancy
