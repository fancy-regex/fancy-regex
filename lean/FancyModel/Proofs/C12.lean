import FancyModel.Model.Expand
/-!
# C12 — template expansion follows the documented `$`-syntax and escape round-trips

Theorems about `Expand` (the mirror of src/expand.rs). They hold for **every** expander (any
substitution character and delimiters, so in particular `Expander::default()` and
`Expander::python()`), every identifier predicate, every template and every captures.
-/
namespace Fancy.Expand

variable (isId : Char → Bool) (x : Expander)

/-- what `escape` produces when it has to allocate: every substitution character doubled -/
def doubled (x : Expander) (t : List Char) : List Char :=
  t.flatMap fun c => if c == x.subChar then [c, c] else [c]

theorem doubled_eq_self (t : List Char) (h : t.contains x.subChar = false) : doubled x t = t := by
  induction t with
  | nil => rfl
  | cons c cs ih =>
    simp only [List.contains_cons, Bool.or_eq_false_iff] at h
    have hc : (c == x.subChar) = false := by
      cases hq : (c == x.subChar) with
      | false => rfl
      | true =>
        have : c = x.subChar := by simpa using hq
        rw [this] at h; simp at h
    simp only [doubled, List.flatMap_cons, hc] at ih ⊢
    simp only [Bool.false_eq_true, ↓reduceIte, List.singleton_append, List.cons.injEq, true_and]
    exact ih h.2

theorem escapeStr_eq (t : List Char) : escapeStr x t = doubled x t := by
  unfold escapeStr escape
  split
  · rfl
  · rename_i h
    simp only [Option.getD_none]
    exact (doubled_eq_self x t (by simpa using h)).symm

/-- scanning an escaped template yields the original characters, one `Char` step each -/
theorem exec_doubled (t : List Char) (fuel : Nat) (hf : (doubled x t).length ≤ fuel) :
    exec isId x fuel (doubled x t) = t.map Step.char := by
  induction t generalizing fuel with
  | nil => cases fuel <;> simp [doubled, exec]
  | cons c cs ih =>
    by_cases hc : c = x.subChar
    · subst hc
      have hd : doubled x (x.subChar :: cs) = x.subChar :: x.subChar :: doubled x cs := by
        simp [doubled]
      rw [hd] at hf ⊢
      cases fuel with
      | zero => simp at hf
      | succ fuel =>
        simp only [exec, beq_self_eq_true, ↓reduceIte, List.drop_succ_cons, List.drop_zero,
          List.map_cons, List.cons.injEq, true_and]
        apply ih
        simp only [List.length_cons] at hf
        omega
    · have hne : (c == x.subChar) = false := by simpa using hc
      have hd : doubled x (c :: cs) = c :: doubled x cs := by
        simp [doubled, hc]
      rw [hd] at hf ⊢
      cases fuel with
      | zero => simp at hf
      | succ fuel =>
        simp only [exec, hne, Bool.false_eq_true, ↓reduceIte, List.map_cons, List.cons.injEq, true_and]
        apply ih
        simp only [List.length_cons] at hf
        omega

/-- **round trip**: expanding `escape(s)` yields `s`, for every string, captures and expander -/
theorem C12_roundtrip (s : List Char) (caps : Caps) :
    expansion isId x (escapeStr x s) caps = s := by
  rw [escapeStr_eq]
  unfold expansion steps
  rw [exec_doubled isId x s _ (Nat.le_succ _)]
  induction s with
  | nil => rfl
  | cons c cs ih => simp [stepOut, ih]

/-- **`$$` is a literal `$`** (and `\\\\` a literal backslash for the Python expander) -/
theorem C12_dollar (caps : Caps) : expansion isId x [x.subChar, x.subChar] caps = [x.subChar] := by
  simp [expansion, steps, exec, stepOut]

/-- **verbatim**: a template without the substitution character expands to itself -/
theorem C12_verbatim (t : List Char) (caps : Caps) (h : t.contains x.subChar = false) :
    expansion isId x t caps = t := by
  have := C12_roundtrip isId x t caps
  rwa [escapeStr_eq, doubled_eq_self x t h] at this

/-- **borrow**: `escape` borrows its input iff the substitution character does not occur -/
theorem C12_escape_borrow (t : List Char) : escape x t = none ↔ t.contains x.subChar = false := by
  unfold escape
  split <;> simp_all

/-- **absent groups insert nothing**: a numbered reference to a group that is missing or did not
    match contributes the empty string -/
theorem C12_absent_num (caps : Caps) (n : Nat) (h : caps.get n = none) : stepOut caps (.groupNum n) = [] := by
  simp [stepOut, h]

theorem C12_absent_name (caps : Caps) (id : List Char) (h1 : caps.name id = none)
    (h2 : (parseUsize id).bind caps.get = none) : stepOut caps (.groupName id) = [] := by
  simp [stepOut, h1, h2]

/-- a present group inserts exactly its text -/
theorem C12_present_num (caps : Caps) (n : Nat) (m : List Char) (h : caps.get n = some m) :
    stepOut caps (.groupNum n) = m := by
  simp [stepOut, h]

/-- **`check` is sound**: it accepts only if every reference step names an existing group — a known
    name, or a number that is 0, or below `captures_len` in a regex without named groups -/
def StepOk (r : RegexInfo) : Step → Prop
  | .char _ => True
  | .groupName id =>
    r.names.contains id = true ∨
      ∃ n, parseUsize id = some n ∧ (n = 0 ∨ (r.names = [] ∧ n < r.capturesLen))
  | .groupNum n => n = 0 ∨ (r.names = [] ∧ n < r.capturesLen)
  | .error => False

theorem onGroupNum_ok (r : RegexInfo) (n : Nat) (h : onGroupNum r n = .ok ()) :
    n = 0 ∨ (r.names = [] ∧ n < r.capturesLen) := by
  unfold onGroupNum at h
  split at h
  · left; simpa using ‹(n == 0) = true›
  · split at h
    · cases h
    · split at h
      · right
        rename_i hne hlt
        exact ⟨by simpa using hne, hlt⟩
      · cases h

theorem checkStep_ok (r : RegexInfo) (st : Step) (h : checkStep r st = .ok ()) : StepOk r st := by
  cases st with
  | char c => trivial
  | groupName id =>
    simp only [checkStep] at h
    split at h
    · left; assumption
    · right
      split at h
      · rename_i n hn
        exact ⟨n, hn, onGroupNum_ok r n h⟩
      · cases h
  | groupNum n => exact onGroupNum_ok r n (by simpa [checkStep] using h)
  | error => simp [checkStep] at h

theorem C12_check_sound (t : List Char) (r : RegexInfo) (h : check isId x t r = .ok ()) :
    ∀ st ∈ steps isId x t, StepOk r st := by
  unfold check at h
  generalize steps isId x t = ss at h
  induction ss with
  | nil => intro st hst; simp at hst
  | cons s ss ih =>
    simp only [checkSteps] at h
    cases hs : checkStep r s with
    | error e => simp [hs] at h
    | ok u =>
      simp only [hs] at h
      intro st hst
      rcases List.mem_cons.mp hst with rfl | hst
      · exact checkStep_ok r _ hs
      · exact ih h st hst

/-! ### The documented interpretation on concrete templates (non-vacuity; `x` = ASCII letters) -/

def demoId (c : Char) : Bool := c.isAlphanum || c == '_'
def demoCaps : Caps := ⟨[some "ab".toList, some "a".toList, none], [("x".toList, 1)]⟩

-- `$1a` takes the longest identifier (`1a`, no such group), `${1}a` is group 1 then `a`
example : expansion demoId dollar "$1a|${1}a|$x|$2|$$".toList demoCaps = "|aa|a||$".toList := by decide +kernel
-- the Python expander: `\1`, `\g<x>`, `\\`
example : expansion demoId python "\\1-\\g<x>-\\\\".toList demoCaps = "a-a-\\".toList := by decide +kernel
-- a substitution character followed by nothing recognisable is copied
example : expansion demoId dollar "$-".toList demoCaps = "$-".toList := by decide +kernel
example : check demoId dollar "$x $1".toList ⟨3, ["x".toList]⟩ = .error .namedBackrefOnly := by rfl
example : check demoId dollar "$x $0".toList ⟨3, ["x".toList]⟩ = .ok () := by rfl

end Fancy.Expand
