import FancyModel.Proofs.C19b
/-!
# C15 (parser part) — how the parser reads the three forms of a conditional

Proofs/C15.lean proves what the three trees *mean*; here is which tree the parser builds for which
spelling (F13, F16), on the parser model (`Model/Parse.lean`, `parseConditional`), for all inputs:

* `C15_parse_forms`: `parse_conditional` as a function of its three sub-parses (the condition
  `condPart`, the `)` after it, the body parsed by `parse_re`) — the general statement, for
  arbitrary sub-patterns (they enter through the results of the sub-parses);
* its readable corollaries: `C15_parse_bare_test` (`(?(N))` is `BackrefExistsCondition(N)` alone),
  `C15_parse_bare_expr` (`(?(cond))` is an error), `C15_parse_yes_no` (`(?(c)yes|no)`; also
  `(?(1)|)`: two empty branches — fix F13), `C15_parse_yes_alts` (more alternatives),
  `C15_parse_yes_only` (`(?(c)yes)`: `no = Empty`, and the whole body is ONE branch whenever the
  body's `parse_re` saw no top-level `|`, even if the body is an `Alt` from inside a group — fix
  F16), `C15_parse_empty_body`;
* `C15_cond_number`, `C15_cond_quote`, `C15_cond_angle`, `C15_cond_expr`: which of the three kinds of
  condition is read; `C15_group_dispatch`: `(?(` in `parse_group` leads here;
* fix F21 — a back-reference *expression* as condition (`(?(\1)yes|no)`, `(?((?:\1))yes|no)`) is a
  general condition, not the group test: the rewriting `Backref(g) ↦ BackrefExistsCondition(g)` is
  done only for the three group-test spellings `(?(N)`, `(?('n')`, `(?(<n>)`, i.e. according to the
  byte after `(?(` (`isGroupTest`).  `C15_innerCond_general`, `C15_innerCond_group_test`,
  `C15_general_condition_kept` (whatever `parse_conditional` returns for a general condition
  contains exactly the tree `parse_re` returned for it), `C15_general_backref_condition`,
  `C15_general_backref_bare`.

The section "Tests by evaluation" evaluates the whole model parser on representative concrete
patterns in the kernel; those are tests, not the general claim.
-/
namespace Fancy.Parse
open Fancy.Utf8 (codepointLen isLead)
open Fancy

/-! ## the parts of `parse_conditional` -/

/-- the condition of a conditional, as `parse_conditional` reads it at the byte `b` after `(?(`:
    a group number, a group name in quotes or angle brackets, or a whole expression -/
def condPart (isAlnum : Char → Bool) (f : Nat) (re : Bytes) (st : PState) (ix d b : Nat) :
    Res (Nat × Expr × PState) :=
  if isDigit b then parseNumberedBackref re st ix .backref
  else if b == ch '\'' then parseNamedBackref isAlnum re st ix [ch '\''] [ch '\''] true .backref
  else if b == ch '<' then parseNamedBackref isAlnum re st ix [ch '<'] [ch '>'] true .backref
  else parseRe isAlnum f re st ix d

/-- the two branches `parse_conditional` makes of the body and of `last_re_had_alt` -/
def condBranches (child : Expr) (hasElse : Bool) : Res (Expr × Expr) :=
  match child, hasElse with
  | .alt alternatives, true =>
    match alternatives with
    | [] => .panic "parse_conditional: alternatives.remove(0)"
    | t :: rest =>
      match rest with
      | [e] => pure (t, e)
      | _ => pure (t, .alt rest)
  | c, _ => pure (c, .empty)

/-- `is_group_test`: the byte after `(?(` starts one of the three group-test spellings `(?(N)`,
    `(?('name')`, `(?(<name>)` -/
def isGroupTest (b : Nat) : Bool := isDigit b || b == ch '\'' || b == ch '<'

/-- in a group-test spelling (`gt`) the reference read as condition is the test "has this group
    matched"; any other condition — also a back-reference expression — stays what it is (fix F21) -/
def innerCond (gt : Bool) (condition : Expr) : Expr :=
  match gt, condition with
  | true, .backref g => .backrefExists g
  | _, c => c

/-- a general condition is never rewritten -/
theorem C15_innerCond_general (c : Expr) : innerCond false c = c := rfl

/-- in a group-test spelling a reference becomes the group test; anything else stays -/
theorem C15_innerCond_group_test (g : Nat) : innerCond true (.backref g) = .backrefExists g := rfl

theorem innerCond_of_not_backref (gt : Bool) {c : Expr} (h : ∀ g, c ≠ .backref g) :
    innerCond gt c = c := by
  cases gt
  · rfl
  · cases c <;> first | rfl | exact absurd rfl (h _)

/-- what `parse_conditional` makes of the condition and of the body `r` parsed from `next2` -/
def condResult (re : Bytes) (gt : Bool) (condition : Expr) (next2 : Nat) (r : Nat × Expr × PState) :
    Res (Nat × Expr × PState) :=
  if r.1 = next2 then
    match gt, condition with
    | true, .backref g =>
      checkForCloseParen re r.2.2.flags r.1 >>= fun after => .ok (after, .backrefExists g, r.2.2)
    | _, _ => .err (.general .expectedConditional) r.1
  else
    condBranches r.2.1 r.2.2.lastReHadAlt >>= fun br =>
    checkForCloseParen re r.2.2.flags r.1 >>= fun after =>
    if !r.2.2.lastReHadAlt && br.1.isEmpty then .ok (after, innerCond gt condition, r.2.2)
    else .ok (after, .cond (innerCond gt condition) br.1 br.2, r.2.2)

theorem parseConditional_succ (isAlnum : Char → Bool) (f : Nat) (re : Bytes) (st : PState) (ix d : Nat) :
    parseConditional isAlnum (f + 1) re st ix d =
      (if ix ≥ re.size then .err .unclosedOpenParen ix
      else do
        let b ← byteAt re ix "parse_conditional: bytes[ix]"
        let (next, condition, st1) ← condPart isAlnum f re st ix d b
        let next2 ← checkForCloseParen re st1.flags next
        parseRe isAlnum f re st1 next2 d >>= condResult re (isGroupTest b) condition next2) := by
  rw [parseConditional]
  by_cases h : ix ≥ re.size
  · rw [if_pos h, if_pos h]
  · rw [if_neg h, if_neg h]
    unfold condPart
    refine congrArg _ (funext fun b => ?_)
    dsimp only
    refine congrArg _ (funext fun r1 => ?_)
    obtain ⟨next, condition, st1⟩ := r1
    refine congrArg _ (funext fun next2 => ?_)
    refine congrArg _ (funext fun r => ?_)
    obtain ⟨end_, child, st2⟩ := r
    unfold condResult isGroupTest innerCond
    by_cases he : end_ = next2
    · subst he
      simp only [beq_self_eq_true, ↓reduceIte]
      generalize (isDigit b || b == ch '\'' || b == ch '<') = gt
      cases gt <;> cases condition <;> rfl
    · have he' : (end_ == next2) = false := by simpa using he
      simp only [he', Bool.false_eq_true, ↓reduceIte, he]
      rfl
theorem Res.bind_eq_ok {α β : Type} {x : Res α} {f : α → Res β} {r : β} (h : (x >>= f) = .ok r) :
    ∃ a, x = .ok a ∧ f a = .ok r := by
  cases x <;> first | exact ⟨_, rfl, h⟩ | cases h

/-- the tree is the condition (a reference in a group-test spelling rewritten), alone or as the
    condition of a `Conditional` -/
theorem condResult_ok {re : Bytes} {gt : Bool} {condition e : Expr} {next2 after : Nat}
    {r : Nat × Expr × PState} {st' : PState}
    (h : condResult re gt condition next2 r = .ok (after, e, st')) :
    e = innerCond gt condition ∨ ∃ y n, e = .cond (innerCond gt condition) y n := by
  unfold condResult at h
  split at h
  · split at h
    · obtain ⟨_, _, h⟩ := Res.bind_eq_ok h
      cases h
      exact .inl rfl
    · cases h
  · obtain ⟨_, _, h⟩ := Res.bind_eq_ok h
    obtain ⟨_, _, h⟩ := Res.bind_eq_ok h
    split at h <;> cases h
    · exact .inl rfl
    · exact .inr ⟨_, _, rfl⟩

/-- `parse_conditional` in terms of its three sub-parses (the condition, the `)` after it, the
    body): the exact mirror of the function with the sub-results named -/
theorem C15_parse_forms (isAlnum : Char → Bool) {re : Bytes} {f : Nat} {st st1 st2 : PState}
    {ix d b next next2 end_ : Nat} {condition child : Expr}
    (hb : re[ix]? = some b)
    (hcond : condPart isAlnum f re st ix d b = .ok (next, condition, st1))
    (hc1 : checkForCloseParen re st1.flags next = .ok next2)
    (hre : parseRe isAlnum f re st1 next2 d = .ok (end_, child, st2)) :
    parseConditional isAlnum (f + 1) re st ix d =
      if end_ = next2 then
        match isGroupTest b, condition with
        | true, .backref g =>
          checkForCloseParen re st2.flags end_ >>= fun after => .ok (after, .backrefExists g, st2)
        | _, _ => .err (.general .expectedConditional) end_
      else
        condBranches child st2.lastReHadAlt >>= fun br =>
        checkForCloseParen re st2.flags end_ >>= fun after =>
        if !st2.lastReHadAlt && br.1.isEmpty then .ok (after, innerCond (isGroupTest b) condition, st2)
        else .ok (after, .cond (innerCond (isGroupTest b) condition) br.1 br.2, st2) := by
  have hge : ¬ (ix ≥ re.size) := by have := lt_size_of_get hb; omega
  rw [parseConditional_succ, if_neg hge]
  simp only [byteAt, hb, Res.ok_bind, hcond, hc1, hre, condResult]
  by_cases he : end_ = next2
  · rw [if_pos he, if_pos he]
    cases isGroupTest b <;> cases condition <;> rfl
  · rw [if_neg he, if_neg he]

/-! ## C15_parse_forms: the forms of a conditional -/

section forms
variable (isAlnum : Char → Bool) {re : Bytes} {f : Nat} {st st1 st2 : PState}
  {ix d b next next2 end_ after : Nat} {condition child : Expr}

/-- **`(?(N))`, `(?(<name>))`, `(?('name'))` — the bare group test**: when nothing stands between the
    `)` that closes the condition and the `)` that closes the group, and the condition is a group
    reference in one of the three group-test spellings, the result is `BackrefExistsCondition(g)`
    alone (fix F13: not a conditional with two empty branches) -/
theorem C15_parse_bare_test {g : Nat} (hb : re[ix]? = some b) (hgt : isGroupTest b = true)
    (hcond : condPart isAlnum f re st ix d b = .ok (next, .backref g, st1))
    (hc1 : checkForCloseParen re st1.flags next = .ok next2)
    (hre : parseRe isAlnum f re st1 next2 d = .ok (next2, child, st2))
    (hc2 : checkForCloseParen re st2.flags next2 = .ok after) :
    parseConditional isAlnum (f + 1) re st ix d = .ok (after, .backrefExists g, st2) := by
  rw [C15_parse_forms isAlnum hb hcond hc1 hre]
  simp [hgt, hc2]

/-- an expression as condition with no body is the error "expected conditional …" — every general
    condition (the byte after `(?(` does not start a group-test spelling), also one that is a
    back-reference expression such as `(?(\1))` (fix F21), and anything that is not a reference -/
theorem C15_parse_bare_expr (hb : re[ix]? = some b)
    (hcond : condPart isAlnum f re st ix d b = .ok (next, condition, st1))
    (hnb : isGroupTest b = false ∨ ∀ g, condition ≠ .backref g)
    (hc1 : checkForCloseParen re st1.flags next = .ok next2)
    (hre : parseRe isAlnum f re st1 next2 d = .ok (next2, child, st2)) :
    parseConditional isAlnum (f + 1) re st ix d = .err (.general .expectedConditional) next2 := by
  rw [C15_parse_forms isAlnum hb hcond hc1 hre]
  simp only [↓reduceIte]
  rcases hnb with hgt | hnb
  · rw [hgt]
  · cases isGroupTest b
    · rfl
    · cases condition <;> first | rfl | exact absurd rfl (hnb _)

/-- **`(?(cond)yes|no)`** — the body is a top-level alternation of exactly two branches (the body's
    `parse_re` saw a `|`: `last_re_had_alt`): `Conditional { cond, yes, no }`, where a group
    reference as `cond` in a group-test spelling becomes the group test (only there: fix F21).  Holds also when `yes` or `no` is empty:
    `(?(1)|)` is a conditional with two empty branches (fix F13). -/
theorem C15_parse_yes_no {y n : Expr} (hb : re[ix]? = some b)
    (hcond : condPart isAlnum f re st ix d b = .ok (next, condition, st1))
    (hc1 : checkForCloseParen re st1.flags next = .ok next2)
    (hre : parseRe isAlnum f re st1 next2 d = .ok (end_, .alt [y, n], st2)) (hne : end_ ≠ next2)
    (halt : st2.lastReHadAlt = true)
    (hc2 : checkForCloseParen re st2.flags end_ = .ok after) :
    parseConditional isAlnum (f + 1) re st ix d =
      .ok (after, .cond (innerCond (isGroupTest b) condition) y n, st2) := by
  rw [C15_parse_forms isAlnum hb hcond hc1 hre]
  simp [hne, halt, condBranches, hc2]

/-- **`(?(cond)yes|no1|no2…)`** — more than two top-level alternatives: the first is `yes`, the
    alternation of the others is `no` -/
theorem C15_parse_yes_alts {y n1 n2 : Expr} {ns : List Expr} (hb : re[ix]? = some b)
    (hcond : condPart isAlnum f re st ix d b = .ok (next, condition, st1))
    (hc1 : checkForCloseParen re st1.flags next = .ok next2)
    (hre : parseRe isAlnum f re st1 next2 d = .ok (end_, .alt (y :: n1 :: n2 :: ns), st2))
    (hne : end_ ≠ next2) (halt : st2.lastReHadAlt = true)
    (hc2 : checkForCloseParen re st2.flags end_ = .ok after) :
    parseConditional isAlnum (f + 1) re st ix d =
      .ok (after, .cond (innerCond (isGroupTest b) condition) y (.alt (n1 :: n2 :: ns)), st2) := by
  rw [C15_parse_forms isAlnum hb hcond hc1 hre]
  simp [hne, halt, condBranches, hc2]

/-- **`(?(cond)yes)`** — the body's `parse_re` saw no top-level `|` (`last_re_had_alt = false`):
    the **whole** body is the `yes` branch and `no` is `Empty` — *whatever the body is*, in
    particular when it is itself an `Alt` that came out of a group such as `(?:a|b)` (fix F16: an
    alternation inside a group is ONE branch, it is not split into yes/no) -/
theorem C15_parse_yes_only (hb : re[ix]? = some b)
    (hcond : condPart isAlnum f re st ix d b = .ok (next, condition, st1))
    (hc1 : checkForCloseParen re st1.flags next = .ok next2)
    (hre : parseRe isAlnum f re st1 next2 d = .ok (end_, child, st2)) (hne : end_ ≠ next2)
    (halt : st2.lastReHadAlt = false) (hemp : child.isEmpty = false)
    (hc2 : checkForCloseParen re st2.flags end_ = .ok after) :
    parseConditional isAlnum (f + 1) re st ix d =
      .ok (after, .cond (innerCond (isGroupTest b) condition) child .empty, st2) := by
  rw [C15_parse_forms isAlnum hb hcond hc1 hre]
  have hbr : condBranches child false = pure (child, .empty) := by
    unfold condBranches; split <;> first | rfl | (rename_i h; cases h)
  simp [hne, halt, hbr, hc2, hemp]

/-- a body that consumed something but is `Empty` (an inline flag group, a comment) without a
    top-level `|`: the condition alone -/
theorem C15_parse_empty_body (hb : re[ix]? = some b)
    (hcond : condPart isAlnum f re st ix d b = .ok (next, condition, st1))
    (hc1 : checkForCloseParen re st1.flags next = .ok next2)
    (hre : parseRe isAlnum f re st1 next2 d = .ok (end_, .empty, st2)) (hne : end_ ≠ next2)
    (halt : st2.lastReHadAlt = false)
    (hc2 : checkForCloseParen re st2.flags end_ = .ok after) :
    parseConditional isAlnum (f + 1) re st ix d = .ok (after, innerCond (isGroupTest b) condition, st2) := by
  rw [C15_parse_forms isAlnum hb hcond hc1 hre]
  simp [hne, halt, condBranches, hc2, Expr.isEmpty]

end forms

/-! ### the three kinds of condition -/

/-- `(?(N)…`: a digit starts a group number; the condition is `Backref(N)` (so the test is
    `BackrefExistsCondition(N)`), the group is recorded as referenced -/
theorem C15_cond_number (isAlnum : Char → Bool) {re : Bytes} (f : Nat) (st : PState) {ix d b : Nat}
    (hd : isDigit b = true) :
    condPart isAlnum f re st ix d b = parseNumberedBackref re st ix .backref := by
  simp [condPart, hd]

theorem parseNumberedBackref_ok {re : Bytes} {st st' : PState} {ix e : Nat} {k : RefKind} {x : Expr}
    (h : parseNumberedBackref re st ix k = .ok (e, x, st')) :
    ∃ g, parseDecimal re ix = .ok (some (e, g)) ∧ g < re.size / 2 ∧ x = k.mk g ∧
      st' = { st with numericBackrefs := true, backrefs := bitsetInsert st.backrefs g } := by
  unfold parseNumberedBackref at h
  cases hp : parseDecimal re ix with
  | ok r =>
    rw [hp] at h
    simp only [Res.ok_bind] at h
    cases r with
    | none => cases h
    | some p =>
      obtain ⟨e', g⟩ := p
      simp only at h
      split at h
      · simp only [Res.ok.injEq, Prod.mk.injEq] at h
        obtain ⟨rfl, rfl, rfl⟩ := h
        exact ⟨g, rfl, by assumption, rfl, rfl⟩
      · cases h
  | err k p => rw [hp] at h; cases h
  | cerr => rw [hp] at h; cases h
  | panic s => rw [hp] at h; cases h
  | outOfFuel => rw [hp] at h; cases h

/-- `(?('name')…` and `(?(<name>)…`: the condition is a named (or relative, or numbered-by-name)
    reference read by `parse_named_backref` -/
theorem C15_cond_quote (isAlnum : Char → Bool) {re : Bytes} (f : Nat) (st : PState) {ix d : Nat} :
    condPart isAlnum f re st ix d (ch '\'') =
      parseNamedBackref isAlnum re st ix [ch '\''] [ch '\''] true .backref := by
  simp [condPart, isDigit, ch]

theorem C15_cond_angle (isAlnum : Char → Bool) {re : Bytes} (f : Nat) (st : PState) {ix d : Nat} :
    condPart isAlnum f re st ix d (ch '<') =
      parseNamedBackref isAlnum re st ix [ch '<'] [ch '>'] true .backref := by
  simp [condPart, isDigit, ch]

/-- `(?(cond)…` with anything else: the condition is parsed by `parse_re` -/
theorem C15_cond_expr (isAlnum : Char → Bool) {re : Bytes} (f : Nat) (st : PState) {ix d b : Nat}
    (h1 : isDigit b = false) (h2 : b ≠ ch '\'') (h3 : b ≠ ch '<') :
    condPart isAlnum f re st ix d b = parseRe isAlnum f re st ix d := by
  have e2 : (b == ch '\'') = false := by simpa using h2
  have e3 : (b == ch '<') = false := by simpa using h3
  simp [condPart, h1, e2, e3]

/-! ### fix F21: only the three group-test spellings are turned into the group test -/

/-- the byte after `(?(` is not a digit, `'` or `<`: a general condition -/
theorem isGroupTest_eq_false {b : Nat} (h1 : isDigit b = false) (h2 : b ≠ ch '\'') (h3 : b ≠ ch '<') :
    isGroupTest b = false := by
  have e2 : (b == ch '\'') = false := by simpa using h2
  have e3 : (b == ch '<') = false := by simpa using h3
  simp [isGroupTest, h1, e2, e3]

/-- `\` does not start a group-test spelling: `(?(\1)…`, `(?(\k<n>)…` are general conditions -/
theorem isGroupTest_backslash : isGroupTest (ch '\\') = false := by decide

/-- **a general condition is never rewritten** (fix F21): when the byte after `(?(` is not a digit,
    `'` or `<`, whatever `parse_conditional` returns is the tree `condition` that `parse_re` returned
    for the condition — alone (body without content) or as the condition of the `Conditional` —
    also when `condition` is a back-reference expression `Backref(g)`.  The rewriting to
    `BackrefExistsCondition(g)` happens only in the three group-test spellings
    (`C15_parse_forms` with `isGroupTest b = true`). -/
theorem C15_general_condition_kept (isAlnum : Char → Bool) {re : Bytes} {f : Nat} {st st1 st' : PState}
    {ix d b next after : Nat} {condition e : Expr}
    (hb : re[ix]? = some b) (h1 : isDigit b = false) (h2 : b ≠ ch '\'') (h3 : b ≠ ch '<')
    (hcond : parseRe isAlnum f re st ix d = .ok (next, condition, st1))
    (h : parseConditional isAlnum (f + 1) re st ix d = .ok (after, e, st')) :
    e = condition ∨ ∃ y n, e = .cond condition y n := by
  have hge : ¬ (ix ≥ re.size) := by have := lt_size_of_get hb; omega
  rw [parseConditional_succ, if_neg hge] at h
  simp only [byteAt, hb, Res.ok_bind, C15_cond_expr isAlnum f st h1 h2 h3, hcond,
    isGroupTest_eq_false h1 h2 h3] at h
  obtain ⟨_, _, h⟩ := Res.bind_eq_ok h
  obtain ⟨_, _, h⟩ := Res.bind_eq_ok h
  exact condResult_ok h

/-- the same for the group-test spellings, for contrast: there a reference `Backref(g)` read as
    condition never survives — the result is `BackrefExistsCondition(g)`, alone or as the condition -/
theorem C15_group_test_rewritten (isAlnum : Char → Bool) {re : Bytes} {f : Nat} {st st1 st' : PState}
    {ix d b next after g : Nat} {e : Expr}
    (hb : re[ix]? = some b) (hgt : isGroupTest b = true)
    (hcond : condPart isAlnum f re st ix d b = .ok (next, .backref g, st1))
    (h : parseConditional isAlnum (f + 1) re st ix d = .ok (after, e, st')) :
    e = .backrefExists g ∨ ∃ y n, e = .cond (.backrefExists g) y n := by
  have hge : ¬ (ix ≥ re.size) := by have := lt_size_of_get hb; omega
  rw [parseConditional_succ, if_neg hge] at h
  simp only [byteAt, hb, Res.ok_bind, hcond, hgt] at h
  obtain ⟨_, _, h⟩ := Res.bind_eq_ok h
  obtain ⟨_, _, h⟩ := Res.bind_eq_ok h
  exact condResult_ok h

/-! ### how `parse_group` gets there -/

/-- `(?(` is a conditional: `parse_group` at the `(` hands over to `parse_conditional` just after
    `(?(`, one level deeper (or reports `RecursionExceeded`) — for every flag state -/
theorem C15_group_dispatch (isAlnum : Char → Bool) {re : Bytes} (f : Nat) (st : PState) {ix : Nat} (d : Nat)
    (h1 : re[ix + 1]? = some (ch '?')) (h2 : re[ix + 2]? = some (ch '(')) :
    parseGroup isAlnum (f + 1) re st ix d =
      if d + 1 ≥ Generated.maxRecursion then .err .recursionExceeded ix
      else parseConditional isAlnum f re st (ix + 3) (d + 1) := by
  by_cases hd : d + 1 ≥ Generated.maxRecursion
  · rw [parseGroup]; simp only [hd, ↓reduceIte]
  · rw [if_neg hd, parseGroup_query isAlnum f st d h1 h2 (by decide) (by omega), if_neg (by decide),
      if_pos rfl]

/-! ### Non-vacuity: the hypotheses of the general theorems on `(a)(?(1)b|c)` -/

/-- the parser state when the conditional of `(a)(?(1)b|c)` is reached, and after its condition -/
private def st0 : PState := { currGroup := 1 }
private def st1 : PState := { currGroup := 1, numericBackrefs := true, backrefs := [1] }

example :
    parseConditional (fun c => c.isAlphanum) 51 (bytesOf "(a)(?(1)b|c)".toList) st0 6 1 =
      .ok (12, .cond (.backrefExists 1) (.literal ['b'] false) (.literal ['c'] false),
        { st1 with lastReHadAlt := true }) :=
  C15_parse_yes_no _ (b := ch '1') (next := 7) (next2 := 8) (end_ := 11) (st1 := st1)
    (condition := .backref 1)
    (by decide +kernel)
    (by rw [C15_cond_number _ _ _ (by decide)]; exact isOk3_sound (by decide +kernel))
    (isOkVal_sound (by decide +kernel))
    (isOk3_sound (by decide +kernel)) (by omega) rfl (isOkVal_sound (by decide +kernel))

/-- the same for the general condition `\\1` of `(a)(?(\\1)b|c)` (fix F21): the hypotheses of
    `C15_parse_yes_no` and of `C15_general_condition_kept` hold there, the condition stays
    `Backref(1)` -/
example :
    parseConditional (fun c => c.isAlphanum) 51 (bytesOf "(a)(?(\\1)b|c)".toList) st0 6 1 =
      .ok (13, .cond (.backref 1) (.literal ['b'] false) (.literal ['c'] false),
        { st1 with lastReHadAlt := true }) :=
  C15_parse_yes_no _ (b := ch '\\') (next := 8) (next2 := 9) (end_ := 12) (st1 := st1)
    (condition := .backref 1)
    (by decide +kernel)
    (by rw [C15_cond_expr _ _ _ (by decide) (by decide) (by decide)]
        exact isOk3_sound (by decide +kernel))
    (isOkVal_sound (by decide +kernel))
    (isOk3_sound (by decide +kernel)) (by omega) rfl (isOkVal_sound (by decide +kernel))

example {after : Nat} {e : Expr} {st' : PState}
    (h : parseConditional (fun c => c.isAlphanum) 51 (bytesOf "(a)(?(\\1)b|c)".toList) st0 6 1 =
      .ok (after, e, st')) : e = .backref 1 ∨ ∃ y n, e = .cond (.backref 1) y n :=
  C15_general_condition_kept _ (b := ch '\\') (next := 8) (st1 := st1) (by decide +kernel)
    (by decide) (by decide) (by decide) (isOk3_sound (by decide +kernel)) h

/-! ### fix F21 on concrete patterns -/

/-- **`(?(\1)yes|no)` tries `\1` as an expression** (fix F21): the pattern `(a)(?(\1)b|c)` parses to a
    `Conditional` whose condition is the back-reference expression `Backref(1)`; `(a)(?(1)b|c)`
    to the group test `BackrefExistsCondition(1)` -/
theorem C15_general_backref_condition :
    parseStr (fun c => c.isAlphanum) "(a)(?(\\1)b|c)".toList false =
      .ok ⟨.concat [.group 0 (.literal ['a'] false),
        .cond (.backref 1) (.literal ['b'] false) (.literal ['c'] false)], [1], []⟩ ∧
    parseStr (fun c => c.isAlphanum) "(a)(?(1)b|c)".toList false =
      .ok ⟨.concat [.group 0 (.literal ['a'] false),
        .cond (.backrefExists 1) (.literal ['b'] false) (.literal ['c'] false)], [1], []⟩ :=
  ⟨isTree_sound (by decide +kernel), isTree_sound (by decide +kernel)⟩

/-- `(?(\1))` — a general condition without a body — is the error "expected conditional to be a
    backreference or at least an expression for when the condition is true" at the closing `)`
    (byte 9), as for every expression; the bare group test `(?(1))` is still
    `BackrefExistsCondition(1)` -/
theorem C15_general_backref_bare :
    parseStr (fun c => c.isAlphanum) "(a)(?(\\1))".toList false =
      .err (.general .expectedConditional) 9 ∧
    parseStr (fun c => c.isAlphanum) "(a)(?(1))".toList false =
      .ok ⟨.concat [.group 0 (.literal ['a'] false), .backrefExists 1], [1], []⟩ :=
  ⟨isErr_sound (by decide +kernel), isTree_sound (by decide +kernel)⟩

/-! ### Tests by evaluation of the whole parser (concrete patterns, not the general claim) -/

/-- shorthand for the tests -/
private def P (s : String) : Res Tree := parseStr (fun c => c.isAlphanum) s.toList false
private def a : Expr := .literal ['a'] false
private def b : Expr := .literal ['b'] false
private def c : Expr := .literal ['c'] false
private def dd : Expr := .literal ['d'] false

-- `(?(N)yes|no)`, `(?(N)yes)`, `(?(N))`
example : P "(a)(?(1)b|c)" = .ok ⟨.concat [.group 0 a, .cond (.backrefExists 1) b c], [1], []⟩ :=
  isTree_sound (by decide +kernel)
example : P "(a)(?(1)b)" = .ok ⟨.concat [.group 0 a, .cond (.backrefExists 1) b .empty], [1], []⟩ :=
  isTree_sound (by decide +kernel)
example : P "(a)(?(1))" = .ok ⟨.concat [.group 0 a, .backrefExists 1], [1], []⟩ :=
  isTree_sound (by decide +kernel)
-- by name
example : P "(?<n>a)(?(<n>)b|c)" =
    .ok ⟨.concat [.group 0 a, .cond (.backrefExists 1) b c], [1], [([110], 1)]⟩ :=
  isTree_sound (by decide +kernel)
example : P "(?<n>a)(?('n')b)" =
    .ok ⟨.concat [.group 0 a, .cond (.backrefExists 1) b .empty], [1], [([110], 1)]⟩ :=
  isTree_sound (by decide +kernel)
-- fix F21: a back-reference expression as condition is a general condition
example : P "(a)(?((?:\\1))b|c)" = .ok ⟨.concat [.group 0 a, .cond (.backref 1) b c], [1], []⟩ :=
  isTree_sound (by decide +kernel)
example : P "(a)(?(\\1)b)" = .ok ⟨.concat [.group 0 a, .cond (.backref 1) b .empty], [1], []⟩ :=
  isTree_sound (by decide +kernel)
example : P "(?<n>a)(?(\\k<n>)b|c)" =
    .ok ⟨.concat [.group 0 a, .cond (.backref 1) b c], [1], [([110], 1)]⟩ :=
  isTree_sound (by decide +kernel)
example : P "(a)(?(\\1)(?i))" = .ok ⟨.concat [.group 0 a, .backref 1], [1], []⟩ :=
  isTree_sound (by decide +kernel)
-- a general condition
example : P "(?(a)b|c)" = .ok ⟨.cond a b c, [], []⟩ := isTree_sound (by decide +kernel)
example : P "(?(a))" = .err (.general .expectedConditional) 5 := isErr_sound (by decide +kernel)
-- F16: an alternation inside a group (capturing or not) is ONE branch
example : P "(a)(?(1)(?:b|c))" =
    .ok ⟨.concat [.group 0 a, .cond (.backrefExists 1) (.alt [b, c]) .empty], [1], []⟩ :=
  isTree_sound (by decide +kernel)
example : P "(a)(?(1)(b|c))" =
    .ok ⟨.concat [.group 0 a, .cond (.backrefExists 1) (.group 0 (.alt [b, c])) .empty], [1], []⟩ :=
  isTree_sound (by decide +kernel)
-- F13: `(?(1)|)` has two empty branches, `(?(1))` is the bare test
example : P "(a)(?(1)|)" = .ok ⟨.concat [.group 0 a, .cond (.backrefExists 1) .empty .empty], [1], []⟩ :=
  isTree_sound (by decide +kernel)
-- three alternatives: the first is `yes`, the rest `no`
example : P "(a)(?(1)b|c|d)" =
    .ok ⟨.concat [.group 0 a, .cond (.backrefExists 1) b (.alt [c, dd])], [1], []⟩ :=
  isTree_sound (by decide +kernel)
-- a body that is only an inline flag group: the condition alone
example : P "(a)(?(1)(?i))" = .ok ⟨.concat [.group 0 a, .backrefExists 1], [1], []⟩ :=
  isTree_sound (by decide +kernel)

end Fancy.Parse
