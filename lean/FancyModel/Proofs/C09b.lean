import FancyModel.Proofs.C16c
import FancyModel.Proofs.C03d
import FancyModel.Proofs.C09
/-!
# C09 (second part) — `Regex::new_options`, the builder and the entry points of lib.rs, `no_expansion` of replacer.rs

`GeneratedLib.lean` is the glue of src/lib.rs and src/replacer.rs translated statement by statement by
`tools/rs2lean_lib.py` on every run of the check. This file proves:

* `C09_new_options_translated_eq`: the translated `new_options` (parse result → `wrap_tree` → the TRANSLATED `analyze` →
  `info.children[1].children[0].hard` → either the TRANSLATED `to_str` + `compile_inner`, or the TRANSLATED `compile`) is
  the model's `build`, with the same errors; the `Regex` it returns carries the program and `n_groups = end_group` (VM
  path) or the printed pattern (wrapped path), the options and the name table (`regexOf`);
* `C14_builder_translated`, `C14_builder_translated_last_wins`, `C14_options_stored`: each setter writes exactly its field,
  the last call wins, `build` hands the options to `new_options`, which stores them in the `Regex`;
* `C09_captures_translated_eq`, `C09_find_translated_eq`, `C09_is_match_translated_eq`, `C09_wrappers_translated`,
  `C09_entry_points_translated_eq`: every entry point is the corresponding projection of ONE `Built.captures`, on both
  paths (VM: the model's `run` in the context with `pos` and the flag bit; wrapped: the reference search, A-RA, which
  ignores the flags) - hence `C09_translated_same_outcome`: for every input `is_match` ⇔ `find` is `Some` ⇔ `captures`
  is `Some`, and they fail together;
* `C11_no_expansion_translated_eq`, `C11_replace_append_translated_eq`.
-/
set_option linter.unusedSimpArgs false
namespace Fancy
open Fancy.Parse Fancy.GenLib Fancy.GenAnalyze

/-! ## `Regex::new_options` -/

theorem hiOpt_unset : hiOpt UNSET = none := by simp [hiOpt]

theorem genWrapTree_expr (t : Tree) : (genWrapTree t).expr = wrapTree t.expr := by
  simp [genWrapTree, wrapTree, hiOpt_unset]

theorem genWrapTree_rest (t : Tree) : (genWrapTree t).backrefs = t.backrefs ∧ (genWrapTree t).namedGroups = t.namedGroups := by
  simp [genWrapTree]

/-- `build` only looks at the wrapped, numbered tree -/
theorem build_renumbered (tree : Expr) (backrefs : List Nat) :
    build (renumber tree 1).1 backrefs = build tree backrefs := by
  have hw : (renumber (wrapTree (renumber tree 1).1) 0).1 = (renumber (wrapTree tree) 0).1 := by
    have h1 := congrArg Prod.fst (renumber_idem tree 1)
    simp only [wrapTree, renumber, renumberList] at h1 ⊢
    simp [h1]
  unfold build
  simp only [hw]

/-- what `new_options` returns for what `build` returns: the program and `n_groups` on the VM path, the printed pattern on
    the wrapped path; the options and the name table as given -/
def regexOf (b : Built) (tree : Expr) (names : GenLib.Names) (options : ROptions) : LRes RRegex :=
  match b.kind with
  | .fancy prog => .ok ⟨.fancy prog b.nGroups options, names⟩
  | .wrap =>
    match GenToStr.genToStr tree [] 0 with
    | some cooked => .ok ⟨.wrap cooked options, names⟩
    | none => .panic "new_options: to_str"

/-- **`Regex::new_options` as translated is `build`** (same errors), on what the parser returned: the analysis is the
    translated `analyze`, the program the translated `compile`, the wrapped pattern what the translated `to_str` prints.
    Hypotheses: the domain of the analyzer / compiler ties (`analyzable`: no empty alternation; `hiOK`: no repeat bound
    `some usize::MAX`; the program fits in `usize`). -/
theorem C09_new_options_translated_eq (parse : List Char → Bool → LRes Tree) (options : ROptions) (t : Tree)
    (hp : parse options.pattern options.syntaxc = .ok t)
    (ha : analyzable t.expr = true) (hh : hiOK t.expr = true)
    (hfit : codeBound (renumber (wrapTree t.expr) 0).1 < UNSET) :
    genNewOptions parse options =
      match build t.expr t.backrefs with
      | .error e => .err (.compile e)
      | .ok b => regexOf b t.expr t.namedGroups options := by
  have hbr : (fun g => (genWrapTree t).backrefs.contains g) = (fun g => t.backrefs.contains g) := by
    simp [(genWrapTree_rest t).1]
  have hcanon : canon (genWrapTree t).expr = (renumber (wrapTree t.expr) 0).1 := by simp [canon, genWrapTree_expr]
  -- the analysis, through C13_analyze_eq on the numbered user expression
  have h13 := C13_analyze_eq (renumber t.expr 1).1 t.backrefs (by rw [analyzable_renumber]; exact ha)
  simp only at h13
  have hraw : (renumber (renumber t.expr 1).1 1).1 = (renumber t.expr 1).1 := congrArg Prod.fst (renumber_idem t.expr 1)
  have hwt : wrapTree (renumber t.expr 1).1 = (renumber (wrapTree t.expr) 0).1 := by
    simp [wrapTree, renumber, renumberList]
  have hww : (renumber (wrapTree (renumber t.expr 1).1) 0).1 = (renumber (wrapTree t.expr) 0).1 := by
    rw [hwt]; exact congrArg Prod.fst (renumber_idem (wrapTree t.expr) 0)
  rw [hraw, hww, hwt, build_renumbered] at h13
  obtain ⟨herr, hok⟩ := h13
  unfold genNewOptions
  simp only [hp, analyze, hbr, hcanon]
  cases hck : checkRefs (renumber (wrapTree t.expr) 0).1 0 with
  | error err =>
    obtain ⟨hga, hbuild⟩ := herr err hck
    simp only [hga, hbuild]
  | ok n =>
    obtain ⟨info, pre, grp, inner, hga, hch, hgch, hend, _, hhard, _, _, _, _, _, hbuild⟩ := hok n hck
    simp only [hga, hch, hgch, List.getElem?_cons_succ, List.getElem?_cons_zero]
    rw [hbuild]
    by_cases hih : inner.hard = true
    · -- the VM path: the translated compiler, through C01_analyze_compile_eq
      have h01 := C01_analyze_compile_eq t.expr t.backrefs ha hh hfit
      simp only [hga, hck] at h01
      simp only [hih, Bool.not_true, Bool.false_eq_true, if_false, compile_with_options]
      have hc : GenCompile.compile_with_options info = GenCompile.compile info := rfl
      rw [hc, h01]
      cases Fancy.compile (fun g => t.backrefs.contains g) (renumber (wrapTree t.expr) 0).1 with
      | error e => rfl
      | ok prog => simp [regexOf, hend, (genWrapTree_rest t).2]
    · have hf : inner.hard = false := by simpa using hih
      simp only [hf, Bool.not_false, if_true, genWrapTree_expr, wrapTree, List.getElem?_cons_succ, List.getElem?_cons_zero,
        regexOf, compile_inner, (genWrapTree_rest t).2]
      cases GenToStr.genToStr t.expr [] 0 <;> rfl

/-! ## `RegexBuilder` (C14) -/

/-- each setter writes exactly its field; `new` starts from the defaults with the pattern; `build` hands the options on -/
theorem C14_builder_translated (o : ROptions) (yes : Bool) (n : Nat) (pattern : List Char)
    (parse : List Char → Bool → LRes Tree) :
    genCaseInsensitive o yes = { o with syntaxc := yes } ∧
    genBacktrackLimit o n = { o with backtrackLimit := n } ∧
    genDelegateSizeLimit o n = { o with delegateSizeLimit := some n } ∧
    genDelegateDfaSizeLimit o n = { o with delegateDfaSizeLimit := some n } ∧
    genRegexBuilderNew pattern = ⟨pattern, false, 1000000, none, none⟩ ∧
    genBuild parse o = genNewOptions parse o ∧
    genRegexNew parse pattern = genNewOptions parse ⟨pattern, false, 1000000, none, none⟩ := by
  simp [genCaseInsensitive, genBacktrackLimit, genDelegateSizeLimit, genDelegateDfaSizeLimit, genRegexBuilderNew,
    genRegexOptionsDefault, genBuild, genRegexNew, syntaxcSet, syntaxcDefault]

/-- the last call of a setter wins, and setters of different fields commute -/
theorem C14_builder_translated_last_wins (o : ROptions) (a b : Nat) (x y : Bool) :
    genBacktrackLimit (genBacktrackLimit o a) b = genBacktrackLimit o b ∧
    genCaseInsensitive (genCaseInsensitive o x) y = genCaseInsensitive o y ∧
    genDelegateSizeLimit (genDelegateSizeLimit o a) b = genDelegateSizeLimit o b ∧
    genDelegateDfaSizeLimit (genDelegateDfaSizeLimit o a) b = genDelegateDfaSizeLimit o b ∧
    genBacktrackLimit (genCaseInsensitive o x) a = genCaseInsensitive (genBacktrackLimit o a) x := by
  simp [genCaseInsensitive, genBacktrackLimit, genDelegateSizeLimit, genDelegateDfaSizeLimit, syntaxcSet]

/-- the options a built `Regex` carries are the ones the builder was given: the backtrack limit reaches `vm::run` -/
theorem C14_options_stored (parse : List Char → Bool → LRes Tree) (options : ROptions) (t : Tree) (b : Built)
    (hp : parse options.pattern options.syntaxc = .ok t) (ha : analyzable t.expr = true) (hh : hiOK t.expr = true)
    (hfit : codeBound (renumber (wrapTree t.expr) 0).1 < UNSET) (hb : build t.expr t.backrefs = .ok b) (rx : RRegex)
    (hrx : genBuild parse options = .ok rx) :
    (match rx.inner with | .wrap _ o => o | .fancy _ _ o => o) = options ∧ rx.namedGroups = t.namedGroups := by
  have h := C09_new_options_translated_eq parse options t hp ha hh hfit
  rw [hb] at h
  simp only [genBuild] at hrx
  rw [h] at hrx
  simp only [regexOf] at hrx
  cases hk : b.kind with
  | fancy prog => rw [hk] at hrx; simp at hrx; cases hrx; simp
  | wrap =>
    rw [hk] at hrx
    cases hs : GenToStr.genToStr t.expr [] 0 with
    | none => rw [hs] at hrx; cases hrx
    | some cooked => rw [hs] at hrx; simp at hrx; cases hrx; simp

/-! ## `no_expansion` (C11) -/

/-- the specification: a replacement text is used literally iff it contains no `$`; `NoExpand` always; a closure never -/
def noExpansionSpec (s : List Char) : Option (List Char) := if s.contains '$' then none else some s

theorem C11_no_expansion_translated_eq (s : List Char) :
    genNoExpansionStr s = noExpansionSpec s ∧ genNoExpansionStringRef s = noExpansionSpec s ∧
    genNoExpansionString s = noExpansionSpec s ∧ genNoExpansionCow s = noExpansionSpec s ∧
    genNoExpansionCowRef s = noExpansionSpec s ∧ genNoExpansionNoExpand s = some s ∧
    genNoExpansionDefault = none := by
  simp [genNoExpansionStr, genNoExpansionStringRef, genNoExpansionString, genNoExpansionCow, genNoExpansionCowRef,
    genNoExpansionNoExpand, genNoExpansionDefault, genNoExpansionFn, noExpansionSpec]

/-- `replace_append`: a `&str` delegates to `Captures::expand` with itself as the template; `NoExpand` appends its text -/
theorem C11_replace_append_translated_eq (expand : RCaptures → List Char → List Char → List Char) (s dst : List Char)
    (caps : RCaptures) :
    genReplaceAppendStr expand s caps dst = expand caps s dst ∧ genReplaceAppendNoExpand s dst = dst ++ s := by
  simp [genReplaceAppendStr, genReplaceAppendNoExpand]

/-! ## the entry points -/

/-- the context a search from `pos` with `option_flags` runs in: the wrapped path does not look at the flags -/
def ctxOf (b : Built) (c0 : Ctx) (pos flags : Nat) : Ctx :=
  match b.kind with
  | .wrap => { c0 with pos := pos }
  | .fancy _ => { c0 with pos := pos, skipped := (flags &&& GenApi.OPTION_SKIPPED_EMPTY_MATCH != 0) }

/-- the `Captures` value for the model's slots -/
def capsOf (b : Built) (names : GenLib.Names) (slots : List (Option Nat)) : RCaptures :=
  match b.kind with
  | .wrap => ⟨.wrap (some slots), names⟩
  | .fancy _ => ⟨.fancy (slots.map rawOf), names⟩

/-- what `captures_from_pos_with_option_flags` returns for the model's `SearchResult` -/
def expectCaptures (b : Built) (names : GenLib.Names) : SearchResult → LRes (Option RCaptures)
  | .found slots => .ok (some (capsOf b names slots))
  | .noMatch => .ok none
  | .errLimit => .err .backtrackLimit
  | .errStack => .err .stackOverflow
  | .panic s => .panic s
  | .outOfFuel => .err .outOfFuel

/-- what `find_from_pos_with_option_flags` returns for the model's `SearchResult` (`Match::new(text, saves[0], saves[1])`) -/
def expectFind : SearchResult → LRes (Option (Nat × Nat))
  | .found slots => .ok (some (rawOf (slots[0]?).join, rawOf (slots[1]?).join))
  | .noMatch => .ok none
  | .errLimit => .err .backtrackLimit
  | .errStack => .err .stackOverflow
  | .panic s => .panic s
  | .outOfFuel => .err .outOfFuel

/-- what `is_match` returns -/
def expectIsMatch : SearchResult → LRes Bool
  | .found _ => .ok true
  | .noMatch => .ok false
  | .errLimit => .err .backtrackLimit
  | .errStack => .err .stackOverflow
  | .panic s => .panic s
  | .outOfFuel => .err .outOfFuel

def optionsOf (rx : RRegex) : ROptions := match rx.inner with | .wrap _ o => o | .fancy _ _ o => o

theorem rawOf_view (l : List Nat) : (viewSlots l).map rawOf = l := by
  induction l with
  | nil => rfl
  | cons v vs ih =>
    simp only [viewSlots, List.map_cons, List.map_map] at ih ⊢
    rw [ih]
    by_cases h : v = UNSET <;> simp [rawOf, h]

theorem raInput_len (c0 : Ctx) (pos : Nat) : raInput c0 pos c0.len = some { c0 with pos := pos } := by
  simp [raInput]

/-- **`captures_from_pos_with_option_flags` as translated is `Built.captures`**, on both paths -/
theorem C09_captures_translated_eq (sem : RaSem) (fuel : Nat) (rx : RRegex) (b : Built) (h : Corr sem rx b) (c0 : Ctx)
    (pos flags : Nat) :
    genCapturesFromPosWithOptionFlags sem fuel rx c0 pos flags =
      expectCaptures b rx.namedGroups (b.captures (ctxOf b c0 pos flags) (optionsOf rx).backtrackLimit fuel).1 := by
  unfold Corr at h
  unfold genCapturesFromPosWithOptionFlags Built.captures ctxOf optionsOf
  cases hi : rx.inner with
  | wrap inner o =>
    rw [hi] at h
    obtain ⟨hk, hs⟩ := h
    simp only [hk, raInput_len, raCaptures, hs]
    cases refSearchK { c0 with pos := pos } b.raw b.nGroups with
    | none => rfl
    | some f => simp [expectCaptures, capsOf, hk]
  | fancy prog n o =>
    rw [hi] at h
    obtain ⟨hk, hn⟩ := h
    simp only [hk, vmRun]
    rcases hr : run { c0 with pos := pos, skipped := (flags &&& GenApi.OPTION_SKIPPED_EMPTY_MATCH != 0) } prog
      ⟨o.backtrackLimit, maxStackDefault⟩ fuel with ⟨out, st⟩
    cases out with
    | matched saves =>
      simp only [expectCaptures, capsOf, hk, hn, List.map_take, rawOf_view]
    | noMatch => rfl
    | errLimit => rfl
    | errStack => rfl
    | panic s => rfl
    | outOfFuel => rfl

/-- reading slot `i < 2` off the viewed, truncated captures gives back the raw slot -/
theorem rawOf_view_take (saves : List Nat) (n i : Nat) (hn : 1 ≤ n) (hi : i < 2) (v : Nat)
    (hv : saves[i]? = some v) :
    rawOf ((((viewSlots saves).take (n * 2)).take 2)[i]?).join = v := by
  rw [List.take_take, Nat.min_eq_left (by omega), List.getElem?_take_of_lt hi, viewSlots_get, hv]
  by_cases h : v = UNSET <;> simp [rawOf, h]

/-- the VM never reports a match with fewer than two slots (true of `run` for a program with `n_saves ≥ 2`), and the regex
    has group 0 -/
def TwoSlots (b : Built) (c : Ctx) (limit fuel : Nat) : Prop :=
  1 ≤ b.nGroups ∧ ∀ prog saves, b.kind = .fancy prog → (run c prog ⟨limit, maxStackDefault⟩ fuel).1 = .matched saves → 2 ≤ saves.length

/-- **`find_from_pos_with_option_flags` as translated is `Built.find`**, on both paths (`saves[0]`, `saves[1]` exist) -/
theorem C09_find_translated_eq (sem : RaSem) (fuel : Nat) (rx : RRegex) (b : Built) (h : Corr sem rx b) (c0 : Ctx)
    (pos flags : Nat) (h2 : TwoSlots b (ctxOf b c0 pos flags) (optionsOf rx).backtrackLimit fuel) :
    genFindFromPosWithOptionFlags sem fuel rx c0 pos flags =
      expectFind (b.find (ctxOf b c0 pos flags) (optionsOf rx).backtrackLimit fuel) := by
  unfold Corr at h
  unfold TwoSlots at h2
  unfold genFindFromPosWithOptionFlags Built.find Built.captures ctxOf optionsOf at *
  cases hi : rx.inner with
  | wrap inner o =>
    rw [hi] at h
    obtain ⟨hk, hs⟩ := h
    simp only [hk, raInput_len, raSearch, raCaptures, hs]
    cases refSearchK { c0 with pos := pos } b.raw b.nGroups with
    | none => rfl
    | some f =>
      simp only [Option.map_some, expectFind, genMatchNew]
      rw [List.getElem?_take_of_lt (by decide), List.getElem?_take_of_lt (by decide)]
  | fancy prog n o =>
    rw [hi] at h h2
    obtain ⟨hk, hn⟩ := h
    simp only [hk] at h2 ⊢
    obtain ⟨hg, hsv⟩ := h2
    simp only [vmRun]
    rcases hr : run { c0 with pos := pos, skipped := (flags &&& GenApi.OPTION_SKIPPED_EMPTY_MATCH != 0) } prog
      ⟨o.backtrackLimit, maxStackDefault⟩ fuel with ⟨out, st⟩
    cases out with
    | matched saves =>
      have hlen : 2 ≤ saves.length := hsv prog saves rfl (by rw [hr])
      match saves, hlen with
      | v0 :: v1 :: rest, _ =>
        simp only [List.getElem?_cons_zero, List.getElem?_cons_succ, genMatchNew, expectFind]
        rw [rawOf_view_take _ _ 0 hg (by decide) v0 rfl, rawOf_view_take _ _ 1 hg (by decide) v1 rfl]
    | noMatch => rfl
    | errLimit => rfl
    | errStack => rfl
    | panic s => rfl
    | outOfFuel => rfl

/-- **`is_match` as translated**: the outcome class of `Built.captures` at position 0 without flags -/
theorem C09_is_match_translated_eq (sem : RaSem) (fuel : Nat) (rx : RRegex) (b : Built) (h : Corr sem rx b) (c0 : Ctx) :
    genIsMatch sem fuel rx c0 = expectIsMatch (b.captures (ctxOf b c0 0 0) (optionsOf rx).backtrackLimit fuel).1 := by
  unfold Corr at h
  unfold genIsMatch Built.captures ctxOf optionsOf
  cases hi : rx.inner with
  | wrap inner o =>
    rw [hi] at h
    obtain ⟨hk, hs⟩ := h
    simp only [hk, raIsMatch, raCaptures, hs]
    cases refSearchK { c0 with pos := 0 } b.raw b.nGroups <;> rfl
  | fancy prog n o =>
    rw [hi] at h
    obtain ⟨hk, hn⟩ := h
    simp only [hk, vmRun]
    rcases hr : run { c0 with pos := 0, skipped := ((0 : Nat) &&& GenApi.OPTION_SKIPPED_EMPTY_MATCH != 0) } prog
      ⟨o.backtrackLimit, maxStackDefault⟩ fuel with ⟨out, st⟩
    cases out <;> rfl

/-- the public wrappers pass position 0 / flags 0 on -/
theorem C09_wrappers_translated (sem : RaSem) (fuel : Nat) (rx : RRegex) (c0 : Ctx) (pos : Nat) :
    genFindFromPos sem fuel rx c0 pos = genFindFromPosWithOptionFlags sem fuel rx c0 pos 0 ∧
    genFind sem fuel rx c0 = genFindFromPosWithOptionFlags sem fuel rx c0 0 0 ∧
    genCapturesFromPos sem fuel rx c0 pos = genCapturesFromPosWithOptionFlags sem fuel rx c0 pos 0 ∧
    genCaptures sem fuel rx c0 = genCapturesFromPosWithOptionFlags sem fuel rx c0 0 0 := by
  simp [genFindFromPos, genFind, genCapturesFromPos, genCaptures]

/-- **all entry points of the TRANSLATED code are projections of one `Built.captures`**: bundled -/
theorem C09_entry_points_translated_eq (sem : RaSem) (fuel : Nat) (rx : RRegex) (b : Built) (h : Corr sem rx b) (c0 : Ctx)
    (pos flags : Nat) (h2 : TwoSlots b (ctxOf b c0 pos flags) (optionsOf rx).backtrackLimit fuel) :
    let r := (b.captures (ctxOf b c0 pos flags) (optionsOf rx).backtrackLimit fuel).1
    genCapturesFromPosWithOptionFlags sem fuel rx c0 pos flags = expectCaptures b rx.namedGroups r ∧
    genFindFromPosWithOptionFlags sem fuel rx c0 pos flags =
      expectFind (match r with | .found slots => .found (slots.take 2) | r => r) ∧
    genIsMatch sem fuel rx c0 = expectIsMatch (b.captures (ctxOf b c0 0 0) (optionsOf rx).backtrackLimit fuel).1 := by
  refine ⟨C09_captures_translated_eq sem fuel rx b h c0 pos flags, ?_, C09_is_match_translated_eq sem fuel rx b h c0⟩
  rw [C09_find_translated_eq sem fuel rx b h c0 pos flags h2, C09_find_is_captures_span]
  cases (b.captures (ctxOf b c0 pos flags) (optionsOf rx).backtrackLimit fuel).1 <;> rfl

/-- **coherence of the translated entry points**, for every input: `is_match(text)` ⇔ `find(text)` is `Some` ⇔
    `captures(text)` is `Some`; an error / panic of one is the same error / panic of the others -/
theorem C09_translated_same_outcome (sem : RaSem) (fuel : Nat) (rx : RRegex) (b : Built) (h : Corr sem rx b) (c0 : Ctx)
    (h2 : TwoSlots b (ctxOf b c0 0 0) (optionsOf rx).backtrackLimit fuel) :
    (genIsMatch sem fuel rx c0 = .ok true ↔ ∃ m, genFind sem fuel rx c0 = .ok (some m)) ∧
    (genIsMatch sem fuel rx c0 = .ok true ↔ ∃ c, genCaptures sem fuel rx c0 = .ok (some c)) ∧
    (genIsMatch sem fuel rx c0 = .ok false ↔ genFind sem fuel rx c0 = .ok none) ∧
    (genIsMatch sem fuel rx c0 = .ok false ↔ genCaptures sem fuel rx c0 = .ok none) := by
  have hw := C09_wrappers_translated sem fuel rx c0 0
  rw [hw.2.1, hw.2.2.2, C09_is_match_translated_eq sem fuel rx b h c0, C09_captures_translated_eq sem fuel rx b h c0 0 0,
    C09_find_translated_eq sem fuel rx b h c0 0 0 h2, C09_find_is_captures_span]
  cases (b.captures (ctxOf b c0 0 0) (optionsOf rx).backtrackLimit fuel).1 <;>
    simp [expectIsMatch, expectFind, expectCaptures]

end Fancy
