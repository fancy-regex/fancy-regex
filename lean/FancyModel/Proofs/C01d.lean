import FancyModel.Lemmas.SimCompile3
import FancyModel.Lemmas.DelegFrame
import FancyModel.Lemmas.AVM2Fuel
import FancyModel.Proofs.C01c
import FancyModel.Proofs.C05c
import FancyModel.Lemmas.ProgDelegAll
/-!
# C01 / C02 / C15 / C07 / C05 — compiler correctness with delegation (engine refinement, stage S3)

`C01_vm_correct_s3`: for every pattern inside the decidable stage predicate `s3Stage` — the tree is
well shaped, has no bare `\Z` node, satisfies `s3ok` (Spec/Stage.lean: everything of stage S2, plus
classes and case-insensitive literals, whole easy sub-trees in non-hard contexts, constant-size easy
prefixes / suffixes without capture groups in hard contexts, trailing easy runs in non-hard
contexts), and every `Delegate` of the compiled program stays inside the ordinary slots — for every
text and start offset, the VM run of the compiled wrapped tree returns exactly the reference search
result (match / no match, span, every capture group), unless it stops for a resource reason.

`Delegate es sg eg` is executed by `delegateOracle`: the first result, in priority order, of the
reference semantics of `es` anchored at the current position, with the delegate's own groups
starting unset — assumption **A-RA** about regex-automata (checked by the correspondence on every
delegated piece of every explored pattern, not proved).

Also here, from the same derivation: the run **terminates** (`C07_terminates_s3`: some amount of
fuel is never exhausted, nor any larger one; the bound on the number of executed instructions is
`C07_steps_bounded`, Proofs/C07b.lean) and **never panics** (`C05_no_panic_s3`).
-/
namespace Fancy

/-- the decidable side conditions of the stage-S3 theorems, as the driver evaluates them -/
def s3Stage (tree : Expr) (backrefs : List Nat) : Bool :=
  match build tree backrefs with
  | .ok b => (match b.kind with
    | .fancy prog =>
      s3ok (fun g => backrefs.contains g) b.raw true && wellShaped b.raw && noBareEndZ b.raw &&
        progDelegOK prog.nSaves prog.body
    | .wrap => false)
  | .error _ => false

/-- what the structured machine answers from the initial configuration of a search -/
def refAns (c : Ctx) (b : Built) : Ans :=
  match (sem c b.wrapped ⟨c.pos, initSlots b.nGroups⟩).head? with
  | some r => .matched (capSaves (unview r.slots) c.pos)
  | none => .noMatch

/-- **from the simulation of the whole tree at address 0 to the answer of the machine**: started in the initial
    configuration, the structured machine tries the results of the tree in order, and `End` reports the first -/
theorem big2_of_sim2_top (c : Ctx) (nG nsv : Nat) (code : Code) (e : Expr) {lo hi : Nat} {bal : Bool}
    (hsim : Sim2 c (2 * nG) nsv (code ++ [Insn.end_]) lo hi bal true (sem c e) 0 (0 + code.length))
    (hn0 : 0 < nG) (hle : 2 * nG ≤ nsv) (hpos : c.pos ≤ c.len) :
    Big2 c (code ++ [Insn.end_]) nsv (.run 0 c.pos (List.replicate nsv UNSET) [] [])
      (match (sem c e ⟨c.pos, initSlots nG⟩).head? with
        | some r => .matched (capSaves (unview r.slots) c.pos)
        | none => .noMatch) := by
  have hst0 : (⟨c.pos, initSlots nG⟩ : St).Good c (2 * nG) :=
    ⟨hpos, by simp [initSlots], by intro v hv; simp [initSlots] at hv⟩
  have hend : (code ++ [Insn.end_])[code.length]? = some Insn.end_ := by simp
  have hbig := hsim.apply_all ⟨c.pos, initSlots nG⟩ (List.replicate (nsv - 2 * nG) UNSET) [] []
    (fun r _ => .matched (capSaves (unview r.slots) c.pos)) .noMatch hst0 (by simp; omega)
    (by simpa [SuccOK] using Commit.const (fun r => Ans.matched (capSaves (unview r.slots) c.pos))) Big2.failEmpty
    (by
      intro r hr aux' junk S acc hag _ _ _
      have hrg := sem_good c _ _ _ r hst0 hr
      have hl' : (unview r.slots ++ aux').length = nsv := by
        simp only [List.length_append, unview_length, hrg.len, hag.1, List.length_replicate]; omega
      have := Big2.done (c := c) (prog := code ++ [Insn.end_]) (nS := nsv) (0 + code.length) r.ix (unview r.slots ++ aux')
        (junk ++ []) (S ++ []) (2 * nG) (by simpa using hend) (by omega) (by omega) hl'
      rw [capSaves_take _ _ _ (by omega) (by rw [hl']; omega)] at this
      have htk : (unview r.slots ++ aux').take (2 * nG) = unview r.slots := by
        rw [List.take_append_of_le_length (by simp [hrg.len])]
        exact List.take_of_length_le (by simp [hrg.len])
      rw [htk] at this
      simpa using this)
  have huv : unview (initSlots nG) ++ List.replicate (nsv - 2 * nG) UNSET = List.replicate nsv UNSET := by
    have : unview (initSlots nG) = List.replicate (2 * nG) UNSET := by simp [unview, initSlots]
    rw [this, List.replicate_append_replicate]; congr 1; omega
  simp only [huv] at hbig
  have hfold : ∀ (l : List St), l.foldr (fun r (_ : Ans) => Ans.matched (capSaves (unview r.slots) c.pos)) .noMatch =
      match l.head? with
      | some r => .matched (capSaves (unview r.slots) c.pos)
      | none => .noMatch := by
    intro l; cases l <;> rfl
  rw [hfold] at hbig
  exact hbig

/-- what a successful VM-path build hands to the simulation theorems: the program is the code of the wrapped
    tree, compiled at address 0 in a non-hard context, followed by `End`, and the wrapped tree is well shaped,
    numbered, and touches capture slots below `2 * n_groups` only -/
theorem build_fancy_visit (tree : Expr) (backrefs : List Nat) (b : Built) (prog : Prog)
    (hb : build tree backrefs = .ok b) (hk : b.kind = .fancy prog) (hws : wellShaped b.raw = true) :
    ∃ code nsv, prog = ⟨code ++ [Insn.end_], nsv⟩ ∧
      visit (fun g => backrefs.contains g) b.wrapped false 0 (b.nGroups * 2) 0 = .ok (code, nsv) ∧
      0 < b.nGroups ∧ H3 (2 * b.nGroups) b.wrapped 0 := by
  obtain ⟨hw, hwr, hchk, hhard, hcomp⟩ := build_fancy tree backrefs b prog hb hk
  generalize (fun g => backrefs.contains g) = br at hhard hcomp ⊢
  unfold compile at hcomp
  have hgc : groupCount b.wrapped = b.nGroups := by
    have := checkRefs_count _ _ _ hchk; omega
  simp only [hgc] at hcomp
  cases hv : visit br b.wrapped false 0 (b.nGroups * 2) 0 with
  | error e => simp [hv] at hcomp
  | ok p =>
    obtain ⟨code, nsv⟩ := p
    simp only [hv, Except.ok.injEq] at hcomp
    have hn0 : 0 < b.nGroups := by
      rw [hw] at hgc; simp only [groupCount, groupCountList] at hgc; omega
    refine ⟨code, nsv, hcomp.symm, rfl, hn0, ?_, ?_, ?_, by omega⟩
    · rw [hw]; simp [wellShaped, wellShapedAll, hws]
    · have := slotsBelow_renumber b.nGroups hn0 (wrapTree tree) 0 b.nGroups (by rw [← hwr]; exact hchk) (Nat.le_refl _)
      rw [← hwr] at this; exact this
    · rw [hwr]; exact numbered_renumber _ _

/-- **the structured machine reaches the reference answer** -/
theorem big2_s3 (tree : Expr) (backrefs : List Nat) (b : Built) (prog : Prog) (c : Ctx)
    (hb : build tree backrefs = .ok b) (hk : b.kind = .fancy prog)
    (hok : s3ok (fun g => backrefs.contains g) b.raw true = true) (hws : wellShaped b.raw = true)
    (hz : noBareEndZ b.raw = true) (hlen : c.len < UNSET) (hpos : c.pos ≤ c.len) :
    Big2 c prog.body prog.nSaves (.run 0 c.pos (List.replicate prog.nSaves UNSET) [] []) (refAns c b) := by
  obtain ⟨code, nsv, rfl, hv, hn0, h3⟩ := build_fancy_visit tree backrefs b prog hb hk hws
  obtain ⟨hw, _, _, hhard, _⟩ := build_fancy tree backrefs b _ hb hk
  generalize (fun g => backrefs.contains g) = br at hhard hv hok
  have hokw : s3ok br b.wrapped false = true := by
    rw [hw, s3ok]
    have hsp := concatSplit_wrapped br b.raw 0 (by simp [isHard, hhard])
    simp [isHard, isHardAny, hhard, hsp, s3okAll, s3ok, hok, noBareEndZAll, noBareEndZ, hz, groupCountList, minSize]
  have hcode : CodeAt (code ++ [Insn.end_]) 0 code := ⟨[], [Insn.end_], by simp, rfl⟩
  obtain ⟨hle, hsim⟩ := sim3_visit c (2 * b.nGroups) nsv br hlen b.wrapped false 0 (b.nGroups * 2) 0 code nsv
    (code ++ [Insn.end_]) hokw h3 hv hcode (by omega)
  exact big2_of_sim2_top c b.nGroups nsv code b.wrapped (hsim (Nat.le_refl _) true (Or.inr rfl)) hn0 (by omega) hpos

/-- the reference answer, read as a search result, is the reference search -/
theorem refAns_eq (tree : Expr) (backrefs : List Nat) (b : Built) (prog : Prog) (c : Ctx)
    (hb : build tree backrefs = .ok b) (hk : b.kind = .fancy prog) (hlen : c.len < UNSET) (hpos : c.pos ≤ c.len) :
    (match refAns c b with
      | .matched sl => SearchResult.found (viewSlots sl)
      | .noMatch => SearchResult.noMatch) =
    (match refSearch c b.raw b.nGroups with
      | some f => SearchResult.found f.slots
      | none => SearchResult.noMatch) ∧
    (∀ sl, refAns c b = .matched sl → sl.length = b.nGroups * 2) := by
  obtain ⟨hw, _, hchk, _, _⟩ := build_fancy tree backrefs b prog hb hk
  have hn0 : 0 < b.nGroups := by
    have := checkRefs_count _ _ _ hchk
    rw [hw] at this; simp only [groupCount, groupCountList] at this; omega
  have hhead := sem_wrapped_head c b.raw b.nGroups hpos
  have href : refSearch c b.raw b.nGroups =
      (List.range (c.len - c.pos + 1)).findSome? fun k =>
        ((sem c b.raw ⟨c.pos + k, (initSlots b.nGroups).set 0 (some (c.pos + k))⟩).head?).map (finish c) := by
    unfold refSearch
    simp only [hpos, ↓reduceIte]
    exact scanFrom_findSome c b.raw b.nGroups _ _
  unfold refAns
  rw [hw, hhead, href]
  have hks : ∀ k ∈ List.range (c.len - c.pos + 1), c.pos + k ≤ c.len := by
    intro k hk'; have := List.mem_range.mp hk'; omega
  generalize (List.range (c.len - c.pos + 1)) = ks at hks
  induction ks with
  | nil => simp
  | cons k ks ih =>
    simp only [List.findSome?_cons]
    cases hh : (sem c b.raw ⟨c.pos + k, (initSlots b.nGroups).set 0 (some (c.pos + k))⟩).head? with
    | none => simpa using ih (fun k' hk' => hks k' (List.mem_cons_of_mem _ hk'))
    | some r =>
      simp only [Option.map_some]
      have hrg : r.Good c (b.nGroups * 2) := by
        have hmem : r ∈ sem c b.raw ⟨c.pos + k, (initSlots b.nGroups).set 0 (some (c.pos + k))⟩ :=
          List.mem_of_mem_head? hh
        have hk' := hks k (by simp)
        refine sem_good c _ b.raw _ r ?_ hmem
        have h0 : (⟨c.pos + k, initSlots b.nGroups⟩ : St).Good c (b.nGroups * 2) :=
          ⟨hk', by simp [initSlots, Nat.mul_comm], by intro v hv; simp [initSlots] at hv⟩
        exact h0.setSlot 0 (c.pos + k) hk'
      have hfin := finish_eq c r (b.nGroups * 2) hrg (by omega) hlen hpos
      have hlen' : (capSaves (unview (r.setSlot 1 (some r.ix)).slots) c.pos).length = b.nGroups * 2 := by
        have : (unview (r.setSlot 1 (some r.ix)).slots).length = b.nGroups * 2 := by
          simp [St.setSlot, hrg.len]
        rw [← this]; unfold capSaves; split <;> simp
      constructor
      · simp only [SearchResult.found.injEq]
        rw [← hfin, List.take_of_length_le (by simp [viewSlots, hlen'])]
      · intro sl hsl
        simp only [Ans.matched.injEq] at hsl
        rw [← hsl]; exact hlen'

theorem s3Stage_spec (tree : Expr) (backrefs : List Nat) (h : s3Stage tree backrefs = true) :
    ∃ b prog, build tree backrefs = .ok b ∧ b.kind = .fancy prog ∧
      s3ok (fun g => backrefs.contains g) b.raw true = true ∧ wellShaped b.raw = true ∧ noBareEndZ b.raw = true ∧
      progDelegOK prog.nSaves prog.body = true := by
  unfold s3Stage at h
  cases hb : build tree backrefs with
  | error e => simp [hb] at h
  | ok b =>
    simp only [hb] at h
    cases hk : b.kind with
    | wrap => simp [hk] at h
    | fancy prog =>
      simp only [hk, Bool.and_eq_true] at h
      exact ⟨b, prog, rfl, hk, h.1.1.1, h.1.1.2, h.1.2, h.2⟩

/-! ### from a `Big2` derivation: the code-point machine -/

/-- **`VmCorrectR` from a derivation of the structured machine** (the common part of `C01_vm_correct_s3/_s4/_s5`) -/
theorem VmCorrectR_of_big2 (tree : Expr) (backrefs : List Nat) (b : Built) (prog : Prog) (c : Ctx)
    (hb : build tree backrefs = .ok b) (hk : b.kind = .fancy prog)
    (hbig : Big2 c prog.body prog.nSaves (.run 0 c.pos (List.replicate prog.nSaves UNSET) [] []) (refAns c b))
    (hlen : c.len < UNSET) (hpos : c.pos ≤ c.len) : VmCorrectR b c := by
  intro limit fuel
  have hgood := link2_initial c prog ⟨limit, maxStackDefault⟩
    (delegOK_of_prog c prog.body prog.nSaves (build_progDelegOK tree backrefs b prog hb hk)) _ hbig fuel
  obtain ⟨href, hlensl⟩ := refAns_eq tree backrefs b prog c hb hk hlen hpos
  unfold Built.captures
  simp only [hk]
  unfold Good2 at hgood
  generalize run c prog ⟨limit, maxStackDefault⟩ fuel = res at hgood ⊢
  obtain ⟨out, stats⟩ := res
  simp only at hgood
  rcases hgood with h | h | h | h
  · left; subst h; rfl
  · right; left; subst h; rfl
  · right; right; left; subst h; rfl
  · right; right; right
    refine Eq.trans ?_ href
    cases hra : refAns c b with
    | noMatch => simp only [hra] at h; subst h; rfl
    | matched sl =>
      simp only [hra] at h
      obtain ⟨saves, rfl, hsv⟩ := h
      have := hlensl sl hra
      rw [this] at hsv
      simp only
      rw [← hsv]
      simp [viewSlots, List.map_take]

theorem terminates_of_big2 (tree : Expr) (backrefs : List Nat) (b : Built) (prog : Prog) (c : Ctx)
    (hb : build tree backrefs = .ok b) (hk : b.kind = .fancy prog)
    (hbig : Big2 c prog.body prog.nSaves (.run 0 c.pos (List.replicate prog.nSaves UNSET) [] []) (refAns c b))
    (limit : Nat) :
    ∃ N, ∀ fuel, N ≤ fuel → (run c prog ⟨limit, maxStackDefault⟩ fuel).1 ≠ .outOfFuel :=
  link2_initial_terminates c prog ⟨limit, maxStackDefault⟩
    (delegOK_of_prog c prog.body prog.nSaves (build_progDelegOK tree backrefs b prog hb hk)) _ hbig

/-- the search runs out of fuel only when the machine does -/
theorem run_outOfFuel_of_captures (b : Built) (prog : Prog) (c : Ctx) (hk : b.kind = .fancy prog) (limit fuel : Nat)
    (h : (b.captures c limit fuel).1 = .outOfFuel) : (run c prog ⟨limit, maxStackDefault⟩ fuel).1 = .outOfFuel := by
  unfold Built.captures at h
  simp only [hk] at h
  generalize run c prog ⟨limit, maxStackDefault⟩ fuel = res at h ⊢
  obtain ⟨out, stats⟩ := res
  cases out with
  | outOfFuel => rfl
  | _ => cases h

theorem captures_terminates_of_big2 (tree : Expr) (backrefs : List Nat) (b : Built) (prog : Prog) (c : Ctx)
    (hb : build tree backrefs = .ok b) (hk : b.kind = .fancy prog)
    (hbig : Big2 c prog.body prog.nSaves (.run 0 c.pos (List.replicate prog.nSaves UNSET) [] []) (refAns c b))
    (limit : Nat) : ∃ N, ∀ fuel, N ≤ fuel → (b.captures c limit fuel).1 ≠ .outOfFuel := by
  obtain ⟨N, hN⟩ := terminates_of_big2 tree backrefs b prog c hb hk hbig limit
  exact ⟨N, fun fuel hf h => hN fuel hf (run_outOfFuel_of_captures b prog c hk limit fuel h)⟩

/-- **C01 (and C02, C15), stage S3** -/
theorem C01_vm_correct_s3 (tree : Expr) (backrefs : List Nat) (b : Built) (prog : Prog) (c : Ctx)
    (hb : build tree backrefs = .ok b) (hk : b.kind = .fancy prog)
    (hok : s3ok (fun g => backrefs.contains g) b.raw true = true) (hws : wellShaped b.raw = true)
    (hz : noBareEndZ b.raw = true) (hdok : progDelegOK prog.nSaves prog.body = true)
    (hlen : c.len < UNSET) (hpos : c.pos ≤ c.len) : VmCorrectR b c := by
  exact VmCorrectR_of_big2 tree backrefs b prog c hb hk (big2_s3 tree backrefs b prog c hb hk hok hws hz hlen hpos)
    hlen hpos

/-- **C07, stage S3: the search terminates** — some amount of fuel suffices for every larger amount -/
theorem C07_terminates_s3 (tree : Expr) (backrefs : List Nat) (b : Built) (prog : Prog) (c : Ctx)
    (hb : build tree backrefs = .ok b) (hk : b.kind = .fancy prog)
    (hok : s3ok (fun g => backrefs.contains g) b.raw true = true) (hws : wellShaped b.raw = true)
    (hz : noBareEndZ b.raw = true) (hdok : progDelegOK prog.nSaves prog.body = true)
    (hlen : c.len < UNSET) (hpos : c.pos ≤ c.len) (limit : Nat) :
    ∃ N, ∀ fuel, N ≤ fuel → (b.captures c limit fuel).1 ≠ .outOfFuel := by
  exact captures_terminates_of_big2 tree backrefs b prog c hb hk
    (big2_s3 tree backrefs b prog c hb hk hok hws hz hlen hpos) limit

/-- **C05, stage S3: the search never panics** -/
theorem C05_no_panic_s3 (tree : Expr) (backrefs : List Nat) (b : Built) (prog : Prog) (c : Ctx)
    (hb : build tree backrefs = .ok b) (hk : b.kind = .fancy prog)
    (hok : s3ok (fun g => backrefs.contains g) b.raw true = true) (hws : wellShaped b.raw = true)
    (hz : noBareEndZ b.raw = true) (hdok : progDelegOK prog.nSaves prog.body = true)
    (hlen : c.len < UNSET) (hpos : c.pos ≤ c.len) (limit fuel : Nat) (site : String) :
    (b.captures c limit fuel).1 ≠ .panic site := by
  exact VmCorrectR_not_panic (C01_vm_correct_s3 tree backrefs b prog c hb hk hok hws hz hdok hlen hpos) limit fuel site

/-! ### Non-vacuity: `\w+(?=\d)(?i:x)` — a class in a loop, a delegated look-ahead body, a case-insensitive literal -/
def exTree3 : Expr :=
  .concat [.repeat (.delegate ['\\', 'w'] 1 false) 1 none true, .look (.delegate ['\\', 'd'] 1 false) .ahead,
    .literal ['x'] true]

set_option linter.unusedSimpArgs false in
example : s3Stage exTree3 [] = true := by
  simp [s3Stage, build, exTree3, wrapTree, renumber, renumberList, checkRefs, checkRefsList, isHard, isHardAny,
    compile, visit, visitMiddle, visitAlt, concatSplit, groupCount, groupCountList, constSize, constSizeAll, minSize, minSizeMin,
    minSizeSum, allMinSize, compileDelegates, compileDelegate, isLiteral, isLiteralAll, s3ok, s3okAll, s3okAlts, condFree, condFreeAll,
    boundsEq, satMul, satAdd, sureReps, UNSET, Assertion.isHard, wrapPosLook, posLookBodyPc, pushLiteral, wellShaped, wellShapedAll,
    noBareEndZ, noBareEndZAll, progDelegOK, slotsBelow, slotsBelowAll]

/-! ### Non-vacuity: look-behinds over an alternation body, all four layouts of the compiler -/
/-- `(?<=a|bb)c`: alternatives of different sizes — an atomic group around an alternation of look-behinds -/
def exBehindAltDiff : Expr :=
  .concat [.look (.alt [.literal ['a'] false, .concat [.literal ['b'] false, .literal ['b'] false]]) .behind,
    .literal ['c'] false]
/-- `(?<!a|b)c`: alternatives of one size — the ordinary layout around the (delegated) alternation -/
def exBehindNegAltConst : Expr :=
  .concat [.look (.alt [.literal ['a'] false, .literal ['b'] false]) .behindNeg, .literal ['c'] false]
/-- `(?<=a|b)c` -/
def exBehindAltConst : Expr :=
  .concat [.look (.alt [.literal ['a'] false, .literal ['b'] false]) .behind, .literal ['c'] false]
/-- `(?<!a|bb)c`: a sequence of negative look-behinds -/
def exBehindNegAltDiff : Expr :=
  .concat [.look (.alt [.literal ['a'] false, .concat [.literal ['b'] false, .literal ['b'] false]]) .behindNeg,
    .literal ['c'] false]
/-- `(?<=\ba|bb)c`, `(?<=\ba|b)c`: a hard alternative (atomic layout, alternation compiled for the VM) -/
def exBehindAltHardDiff : Expr :=
  .concat [.look (.alt [.concat [.assertion .wordB, .literal ['a'] false],
    .concat [.literal ['b'] false, .literal ['b'] false]]) .behind, .literal ['c'] false]
def exBehindAltHardConst : Expr :=
  .concat [.look (.alt [.concat [.assertion .wordB, .literal ['a'] false], .literal ['b'] false]) .behind,
    .literal ['c'] false]

set_option linter.unusedSimpArgs false in
example : s3Stage exBehindAltDiff [] = true ∧ s3Stage exBehindNegAltConst [] = true ∧
    s3Stage exBehindAltConst [] = true ∧ s3Stage exBehindNegAltDiff [] = true ∧
    s3Stage exBehindAltHardDiff [] = true ∧ s3Stage exBehindAltHardConst [] = true := by
  simp [s3Stage, build, exBehindAltDiff, exBehindNegAltConst, exBehindAltConst, exBehindNegAltDiff, exBehindAltHardDiff,
    exBehindAltHardConst, wrapTree, renumber, renumberList, checkRefs, checkRefsList, isHard, isHardAny,
    compile, visit, visitMiddle, visitAlt, visitAltBody, lookBehindAlts, lookBehindNegAlts, concatSplit, groupCount, groupCountList,
    constSize, constSizeAll, minSize, minSizeMin, minSizeSum, allMinSize, compileDelegates, compileDelegate, isLiteral, isLiteralAll,
    s3ok, s3okAll, s3okAlts, condFree, condFreeAll, boundsEq, satMul, satAdd, sureReps, UNSET, Assertion.isHard, wrapPosLook,
    posLookBodyPc, wrapNegLook, negLookBodyPc, pushLiteral, pushLiteralAll, wellShaped, wellShapedAll,
    noBareEndZ, noBareEndZAll, progDelegOK, slotsBelow, slotsBelowAll]

/-! ### Non-vacuity: a delegated piece that owns a capture group and contains an alternation, in front of a hard item

`(a|b)(?=c)`, `(foo|bar)\b`: the prefix `(a|b)` is handed to the automata engine (`Delegate`, groups 1..2)
and the continuation may come back. The alternation has no capture groups inside and its alternatives
have one constant size, so all results of the piece are one state (`linearE`, `linear_same`). -/
def exAltGroupLook : Expr :=
  .concat [.group 0 (.alt [.literal ['a'] false, .literal ['b'] false]), .look (.literal ['c'] false) .ahead]
def exAltGroupWordB : Expr :=
  .concat [.group 0 (.alt [.concat [.literal ['f'] false, .literal ['o'] false, .literal ['o'] false],
    .concat [.literal ['b'] false, .literal ['a'] false, .literal ['r'] false]]), .assertion .wordB]
/-- `(?:x(a)|y(b))\2` (with an empty back-reference list, so that the alternation is not hard and is
    delegated): the alternatives write different groups — outside, and it has to be. Telling the
    alternatives apart by their first characters is not sound: `Ctx.ceq` is a free table, and for the
    context with `ceq := fun _ _ _ => true` on the text `zww` the program
    `… save:0, del:(?:x(a)|y(b)):1:3, backref:4, save:1, end` answers *no match* (the `Delegate` keeps the
    first result, group 2 unset, the back-reference fails) while the reference search matches `[0,3)` with
    group 2 = `[1,2)` through the second alternative. Every other hypothesis of `C01_vm_correct_s3`
    holds for this tree; only the `linearAll` conjunct of `s3ok` rejects it. -/
def exAltGroupsInside : Expr :=
  .concat [.alt [.concat [.literal ['x'] false, .group 0 (.literal ['a'] false)],
    .concat [.literal ['y'] false, .group 0 (.literal ['b'] false)]], .backref 2]

set_option linter.unusedSimpArgs false in
example : s3Stage exAltGroupLook [] = true ∧ s3Stage exAltGroupWordB [] = true ∧
    s3Stage exAltGroupsInside [] = false := by
  simp [s3Stage, build, exAltGroupLook, exAltGroupWordB, exAltGroupsInside, wrapTree, renumber, renumberList,
    checkRefs, checkRefsList, isHard, isHardAny,
    compile, visit, visitMiddle, visitAlt, concatSplit, groupCount, groupCountList, constSize, constSizeAll, minSize, minSizeMin,
    minSizeSum, allMinSize, compileDelegates, compileDelegate, isLiteral, isLiteralAll, s3ok, s3okAll, s3okAlts, condFree, condFreeAll,
    boundsEq, satMul, satAdd, sureReps, UNSET, Assertion.isHard, wrapPosLook, posLookBodyPc, pushLiteral, pushLiteralAll,
    wellShaped, wellShapedAll, noBareEndZ, noBareEndZAll, progDelegOK, slotsBelow, slotsBelowAll, linearE, linearAll]

end Fancy
