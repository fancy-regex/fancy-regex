import FancyModel.Proofs.C15c
import FancyModel.Proofs.C05c
import FancyModel.Proofs.C16
/-!
# C16 (second part) — group metadata: the parser's counter, names, accessors

**Part 1 — the parser's group counter is the analyzer's numbering.**
* `descent` (`Preserved`, `DescQ`): ONE induction over the nine functions of the recursive descent. A family of
  predicates that is `Preserved` by each way the parser builds a result holds of everything every function returns,
  for every byte string, fuel, state, index and depth.  `C16_descent` is the instance `preserved16`;
  Lemmas/ParseShape, ParseCodeBound and ParseHiOK are further instances.
* `C16_descent` (`Desc16`, `Inv`): the invariant of the mutual descent of the parser, for every byte
  string, fuel, state, index and depth: a call that returns `ok (ix', e, st')` has advanced
  `curr_group` by `groupCount e`, has extended `named_groups` by the names of the groups of `e`
  bound to their numbers in opening-parenthesis (pre-)order (`bindNames`), has not moved left, and has
  moved right if `e` holds a group.  The last clause is what makes the two places where the parser
  DROPS a parsed node harmless (`next == ix` in `parse_branch`, `end == next` in
  `parse_conditional`): a node that consumed nothing holds no group.  `parse_group` increments
  before the body (pre-order); `parse_conditional` visits condition, then/else in `renumber`'s order;
  look-arounds, atomic groups, flag groups, conditionals do not count.  One more place needed an
  argument: a named group `(?<n>…)` is returned as `Group` only because `skip + 1 ≠ 2`
  (`(None, 2)` means "atomic" in `parse_group`), which holds because `parse_id` consumes more than
  its two delimiters (`okP_parseId`).
* `C16_parse_counter`: final `curr_group` = `groupCount tree` (= where `renumber _ 1` ends, minus 1).
* `C16_names_at_index`, `mem_bindNames_top`, `C16_names_range`, `C16_names_distinct`,
  `C16_preorder`, `C16_named_group`, `C16_named_group_P`: the name table is `bindNames [] 0 ann`
  where `ann[i]` is the name written at the `(i+1)`-th capture group; `(name, k)` is an entry iff
  group `k` is written with that name and no later group is; `1 ≤ k ≤ groupCount`; no name twice, no
  index twice; `renumber` numbers the groups `1, 2, …` in the same pre-order.
  The model's `Expr.group` carries no name (the Rust `Expr::Group` has none either), so "the group
  carrying that name" is expressed through `ann` and tied to the source text by `C16_named_group`:
  `parse_group` at `(?<name>` binds `name ↦ curr_group + 1` and returns the capture group whose
  opening parenthesis is the `(curr_group + 1)`-th.

**Part 2 — `capture_names`** (`captureNames`, any `HashMap` iteration order): `C16_names_model`.

**Part 3 — `Captures`** (`Caps`: `len`, `get`, `name`, `iter`): `C16_caps_accessors`,
`C16_caps_model` (any stage with `VmCorrectR`), `C16_caps_fancy` (stage S2), `C16_caps_wrap`
(hand-off path), `C16_caps_names`.
-/
namespace Fancy.Parse
open Fancy.Utf8 (codepointLen isLead)
open Fancy

/-! ## Outcomes: what holds of an `ok` -/

/-- `P` holds of the value when the outcome is `ok` (nothing is said of the other outcomes) -/
def OkP {α : Type} (P : α → Prop) : Res α → Prop
  | .ok a => P a
  | _ => True

theorem OkP.bind {α β : Type} {P : α → Prop} {Q : β → Prop} {x : Res α} {f : α → Res β}
    (hx : OkP P x) (hf : ∀ a, P a → OkP Q (f a)) : OkP Q (x >>= f) := by
  cases x with
  | ok a => exact hf a hx
  | _ => trivial

theorem OkP.mono {α : Type} {P Q : α → Prop} {x : Res α} (hx : OkP P x) (h : ∀ a, P a → Q a) :
    OkP Q x := by
  cases x with
  | ok a => exact h a hx
  | _ => trivial

theorem OkP.ite {α : Type} {P : α → Prop} {c : Prop} [Decidable c] {t e : Res α}
    (ht : c → OkP P t) (he : ¬c → OkP P e) : OkP P (if c then t else e) := by
  split
  · exact ht ‹_›
  · exact he ‹_›

theorem OkP.of_eq {α : Type} {P : α → Prop} {x : Res α} {a : α} (hx : OkP P x) (h : x = .ok a) :
    P a := by
  rw [h] at hx; exact hx

theorem OkP.intro {α : Type} {P : α → Prop} {x : Res α} (h : ∀ a, x = .ok a → P a) : OkP P x := by
  cases x with
  | ok a => exact h a rfl
  | _ => trivial

theorem OkP.trivial {α : Type} {x : Res α} : OkP (fun _ => True) x := by
  cases x <;> exact True.intro

@[simp] theorem OkP_ok {α : Type} (P : α → Prop) (a : α) : OkP P (.ok a) = P a := rfl
@[simp] theorem OkP_pure {α : Type} (P : α → Prop) (a : α) : OkP P (pure a) = P a := rfl
@[simp] theorem OkP_err {α : Type} (P : α → Prop) (k : PErr) (p : Nat) :
    OkP P (.err k p) = True := rfl
@[simp] theorem OkP_cerr {α : Type} (P : α → Prop) : OkP P .cerr = True := rfl
@[simp] theorem OkP_panic {α : Type} (P : α → Prop) (s : String) : OkP P (.panic s) = True := rfl
@[simp] theorem OkP_outOfFuel {α : Type} (P : α → Prop) : OkP P .outOfFuel = True := rfl

theorem GoodS.okP {α : Type} {re : Bytes} {P : α → Prop} {x : Res α} (h : GoodS re P x) :
    OkP P x := by
  cases x with
  | ok a => exact h
  | _ => trivial

/-! ## Positions move to the right (any byte string) -/

/-- `optional_whitespace` never moves left and stays inside the pattern -/
theorem okP_optWs (re : Bytes) (fl : Flags) (ix : Nat) :
    OkP (fun ix' => ix ≤ ix' ∧ ix' ≤ re.size) (optWs re fl ix) := by
  by_cases hix : ix ≤ re.size
  · exact (goodS_optWs re fl ix hix).okP.mono fun _ h => ⟨h.1, h.2.1⟩
  · have hne : (ix == re.size) = false := by simp; omega
    have hget : re[ix]? = none := by rw [Array.getElem?_eq_none_iff]; omega
    simp [optWs, optionalWhitespace, hne, hget]

theorem okP_slice (re : Bytes) (a b : Nat) (site : String) :
    OkP (fun s => s = (re.extract a b).toList ∧ b ≤ re.size) (slice re a b site) := by
  unfold slice
  refine OkP.ite (fun h => ?_) (fun _ => trivial)
  simp only [sliceOk, Bool.and_eq_true, decide_eq_true_eq] at h
  exact ⟨rfl, h.1.1.2⟩

theorem okP_byteAt (re : Bytes) (i : Nat) (site : String) :
    OkP (fun b => re[i]? = some b) (byteAt re i site) := by
  unfold byteAt
  split
  · rename_i b hb; exact hb
  · trivial

/-- `check_for_close_paren` moves right and stays inside the pattern -/
theorem okP_checkForCloseParen (re : Bytes) (fl : Flags) (ix : Nat) :
    OkP (fun ix' => ix < ix' ∧ ix' ≤ re.size) (checkForCloseParen re fl ix) := by
  unfold checkForCloseParen
  refine OkP.bind (okP_optWs re fl ix) (fun ix1 h1 => ?_)
  refine OkP.ite (fun _ => trivial) (fun _ => ?_)
  refine OkP.bind (okP_byteAt re ix1 _) (fun b hb => ?_)
  refine OkP.ite (fun _ => trivial) (fun _ => ?_)
  have := lt_size_of_get hb
  simp only [OkP_ok]; omega

theorem okP_parseDecimal (re : Bytes) (ix : Nat) :
    OkP (fun r => ∀ e v, r = some (e, v) → ix < e) (parseDecimal re ix) :=
  OkP.intro fun r hr e v he => by
    subst he
    exact (C06_parseDecimal_bounds re ix e v hr).1

/-- `parse_repeat` ends to the right of the `{` -/
theorem okP_parseRepeat (re : Bytes) (fl : Flags) (ix : Nat) :
    OkP (fun r => ix < r.1) (parseRepeat re fl ix) := by
  unfold parseRepeat
  refine OkP.bind (okP_optWs re fl (ix + 1)) (fun ix1 h1 => ?_)
  refine OkP.ite (fun _ => trivial) (fun _ => ?_)
  refine OkP.bind OkP.trivial (fun b _ => ?_)
  refine OkP.bind (P := fun p : Nat × Nat => ix1 ≤ p.2) ?_ (fun p hp => ?_)
  · refine OkP.ite (fun _ => by simp) (fun _ => ?_)
    refine OkP.bind (okP_parseDecimal re ix1) (fun r hr => ?_)
    cases r with
    | none => trivial
    | some q =>
      obtain ⟨next, lo⟩ := q
      have := hr _ _ rfl
      simp only [OkP_pure]; omega
  refine OkP.bind (okP_optWs re fl p.2) (fun ix2 h2 => ?_)
  refine OkP.ite (fun _ => trivial) (fun _ => ?_)
  refine OkP.bind OkP.trivial (fun b2 _ => ?_)
  refine OkP.bind (P := fun q : Nat × Nat => ix2 ≤ q.2) ?_ (fun q hq => ?_)
  · refine OkP.ite (fun _ => by simp) (fun _ => ?_)
    refine OkP.ite (fun _ => ?_) (fun _ => trivial)
    refine OkP.bind (okP_optWs re fl (ix2 + 1)) (fun e he => ?_)
    refine OkP.bind (okP_parseDecimal re e) (fun r hr => ?_)
    cases r with
    | none => simp only [OkP_pure]; omega
    | some q =>
      obtain ⟨next, hi⟩ := q
      have := hr _ _ rfl
      simp only [OkP_pure]; omega
  refine OkP.bind (okP_optWs re fl q.2) (fun ix3 h3 => ?_)
  refine OkP.ite (fun _ => trivial) (fun _ => ?_)
  refine OkP.bind OkP.trivial (fun b3 _ => ?_)
  refine OkP.ite (fun _ => trivial) (fun _ => ?_)
  simp only [OkP_ok]; omega

/-! ## Leaves -/

/-- the nodes the parser builds without descending; a literal is one character, a `Delegate` has
    size 1 -/
def isLeaf : Expr → Bool
  | .empty | .any _ | .assertion _ | .backref _ | .subroutine _ | .backrefExists _ | .keepOut
  | .contPrev => true
  | .literal s _ => s.length == 1
  | .delegate _ size _ => size == 1
  | _ => false

/-- what `parse_escape` returns for `\Z`: the one composite node built without descending -/
def endZ : Expr := .look (.delegate ['\n', '*', '$'] 0 false) .ahead

/-- the group counter and the name table agree -/
def SameGroups (a b : PState) : Prop :=
  a.currGroup = b.currGroup ∧ a.namedGroups = b.namedGroups

/-- outcome of a function that reads a leaf at `ix`: not to the left, a leaf (or `\Z`, which
    consumes a byte of the pattern), the group counter and the name table untouched -/
def Leaf (re : Bytes) (st : PState) (ix : Nat) (r : Nat × Expr × PState) : Prop :=
  ix ≤ r.1 ∧ (isLeaf r.2.1 = true ∨ (ix < r.1 ∧ ix < re.size ∧ r.2.1 = endZ)) ∧
    SameGroups st r.2.2

theorem Leaf.mono {re : Bytes} {st : PState} {ix ix' : Nat} {r : Nat × Expr × PState}
    (h : Leaf re st ix' r) (hle : ix ≤ ix') : Leaf re st ix r :=
  ⟨Nat.le_trans hle h.1, h.2.1.imp id (fun h' =>
    ⟨Nat.lt_of_le_of_lt hle h'.1, Nat.lt_of_le_of_lt hle h'.2.1, h'.2.2⟩), h.2.2⟩

theorem isLeaf_mk (k : RefKind) (g : Nat) : isLeaf (k.mk g) = true := by
  cases k <;> rfl

theorem okP_parseNumberedBackref (re : Bytes) (st : PState) (ix : Nat) (k : RefKind) :
    OkP (Leaf re st ix) (parseNumberedBackref re st ix k) := by
  unfold parseNumberedBackref
  refine OkP.bind (okP_parseDecimal re ix) (fun r hr => ?_)
  cases r with
  | none => trivial
  | some q =>
    obtain ⟨e, g⟩ := q
    have := hr _ _ rfl
    simp only
    refine OkP.ite (fun _ => ?_) (fun _ => trivial)
    exact ⟨Nat.le_of_lt this, Or.inl (isLeaf_mk k g), rfl, rfl⟩

theorem okP_parseNamedBackref (isAlnum : Char → Bool) (re : Bytes) (st : PState) (ix : Nat)
    (open_ close : List Nat) (allowRelative : Bool) (k : RefKind) :
    OkP (Leaf re st ix) (parseNamedBackref isAlnum re st ix open_ close allowRelative k) := by
  unfold parseNamedBackref
  refine OkP.bind OkP.trivial (fun _ _ => ?_)
  refine OkP.bind OkP.trivial (fun r _ => ?_)
  cases r with
  | none => trivial
  | some q =>
    obtain ⟨a, b, skip⟩ := q
    simp only
    split
    · exact ⟨Nat.le_add_right _ _, Or.inl (isLeaf_mk k _), rfl, rfl⟩
    · trivial

theorem okP_hexBraceLoop (re : Bytes) (ix starthex : Nat) : ∀ (f endhex : Nat),
    OkP (fun e => endhex ≤ e) (hexBraceLoop f re ix starthex endhex) := by
  intro f
  induction f with
  | zero => intro endhex; trivial
  | succ f ih =>
    intro endhex
    unfold hexBraceLoop
    refine OkP.ite (fun _ => trivial) (fun _ => ?_)
    split
    · trivial
    · refine OkP.ite (fun _ => by simp) (fun _ => ?_)
      refine OkP.ite (fun _ => ?_) (fun _ => trivial)
      exact (ih (endhex + 1)).mono fun e he => by omega

theorem okP_parseHex (re : Bytes) (fl : Flags) (ix digits : Nat) :
    OkP (fun r => ix ≤ r.1 ∧ isLeaf r.2 = true) (parseHex re fl ix digits) := by
  unfold parseHex
  refine OkP.ite (fun _ => trivial) (fun _ => ?_)
  refine OkP.bind OkP.trivial (fun b _ => ?_)
  refine OkP.bind (P := fun p : Nat × List Nat => ix ≤ p.1) ?_ (fun p hp => ?_)
  · refine OkP.ite (fun _ => ?_) (fun _ => ?_)
    · refine OkP.bind OkP.trivial (fun s _ => ?_)
      simp only [OkP_pure]; omega
    refine OkP.ite (fun _ => ?_) (fun _ => trivial)
    refine OkP.bind (okP_hexBraceLoop re ix (ix + 1) 16 (ix + 1)) (fun e he => ?_)
    refine OkP.bind OkP.trivial (fun s _ => ?_)
    simp only [OkP_pure]; omega
  split
  · trivial
  · refine OkP.ite (fun _ => ?_) (fun _ => trivial)
    exact ⟨hp, rfl⟩

theorem okP_uniNameLoop (re : Bytes) (ix : Nat) : ∀ (f end_ : Nat),
    OkP (fun e => end_ ≤ e) (uniNameLoop f re ix end_) := by
  intro f
  induction f with
  | zero => intro end_; trivial
  | succ f ih =>
    intro end_
    unfold uniNameLoop
    refine OkP.ite (fun _ => trivial) (fun _ => ?_)
    split
    · trivial
    · refine OkP.ite (fun _ => by simp) (fun _ => ?_)
      exact (ih _).mono fun e he => by omega

/-- `parse_escape` reads a leaf -/
theorem okP_parseEscape (isAlnum : Char → Bool) (re : Bytes) (st : PState) (ix : Nat)
    (inClass : Bool) : OkP (Leaf re st ix) (parseEscape isAlnum re st ix inClass) := by
  unfold parseEscape
  split
  · trivial
  rename_i b hb
  have hpos := codepointLen_pos b
  simp only
  have one : ∀ (e : Expr), isLeaf e = true →
      OkP (Leaf re st ix) (.ok (ix + 1 + codepointLen b, e, st)) :=
    fun e he => ⟨by simp only; omega, Or.inl he, rfl, rfl⟩
  have ref : ∀ {x : Res (Nat × Expr × PState)} {i : Nat}, ix ≤ i → OkP (Leaf re st i) x →
      OkP (Leaf re st ix) x := fun hle hx => hx.mono fun _ hr => hr.mono hle
  have hexc : ∀ n, OkP (Leaf re st ix) (do
      let (e, x) ← parseHex re st.flags (ix + 1 + codepointLen b) n
      Res.ok (e, x, st)) := by
    intro n
    refine OkP.bind (okP_parseHex re st.flags _ n) (fun r hr => ?_)
    obtain ⟨e, x⟩ := r
    exact ⟨by simp only at hr ⊢; omega, Or.inl hr.2, rfl, rfl⟩
  refine OkP.ite (fun _ => ref (by omega) (okP_parseNumberedBackref ..)) (fun _ => ?_)
  refine OkP.ite (fun _ => ?_) (fun _ => ?_)
  · exact OkP.ite (fun _ => ref (by omega) (okP_parseNamedBackref ..))
      (fun _ => ref (by omega) (okP_parseNamedBackref ..))
  refine OkP.ite (fun _ => one _ rfl) (fun _ => ?_)
  refine OkP.ite (fun _ => one _ rfl) (fun _ => ?_)
  refine OkP.ite (fun _ => ⟨by simp only; omega,
    Or.inr ⟨by simp only; omega, by have := lt_size_of_get hb; omega, rfl⟩, rfl, rfl⟩) (fun _ => ?_)
  refine OkP.ite (fun _ => ?_) (fun _ => ?_)
  · refine OkP.ite (fun _ => ?_) (fun _ => one _ rfl)
    exact OkP.bind OkP.trivial (fun _ _ => trivial)
  refine OkP.ite (fun _ => ?_) (fun _ => ?_)
  · refine OkP.ite (fun _ => ?_) (fun _ => one _ rfl)
    exact OkP.bind OkP.trivial (fun _ _ => trivial)
  refine OkP.ite (fun _ => one _ rfl) (fun _ => ?_)
  refine OkP.ite (fun _ => one _ rfl) (fun _ => ?_)
  refine OkP.ite (fun _ => ?_) (fun _ => ?_)
  · exact OkP.bind OkP.trivial (fun _ _ => one _ rfl)
  refine OkP.ite (fun _ => one _ rfl) (fun _ => ?_)
  refine OkP.ite (fun _ => hexc 2) (fun _ => ?_)
  refine OkP.ite (fun _ => hexc 4) (fun _ => ?_)
  refine OkP.ite (fun _ => hexc 8) (fun _ => ?_)
  refine OkP.ite (fun _ => ?_) (fun _ => ?_)
  · refine OkP.bind OkP.trivial (fun b2 _ => ?_)
    have hpos2 := codepointLen_pos b2
    refine OkP.bind (P := fun e => ix + 1 + codepointLen b ≤ e) ?_ (fun e he => ?_)
    · refine OkP.ite (fun _ => ?_) (fun _ => by simp only [OkP_pure]; omega)
      exact (okP_uniNameLoop re ix _ _).mono fun e he => by omega
    refine OkP.bind OkP.trivial (fun s _ => ?_)
    exact ⟨by simp only; omega, Or.inl rfl, rfl, rfl⟩
  refine OkP.ite (fun _ => one _ rfl) (fun _ => ?_)
  refine OkP.ite (fun _ => one _ rfl) (fun _ => ?_)
  refine OkP.ite (fun _ => ?_) (fun _ => ?_)
  · refine OkP.ite (fun _ => trivial) (fun _ => ?_)
    refine OkP.bind OkP.trivial (fun b2 _ => ?_)
    refine OkP.ite (fun _ => ref (by omega) (okP_parseNumberedBackref ..)) (fun _ => ?_)
    exact OkP.ite (fun _ => ref (by omega) (okP_parseNamedBackref ..))
      (fun _ => ref (by omega) (okP_parseNamedBackref ..))
  refine OkP.ite (fun _ => one _ rfl) (fun _ => ?_)
  refine OkP.ite (fun _ => one _ rfl) (fun _ => ?_)
  refine OkP.ite (fun _ => one _ rfl) (fun _ => ?_)
  refine OkP.ite (fun _ => one _ rfl) (fun _ => ?_)
  refine OkP.ite (fun _ => one _ rfl) (fun _ => ?_)
  refine OkP.ite (fun _ => one _ rfl) (fun _ => ?_)
  refine OkP.ite (fun _ => one _ rfl) (fun _ => ?_)
  refine OkP.ite (fun _ => one _ rfl) (fun _ => ?_)
  refine OkP.ite (fun _ => one _ rfl) (fun _ => ?_)
  refine OkP.bind (okP_slice re _ _ _) (fun s hs => ?_)
  refine OkP.ite (fun _ => trivial) (fun _ => one _ ?_)
  obtain ⟨rfl, hs2⟩ := hs
  simpa [isLeaf, makeLiteral] using decode_char_slice hb hs2

/-- the loop of `parse_class`: to the right, counter and names untouched -/
theorem okP_classLoop (isAlnum : Char → Bool) (re : Bytes) : ∀ (f : Nat) (st : PState) (ix : Nat)
    (nest : Int) (rcls : List Char),
    OkP (fun r => ix ≤ r.1 ∧ SameGroups st r.2.2) (classLoop isAlnum f re st ix nest rcls) := by
  intro f
  induction f with
  | zero => intro st ix nest rcls; trivial
  | succ f ih =>
    intro st ix nest rcls
    unfold classLoop
    refine OkP.ite (fun _ => trivial) (fun _ => ?_)
    split
    · trivial
    rename_i b hb
    refine OkP.ite (fun _ => ?_) (fun _ => ?_)
    · have hesc := okP_parseEscape isAlnum re st ix true
      split
      · rename_i end_ e st' heq
        rw [heq] at hesc
        obtain ⟨h1, _, h3, h4⟩ := hesc
        simp only at h1 h3 h4
        have next : ∀ nest rcls, OkP (fun r => ix ≤ r.1 ∧ SameGroups st r.2.2)
            (classLoop isAlnum f re st' end_ nest rcls) := fun _ _ =>
          (ih st' end_ _ _).mono fun r hr => ⟨by omega, h3.trans hr.2.1, h4.trans hr.2.2⟩
        split
        · exact OkP.ite (fun _ => trivial) (fun _ => next _ _)
        · exact next _ _
        · trivial
      all_goals trivial
    refine OkP.ite (fun _ => ?_) (fun _ => ?_)
    · exact (ih st (ix + 1) _ _).mono fun r hr => ⟨by omega, hr.2⟩
    refine OkP.ite (fun _ => ?_) (fun _ => ?_)
    · refine OkP.ite (fun _ => ⟨Nat.le_refl _, rfl, rfl⟩) (fun _ => ?_)
      exact (ih st (ix + 1) _ _).mono fun r hr => ⟨by omega, hr.2⟩
    · have hpos := codepointLen_pos b
      simp only
      split
      · exact (ih st _ _ _).mono fun r hr => ⟨by omega, hr.2⟩
      all_goals trivial

/-- `parse_class` reads a leaf -/
theorem okP_parseClass (isAlnum : Char → Bool) (re : Bytes) (st : PState) (ix : Nat) :
    OkP (Leaf re st ix) (parseClass isAlnum re st ix) := by
  unfold parseClass
  simp only
  refine OkP.bind (okP_classLoop isAlnum re _ st _ _ _) (fun r hr => ?_)
  obtain ⟨ix', rcls, st'⟩ := r
  obtain ⟨h1, h2⟩ := hr
  simp only at h1 h2 ⊢
  refine ⟨?_, Or.inl rfl, h2⟩
  simp only
  have : ix + 1 ≤ ix' := by
    refine Nat.le_trans ?_ h1
    split <;> split <;> simp only <;> omega
  omega

/-- the letter loop of `parse_flags` stops to the right -/
theorem okP_flagsLoop (re : Bytes) (start : Nat) : ∀ (f : Nat) (fl : Flags) (ix : Nat) (neg : Bool),
    OkP (fun r => match r.1 with | .close i => ix ≤ i | .colon i => ix ≤ i)
      (flagsLoop f re fl start ix neg) := by
  intro f
  induction f with
  | zero => intro fl ix neg; trivial
  | succ f ih =>
    intro fl ix neg
    unfold flagsLoop
    have hws := okP_optWs re fl ix
    split
    · rename_i ix1 heq
      rw [heq] at hws
      simp only [OkP_ok] at hws
      refine OkP.ite (fun _ => trivial) (fun _ => ?_)
      split
      · trivial
      have next : ∀ fl' neg', OkP (fun r => match r.1 with | .close i => ix ≤ i | .colon i => ix ≤ i)
          (flagsLoop f re fl' start (ix1 + 1) neg') := fun fl' neg' =>
        (ih fl' (ix1 + 1) neg').mono fun r hr => by
          cases hr1 : r.1 <;> rw [hr1] at hr <;> simp only at hr ⊢ <;> omega
      have unk : ∀ i, OkP (fun r : FlagsEnd × Flags => match r.1 with | .close i => ix ≤ i | .colon i => ix ≤ i)
          (match unknownFlag re start i with
            | .ok e => .err e start
            | .err k p => .err k p | .cerr => .cerr | .panic s => .panic s | .outOfFuel => .outOfFuel) := by
        intro i; split <;> trivial
      refine OkP.ite (fun _ => next _ _) (fun _ => ?_)
      refine OkP.ite (fun _ => OkP.ite (fun _ => trivial) (fun _ => next _ _)) (fun _ => ?_)
      refine OkP.ite (fun _ => OkP.ite (fun _ => unk _) (fun _ => next _ _)) (fun _ => ?_)
      refine OkP.ite (fun _ => OkP.ite (fun _ => unk _) (fun _ => hws.1)) (fun _ => ?_)
      refine OkP.ite (fun _ => OkP.ite (fun _ => unk _) (fun _ => hws.1)) (fun _ => unk _)
    all_goals trivial

/-- `parse_id`: the consumed length is more than the two delimiters (the name is not empty) -/
theorem okP_parseId (isAlnum : Char → Bool) (re : Bytes) (base : Nat) (open_ close : List Nat)
    (allowRelative : Bool) :
    OkP (fun r => ∀ a b skip, r = some (a, b, skip) → open_.length + close.length < skip)
      (parseId isAlnum re base open_ close allowRelative) := by
  unfold parseId
  refine OkP.ite (fun _ => trivial) (fun _ => ?_)
  refine OkP.ite (fun _ => by simp) (fun _ => ?_)
  refine OkP.bind OkP.trivial (fun _ _ => ?_)
  refine OkP.bind OkP.trivial (fun afterId _ => ?_)
  refine OkP.bind OkP.trivial (fun idLen _ => ?_)
  split
  · simp
  · simp
  · rename_i l hl0
    refine OkP.ite (fun _ => trivial) (fun _ => ?_)
    simp only [OkP_ok, Option.some.injEq, Prod.mk.injEq]
    rintro a b skip ⟨rfl, rfl, rfl⟩
    have : l ≠ 0 := fun h => hl0 (by rw [h])
    omega

/-! ## The recursive descent, once

Every invariant of the parser's output below (group numbering here, shape, repeat bounds, code size in
`Lemmas/Parse*.lean`) is proved by the same induction on the fuel over the nine functions of the
descent.  The induction is done once, for any family `Q`, `QA`, `QB` of predicates on the outcome of a
node-returning function, of the `|` loop and of the loop of `parse_branch`, that is preserved by each
way the parser builds a node (`Preserved`); the facts about indices that the parser's control flow
provides are hypotheses of the respective rule. -/

/-- the condition as the `Conditional` node holds it: a back-reference becomes a group test -/
def CondInner (c inner : Expr) : Prop :=
  inner = c ∨ ∃ g, c = .backref g ∧ inner = .backrefExists g

/-- how `parse_conditional` splits the body at its top-level `|` into "then" and "else" -/
def CondSplit (child b1 b2 : Expr) : Prop :=
  (b1 = child ∧ b2 = .empty) ∨
    ∃ rest, child = .alt (b1 :: rest) ∧ (rest = [b2] ∨ (b2 = .alt rest ∧ ∀ e, rest ≠ [e]))

/-- `Q st ix (ix', e, st')`: started at `ix` in state `st`, a function of the descent returned the
    node `e`, the index `ix'` and the state `st'`; `QA`, `QB` the same for the further alternatives
    after a `|` and for the children of a branch.  One rule for each way a result is built. -/
structure Preserved (re : Bytes) (Q : PState → Nat → Nat × Expr × PState → Prop)
    (QA QB : PState → Nat → Nat × List Expr × PState → Prop) : Prop where
  leaf : ∀ {st st' : PState} {ix ix' : Nat} {e : Expr}, ix ≤ ix' → isLeaf e = true →
    SameGroups st st' → Q st ix (ix', e, st')
  endZ : ∀ {st : PState} {ix ix' : Nat}, ix < ix' → ix < re.size → Q st ix (ix', endZ, st)
  /-- the same node for a start further left, returned further right, other fields of the states
      changed -/
  moved : ∀ {st0 st st1 st2 : PState} {ix0 ix i1 i2 : Nat} {e : Expr}, Q st ix (i1, e, st1) →
    ix0 ≤ ix → i1 ≤ i2 → SameGroups st0 st → SameGroups st1 st2 → Q st0 ix0 (i2, e, st2)
  alt : ∀ {st st1 st3 st4 : PState} {ix ix1 ix2 ix3 : Nat} {child r1 : Expr} {rs : List Expr},
    Q st ix (ix1, child, st1) → ix1 ≤ ix2 → QA st1 ix2 (ix3, r1 :: rs, st3) → SameGroups st3 st4 →
    Q st ix (ix3, .alt (child :: r1 :: rs), st4)
  altNil : ∀ {st : PState} {ix : Nat}, QA st ix (ix, [], st)
  /-- one more alternative: the `|` at `ix`, a branch, white space -/
  altCons : ∀ {st st1 st3 : PState} {ix ix1 ix2 ix3 : Nat} {child : Expr} {rest : List Expr},
    ix < re.size → Q st (ix + 1) (ix1, child, st1) → ix1 ≤ ix2 → QA st1 ix2 (ix3, rest, st3) →
    QA st ix (ix3, child :: rest, st3)
  brNil : ∀ {st st1 : PState} {ix ix1 : Nat}, QB st ix (ix1, [], st1) → Q st ix (ix1, .empty, st1)
  brOne : ∀ {st st1 : PState} {ix ix1 : Nat} {c : Expr}, QB st ix (ix1, [c], st1) →
    Q st ix (ix1, c, st1)
  brCat : ∀ {st st1 : PState} {ix ix1 : Nat} {c1 c2 : Expr} {cs : List Expr},
    QB st ix (ix1, c1 :: c2 :: cs, st1) → Q st ix (ix1, .concat (c1 :: c2 :: cs), st1)
  blNil : ∀ {st : PState} {ix : Nat}, QB st ix (ix, [], st)
  /-- a piece that consumed nothing ends the branch and is dropped -/
  blDrop : ∀ {st st1 : PState} {ix : Nat} {child : Expr}, Q st ix (ix, child, st1) →
    QB st ix (ix, [], st1)
  blCons : ∀ {st st1 st3 : PState} {ix next ix3 : Nat} {child : Expr} {rest : List Expr},
    ix < re.size → Q st ix (next, child, st1) → next ≠ ix → QB st1 next (ix3, rest, st3) →
    QB st ix (ix3, if child.isEmpty then rest else child :: rest, st3)
  /-- a quantifier starting at `ix2` -/
  rep : ∀ {st st1 : PState} {ix ix1 ix2 ix4 : Nat} {child : Expr} (lo hi : Nat) (g : Bool),
    Q st ix (ix1, child, st1) → ix1 ≤ ix2 → ix2 < re.size → ix2 < ix4 →
    Q st ix (ix4, .repeat child lo (hiOf hi) g, st1)
  possessive : ∀ {st st1 : PState} {ix ix1 ix2 ix4 : Nat} {child : Expr} (lo hi : Nat) (g : Bool),
    Q st ix (ix1, child, st1) → ix1 ≤ ix2 → ix2 < re.size → ix2 < ix4 →
    Q st ix (ix4, .atomic (.repeat child lo (hiOf hi) g), st1)
  /-- `(` at `ix`, the body from `ix1`, `)` before `ix3` -/
  look : ∀ {st st3 : PState} {ix ix1 ix2 ix3 : Nat} {child : Expr} (la : Look), ix < re.size →
    ix < ix1 → Q st ix1 (ix2, child, st3) → ix2 < ix3 → Q st ix (ix3, .look child la, st3)
  atomic : ∀ {st st3 : PState} {ix ix1 ix2 ix3 : Nat} {child : Expr}, ix < re.size →
    ix < ix1 → Q st ix1 (ix2, child, st3) → ix2 < ix3 → Q st ix (ix3, .atomic child, st3)
  group : ∀ {st st3 : PState} {ix ix1 ix2 ix3 : Nat} {child : Expr}, ix < re.size → ix < ix1 →
    Q { st with currGroup := st.currGroup + 1 } ix1 (ix2, child, st3) → ix2 < ix3 →
    Q st ix (ix3, .group 0 child, st3)
  named : ∀ {st st3 : PState} {ix ix1 ix2 ix3 : Nat} {child : Expr} (nm : List Nat),
    ix < re.size → ix < ix1 →
    Q { st with currGroup := st.currGroup + 1,
                namedGroups := namedInsert st.namedGroups nm (st.currGroup + 1) }
      ix1 (ix2, child, st3) → ix2 < ix3 → Q st ix (ix3, .group 0 child, st3)
  /-- `(?(1))`: the body consumed nothing and is dropped -/
  condDrop : ∀ {st st1 st2 : PState} {ix next next2 after : Nat} {g : Nat} {child : Expr},
    Q st ix (next, .backref g, st1) → next < next2 → Q st1 next2 (next2, child, st2) →
    next2 < after → Q st ix (after, .backrefExists g, st2)
  /-- no else and an empty "then": the whole conditional is its condition -/
  condOnly : ∀ {st st1 st2 : PState} {ix next next2 end_ after : Nat} {c inner child : Expr},
    Q st ix (next, c, st1) → next < next2 → Q st1 next2 (end_, child, st2) →
    child.isEmpty = true → end_ < after → CondInner c inner → Q st ix (after, inner, st2)
  cond : ∀ {st st1 st2 : PState} {ix next next2 end_ after : Nat} {c inner child b1 b2 : Expr},
    ix < re.size → Q st ix (next, c, st1) → next < next2 → next2 ≤ re.size →
    Q st1 next2 (end_, child, st2) → end_ < after → CondInner c inner → CondSplit child b1 b2 →
    Q st ix (after, .cond inner b1 b2, st2)

/-- the induction hypothesis of the descent: all functions at fuel `f`; the `|` loop entered at a
    `|` returns at least one alternative -/
structure DescQ (re : Bytes) (isAlnum : Char → Bool)
    (Q : PState → Nat → Nat × Expr × PState → Prop)
    (QA QB : PState → Nat → Nat × List Expr × PState → Prop) (f : Nat) : Prop where
  re_ : ∀ st ix d, OkP (Q st ix) (parseRe isAlnum f re st ix d)
  alt_ : ∀ st ix d, OkP (fun r => QA st ix r ∧ ((re[ix]? == some (ch '|')) = true → r.2.1 ≠ []))
    (reAltLoop isAlnum f re st ix d)
  branch_ : ∀ st ix d, OkP (Q st ix) (parseBranch isAlnum f re st ix d)
  bloop_ : ∀ st ix d, OkP (QB st ix) (branchLoop isAlnum f re st ix d)
  piece_ : ∀ st ix d, OkP (Q st ix) (parsePiece isAlnum f re st ix d)
  atom_ : ∀ st ix d, OkP (Q st ix) (parseAtom isAlnum f re st ix d)
  group_ : ∀ st ix d, OkP (Q st ix) (parseGroup isAlnum f re st ix d)
  flags_ : ∀ st ix d, OkP (Q st ix) (parseFlags isAlnum f re st ix d)
  cond_ : ∀ st ix d, OkP (Q st ix) (parseConditional isAlnum f re st ix d)

section descent
variable {re : Bytes} {isAlnum : Char → Bool} {Q : PState → Nat → Nat × Expr × PState → Prop}
  {QA QB : PState → Nat → Nat × List Expr × PState → Prop}

theorem Preserved.mono (hC : Preserved re Q QA QB) {st : PState} {ix0 ix : Nat}
    {r : Nat × Expr × PState} (h : Q st ix r) (hle : ix0 ≤ ix) : Q st ix0 r :=
  hC.moved (e := r.2.1) h hle (Nat.le_refl _) ⟨rfl, rfl⟩ ⟨rfl, rfl⟩

theorem Preserved.ofLeaf (hC : Preserved re Q QA QB) {st : PState} {ix : Nat}
    {r : Nat × Expr × PState} (h : Leaf re st ix r) : Q st ix r := by
  obtain ⟨ix', e, st'⟩ := r
  obtain ⟨h1, h2 | ⟨h2, hsz, h3⟩, h4⟩ := h
  · exact hC.leaf h1 h2 h4
  · simp only at h3
    subst h3
    exact hC.moved (hC.endZ h2 hsz) (Nat.le_refl _) (Nat.le_refl _) ⟨rfl, rfl⟩ h4

theorem stepQ_parseRe (hC : Preserved re Q QA QB) {f : Nat} (h : DescQ re isAlnum Q QA QB f)
    (st : PState) (ix d : Nat) : OkP (Q st ix) (parseRe isAlnum (f + 1) re st ix d) := by
  unfold parseRe
  refine OkP.bind (h.branch_ st ix d) (fun r hr => ?_)
  obtain ⟨ix1, child, st1⟩ := r
  simp only
  refine OkP.bind (okP_optWs re _ ix1) (fun ix2 h4 => ?_)
  refine OkP.bind OkP.trivial (fun _ _ => ?_)
  refine OkP.ite (fun hbar => ?_) (fun _ => ?_)
  · refine OkP.bind (h.alt_ st1 ix2 d) (fun r hr2 => ?_)
    obtain ⟨ix3, rest, st3⟩ := r
    obtain ⟨h5, h6⟩ := hr2
    cases rest with
    | nil => exact absurd rfl (h6 hbar)
    | cons r1 rs => exact hC.alt hr h4.1 h5 ⟨rfl, rfl⟩
  · refine OkP.ite (fun _ => trivial) (fun _ => ?_)
    exact hC.moved hr (Nat.le_refl _) h4.1 ⟨rfl, rfl⟩ ⟨rfl, rfl⟩

theorem stepQ_reAltLoop (hC : Preserved re Q QA QB) {f : Nat} (h : DescQ re isAlnum Q QA QB f)
    (st : PState) (ix d : Nat) :
    OkP (fun r => QA st ix r ∧ ((re[ix]? == some (ch '|')) = true → r.2.1 ≠ []))
      (reAltLoop isAlnum (f + 1) re st ix d) := by
  unfold reAltLoop
  refine OkP.bind OkP.trivial (fun _ _ => ?_)
  refine OkP.ite (fun hbar => ?_) (fun hno => ⟨hC.altNil, fun hyes => absurd hyes hno⟩)
  have hlt : ix < re.size := lt_size_of_get (b := ch '|') (by simpa using hbar)
  refine OkP.bind (h.branch_ st (ix + 1) d) (fun r hr => ?_)
  obtain ⟨ix1, child, st1⟩ := r
  simp only
  refine OkP.bind (okP_optWs re _ ix1) (fun ix2 h4 => ?_)
  refine OkP.bind (h.alt_ st1 ix2 d) (fun r hr2 => ?_)
  obtain ⟨ix3, rest, st3⟩ := r
  exact ⟨hC.altCons hlt hr h4.1 hr2.1, fun _ => List.cons_ne_nil _ _⟩

theorem stepQ_parseBranch (hC : Preserved re Q QA QB) {f : Nat} (h : DescQ re isAlnum Q QA QB f)
    (st : PState) (ix d : Nat) : OkP (Q st ix) (parseBranch isAlnum (f + 1) re st ix d) := by
  unfold parseBranch
  refine OkP.bind (h.bloop_ st ix d) (fun r hr => ?_)
  obtain ⟨ix1, children, st1⟩ := r
  simp only
  match children, hr with
  | [], hr => exact hC.brNil hr
  | [c], hr => exact hC.brOne hr
  | c1 :: c2 :: cs, hr => exact hC.brCat hr

theorem stepQ_branchLoop (hC : Preserved re Q QA QB) {f : Nat} (h : DescQ re isAlnum Q QA QB f)
    (st : PState) (ix d : Nat) : OkP (QB st ix) (branchLoop isAlnum (f + 1) re st ix d) := by
  unfold branchLoop
  refine OkP.ite (fun hlt => ?_) (fun _ => hC.blNil)
  refine OkP.bind (h.piece_ st ix d) (fun r hr => ?_)
  obtain ⟨next, child, st1⟩ := r
  simp only
  refine OkP.ite (fun hnx => ?_) (fun hnx => ?_)
  · have hnx' : next = ix := by simpa using hnx
    subst hnx'
    exact hC.blDrop hr
  refine OkP.bind (h.bloop_ st1 next d) (fun r hr2 => ?_)
  obtain ⟨ix3, rest, st3⟩ := r
  exact hC.blCons hlt hr (by simpa using hnx) hr2

theorem stepQ_parsePiece (hC : Preserved re Q QA QB) {f : Nat} (h : DescQ re isAlnum Q QA QB f)
    (st : PState) (ix d : Nat) : OkP (Q st ix) (parsePiece isAlnum (f + 1) re st ix d) := by
  unfold parsePiece
  refine OkP.bind (h.atom_ st ix d) (fun r hr => ?_)
  obtain ⟨ix1, child, st1⟩ := r
  simp only
  have same : ∀ {ix2 : Nat}, ix1 ≤ ix2 → Q st ix (ix2, child, st1) := fun hle =>
    hC.moved hr (Nat.le_refl _) hle ⟨rfl, rfl⟩ ⟨rfl, rfl⟩
  refine OkP.bind (okP_optWs re _ ix1) (fun ix2 h4 => ?_)
  refine OkP.ite (fun hlt => ?_) (fun _ => same h4.1)
  refine OkP.bind OkP.trivial (fun b _ => ?_)
  -- the quantifier, if there is one, ends at or after `ix2`
  refine OkP.bind (P := fun q => ∀ lo hi i, q = some (lo, hi, i) → ix2 ≤ i) ?_ (fun q hq => ?_)
  · have q0 : ∀ lo hi, OkP (fun q => ∀ lo hi i, q = some (lo, hi, i) → ix2 ≤ i)
        (pure (some (lo, hi, ix2)) : Res (Option (Nat × Nat × Nat))) := by
      intro lo hi lo' hi' i hi2
      cases hi2
      exact Nat.le_refl _
    refine OkP.ite (fun _ => q0 _ _) (fun _ => ?_)
    refine OkP.ite (fun _ => q0 _ _) (fun _ => ?_)
    refine OkP.ite (fun _ => q0 _ _) (fun _ => ?_)
    refine OkP.ite (fun _ => ?_) (fun _ => by intro lo hi i hi2; cases hi2)
    have hrep := okP_parseRepeat re st1.flags ix2
    cases hres : parseRepeat re st1.flags ix2 with
    | ok r =>
      rw [hres] at hrep
      obtain ⟨next, lo, hi⟩ := r
      simp only [OkP_ok] at hrep
      simp only
      refine OkP.ite (fun _ => trivial) (fun _ => ?_)
      intro lo' hi' i hi2
      cases hi2
      omega
    | err k p => intro lo hi i hi2; cases hi2
    | cerr => intro lo hi i hi2; cases hi2
    | panic s => trivial
    | outOfFuel => trivial
  · cases q with
    | none => exact same h4.1
    | some p =>
      obtain ⟨lo, hi, i⟩ := p
      have hq1 := hq _ _ _ rfl
      simp only
      refine OkP.ite (fun _ => trivial) (fun _ => ?_)
      refine OkP.bind (okP_optWs re _ (i + 1)) (fun ix3 h6 => ?_)
      have hle4 : ix3 ≤
          (if (decide (ix3 < re.size) && re[ix3]? == some (ch '?')) = true then ix3 + 1 else ix3) := by
        split <;> omega
      generalize (if (decide (ix3 < re.size) && re[ix3]? == some (ch '?')) = true then ix3 + 1 else ix3)
        = ix4 at hle4 ⊢
      exact OkP.ite (fun _ => hC.possessive lo hi _ hr h4.1 hlt (by omega))
        (fun _ => hC.rep lo hi _ hr h4.1 hlt (by omega))

theorem stepQ_parseAtom (hC : Preserved re Q QA QB) {f : Nat} (h : DescQ re isAlnum Q QA QB f)
    (st : PState) (ix d : Nat) : OkP (Q st ix) (parseAtom isAlnum (f + 1) re st ix d) := by
  unfold parseAtom
  refine OkP.bind (okP_optWs re _ ix) (fun ix1 h1 => ?_)
  have leaf : ∀ (ix' : Nat) (e : Expr), ix1 ≤ ix' → isLeaf e = true →
      OkP (Q st ix) (.ok (ix', e, st)) :=
    fun ix' e hle he => hC.leaf (Nat.le_trans h1.1 hle) he ⟨rfl, rfl⟩
  refine OkP.ite (fun _ => leaf _ _ (Nat.le_refl _) rfl) (fun _ => ?_)
  refine OkP.bind (okP_byteAt re ix1 _) (fun b hb => ?_)
  refine OkP.ite (fun _ => leaf _ _ (Nat.le_succ _) rfl) (fun _ => ?_)
  refine OkP.ite (fun _ => leaf _ _ (Nat.le_succ _) rfl) (fun _ => ?_)
  refine OkP.ite (fun _ => leaf _ _ (Nat.le_succ _) rfl) (fun _ => ?_)
  refine OkP.ite (fun _ => (h.group_ st ix1 d).mono fun r hr => hC.mono hr h1.1) (fun _ => ?_)
  refine OkP.ite (fun _ => (okP_parseEscape isAlnum re st ix1 false).mono fun r hr =>
    hC.ofLeaf (hr.mono h1.1)) (fun _ => ?_)
  refine OkP.ite (fun _ => leaf _ _ (Nat.le_refl _) rfl) (fun _ => ?_)
  refine OkP.ite (fun _ => (okP_parseClass isAlnum re st ix1).mono fun r hr =>
    hC.ofLeaf (hr.mono h1.1)) (fun _ => ?_)
  refine OkP.bind (okP_slice re _ _ _) (fun s hs => ?_)
  obtain ⟨rfl, hs2⟩ := hs
  exact leaf _ _ (Nat.le_add_right _ _) (by simpa [isLeaf] using decode_char_slice hb hs2)

/-- what the common tail of `parse_group` (`parse_re`, `check_for_close_paren`, the node) returns -/
def BodyOut (Q : PState → Nat → Nat × Expr × PState → Prop) (ix1 : Nat) (la : Option Look)
    (skip : Nat) (st' : PState) (r : Nat × Expr × PState) : Prop :=
  ∃ ix2 child, Q st' (ix1 + skip) (ix2, child, r.2.2) ∧ ix2 < r.1 ∧ r.2.1 = (match la with
      | some la => Expr.look child la
      | none => if skip == 2 then Expr.atomic child else Expr.group 0 child)

theorem stepQ_parseGroup (hC : Preserved re Q QA QB) {f : Nat} (h : DescQ re isAlnum Q QA QB f)
    (st : PState) (ix d : Nat) : OkP (Q st ix) (parseGroup isAlnum (f + 1) re st ix d) := by
  unfold parseGroup
  refine OkP.ite (fun _ => trivial) (fun hd => ?_)
  refine OkP.bind (okP_optWs re _ (ix + 1)) (fun ix1 h1 => ?_)
  have hix : ix < re.size := by omega
  refine OkP.bind OkP.trivial (fun _ _ => ?_)
  extract_lets body st2
  have hbody : ∀ la skip st', OkP (BodyOut Q ix1 la skip st') (body la skip st') := by
    intro la skip st'
    simp only [body]
    refine OkP.bind (h.re_ st' (ix1 + skip) (d + 1)) (fun r hr => ?_)
    obtain ⟨ix2, child, st3⟩ := r
    simp only
    refine OkP.bind (okP_checkForCloseParen re _ ix2) (fun ix3 h5 => ?_)
    cases la with
    | some la => exact ⟨ix2, child, hr, h5.1, rfl⟩
    | none =>
      simp only
      exact OkP.ite (fun hs => ⟨ix2, child, hr, h5.1, by simp [hs]⟩)
        (fun hs => ⟨ix2, child, hr, h5.1, by simp [hs]⟩)
  clear_value body
  -- a named group: `curr_group += 1`, then `named_groups.insert(name, curr_group)`; `Group`, not
  -- `AtomicGroup`, because the name is not empty
  have named : ∀ (nm : List Nat) (skip : Nat), 2 < skip →
      OkP (Q st ix) (body none skip
        { st2 with namedGroups := namedInsert st2.namedGroups nm st2.currGroup }) := by
    intro nm skip hskip
    refine (hbody none skip _).mono fun r hr => ?_
    obtain ⟨ix3, e, st3⟩ := r
    obtain ⟨ix2, child, hq, hlt, he⟩ := hr
    have hne : (skip == 2) = false := by simp; omega
    simp only [hne] at he
    subst he
    exact hC.named nm hix (by omega) hq hlt
  have plain : ∀ (la : Option Look) (skip : Nat), (la = none → skip = 2) →
      OkP (Q st ix) (body la skip st) := by
    intro la skip hla
    refine (hbody la skip st).mono fun r hr => ?_
    obtain ⟨ix3, e, st3⟩ := r
    obtain ⟨ix2, child, hq, hlt, he⟩ := hr
    cases la with
    | some la => simp only at he; subst he; exact hC.look la hix (by omega) hq hlt
    | none =>
      have hs : (skip == 2) = true := by simp [hla rfl]
      simp only [hs] at he
      subst he
      exact hC.atomic hix (by omega) hq hlt
  cases hlook : lookOf re ix1 with
  | some p =>
    obtain ⟨la, skip⟩ := p
    exact plain (some la) skip (fun h => nomatch h)
  | none =>
    simp only
    -- (?<name>
    refine OkP.ite (fun _ => ?_) (fun _ => ?_)
    · refine OkP.bind OkP.trivial (fun _ _ => ?_)
      refine OkP.bind (okP_parseId isAlnum re _ _ _ _) (fun r hr => ?_)
      cases r with
      | none => trivial
      | some p =>
        obtain ⟨a, b, skip⟩ := p
        have := hr _ _ _ rfl
        simp only [List.length_cons, List.length_nil] at this
        exact named _ _ (by omega)
    -- (?P<name>
    refine OkP.ite (fun _ => ?_) (fun _ => ?_)
    · refine OkP.bind OkP.trivial (fun _ _ => ?_)
      refine OkP.bind (okP_parseId isAlnum re _ _ _ _) (fun r hr => ?_)
      cases r with
      | none => trivial
      | some p =>
        obtain ⟨a, b, skip⟩ := p
        have := hr _ _ _ rfl
        simp only [List.length_cons, List.length_nil] at this
        exact named _ _ (by omega)
    -- (?P=name)
    refine OkP.ite (fun _ => (okP_parseNamedBackref ..).mono fun r hr =>
      hC.ofLeaf (hr.mono (by omega))) (fun _ => ?_)
    -- (?>
    refine OkP.ite (fun _ => plain none 2 (fun _ => rfl)) (fun _ => ?_)
    -- (?(
    refine OkP.ite (fun _ => (h.cond_ st _ (d + 1)).mono fun r hr => hC.mono hr (by omega))
      (fun _ => ?_)
    -- (?P>name)
    refine OkP.ite (fun _ => (okP_parseNamedBackref ..).mono fun r hr =>
      hC.ofLeaf (hr.mono (by omega))) (fun _ => ?_)
    -- (?flags
    refine OkP.ite (fun _ => (h.flags_ st ix1 (d + 1)).mono fun r hr => hC.mono hr (by omega))
      (fun _ => ?_)
    -- a plain capture group: `curr_group += 1`
    refine (hbody none 0 st2).mono fun r hr => ?_
    obtain ⟨ix3, e, st3⟩ := r
    obtain ⟨ix2, child, hq, hlt, he⟩ := hr
    simp only [show ((0 : Nat) == 2) = false from rfl] at he
    subst he
    exact hC.group hix (by omega) hq hlt

theorem stepQ_parseFlags (hC : Preserved re Q QA QB) {f : Nat} (h : DescQ re isAlnum Q QA QB f)
    (st : PState) (ix d : Nat) : OkP (Q st ix) (parseFlags isAlnum (f + 1) re st ix d) := by
  unfold parseFlags
  refine OkP.bind (okP_flagsLoop re (ix + 1) (re.size + 2) st.flags (ix + 1) false) (fun r hr => ?_)
  obtain ⟨e, fl⟩ := r
  cases e with
  | close i =>
    simp only at hr ⊢
    exact hC.leaf (by omega) rfl ⟨rfl, rfl⟩
  | colon i =>
    simp only at hr ⊢
    refine OkP.bind (h.re_ _ (i + 1) d) (fun r hr2 => ?_)
    obtain ⟨ix2, child, st2⟩ := r
    simp only
    refine OkP.ite (fun _ => trivial) (fun _ => ?_)
    refine OkP.bind OkP.trivial (fun b _ => ?_)
    refine OkP.ite (fun _ => trivial) (fun _ => ?_)
    exact hC.moved hr2 (by omega) (Nat.le_succ _) ⟨rfl, rfl⟩ ⟨rfl, rfl⟩

theorem condInner_match (gt : Bool) (c : Expr) : CondInner c (match gt, c with
    | true, .backref g => Expr.backrefExists g
    | _, c => c) := by
  split
  · exact Or.inr ⟨_, rfl, rfl⟩
  · exact Or.inl rfl

theorem stepQ_parseConditional (hC : Preserved re Q QA QB) {f : Nat}
    (h : DescQ re isAlnum Q QA QB f) (st : PState) (ix d : Nat) :
    OkP (Q st ix) (parseConditional isAlnum (f + 1) re st ix d) := by
  unfold parseConditional
  refine OkP.ite (fun _ => trivial) (fun hge => ?_)
  have hix : ix < re.size := by omega
  refine OkP.bind OkP.trivial (fun b _ => ?_)
  refine OkP.bind (P := Q st ix) ?_ (fun r hr => ?_)
  · refine OkP.ite (fun _ => (okP_parseNumberedBackref ..).mono fun r hr => hC.ofLeaf hr)
      (fun _ => ?_)
    refine OkP.ite (fun _ => (okP_parseNamedBackref ..).mono fun r hr => hC.ofLeaf hr) (fun _ => ?_)
    exact OkP.ite (fun _ => (okP_parseNamedBackref ..).mono fun r hr => hC.ofLeaf hr)
      (fun _ => h.re_ st ix d)
  obtain ⟨next, condition, st1⟩ := r
  simp only
  refine OkP.bind (okP_checkForCloseParen re _ next) (fun next2 h4 => ?_)
  refine OkP.bind (h.re_ st1 next2 d) (fun r hr2 => ?_)
  obtain ⟨end_, child, st2⟩ := r
  simp only
  have hinner := condInner_match (isDigit b || b == ch '\'' || b == ch '<') condition
  refine OkP.ite (fun heq => ?_) (fun _ => ?_)
  · have heq' : end_ = next2 := by simpa using heq
    subst heq'
    split
    · refine OkP.bind (okP_checkForCloseParen re _ end_) (fun after h8 => ?_)
      exact hC.condDrop hr h4.1 hr2 h8.1
    · trivial
  · refine OkP.bind (P := fun br : Expr × Expr =>
        CondSplit child br.1 br.2 ∧ (st2.lastReHadAlt = false → br.1 = child)) ?_ (fun br hbr => ?_)
    · split
      · -- `Expr::Alt(alternatives) if has_else`
        rename_i alternatives helse
        cases alternatives with
        | nil => trivial
        | cons t rest =>
          simp only
          split
          · exact ⟨Or.inr ⟨_, rfl, Or.inl rfl⟩, by simp [helse]⟩
          · rename_i hnot
            exact ⟨Or.inr ⟨_, rfl, Or.inr ⟨rfl, fun e he => hnot e he⟩⟩, by simp [helse]⟩
      · exact ⟨Or.inl ⟨rfl, rfl⟩, fun _ => rfl⟩
    · refine OkP.bind (okP_checkForCloseParen re _ end_) (fun after h8 => ?_)
      refine OkP.ite (fun hc => ?_) (fun _ => ?_)
      · have hc' := (Bool.and_eq_true _ _).mp hc
        have hne : st2.lastReHadAlt = false := by simpa using hc'.1
        have hemp : child.isEmpty = true := by rw [← hbr.2 hne]; exact hc'.2
        exact hC.condOnly hr h4.1 hr2 hemp h8.1 hinner
      · exact hC.cond hix hr h4.1 h4.2 hr2 h8.1 hinner hbr.1

/-- **the induction over the recursive descent**: every fuel, byte string, state, index, depth -/
theorem descent (hC : Preserved re Q QA QB) (isAlnum : Char → Bool) :
    ∀ f, DescQ re isAlnum Q QA QB f := by
  intro f
  induction f with
  | zero =>
    constructor <;> intro st ix d
    · unfold parseRe; trivial
    · unfold reAltLoop; trivial
    · unfold parseBranch; trivial
    · unfold branchLoop; trivial
    · unfold parsePiece; trivial
    · unfold parseAtom; trivial
    · unfold parseGroup; trivial
    · unfold parseFlags; trivial
    · unfold parseConditional; trivial
  | succ f ih =>
    exact {
      re_ := stepQ_parseRe hC ih
      alt_ := stepQ_reAltLoop hC ih
      branch_ := stepQ_parseBranch hC ih
      bloop_ := stepQ_branchLoop hC ih
      piece_ := stepQ_parsePiece hC ih
      atom_ := stepQ_parseAtom hC ih
      group_ := stepQ_parseGroup hC ih
      flags_ := stepQ_parseFlags hC ih
      cond_ := stepQ_parseConditional hC ih }

end descent

/-! ## The name table as a function of the groups' names, in opening order -/

abbrev Name := List Nat
abbrev Names := List (List Nat × Nat)

/-- the table after the groups `base+1, base+2, …` have been opened, the `i`-th of them carrying
    the name `ann[i]` (or none): each named group does `named_groups.insert(name, curr_group)` -/
def bindNames (m : Names) (base : Nat) : List (Option Name) → Names
  | [] => m
  | none :: as => bindNames m (base + 1) as
  | some nm :: as => bindNames (namedInsert m nm (base + 1)) (base + 1) as

theorem bindNames_append (a1 : List (Option Name)) : ∀ (m : Names) (base : Nat) (a2 : List (Option Name)),
    bindNames m base (a1 ++ a2) = bindNames (bindNames m base a1) (base + a1.length) a2 := by
  induction a1 with
  | nil => intro m base a2; rfl
  | cons a as ih =>
    intro m base a2
    cases a with
    | none =>
      simp only [List.cons_append, bindNames, List.length_cons]
      rw [ih]; congr 1; omega
    | some nm =>
      simp only [List.cons_append, bindNames, List.length_cons]
      rw [ih]; congr 1; omega

/-- the group counter goes from `c` to `c' = c + n` and the table from `m` to `m'` by opening `n`
    groups in order -/
def Thr (c : Nat) (m : Names) (c' : Nat) (m' : Names) (n : Nat) : Prop :=
  c' = c + n ∧ ∃ ann : List (Option Name), ann.length = n ∧ m' = bindNames m c ann

theorem Thr.refl (c : Nat) (m : Names) : Thr c m c m 0 := ⟨rfl, [], rfl, rfl⟩

theorem Thr.trans {c c1 c2 : Nat} {m m1 m2 : Names} {n1 n2 : Nat} (h1 : Thr c m c1 m1 n1)
    (h2 : Thr c1 m1 c2 m2 n2) : Thr c m c2 m2 (n1 + n2) := by
  obtain ⟨e1, a1, l1, b1⟩ := h1
  obtain ⟨e2, a2, l2, b2⟩ := h2
  refine ⟨by omega, a1 ++ a2, by simp [l1, l2], ?_⟩
  rw [bindNames_append, ← b1, l1, ← e1]; exact b2

theorem Thr.cast {c c' : Nat} {m m' : Names} {n n' : Nat} (h : Thr c m c' m' n) (hn : n = n') :
    Thr c m c' m' n' := hn ▸ h

/-- opening an unnamed capture group -/
theorem Thr.group {c c' : Nat} {m m' : Names} {n : Nat} (h : Thr (c + 1) m c' m' n) :
    Thr c m c' m' (n + 1) := by
  obtain ⟨e, a, l, b⟩ := h
  exact ⟨by omega, none :: a, by simp [l], by simpa [bindNames] using b⟩

/-- opening a named capture group -/
theorem Thr.named {c c' : Nat} {m m' : Names} {n : Nat} (nm : Name)
    (h : Thr (c + 1) (namedInsert m nm (c + 1)) c' m' n) : Thr c m c' m' (n + 1) := by
  obtain ⟨e, a, l, b⟩ := h
  exact ⟨by omega, some nm :: a, by simp [l], by simpa [bindNames] using b⟩

/-- outcome of a descent function started at `ix` in state `st`: not to the left — strictly to the
    right when a group was opened —, the counter has advanced by the number of groups of the tree,
    the table has been extended by their names in opening order -/
def Inv (st : PState) (ix : Nat) (r : Nat × Expr × PState) : Prop :=
  ix ≤ r.1 ∧ (0 < groupCount r.2.1 → ix < r.1) ∧
    Thr st.currGroup st.namedGroups r.2.2.currGroup r.2.2.namedGroups (groupCount r.2.1)

/-- the same for the two loops -/
def InvL (st : PState) (ix : Nat) (r : Nat × List Expr × PState) : Prop :=
  ix ≤ r.1 ∧ (0 < groupCountList r.2.1 → ix < r.1) ∧
    Thr st.currGroup st.namedGroups r.2.2.currGroup r.2.2.namedGroups (groupCountList r.2.1)

theorem Inv.mono {st : PState} {ix ix' : Nat} {r : Nat × Expr × PState} (h : Inv st ix' r)
    (hle : ix ≤ ix') : Inv st ix r :=
  ⟨Nat.le_trans hle h.1, fun hp => Nat.lt_of_le_of_lt hle (h.2.1 hp), h.2.2⟩

/-- same groups, further right, same counter and table -/
theorem Inv.reshape {st st1 st' : PState} {ix ix1 ix' : Nat} {child e' : Expr}
    (h : Inv st ix (ix1, child, st1)) (hle : ix1 ≤ ix') (hc : groupCount e' = groupCount child)
    (hs : SameGroups st1 st') : Inv st ix (ix', e', st') := by
  obtain ⟨h1, h2, h3⟩ := h
  simp only at h1 h2 h3
  refine ⟨by simp only; omega, ?_, ?_⟩
  · simp only; rw [hc]; intro hp; have := h2 hp; omega
  · simp only; rw [hc, ← hs.1, ← hs.2]; exact h3

theorem inv_of_body {st : PState} {ix n : Nat} {r : Nat × Expr × PState} (hlt : ix < r.1)
    (he : groupCount r.2.1 = n)
    (hthr : Thr st.currGroup st.namedGroups r.2.2.currGroup r.2.2.namedGroups n) : Inv st ix r :=
  ⟨Nat.le_of_lt hlt, fun _ => hlt, he ▸ hthr⟩

/-- a node around a body parsed from `ix1` to `ix2`, with an opening byte before and a closing byte
    after it -/
theorem Inv.wrap {st st' st3 : PState} {ix ix1 ix2 ix3 n : Nat} {child e : Expr}
    (h : Inv st' ix1 (ix2, child, st3)) (hlt : ix < ix1) (h2 : ix2 < ix3) (he : groupCount e = n)
    (hthr : Thr st.currGroup st.namedGroups st3.currGroup st3.namedGroups n) :
    Inv st ix (ix3, e, st3) :=
  inv_of_body (Nat.lt_of_le_of_lt (Nat.le_trans (Nat.le_of_lt hlt) h.1) h2) he hthr

theorem invL_nil (st : PState) (ix : Nat) : InvL st ix (ix, [], st) :=
  ⟨Nat.le_refl _, fun hp => absurd hp (Nat.lt_irrefl 0), Thr.refl _ _⟩

/-- a node that consumed nothing holds no group -/
theorem Inv.count_eq_zero {st st1 : PState} {ix : Nat} {e : Expr} (h : Inv st ix (ix, e, st1)) :
    groupCount e = 0 := by
  rcases Nat.eq_zero_or_pos (groupCount e) with hz | hp
  · exact hz
  · exact absurd (h.2.1 hp) (Nat.lt_irrefl _)

theorem groupCount_of_isLeaf {e : Expr} (h : isLeaf e = true) : groupCount e = 0 := by
  cases e <;> first | rfl | cases h

theorem groupCount_of_isEmpty {e : Expr} (h : e.isEmpty = true) : groupCount e = 0 := by
  cases e <;> first | rfl | cases h

theorem groupCount_condInner {c inner : Expr} (h : CondInner c inner) :
    groupCount inner = groupCount c := by
  rcases h with rfl | ⟨g, rfl, rfl⟩ <;> rfl

theorem groupCount_condSplit {child b1 b2 : Expr} (h : CondSplit child b1 b2) :
    groupCount b1 + groupCount b2 = groupCount child := by
  rcases h with ⟨rfl, rfl⟩ | ⟨rest, rfl, rfl | ⟨rfl, _⟩⟩
  · rfl
  · simp only [groupCount, groupCountList, Nat.add_zero]
  · simp only [groupCount, groupCountList]

/-- the group numbering is preserved by every construction of the parser: `parse_group` increments
    before the body (pre-order), the condition of a conditional comes before its branches, and a
    dropped node consumed nothing, so it holds no group -/
theorem preserved16 (re : Bytes) : Preserved re Inv InvL InvL where
  leaf := fun {st st' ix ix' e} h1 h2 h4 => by
    have hz : groupCount e = 0 := groupCount_of_isLeaf h2
    refine ⟨h1, fun hp => ?_, ?_⟩
    · have hp' : 0 < groupCount e := hp
      omega
    · simp only [hz, ← h4.1, ← h4.2]; exact Thr.refl _ _
  endZ := fun hlt _ => ⟨Nat.le_of_lt hlt, fun _ => hlt, Thr.refl _ _⟩
  moved := fun {st0 st st1 st2 ix0 ix i1 i2 e} h h0 h1 hs0 hs1 => by
    have h' := (h.reshape h1 rfl hs1).mono h0
    refine ⟨h'.1, h'.2.1, ?_⟩
    rw [hs0.1, hs0.2]; exact h'.2.2
  alt := fun {st st1 st3 st4 ix ix1 ix2 ix3 child r1 rs} hc hle ha hs => by
    obtain ⟨h1, h2, h3⟩ := hc
    obtain ⟨h5, h6, h7⟩ := ha
    simp only at h1 h2 h3 h5 h6 h7
    refine ⟨by simp only; omega, ?_, ?_⟩
    · simp only [groupCount, groupCountList] at h6 ⊢; omega
    · simp only [groupCount, groupCountList, ← hs.1, ← hs.2] at h7 ⊢; exact h3.trans h7
  altNil := invL_nil _ _
  altCons := fun {st st1 st3 ix ix1 ix2 ix3 child rest} _ hc hle ha => by
    obtain ⟨h1, h2, h3⟩ := hc
    obtain ⟨h5, h6, h7⟩ := ha
    simp only at h1 h2 h3 h5 h6 h7
    refine ⟨by simp only; omega, ?_, ?_⟩
    · simp only [groupCountList]; omega
    · simp only [groupCountList]; exact h3.trans h7
  brNil := fun h => h
  brOne := fun h => h
  brCat := fun h => h
  blNil := invL_nil _ _
  blDrop := fun {st st1 ix child} h => by
    have h3 := h.2.2
    simp only [h.count_eq_zero] at h3
    exact ⟨Nat.le_refl _, fun hp => absurd hp (Nat.lt_irrefl 0), h3⟩
  blCons := fun {st st1 st3 ix next ix3 child rest} _ hc _ hb => by
    obtain ⟨h1, h2, h3⟩ := hc
    obtain ⟨h5, h6, h7⟩ := hb
    simp only at h1 h2 h3 h5 h6 h7
    have hcount : groupCountList (if child.isEmpty = true then rest else child :: rest) =
        groupCount child + groupCountList rest := by
      split
      · rename_i he; rw [groupCount_of_isEmpty he]; omega
      · simp only [groupCountList]
    refine ⟨by simp only; omega, ?_, ?_⟩
    · simp only; rw [hcount]; omega
    · simp only; rw [hcount]; exact h3.trans h7
  rep := fun _ _ _ h h1 _ h3 => h.reshape (by omega) rfl ⟨rfl, rfl⟩
  possessive := fun _ _ _ h h1 _ h3 => h.reshape (by omega) rfl ⟨rfl, rfl⟩
  look := fun _ _ hlt h h2 => h.wrap hlt h2 rfl h.2.2
  atomic := fun _ hlt h h2 => h.wrap hlt h2 rfl h.2.2
  group := fun _ hlt h h2 => h.wrap hlt h2 rfl (Thr.group h.2.2)
  named := fun nm _ hlt h h2 => h.wrap hlt h2 rfl (Thr.named nm h.2.2)
  condDrop := fun {st st1 st2 ix next next2 after g child} hc h4 hb h8 => by
    have h7 := hb.2.2
    simp only [hb.count_eq_zero] at h7
    exact inv_of_body (n := 0 + 0) (by have := hc.1; simp only at this ⊢; omega) rfl (hc.2.2.trans h7)
  condOnly := fun {st st1 st2 ix next next2 end_ after c inner child} hc h4 hb he h8 hin => by
    have h7 := hb.2.2
    simp only [groupCount_of_isEmpty he] at h7
    exact inv_of_body (n := groupCount c + 0)
      (by have := hc.1; have := hb.1; simp only at *; omega) (groupCount_condInner hin) (hc.2.2.trans h7)
  cond := fun {st st1 st2 ix next next2 end_ after c inner child b1 b2} _ hc h4 _ hb h8 hin hsp => by
    refine inv_of_body (n := groupCount c + groupCount child)
      (by have := hc.1; have := hb.1; simp only at *; omega) ?_ (hc.2.2.trans hb.2.2)
    simp only [groupCount, groupCount_condInner hin, ← groupCount_condSplit hsp, Nat.add_assoc]

/-- the induction hypothesis of the descent: all functions at fuel `f` -/
structure Desc16 (re : Bytes) (isAlnum : Char → Bool) (f : Nat) : Prop where
  re_ : ∀ st ix d, OkP (Inv st ix) (parseRe isAlnum f re st ix d)
  alt_ : ∀ st ix d, OkP (InvL st ix) (reAltLoop isAlnum f re st ix d)
  branch_ : ∀ st ix d, OkP (Inv st ix) (parseBranch isAlnum f re st ix d)
  bloop_ : ∀ st ix d, OkP (InvL st ix) (branchLoop isAlnum f re st ix d)
  piece_ : ∀ st ix d, OkP (Inv st ix) (parsePiece isAlnum f re st ix d)
  atom_ : ∀ st ix d, OkP (Inv st ix) (parseAtom isAlnum f re st ix d)
  group_ : ∀ st ix d, OkP (Inv st ix) (parseGroup isAlnum f re st ix d)
  flags_ : ∀ st ix d, OkP (Inv st ix) (parseFlags isAlnum f re st ix d)
  cond_ : ∀ st ix d, OkP (Inv st ix) (parseConditional isAlnum f re st ix d)

/-! ## What the table holds, in terms of the groups' names -/

theorem mem_namedInsert {m : Names} {n0 nm : Name} {v k : Nat} :
    (nm, k) ∈ namedInsert m n0 v ↔ (nm = n0 ∧ k = v) ∨ ((nm, k) ∈ m ∧ nm ≠ n0) := by
  simp only [namedInsert, List.mem_cons, Prod.mk.injEq, List.mem_filter, bne_iff_ne, ne_eq]

/-- **the table, entry by entry**: `(name, k)` is in the table after the groups `base+1, …` have
    been opened iff group `k` is one of them, carries that name, and no later group does — or the
    entry was there before and none of the new groups carries that name -/
theorem mem_bindNames (ann : List (Option Name)) : ∀ (m : Names) (base : Nat) (nm : Name) (k : Nat),
    (nm, k) ∈ bindNames m base ann ↔
      (base < k ∧ ann[k - base - 1]? = some (some nm) ∧ some nm ∉ ann.drop (k - base)) ∨
      ((nm, k) ∈ m ∧ some nm ∉ ann) := by
  induction ann with
  | nil => intro m base nm k; simp [bindNames]
  | cons a as ih =>
    intro m base nm k
    have hdrop : base + 1 < k → (a :: as).drop (k - base) = as.drop (k - (base + 1)) := by
      intro hk
      rw [show k - base = (k - (base + 1)) + 1 by omega, List.drop_succ_cons]
    have hget : base + 1 < k → (a :: as)[k - base - 1]? = as[k - (base + 1) - 1]? := by
      intro hk
      rw [show k - base - 1 = (k - (base + 1) - 1) + 1 by omega, List.getElem?_cons_succ]
    cases a with
    | none =>
      simp only [bindNames]
      rw [ih]
      constructor
      · rintro (⟨h1, h2, h3⟩ | ⟨h1, h2⟩)
        · exact Or.inl ⟨by omega, by rw [hget h1]; exact h2, by rw [hdrop h1]; exact h3⟩
        · exact Or.inr ⟨h1, by simpa using h2⟩
      · rintro (⟨h1, h2, h3⟩ | ⟨h1, h2⟩)
        · by_cases hk : base + 1 < k
          · exact Or.inl ⟨hk, by rw [← hget hk]; exact h2, by rw [← hdrop hk]; exact h3⟩
          · have : k - base - 1 = 0 := by omega
            rw [this] at h2; simp at h2
        · exact Or.inr ⟨h1, by simpa using h2⟩
    | some n0 =>
      simp only [bindNames]
      rw [ih, mem_namedInsert]
      constructor
      · rintro (⟨h1, h2, h3⟩ | ⟨(⟨h1, h2⟩ | ⟨h1, h2⟩), h3⟩)
        · exact Or.inl ⟨by omega, by rw [hget h1]; exact h2, by rw [hdrop h1]; exact h3⟩
        · subst h1; subst h2
          refine Or.inl ⟨by omega, by simp, ?_⟩
          rw [show base + 1 - base = 1 by omega]
          simpa using h3
        · refine Or.inr ⟨h1, ?_⟩
          simp only [List.mem_cons, Option.some.injEq, not_or]
          exact ⟨h2, h3⟩
      · rintro (⟨h1, h2, h3⟩ | ⟨h1, h2⟩)
        · by_cases hk : base + 1 < k
          · exact Or.inl ⟨hk, by rw [← hget hk]; exact h2, by rw [← hdrop hk]; exact h3⟩
          · have hk1 : k = base + 1 := by omega
            subst hk1
            rw [show base + 1 - base - 1 = 0 by omega] at h2
            rw [show base + 1 - base = 1 by omega] at h3
            simp only [List.getElem?_cons_zero, Option.some.injEq] at h2
            subst h2
            exact Or.inr ⟨Or.inl ⟨rfl, rfl⟩, by simpa using h3⟩
        · simp only [List.mem_cons, Option.some.injEq, not_or] at h2
          exact Or.inr ⟨Or.inr ⟨h1, h2.1⟩, h2.2⟩

/-- the table is an association list: no name twice -/
theorem namedInsert_nodup {m : Names} (h : (m.map (·.1)).Nodup) (nm : Name) (v : Nat) :
    ((namedInsert m nm v).map (·.1)).Nodup := by
  simp only [namedInsert, List.map_cons, List.nodup_cons, List.mem_map, List.mem_filter,
    bne_iff_ne, ne_eq, not_exists, not_and]
  refine ⟨fun e he => fun h2 => he.2 h2, ?_⟩
  exact (List.Nodup.sublist (List.Sublist.map _ List.filter_sublist) h)

theorem bindNames_nodup (ann : List (Option Name)) : ∀ (m : Names) (base : Nat),
    (m.map (·.1)).Nodup → ((bindNames m base ann).map (·.1)).Nodup := by
  induction ann with
  | nil => intro m base h; exact h
  | cons a as ih =>
    intro m base h
    cases a with
    | none => exact ih m _ h
    | some nm => exact ih _ _ (namedInsert_nodup h nm _)

/-! ## Part 1 — the parser's group counter is the analyzer's numbering -/

/-- **C16_descent**: the invariant of the recursive descent — for every byte string, fuel, state,
    index and depth, each of the nine functions of the descent, when it returns `ok (ix', e, st')`,
    has advanced `curr_group` by exactly the number of capture groups of `e`
    (`st'.currGroup = st.currGroup + groupCount e`: look-arounds, atomic groups, flag groups and
    conditionals do not count), has extended `named_groups` by the names of those groups bound to
    their numbers in opening (pre-)order, and has not moved left (and has moved right if `e` holds
    a group — which is why the two places where the parser DROPS a parsed node, `next == ix` in
    `parse_branch` and `end == next` in `parse_conditional`, lose no group) -/
theorem C16_descent (re : Bytes) (isAlnum : Char → Bool) (f : Nat) : Desc16 re isAlnum f :=
  have h := descent (preserved16 re) isAlnum f
  { re_ := h.re_
    alt_ := fun st ix d => (h.alt_ st ix d).mono fun _ hr => hr.1
    branch_ := h.branch_
    bloop_ := h.bloop_
    piece_ := h.piece_
    atom_ := h.atom_
    group_ := h.group_
    flags_ := h.flags_
    cond_ := h.cond_ }

/-- `parse_re` in plain words -/
theorem C16_parseRe_counter (isAlnum : Char → Bool) (re : Bytes) (f : Nat) (st st' : PState)
    (ix d ix' : Nat) (e : Expr) (h : parseRe isAlnum f re st ix d = .ok (ix', e, st')) :
    st'.currGroup = st.currGroup + groupCount e ∧
    ∃ ann : List (Option Name), ann.length = groupCount e ∧
      st'.namedGroups = bindNames st.namedGroups st.currGroup ann :=
  (((C16_descent re isAlnum f).re_ st ix d).of_eq h).2.2

theorem parseBytes_ok {isAlnum : Char → Bool} {re : Bytes} {casei : Bool} {t : Tree}
    (h : parseBytes isAlnum re casei = .ok t) :
    ∃ ix st, parseRe isAlnum (descentFuel re.size) re { flags := { casei := casei } } 0 0 =
        .ok (ix, t.expr, st) ∧ t.namedGroups = st.namedGroups ∧ t.backrefs = st.backrefs := by
  unfold parseBytes at h
  simp only at h
  split at h
  · rename_i ix e st heq
    split at h
    · cases h
    · cases h
      exact ⟨ix, st, heq, rfl, rfl⟩
  all_goals cases h

/-- **C16_parse_counter**: for every pattern that parses, the parser's final `curr_group` is the
    number of capture groups of the tree — the number the analyzer's numbering (`renumber`,
    `checkRefs`: `C16_renumber_count`, `C16_checkRefs_count`) ends at. (`Tree` does not keep the
    counter, so the statement exhibits the final state of `parse_re`.) -/
theorem C16_parse_counter (isAlnum : Char → Bool) (cs : List Char) (casei : Bool) (t : Tree)
    (h : parseStr isAlnum cs casei = .ok t) :
    ∃ ix st, parseRe isAlnum (descentFuel (bytesOf cs).size) (bytesOf cs)
        { flags := { casei := casei } } 0 0 = .ok (ix, t.expr, st) ∧
      t.namedGroups = st.namedGroups ∧ st.currGroup = groupCount t.expr ∧
      (renumber t.expr 1).2 = st.currGroup + 1 := by
  obtain ⟨ix, st, hre, hn, _⟩ := parseBytes_ok h
  have := (C16_parseRe_counter isAlnum _ _ _ _ _ _ _ _ hre).1
  simp only [Nat.zero_add] at this
  exact ⟨ix, st, hre, hn, this, by rw [C16_renumber_count, this]; omega⟩

/-- **C16_names_at_index**: for every pattern that parses there is the list `ann` of the names of
    its capture groups in opening-parenthesis order (`ann[i]` = the name, if any, written at the
    `(i+1)`-th capture group), one entry per group of the tree, and the name table is exactly what
    binding each name to its group's number yields (`bindNames [] 0 ann`: a later group with the
    same name takes the name over, as `HashMap::insert` does). -/
theorem C16_names_at_index (isAlnum : Char → Bool) (cs : List Char) (casei : Bool) (t : Tree)
    (h : parseStr isAlnum cs casei = .ok t) :
    ∃ ann : List (Option Name), ann.length = groupCount t.expr ∧
      t.namedGroups = bindNames [] 0 ann := by
  obtain ⟨ix, st, hre, hn, _⟩ := parseBytes_ok h
  obtain ⟨_, ann, hl, hb⟩ := C16_parseRe_counter isAlnum _ _ _ _ _ _ _ _ hre
  exact ⟨ann, hl, by rw [hn, hb]⟩

/-- the table `bindNames [] 0 ann`, entry by entry: `(name, k)` is an entry iff `1 ≤ k`, the `k`-th
    group carries that name and no later group does -/
theorem mem_bindNames_top (ann : List (Option Name)) (nm : Name) (k : Nat) :
    (nm, k) ∈ bindNames [] 0 ann ↔
      0 < k ∧ ann[k - 1]? = some (some nm) ∧ some nm ∉ ann.drop k := by
  rw [mem_bindNames]
  simp

/-- **C16_names_range**: every entry `(name, k)` of the table has `1 ≤ k ≤ number of capture
    groups`: `names[i] = Some(name)` in `capture_names` never indexes out of bounds, and `k` is the
    number `renumber _ 1` gives to a group of the tree -/
theorem C16_names_range (isAlnum : Char → Bool) (cs : List Char) (casei : Bool) (t : Tree)
    (h : parseStr isAlnum cs casei = .ok t) (nm : Name) (k : Nat) (hk : (nm, k) ∈ t.namedGroups) :
    1 ≤ k ∧ k ≤ groupCount t.expr := by
  obtain ⟨ann, hl, hb⟩ := C16_names_at_index isAlnum cs casei t h
  rw [hb, mem_bindNames_top] at hk
  obtain ⟨h1, h2, _⟩ := hk
  have : k - 1 < ann.length := by
    rcases Nat.lt_or_ge (k - 1) ann.length with h | h
    · exact h
    · rw [List.getElem?_eq_none h] at h2; cases h2
  omega

/-- **C16_names_distinct**: the table is a map in both directions — no name has two entries (a name
    written at two groups belongs to the LATER one only), and no group number has two names -/
theorem C16_names_distinct (isAlnum : Char → Bool) (cs : List Char) (casei : Bool) (t : Tree)
    (h : parseStr isAlnum cs casei = .ok t) :
    (t.namedGroups.map (·.1)).Nodup ∧
    (∀ nm k1 k2, (nm, k1) ∈ t.namedGroups → (nm, k2) ∈ t.namedGroups → k1 = k2) ∧
    (∀ n1 n2 k, (n1, k) ∈ t.namedGroups → (n2, k) ∈ t.namedGroups → n1 = n2) := by
  obtain ⟨ann, hl, hb⟩ := C16_names_at_index isAlnum cs casei t h
  rw [hb]
  refine ⟨bindNames_nodup ann [] 0 (by simp), ?_, ?_⟩
  · have key : ∀ nm k1 k2, k1 < k2 → (nm, k1) ∈ bindNames [] 0 ann → (nm, k2) ∈ bindNames [] 0 ann →
        False := by
      intro nm k1 k2 hlt h1 h2
      rw [mem_bindNames_top] at h1 h2
      apply h1.2.2
      have hmem := List.mem_of_getElem? h2.2.1
      have h3 : (ann.drop k1)[k2 - 1 - k1]? = some (some nm) := by
        rw [List.getElem?_drop, show k1 + (k2 - 1 - k1) = k2 - 1 by omega]; exact h2.2.1
      exact List.mem_of_getElem? h3
    intro nm k1 k2 h1 h2
    rcases Nat.lt_trichotomy k1 k2 with hlt | heq | hgt
    · exact (key nm k1 k2 hlt h1 h2).elim
    · exact heq
    · exact (key nm k2 k1 hgt h2 h1).elim
  · intro n1 n2 k h1 h2
    rw [mem_bindNames_top] at h1 h2
    have := h1.2.1.symm.trans h2.2.1
    simpa using this

/-! ### the numbers `renumber` hands out, in pre-order -/

mutual
/-- the numbers of the `.group` nodes of a tree, in pre-order (opening-parenthesis order; the
    order of `renumber`: condition, then-branch, else-branch for a conditional) -/
def groupNums : Expr → List Nat
  | .group g e => g :: groupNums e
  | .concat es => groupNumsList es
  | .alt es => groupNumsList es
  | .look e _ => groupNums e
  | .repeat e _ _ _ => groupNums e
  | .atomic e => groupNums e
  | .cond c y f => groupNums c ++ (groupNums y ++ groupNums f)
  | _ => []
def groupNumsList : List Expr → List Nat
  | [] => []
  | e :: es => groupNums e ++ groupNumsList es
end

mutual
theorem groupNums_renumber (e : Expr) (n : Nat) :
    groupNums (renumber e n).1 = List.range' n (groupCount e) := by
  cases e with
  | group g c =>
    simp only [renumber, groupNums, groupCount]
    rw [groupNums_renumber c (n + 1), List.range'_succ]
  | concat es => simp only [renumber, groupNums, groupCount]; exact groupNumsList_renumber es n
  | alt es => simp only [renumber, groupNums, groupCount]; exact groupNumsList_renumber es n
  | look c la => simp only [renumber, groupNums, groupCount]; exact groupNums_renumber c n
  | «repeat» c lo hi g => simp only [renumber, groupNums, groupCount]; exact groupNums_renumber c n
  | atomic c => simp only [renumber, groupNums, groupCount]; exact groupNums_renumber c n
  | cond c y f =>
    simp only [renumber, groupNums, groupCount]
    rw [groupNums_renumber c, groupNums_renumber y, groupNums_renumber f, renumber_snd y,
      renumber_snd c, List.range'_append_1, List.range'_append_1, Nat.add_assoc]
  | empty | any _ | assertion _ | literal _ _ | delegate _ _ _ | backref _ | keepOut | contPrev
  | backrefExists _ | subroutine _ => simp [renumber, groupNums, groupCount]
theorem groupNumsList_renumber (es : List Expr) (n : Nat) :
    groupNumsList (renumberList es n).1 = List.range' n (groupCountList es) := by
  cases es with
  | nil => simp [renumberList, groupNumsList, groupCountList]
  | cons e es =>
    simp only [renumberList, groupNumsList, groupCountList]
    rw [groupNums_renumber e, groupNumsList_renumber es, renumber_snd e, List.range'_append_1]
end

/-- **C16_preorder**: the analyzer numbers the capture groups `n, n+1, …` in pre-order; with
    `C16_names_at_index` (`ann[i]` is the name written at the `(i+1)`-th capture group in opening
    order, bound to `i + 1`): in `(renumber t.expr 1).1` the `(i+1)`-th group in pre-order — the
    one `ann[i]` belongs to — has number `i + 1` -/
theorem C16_preorder (e : Expr) (n i : Nat) (h : i < groupCount e) :
    (groupNums (renumber e n).1)[i]? = some (n + i) := by
  rw [groupNums_renumber, List.getElem?_range' h]; simp

/-! ### the source-level fact: which group a name is bound to -/

/-- what `parse_group` returns at a named group whose name is `nm`: a capture group, the counter
    advanced by it and the groups inside, the table extended by `nm` and then their names -/
def NamedOut (st : PState) (nm : Name) (r : Nat × Expr × PState) : Prop :=
  ∃ child annC, r.2.1 = .group 0 child ∧ annC.length = groupCount child ∧
    r.2.2.currGroup = st.currGroup + 1 + groupCount child ∧
    r.2.2.namedGroups = bindNames st.namedGroups st.currGroup (some nm :: annC)

/-- `parse_group` at `(?<name>` (`p = false`) or `(?P<name>` (`p = true`) -/
theorem okP_named_group (isAlnum : Char → Bool) {re : Bytes} (f : Nat) (st : PState)
    {ix d ix1 a b skip : Nat} (p : Bool)
    (hws : optWs re st.flags (ix + 1) = .ok ix1) (hlook : lookOf re ix1 = none)
    (hs : startsWithAt re ix1 [ch '?', ch '<'] = !p)
    (hsP : p = true → startsWithAt re ix1 [ch '?', ch 'P', ch '<'] = true)
    (hid : parseId isAlnum re (ix1 + (if p then 2 else 1)) [ch '<'] [ch '>'] false =
      .ok (some (a, b, skip))) :
    OkP (NamedOut st (re.extract a b).toList) (parseGroup isAlnum (f + 1) re st ix d) := by
  have hsk := (okP_parseId isAlnum re _ [ch '<'] [ch '>'] false).of_eq hid _ _ _ rfl
  simp only [List.length_cons, List.length_nil] at hsk
  unfold parseGroup
  refine OkP.ite (fun _ => trivial) (fun _ => ?_)
  refine OkP.bind (P := fun i => i = ix1) (by rw [hws]; rfl) (fun i hi => ?_)
  subst hi
  refine OkP.bind OkP.trivial (fun _ _ => ?_)
  extract_lets body st2
  -- the common tail after the name: `parse_re`, the `)`, and `Group` since `skip ≠ 2`
  have named : ∀ k, 0 < k → OkP (NamedOut st (re.extract a b).toList) (body none (skip + k)
      { st2 with namedGroups := namedInsert st2.namedGroups (re.extract a b).toList st2.currGroup }) := by
    intro k hk
    simp only [body]
    refine OkP.bind (C16_descent re isAlnum f |>.re_ _ _ _) (fun r hr => ?_)
    obtain ⟨ix2, child, st3⟩ := r
    obtain ⟨hc, annC, hl, hb⟩ := hr.2.2
    refine OkP.bind OkP.trivial (fun ix3 _ => ?_)
    have hne : (skip + k == 2) = false := by simp; omega
    simp only [hne]
    exact ⟨child, annC, rfl, hl, by simp only [st2] at hc ⊢; omega, hb⟩
  clear_value body
  rw [hlook]
  cases p with
  | false =>
    simp only [Bool.not_false] at hs
    simp only [hs, if_true]
    refine OkP.bind OkP.trivial (fun _ _ => ?_)
    have hid' : parseId isAlnum re (i + 1) [ch '<'] [ch '>'] false = .ok (some (a, b, skip)) := hid
    refine OkP.bind (P := fun r => r = some (a, b, skip)) (by rw [hid']; rfl) (fun r hr => ?_)
    subst hr
    exact named 1 (by omega)
  | true =>
    simp only [Bool.not_true] at hs
    simp only [hs, hsP rfl, if_true, Bool.false_eq_true, if_false]
    refine OkP.bind OkP.trivial (fun _ _ => ?_)
    have hid' : parseId isAlnum re (i + 2) [ch '<'] [ch '>'] false = .ok (some (a, b, skip)) := hid
    refine OkP.bind (P := fun r => r = some (a, b, skip)) (by rw [hid']; rfl) (fun r hr => ?_)
    subst hr
    exact named 2 (by omega)

/-- **C16_named_group**: the source-level fact behind `ann`. When `parse_group` stands at `(?<name>`
    (after the optional white space: `hws`; not a look-behind: `hlook`; `parse_id` reads the name
    `re[a..b]`: `hid`) and succeeds, it returns a CAPTURE group `Group(child)`, the counter has
    advanced by `1 + groupCount child`, and the table is the old one extended by
    `name ↦ curr_group + 1` — the number `renumber` gives this very node, its opening parenthesis
    being the `(curr_group + 1)`-th — followed by the names of the groups inside `child` -/
theorem C16_named_group (isAlnum : Char → Bool) {re : Bytes} (f : Nat) (st st' : PState)
    {ix d ix1 a b skip ix' : Nat} {e : Expr}
    (hws : optWs re st.flags (ix + 1) = .ok ix1) (hlook : lookOf re ix1 = none)
    (hs : startsWithAt re ix1 [ch '?', ch '<'] = true)
    (hid : parseId isAlnum re (ix1 + 1) [ch '<'] [ch '>'] false = .ok (some (a, b, skip)))
    (h : parseGroup isAlnum (f + 1) re st ix d = .ok (ix', e, st')) :
    ∃ child annC, e = .group 0 child ∧ annC.length = groupCount child ∧
      st'.currGroup = st.currGroup + 1 + groupCount child ∧
      st'.namedGroups = bindNames st.namedGroups st.currGroup
        (some (re.extract a b).toList :: annC) :=
  (okP_named_group isAlnum f st false hws hlook hs (fun h => nomatch h) hid).of_eq h

/-- the same for the `(?P<name>` spelling -/
theorem C16_named_group_P (isAlnum : Char → Bool) {re : Bytes} (f : Nat) (st st' : PState)
    {ix d ix1 a b skip ix' : Nat} {e : Expr}
    (hws : optWs re st.flags (ix + 1) = .ok ix1) (hlook : lookOf re ix1 = none)
    (hs1 : startsWithAt re ix1 [ch '?', ch '<'] = false)
    (hs : startsWithAt re ix1 [ch '?', ch 'P', ch '<'] = true)
    (hid : parseId isAlnum re (ix1 + 2) [ch '<'] [ch '>'] false = .ok (some (a, b, skip)))
    (h : parseGroup isAlnum (f + 1) re st ix d = .ok (ix', e, st')) :
    ∃ child annC, e = .group 0 child ∧ annC.length = groupCount child ∧
      st'.currGroup = st.currGroup + 1 + groupCount child ∧
      st'.namedGroups = bindNames st.namedGroups st.currGroup
        (some (re.extract a b).toList :: annC) :=
  (okP_named_group isAlnum f st true hws hlook hs1 (fun _ => hs) hid).of_eq h

/-! ## The model of `capture_names` -/

/-- one `names[i] = Some(name)` of `capture_names`; `none` is the index-out-of-bounds panic -/
def captureNamesStep (acc : Option (List (Option Name))) (e : Name × Nat) :
    Option (List (Option Name)) :=
  match acc with
  | none => none
  | some v => if e.2 < v.length then some (v.set e.2 (some e.1)) else none

/-- `Regex::capture_names` (src/lib.rs): `names.resize(captures_len, None)`, then
    `names[i] = Some(name)` for every entry `(name, i)` of `named_groups`, in the order `order` in
    which the `HashMap` iterates (unspecified: the theorems hold for every order) -/
def captureNames (order : Names) (len : Nat) : Option (List (Option Name)) :=
  order.foldl captureNamesStep (some (List.replicate len none))

theorem captureNames_fold (len : Nat) : ∀ (order : Names) (v0 : List (Option Name)),
    v0.length = len → (∀ e ∈ order, e.2 < len) →
    (∀ e1 ∈ order, ∀ e2 ∈ order, e1.2 = e2.2 → e1.1 = e2.1) →
    ∃ v, order.foldl captureNamesStep (some v0) = some v ∧ v.length = len ∧
      ∀ k nm, v[k]? = some (some nm) ↔
        ((nm, k) ∈ order ∨ (v0[k]? = some (some nm) ∧ ∀ e ∈ order, e.2 ≠ k)) := by
  intro order
  induction order with
  | nil => intro v0 hl _ _; exact ⟨v0, rfl, hl, by simp⟩
  | cons e es ih =>
    intro v0 hl hlt hinj
    have he : e.2 < v0.length := by rw [hl]; exact hlt e (List.mem_cons_self ..)
    simp only [List.foldl_cons, captureNamesStep, he, if_true]
    obtain ⟨v, hv, hvl, hiff⟩ := ih (v0.set e.2 (some e.1)) (by simp [hl])
      (fun e' h' => hlt e' (List.mem_cons_of_mem _ h'))
      (fun e1 h1 e2 h2 => hinj e1 (List.mem_cons_of_mem _ h1) e2 (List.mem_cons_of_mem _ h2))
    refine ⟨v, hv, hvl, fun k nm => ?_⟩
    rw [hiff, List.getElem?_set]
    constructor
    · rintro (h | ⟨h1, h2⟩)
      · exact Or.inl (List.mem_cons_of_mem _ h)
      · by_cases hk : e.2 = k
        · simp only [hk, if_true] at h1
          split at h1
          · simp only [Option.some.injEq] at h1
            left
            have : e = (nm, k) := Prod.ext h1 hk
            rw [this]; exact List.mem_cons_self ..
          · cases h1
        · simp only [hk, if_false] at h1
          refine Or.inr ⟨h1, fun e' he' => ?_⟩
          rcases List.mem_cons.mp he' with rfl | h'
          · exact hk
          · exact h2 e' h'
    · rintro (h | ⟨h1, h2⟩)
      · rcases List.mem_cons.mp h with heq | h'
        · by_cases hex : ∃ e' ∈ es, e'.2 = k
          · obtain ⟨e', he', hk'⟩ := hex
            left
            have h1 : e'.1 = nm := by
              have := hinj e' (List.mem_cons_of_mem _ he') e (List.mem_cons_self ..)
                (by rw [hk', ← heq])
              rw [this, ← heq]
            have : e' = (nm, k) := Prod.ext h1 hk'
            rw [← this]; exact he'
          · right
            have hk : e.2 = k := by rw [← heq]
            have h1 : e.1 = nm := by rw [← heq]
            refine ⟨by subst hk; subst h1; simp [he], fun e' he' hk' => hex ⟨e', he', hk'⟩⟩
        · exact Or.inl h'
      · have hk : e.2 ≠ k := h2 e (List.mem_cons_self ..)
        right
        refine ⟨by simp only [hk, if_false]; exact h1, fun e' he' => h2 e' (List.mem_cons_of_mem _ he')⟩

/-- the model of `capture_names` on any table whose indices are in range and distinct per name:
    no panic, `len` entries, entry `k` is `Some(name)` exactly for the entries `(name, k)` of the
    table — whatever the iteration order -/
theorem captureNames_spec (order : Names) (len : Nat) (hlt : ∀ e ∈ order, e.2 < len)
    (hinj : ∀ e1 ∈ order, ∀ e2 ∈ order, e1.2 = e2.2 → e1.1 = e2.1) :
    ∃ v, captureNames order len = some v ∧ v.length = len ∧
      ∀ k nm, v[k]? = some (some nm) ↔ (nm, k) ∈ order := by
  obtain ⟨v, hv, hl, hiff⟩ := captureNames_fold len order (List.replicate len none) (by simp) hlt hinj
  refine ⟨v, hv, hl, fun k nm => ?_⟩
  rw [hiff, List.getElem?_replicate]
  constructor
  · rintro (h | ⟨h1, _⟩)
    · exact h
    · split at h1 <;> cases h1
  · exact Or.inl

/-! ## Part 2 — `capture_names` -/

/-- **C16_names_model**: for every pattern that parses and builds (on the Wrap and on the Fancy
    path alike: `captures_len` is `b.nGroups`, `C16_len`), and for every iteration order of the
    `HashMap` (`order` a permutation of the table), `capture_names`
    * does not panic (`names[i] = …` is always in bounds),
    * yields `captures_len = 1 + number of capture groups` entries,
    * entry 0 is `None`,
    * entry `k` is `Some(name)` iff `(name, k)` is in the table (so the result does not depend on
      the order), and
    * in terms of the pattern: entry `i + 1` is `Some(name)` iff the `(i+1)`-th capture group (the
      one `renumber` numbers `i + 1`, `C16_preorder`) is written with that name (`ann[i]`) and no
      later group is: a name written twice names the LATER group only, the earlier one is
      reported as unnamed. -/
theorem C16_names_model (isAlnum : Char → Bool) (cs : List Char) (casei : Bool) (t : Tree)
    (h : parseStr isAlnum cs casei = .ok t) (b : Built) (hb : build t.expr t.backrefs = .ok b)
    (order : Names) (hperm : order.Perm t.namedGroups) :
    ∃ v, captureNames order b.nGroups = some v ∧
      v.length = b.nGroups ∧ v.length = 1 + groupCount t.expr ∧
      v[0]? = some none ∧
      (∀ k nm, v[k]? = some (some nm) ↔ (nm, k) ∈ t.namedGroups) ∧
      ∃ ann : List (Option Name), ann.length = groupCount t.expr ∧
        ∀ i nm, v[i + 1]? = some (some nm) ↔
          (ann[i]? = some (some nm) ∧ some nm ∉ ann.drop (i + 1)) := by
  have hlen := C16_len t.expr t.backrefs b hb
  obtain ⟨hnd, hfun, hinj⟩ := C16_names_distinct isAlnum cs casei t h
  obtain ⟨v, hv, hl, hiff⟩ := captureNames_spec order b.nGroups
    (fun e he => by
      have := C16_names_range isAlnum cs casei t h e.1 e.2 (hperm.mem_iff.mp he)
      omega)
    (fun e1 h1 e2 h2 heq => by
      have m1 : (e1.1, e1.2) ∈ t.namedGroups := hperm.mem_iff.mp h1
      have m2 : (e2.1, e1.2) ∈ t.namedGroups := by rw [heq]; exact hperm.mem_iff.mp h2
      exact hinj _ _ _ m1 m2)
  have hiff' : ∀ k nm, v[k]? = some (some nm) ↔ (nm, k) ∈ t.namedGroups :=
    fun k nm => (hiff k nm).trans hperm.mem_iff
  refine ⟨v, hv, hl, by omega, ?_, hiff', ?_⟩
  · have h0 : 0 < v.length := by omega
    rw [List.getElem?_eq_getElem h0]
    cases hx : v[0] with
    | none => rfl
    | some nm =>
      have : v[0]? = some (some nm) := by rw [List.getElem?_eq_getElem h0, hx]
      have := C16_names_range isAlnum cs casei t h nm 0 ((hiff' 0 nm).mp this)
      omega
  · obtain ⟨ann, hal, hab⟩ := C16_names_at_index isAlnum cs casei t h
    refine ⟨ann, hal, fun i nm => ?_⟩
    rw [hiff', hab, mem_bindNames_top]
    simp

end Fancy.Parse

namespace Fancy
open Fancy.Parse

/-! ## The model of `Captures` -/

/-- what `Captures::get` returns -/
inductive Got where
  /-- `None` -/
  | absent
  /-- `Some(Match { start, end })` -/
  | span (start end_ : Nat)
  /-- `saves[slot + 1]` out of bounds -/
  | panic
deriving DecidableEq, Repr

/-- `Captures` on the VM path (`CapturesImpl::Fancy { saves }`, after `saves.truncate(n_groups * 2)`)
    as the model's slot list (`none` = `usize::MAX`), with the `named_groups` it shares with the
    `Regex`.  On the Wrap path the same slot list stands for regex-automata's `Captures`
    (assumption A-RA). -/
structure Caps where
  slots : List (Option Nat)
  names : Names

/-- `Captures::len`: `saves.len() / 2` -/
def Caps.len (c : Caps) : Nat := c.slots.length / 2

/-- `Captures::get(i)` -/
def Caps.get (c : Caps) (i : Nat) : Got :=
  if i * 2 ≥ c.slots.length then .absent
  else
    match c.slots[i * 2]? with
    | some (some lo) =>
      match c.slots[i * 2 + 1]? with
      | some hi => .span lo (hi.getD UNSET)
      | none => .panic
    | _ => .absent

/-- `Captures::name(name)`: `self.named_groups.get(name).and_then(|i| self.get(*i))` -/
def Caps.name (c : Caps) (nm : Name) : Got :=
  match namedGet c.names nm with
  | some i => c.get i
  | none => .absent

/-- `SubCaptureMatches { caps, i }` drained: `next` yields `get(i)` while `i < len` -/
def Caps.iterFrom (c : Caps) (i : Nat) : List Got :=
  if i < c.len then c.get i :: c.iterFrom (i + 1) else []
termination_by c.len - i

/-- `Captures::iter()`, collected -/
def Caps.iter (c : Caps) : List Got := c.iterFrom 0

theorem Caps.iterFrom_eq (c : Caps) : ∀ (k i : Nat), c.len - i = k →
    c.iterFrom i = (List.range' i k).map c.get := by
  intro k
  induction k with
  | zero =>
    intro i h
    rw [Caps.iterFrom, if_neg (by omega)]; rfl
  | succ k ih =>
    intro i h
    rw [Caps.iterFrom, if_pos (by omega), ih (i + 1) (by omega), List.range'_succ]; rfl

theorem Caps.iter_eq (c : Caps) : c.iter = (List.range c.len).map c.get := by
  rw [Caps.iter, c.iterFrom_eq c.len 0 (by omega), List.range_eq_range']

/-- a unique key is found -/
theorem namedGet_of_mem : ∀ (m : Names) (nm : Name) (k : Nat), (m.map (·.1)).Nodup → (nm, k) ∈ m →
    namedGet m nm = some k := by
  intro m
  induction m with
  | nil => intro nm k _ h; cases h
  | cons e es ih =>
    intro nm k hnd h
    simp only [List.map_cons, List.nodup_cons] at hnd
    unfold namedGet
    rcases List.mem_cons.mp h with rfl | h'
    · simp
    · have hne : (e.1 == nm) = false := by
        apply Bool.eq_false_iff.mpr
        intro heq
        have : e.1 = nm := by simpa using heq
        exact hnd.1 (this ▸ List.mem_map.mpr ⟨(nm, k), h', rfl⟩)
      rw [List.find?_cons_of_neg (by simp [hne])]
      exact ih nm k hnd.2 h'

theorem namedGet_none : ∀ (m : Names) (nm : Name), (∀ k, (nm, k) ∉ m) → namedGet m nm = none := by
  intro m nm h
  unfold namedGet
  rw [List.find?_eq_none.mpr]
  · rfl
  · intro e he heq
    have : e.1 = nm := by simpa using heq
    exact h e.2 (this ▸ he)

/-! ## Part 3 — the accessors of `Captures` -/

/-- **C16_caps_accessors**: the accessor laws, for every `Captures` value with `2 * n` slots:
    `len = n`; `iter()` yields `len()` items, the `i`-th being `get(i)`; `get(i)` is `None` for
    `i ≥ len`; `get` never indexes out of bounds; `name(n) = get(k)` for the entry `(n, k)` of the
    name table (unique keys), and `None` for a name not in the table -/
theorem C16_caps_accessors (c : Caps) (n : Nat) (hlen : c.slots.length = 2 * n) :
    c.len = n ∧ c.iter.length = c.len ∧ (∀ i, i < c.len → c.iter[i]? = some (c.get i)) ∧
    (∀ i, c.len ≤ i → c.get i = .absent) ∧ (∀ i, c.get i ≠ .panic) ∧
    ((c.names.map (·.1)).Nodup → ∀ nm k, (nm, k) ∈ c.names → c.name nm = c.get k) ∧
    (∀ nm, (∀ k, (nm, k) ∉ c.names) → c.name nm = .absent) := by
  have hl : c.len = n := by unfold Caps.len; omega
  refine ⟨hl, by rw [c.iter_eq]; simp, ?_, ?_, ?_, ?_, ?_⟩
  · intro i hi
    rw [c.iter_eq, List.getElem?_map, List.getElem?_range hi]; rfl
  · intro i hi
    unfold Caps.get
    rw [if_pos (by omega)]
  · intro i
    unfold Caps.get
    split
    · simp
    · rename_i hlt
      have h1 : i * 2 + 1 < c.slots.length := by omega
      split
      · rw [List.getElem?_eq_getElem h1]; simp
      · simp
  · intro hnd nm k hk
    unfold Caps.name
    rw [namedGet_of_mem c.names nm k hnd hk]
  · intro nm h
    unfold Caps.name
    rw [namedGet_none c.names nm h]

/-- the laws of property C16 about one `Captures` value `c` of a regex with `n = captures_len`
    groups, found by a search in context `ctx` -/
structure CapsLaws (ctx : Ctx) (c : Caps) (n : Nat) : Prop where
  /-- `Captures::len() = Regex::captures_len()` -/
  len : c.len = n
  /-- `get(0)` is `Some`: the overall match, `pos ≤ start ≤ end ≤ len(text)` -/
  get0 : ∃ s e, c.get 0 = .span s e ∧ ctx.pos ≤ s ∧ s ≤ e ∧ e ≤ ctx.len
  /-- `iter()` yields `len()` items … -/
  iter_len : c.iter.length = c.len
  /-- … the `i`-th being `get(i)` -/
  iter_get : ∀ i, i < c.len → c.iter[i]? = some (c.get i)
  /-- indices `≥ len` give `None` -/
  get_ge : ∀ i, c.len ≤ i → c.get i = .absent
  /-- `get` never indexes out of bounds -/
  no_panic : ∀ i, c.get i ≠ .panic

/-- the laws on a reported slot vector that is valid (`SlotsValid`: what `C05_offsets_valid`,
    `C05_offsets_valid_wrap` establish of every result of the model search) -/
theorem caps_of_valid (tree : Expr) (backrefs : List Nat) (b : Built) (ctx : Ctx)
    (hb : build tree backrefs = .ok b) (slots : List (Option Nat))
    (hv : SlotsValid ctx (2 * b.nGroups) slots) (names : Names) :
    CapsLaws ctx ⟨slots, names⟩ b.nGroups ∧ b.nGroups = 1 + groupCount tree := by
  have hn := C16_len tree backrefs b hb
  obtain ⟨h1, h2, h3, h4, h5, _, _⟩ := C16_caps_accessors ⟨slots, names⟩ b.nGroups hv.len
  refine ⟨⟨h1, ?_, h2, h3, h4, h5⟩, hn⟩
  obtain ⟨s, e, hs, he, p1, p2, p3⟩ := hv.span (by omega)
  refine ⟨s, e, ?_, p1, p2, p3⟩
  have hlen : slots.length = 2 * b.nGroups := hv.len
  have hs' : slots[0 * 2]? = some (some s) := hs
  have he' : slots[0 * 2 + 1]? = some (some e) := he
  unfold Caps.get
  simp only
  rw [if_neg (by omega), hs']
  simp only [he', Option.getD_some]

/-- **C16_caps_model**: every `Captures` the model search returns obeys the accessor laws —
    whenever the model search equals the reference search up to the resource stops
    (`VmCorrectR`: proved for the engine stages S2 `C01_vm_correct_s2` and S3 `C01_vm_correct_s3`;
    the Wrap path is `C16_caps_wrap`) -/
theorem C16_caps_model (tree : Expr) (backrefs : List Nat) (b : Built) (ctx : Ctx)
    (hb : build tree backrefs = .ok b) (hcorr : VmCorrectR b ctx) (limit fuel : Nat)
    (slots : List (Option Nat)) (hfound : (b.captures ctx limit fuel).1 = .found slots)
    (names : Names) :
    CapsLaws ctx ⟨slots, names⟩ b.nGroups ∧ b.nGroups = 1 + groupCount tree := by
  refine caps_of_valid tree backrefs b ctx hb slots ?_ names
  have h := hcorr limit fuel
  rw [hfound] at h
  rcases h with h | h | h | h
  · cases h
  · cases h
  · cases h
  · cases href : refSearch ctx b.raw b.nGroups with
    | none => rw [href] at h; cases h
    | some f =>
      rw [href] at h
      simp only [SearchResult.found.injEq] at h
      subst h
      exact refSearch_valid ctx b.raw b.nGroups (build_noSelfNest tree backrefs b hb) f href

/-- the VM path, engine stage S2 -/
theorem C16_caps_fancy (tree : Expr) (backrefs : List Nat) (b : Built) (prog : Prog) (ctx : Ctx)
    (hb : build tree backrefs = .ok b) (hk : b.kind = .fancy prog)
    (hok : s2ok b.raw = true) (hnd : noDeleg prog.body = true)
    (hlen : ctx.len < UNSET) (hpos : ctx.pos ≤ ctx.len) (limit fuel : Nat)
    (slots : List (Option Nat)) (hfound : (b.captures ctx limit fuel).1 = .found slots)
    (names : Names) :
    CapsLaws ctx ⟨slots, names⟩ b.nGroups ∧ b.nGroups = 1 + groupCount tree :=
  caps_of_valid tree backrefs b ctx hb slots
    (C05_offsets_valid tree backrefs b prog ctx hb hk hok hnd hlen hpos limit fuel slots hfound) names

/-- the Wrap path (whole pattern handed to the automata engine; assumption A-RA), every pattern:
    identical laws -/
theorem C16_caps_wrap (tree : Expr) (backrefs : List Nat) (b : Built) (ctx : Ctx)
    (hb : build tree backrefs = .ok b) (hk : b.kind = .wrap) (limit fuel : Nat)
    (slots : List (Option Nat)) (hfound : (b.captures ctx limit fuel).1 = .found slots)
    (names : Names) :
    CapsLaws ctx ⟨slots, names⟩ b.nGroups ∧ b.nGroups = 1 + groupCount tree :=
  caps_of_valid tree backrefs b ctx hb slots
    (C05_offsets_valid_wrap tree backrefs b ctx hb hk limit fuel slots hfound) names

/-- **C16_caps_names**: `name(n) = get(index of n)` for a pattern: with the table the parser built,
    every name of the table is looked up at its group's index, which is `< len`; any other name
    gives `None` -/
theorem C16_caps_names (isAlnum : Char → Bool) (cs : List Char) (casei : Bool) (t : Tree)
    (h : parseStr isAlnum cs casei = .ok t) (b : Built) (hb : build t.expr t.backrefs = .ok b)
    (slots : List (Option Nat)) (hlen : slots.length = 2 * b.nGroups) :
    let c : Caps := ⟨slots, t.namedGroups⟩
    (∀ nm k, (nm, k) ∈ t.namedGroups → c.name nm = c.get k ∧ 1 ≤ k ∧ k < c.len) ∧
    (∀ nm, (∀ k, (nm, k) ∉ t.namedGroups) → c.name nm = .absent) := by
  intro c
  obtain ⟨h1, _, _, _, _, h6, h7⟩ := C16_caps_accessors c b.nGroups hlen
  have hn := C16_len t.expr t.backrefs b hb
  refine ⟨fun nm k hk => ?_, h7⟩
  have hr := C16_names_range isAlnum cs casei t h nm k hk
  exact ⟨h6 (C16_names_distinct isAlnum cs casei t h).1 nm k hk, hr.1, by omega⟩

/-! ### Non-vacuity (Part 3): a `Captures` value of a 3-group regex, groups 0 and 1 set -/

private def caps1 : Caps := ⟨[some 0, some 2, some 0, some 1, none, none], [([110], 1), ([109], 2)]⟩
example : caps1.len = 3 := by decide
example : caps1.get 0 = .span 0 2 := by decide
example : caps1.get 2 = .absent := by decide
example : caps1.get 3 = .absent := by decide
example : caps1.name [110] = .span 0 1 := by decide
example : caps1.iter = [.span 0 2, .span 0 1, .absent] := by
  simp [Caps.iter, Caps.iterFrom, Caps.len, Caps.get, caps1]

/-- the hypothesis `VmCorrectR` of `C16_caps_model` holds of every stage-S2 pattern
    (`C01_vm_correct_s2`), e.g. of `exTree2` = `(a)(?>\\1|b)(?=c)` (C05c) -/
example (tree : Expr) (backrefs : List Nat) (b : Built) (prog : Prog) (c : Ctx)
    (hb : build tree backrefs = .ok b) (hk : b.kind = .fancy prog)
    (hok : s2ok b.raw = true) (hnd : noDeleg prog.body = true)
    (hlen : c.len < UNSET) (hpos : c.pos ≤ c.len) : VmCorrectR b c :=
  C01_vm_correct_s2 tree backrefs b prog c hb hk hok hnd hlen hpos

end Fancy

namespace Fancy.Parse
open Fancy

/-! ### Non-vacuity (Parts 1, 2): concrete patterns, by evaluation -/

private def P16 (s : String) : Res Tree := parseStr (fun c => c.isAlphanum) s.toList false
private def la : Expr := .literal ['a'] false
private def lb : Expr := .literal ['b'] false
private def lc : Expr := .literal ['c'] false

/-- `(?<n>a)(?:b)(?<m>(c))(?=(a))`: 4 capture groups; `n ↦ 1`, `m ↦ 2` -/
private def tree1 : Expr :=
  .concat [.group 0 la, lb, .group 0 (.group 0 lc), .look (.group 0 la) .ahead]

example : P16 "(?<n>a)(?:b)(?<m>(c))(?=(a))" = .ok ⟨tree1, [], [([109], 2), ([110], 1)]⟩ :=
  isTree_sound (by decide +kernel)

example : groupCount tree1 = 4 := by decide

example : bindNames [] 0 [some [110], some [109], none, none] = [([109], 2), ([110], 1)] := by decide

-- a name written twice
example : P16 "(?<n>a)(?<n>b)" = .ok ⟨.concat [.group 0 la, .group 0 lb], [], [([110], 2)]⟩ :=
  isTree_sound (by decide +kernel)

example : bindNames [] 0 [some [110], some [110]] = [([110], 2)] := by decide

example : captureNames [([109], 2), ([110], 1)] 5 = some [none, some [110], some [109], none, none] := by
  decide
example : captureNames [([110], 1), ([109], 2)] 5 = some [none, some [110], some [109], none, none] := by
  decide

/-- `(?<n>a)(?:b)(?<m>(c))` (handed over whole: the Wrap path) -/
private def tree2 : Expr := .concat [.group 0 la, lb, .group 0 (.group 0 lc)]

example : P16 "(?<n>a)(?:b)(?<m>(c))" = .ok ⟨tree2, [], [([109], 2), ([110], 1)]⟩ :=
  isTree_sound (by decide +kernel)

example : ∃ b, build tree2 [] = .ok b ∧ b.nGroups = 4 ∧ b.kind = .wrap := by
  simp [build, tree2, wrapTree, renumber, renumberList, checkRefs, checkRefsList, isHard, isHardAny,
    la, lb, lc]

private def re1 : Bytes := bytesOf "(?<n>a)".toList

/-- the hypotheses of `C16_named_group` on `(?<n>a)` -/
example :
    optWs re1 ({} : PState).flags (0 + 1) = .ok 1 ∧ lookOf re1 1 = none ∧
    startsWithAt re1 1 [ch '?', ch '<'] = true ∧
    parseId (fun c => c.isAlphanum) re1 (1 + 1) [ch '<'] [ch '>'] false = .ok (some (3, 4, 3)) ∧
    parseGroup (fun c => c.isAlphanum) (49 + 1) re1 {} 0 0 =
      .ok (7, .group 0 la, { currGroup := 1, namedGroups := [([110], 1)] }) :=
  ⟨isOkVal_sound (by decide +kernel), by decide +kernel, by decide +kernel,
    isOkVal_sound (by decide +kernel), isOk3_sound (by decide +kernel)⟩

end Fancy.Parse
