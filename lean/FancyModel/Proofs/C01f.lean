import FancyModel.Proofs.C03d
import FancyModel.Proofs.C05e
import FancyModel.Lemmas.VMBytesAgree
import FancyModel.Lemmas.ParseHiOK
import FancyModel.Lemmas.ParseCodeBound
import FancyModel.Proofs.C06d
/-!
# C01f — the capstone chain: analyze.rs, compile.rs and `vm::run`, as translated, compute the
reference semantics (stage S3)

The pieces:
* `Proofs/C13c.lean`, `Proofs/C03d.lean` — the TRANSLATED analyzer (`GenAnalyze.genAnalyze`) followed by the
  TRANSLATED compiler (`GenCompile.compile`) on the wrapped, numbered tree is `checkRefs` followed by the
  model's `compile` (`C01_analyze_compile_eq`); `genFront` packages the two as in that theorem;
* `Proofs/C05f.lean` — the TRANSLATED `vm::run` (`GenVM.genRun`) is the byte machine `runB` wherever the side
  condition `StepAgree` holds along the run;
* `Lemmas/VMBytesAgree.lean` — `StepAgree` holds along every run that follows a `Big2` derivation
  (`big2_genRun`), hence for every stage-S3 pattern (`big2_s3`);
* `Proofs/C05e.lean` — `runB` on the encoded text reports the reference search's slots as byte offsets
  (`C01_bytes_vm_correct_s3`), never panics, terminates.

All of it uses one fact of the stage, the `Big2` derivation from the initial configuration to the reference
answer: the `*_of_big2` theorems are stated for such a derivation, the stage-S3 forms put `big2_s3` in.

`C01_translated_chain_s3`: for a stage-S3 pattern in the domain of the translations (`analyzable`, `hiOK`,
`codeBound … < usize::MAX`), the translated front end returns a program, and the translated interpreter on
it, on the UTF-8 bytes of the text from the byte offset of `pos`, stops on a resource limit or reports
exactly the reference search's capture slots as byte offsets / no match.
`C01_translated_chain_pipeline`: the same from the pattern string (the parser is the model's `parseStr`).
`C07_translated_chain_terminates`, `C05_translated_chain_no_panic`: termination, no panic.
-/
namespace Fancy
open Utf8 GenAnalyze GenCompile GenVM

/-- the translated front end: `analyze` then `compile`, errors merged (the form of `C01_analyze_compile_eq`) -/
def genFront (br : Nat → Bool) (wrapped : Expr) : Except CErr Prog :=
  match genAnalyze br wrapped with
  | .error (.compile err) => .error (.compile err)
  | .error .indexPanic => .error (.panic "index")
  | .ok info => GenCompile.compile info

/-- **the translated analyzer and compiler return the program `build` stores** -/
theorem genFront_eq_of_build (tree : Expr) (backrefs : List Nat) (b : Built) (prog : Prog)
    (hb : build tree backrefs = .ok b) (hk : b.kind = .fancy prog)
    (ha : analyzable tree = true) (hh : hiOK tree = true)
    (hfit : codeBound (renumber (wrapTree tree) 0).1 < UNSET) :
    genFront (fun g => backrefs.contains g) (renumber (wrapTree tree) 0).1 = .ok prog := by
  obtain ⟨_, hwr, hchk, _, hcomp⟩ := build_fancy tree backrefs b prog hb hk
  have h := C01_analyze_compile_eq tree backrefs ha hh hfit
  simp only at h
  rw [hwr] at hchk hcomp
  rw [hchk] at h
  simp only [hcomp] at h
  exact h

theorem len_lt_unset (c : Ctx) (hU : (bytesOfChars c.text).length < UNSET) : c.len < UNSET := by
  have := len_le_blen c.text; unfold Ctx.len; omega

/-! ### from a `Big2` derivation: the byte machine and the translated chain -/

section OfBig2
variable (c : Ctx)
variable (hceq : ∀ a b, c.ceq false a b = (a == b))
variable (hU : (bytesOfChars c.text).length < UNSET)

theorem bTame_of_big2 (tree : Expr) (backrefs : List Nat) (b : Built) (prog : Prog)
    (hb : build tree backrefs = .ok b) (hk : b.kind = .fancy prog)
    (hbig : Big2 c prog.body prog.nSaves (.run 0 c.pos (List.replicate prog.nSaves UNSET) [] []) (refAns c b))
    (limit fuel : Nat) : bTame c b prog limit fuel = true :=
  big2_tame_initial c _ prog ⟨limit, maxStackDefault⟩
    (delegOK_of_prog c prog.body prog.nSaves (build_progDelegOK tree backrefs b prog hb hk)) _ hbig fuel

/-- … hence the monitor of the refinement holds -/
theorem bOK_of_big2 (tree : Expr) (backrefs : List Nat) (b : Built) (prog : Prog)
    (hb : build tree backrefs = .ok b) (hk : b.kind = .fancy prog)
    (hbig : Big2 c prog.body prog.nSaves (.run 0 c.pos (List.replicate prog.nSaves UNSET) [] []) (refAns c b))
    (hpos : c.pos ≤ c.len) (limit fuel : Nat) : bOK c b prog limit fuel = true :=
  bOK_of_bTame c tree backrefs b prog hb hk hpos limit fuel (bTame_of_big2 c tree backrefs b prog hb hk hbig limit fuel)

include hceq hU in
/-- `runB` = mapped `run`, no side condition -/
theorem runB_refines_of_big2 (tree : Expr) (backrefs : List Nat) (b : Built) (prog : Prog)
    (hb : build tree backrefs = .ok b) (hk : b.kind = .fancy prog)
    (hbig : Big2 c prog.body prog.nSaves (.run 0 c.pos (List.replicate prog.nSaves UNSET) [] []) (refAns c b))
    (hpos : c.pos ≤ c.len) (limit fuel : Nat) :
    runB (BCtx.ofCtx c) prog ⟨limit, maxStackDefault⟩ fuel =
      (mapOut (tauOf prog.body b.nGroups) (offOf c.text) (run c prog ⟨limit, maxStackDefault⟩ fuel).1,
        (run c prog ⟨limit, maxStackDefault⟩ fuel).2) :=
  runB_refines_built_of_tame c hceq hU tree backrefs b prog hb hk limit fuel
    (bOK_of_big2 c tree backrefs b prog hb hk hbig hpos limit fuel)

include hceq hU in
/-- the byte machine never panics -/
theorem C05_bytes_no_panic_of_big2 (tree : Expr) (backrefs : List Nat) (b : Built) (prog : Prog)
    (hb : build tree backrefs = .ok b) (hk : b.kind = .fancy prog)
    (hbig : Big2 c prog.body prog.nSaves (.run 0 c.pos (List.replicate prog.nSaves UNSET) [] []) (refAns c b))
    (hlen : c.len < UNSET) (hpos : c.pos ≤ c.len) (limit fuel : Nat) (site : String) :
    (runB (BCtx.ofCtx c) prog ⟨limit, maxStackDefault⟩ fuel).1 ≠ .panic site := by
  intro h
  have h1 := C05_bytes_no_slice_panic c hceq hU tree backrefs b prog hb hk limit fuel
    (bOK_of_big2 c tree backrefs b prog hb hk hbig hpos limit fuel) site h
  exact VmCorrectR_not_panic (VmCorrectR_of_big2 tree backrefs b prog c hb hk hbig hlen hpos) limit fuel site
    (captures_panic_of_run b prog c hk limit fuel site h1)

include hceq hU in
/-- every capture offset the byte machine reports is `UNSET` or a character boundary inside the text -/
theorem C05_bytes_offsets_valid_of_big2 (tree : Expr) (backrefs : List Nat) (b : Built) (prog : Prog)
    (hb : build tree backrefs = .ok b) (hk : b.kind = .fancy prog)
    (hbig : Big2 c prog.body prog.nSaves (.run 0 c.pos (List.replicate prog.nSaves UNSET) [] []) (refAns c b))
    (hlen : c.len < UNSET) (hpos : c.pos ≤ c.len) (limit fuel : Nat) (savesB : List Nat)
    (hm : (runB (BCtx.ofCtx c) prog ⟨limit, maxStackDefault⟩ fuel).1 = .matched savesB) :
    (∀ i w, i < 2 * b.nGroups → savesB[i]? = some w →
      w = UNSET ∨ (isBoundary (bytesOfChars c.text) w = true ∧ w ≤ (bytesOfChars c.text).length)) ∧
    (∃ s e, savesB[0]? = some s ∧ savesB[1]? = some e ∧
      (BCtx.ofCtx c).pos ≤ s ∧ s ≤ e ∧ e ≤ (bytesOfChars c.text).length ∧
      isBoundary (bytesOfChars c.text) s = true ∧ isBoundary (bytesOfChars c.text) e = true) :=
  C05_bytes_offsets_valid_of_tame c hceq hU tree backrefs b prog hb hk
    (VmCorrectR_of_big2 tree backrefs b prog c hb hk hbig hlen hpos) limit fuel
    (bOK_of_big2 c tree backrefs b prog hb hk hbig hpos limit fuel) savesB hm

include hceq hU in
/-- the byte machine's answer is the reference search's, in byte offsets -/
theorem C01_bytes_vm_correct_of_big2 (tree : Expr) (backrefs : List Nat) (b : Built) (prog : Prog)
    (hb : build tree backrefs = .ok b) (hk : b.kind = .fancy prog)
    (hbig : Big2 c prog.body prog.nSaves (.run 0 c.pos (List.replicate prog.nSaves UNSET) [] []) (refAns c b))
    (hlen : c.len < UNSET) (hpos : c.pos ≤ c.len) (limit fuel : Nat) :
    (runB (BCtx.ofCtx c) prog ⟨limit, maxStackDefault⟩ fuel).1 = .outOfFuel ∨
    (runB (BCtx.ofCtx c) prog ⟨limit, maxStackDefault⟩ fuel).1 = .errStack ∨
    (runB (BCtx.ofCtx c) prog ⟨limit, maxStackDefault⟩ fuel).1 = .errLimit ∨
    match refSearch c b.raw b.nGroups with
    | some f => ∃ savesB, (runB (BCtx.ofCtx c) prog ⟨limit, maxStackDefault⟩ fuel).1 = .matched savesB ∧
        (viewSlots savesB).take (b.nGroups * 2) = f.slots.map (Option.map (offOf c.text))
    | none => (runB (BCtx.ofCtx c) prog ⟨limit, maxStackDefault⟩ fuel).1 = .noMatch :=
  C01_bytes_vm_correct c hceq hU tree backrefs b prog hb hk
    (VmCorrectR_of_big2 tree backrefs b prog c hb hk hbig hlen hpos) limit fuel
    (bOK_of_big2 c tree backrefs b prog hb hk hbig hpos limit fuel)

include hceq hU in
/-- the translated interpreter IS the byte machine on the compiled program -/
theorem genRun_eq_runB_of_big2 (tree : Expr) (backrefs : List Nat) (b : Built) (prog : Prog)
    (hb : build tree backrefs = .ok b) (hk : b.kind = .fancy prog)
    (hbig : Big2 c prog.body prog.nSaves (.run 0 c.pos (List.replicate prog.nSaves UNSET) [] []) (refAns c b))
    (hpos : c.pos ≤ c.len) (op : VMOpts) (fuel : Nat) :
    genRun (BCtx.ofCtx c) prog op fuel = runB (BCtx.ofCtx c) prog op fuel := by
  obtain ⟨hwt, hτ, _, _⟩ := build_wellTyped tree backrefs b prog hb hk
  exact big2_genRun c (tauOf prog.body b.nGroups) prog hceq hU hτ hpos hwt
    (delegOK_of_prog c prog.body prog.nSaves (build_progDelegOK tree backrefs b prog hb hk)) _ hbig op fuel

include hceq hU in
/-- **C01, the translated chain**: analyzer + compiler + `vm::run` as translated compute the reference search -/
theorem C01_translated_chain_of_big2 (tree : Expr) (backrefs : List Nat) (b : Built) (prog : Prog)
    (hb : build tree backrefs = .ok b) (hk : b.kind = .fancy prog)
    (hbig : Big2 c prog.body prog.nSaves (.run 0 c.pos (List.replicate prog.nSaves UNSET) [] []) (refAns c b))
    (hpos : c.pos ≤ c.len) (ha : analyzable tree = true) (hh : hiOK tree = true)
    (hfit : codeBound (renumber (wrapTree tree) 0).1 < UNSET) (limit fuel : Nat) :
    ∃ prog', genFront (fun g => backrefs.contains g) (renumber (wrapTree tree) 0).1 = .ok prog' ∧
      ((genRun (BCtx.ofCtx c) prog' ⟨limit, maxStackDefault⟩ fuel).1 = .outOfFuel ∨
       (genRun (BCtx.ofCtx c) prog' ⟨limit, maxStackDefault⟩ fuel).1 = .errStack ∨
       (genRun (BCtx.ofCtx c) prog' ⟨limit, maxStackDefault⟩ fuel).1 = .errLimit ∨
       match refSearch c b.raw b.nGroups with
       | some f => ∃ savesB, (genRun (BCtx.ofCtx c) prog' ⟨limit, maxStackDefault⟩ fuel).1 = .matched savesB ∧
           (viewSlots savesB).take (b.nGroups * 2) = f.slots.map (Option.map (offOf c.text))
       | none => (genRun (BCtx.ofCtx c) prog' ⟨limit, maxStackDefault⟩ fuel).1 = .noMatch) := by
  refine ⟨prog, genFront_eq_of_build tree backrefs b prog hb hk ha hh hfit, ?_⟩
  rw [genRun_eq_runB_of_big2 c hceq hU tree backrefs b prog hb hk hbig hpos]
  exact C01_bytes_vm_correct_of_big2 c hceq hU tree backrefs b prog hb hk hbig (len_lt_unset c hU) hpos limit fuel

include hceq hU in
/-- **C05, the translated chain: no panic** -/
theorem C05_translated_chain_no_panic_of_big2 (tree : Expr) (backrefs : List Nat) (b : Built) (prog : Prog)
    (hb : build tree backrefs = .ok b) (hk : b.kind = .fancy prog)
    (hbig : Big2 c prog.body prog.nSaves (.run 0 c.pos (List.replicate prog.nSaves UNSET) [] []) (refAns c b))
    (hpos : c.pos ≤ c.len) (ha : analyzable tree = true) (hh : hiOK tree = true)
    (hfit : codeBound (renumber (wrapTree tree) 0).1 < UNSET) (limit fuel : Nat) :
    ∃ prog', genFront (fun g => backrefs.contains g) (renumber (wrapTree tree) 0).1 = .ok prog' ∧
      ∀ site, (genRun (BCtx.ofCtx c) prog' ⟨limit, maxStackDefault⟩ fuel).1 ≠ .panic site := by
  refine ⟨prog, genFront_eq_of_build tree backrefs b prog hb hk ha hh hfit, fun site => ?_⟩
  rw [genRun_eq_runB_of_big2 c hceq hU tree backrefs b prog hb hk hbig hpos]
  exact C05_bytes_no_panic_of_big2 c hceq hU tree backrefs b prog hb hk hbig (len_lt_unset c hU) hpos limit fuel site

include hceq hU in
/-- **C07, the translated chain: termination** -/
theorem C07_translated_chain_terminates_of_big2 (tree : Expr) (backrefs : List Nat) (b : Built) (prog : Prog)
    (hb : build tree backrefs = .ok b) (hk : b.kind = .fancy prog)
    (hbig : Big2 c prog.body prog.nSaves (.run 0 c.pos (List.replicate prog.nSaves UNSET) [] []) (refAns c b))
    (hpos : c.pos ≤ c.len) (ha : analyzable tree = true) (hh : hiOK tree = true)
    (hfit : codeBound (renumber (wrapTree tree) 0).1 < UNSET) (limit : Nat) :
    ∃ prog', genFront (fun g => backrefs.contains g) (renumber (wrapTree tree) 0).1 = .ok prog' ∧
      ∃ N, ∀ fuel, N ≤ fuel → (genRun (BCtx.ofCtx c) prog' ⟨limit, maxStackDefault⟩ fuel).1 ≠ .outOfFuel := by
  refine ⟨prog, genFront_eq_of_build tree backrefs b prog hb hk ha hh hfit, ?_⟩
  obtain ⟨N, hN⟩ := terminates_of_big2 tree backrefs b prog c hb hk hbig limit
  refine ⟨N, fun fuel hf => ?_⟩
  rw [genRun_eq_runB_of_big2 c hceq hU tree backrefs b prog hb hk hbig hpos,
    runB_refines_of_big2 c hceq hU tree backrefs b prog hb hk hbig hpos limit fuel]
  have := hN fuel hf
  intro h
  apply this
  simp only at h
  cases hr : (run c prog ⟨limit, maxStackDefault⟩ fuel).1 with
  | outOfFuel => rfl
  | matched sv => rw [hr] at h; cases h
  | noMatch => rw [hr] at h; cases h
  | errLimit => rw [hr] at h; cases h
  | errStack => rw [hr] at h; cases h
  | panic s => rw [hr] at h; cases h

end OfBig2

section Chain
variable (c : Ctx)
variable (hceq : ∀ a b, c.ceq false a b = (a == b))
variable (hU : (bytesOfChars c.text).length < UNSET)

include hceq hU in
/-- **C01, the translated chain, stage S3**: the translated analyzer + compiler return a program, and the
    translated `vm::run` on it stops on a resource limit or reports the reference search's slots, as byte
    offsets (truncated to the capture slots) — `noMatch` where the reference search finds nothing -/
theorem C01_translated_chain_s3 (tree : Expr) (backrefs : List Nat) (b : Built) (prog : Prog)
    (hb : build tree backrefs = .ok b) (hk : b.kind = .fancy prog)
    (hs3 : s3ok (fun g => backrefs.contains g) b.raw true = true) (hws : wellShaped b.raw = true)
    (hz : noBareEndZ b.raw = true) (hpos : c.pos ≤ c.len)
    (ha : analyzable tree = true) (hh : hiOK tree = true)
    (hfit : codeBound (renumber (wrapTree tree) 0).1 < UNSET) (limit fuel : Nat) :
    ∃ prog', genFront (fun g => backrefs.contains g) (renumber (wrapTree tree) 0).1 = .ok prog' ∧
      ((genRun (BCtx.ofCtx c) prog' ⟨limit, maxStackDefault⟩ fuel).1 = .outOfFuel ∨
       (genRun (BCtx.ofCtx c) prog' ⟨limit, maxStackDefault⟩ fuel).1 = .errStack ∨
       (genRun (BCtx.ofCtx c) prog' ⟨limit, maxStackDefault⟩ fuel).1 = .errLimit ∨
       match refSearch c b.raw b.nGroups with
       | some f => ∃ savesB, (genRun (BCtx.ofCtx c) prog' ⟨limit, maxStackDefault⟩ fuel).1 = .matched savesB ∧
           (viewSlots savesB).take (b.nGroups * 2) = f.slots.map (Option.map (offOf c.text))
       | none => (genRun (BCtx.ofCtx c) prog' ⟨limit, maxStackDefault⟩ fuel).1 = .noMatch) := by
  exact C01_translated_chain_of_big2 c hceq hU tree backrefs b prog hb hk
    (big2_s3 tree backrefs b prog c hb hk hs3 hws hz (len_lt_unset c hU) hpos) hpos ha hh hfit limit fuel

include hceq hU in
/-- **the same from the pattern string** (hypotheses of `C01_pipeline_s3`; the parser is the model's). The domain
    conditions `analyzable` and `hiOK` of the translated analyzer/compiler hold of every parsed tree
    (`Parse.parse_analyzable`, `Parse.parse_hiOK`, Lemmas/ParseHiOK.lean); what remains is the size bound `hfit`. -/
theorem C01_translated_chain_pipeline (isAlnum : Char → Bool) (cs : List Char) (casei : Bool) (t : Parse.Tree)
    (b : Built) (prog : Prog) (hp : Parse.parseStr isAlnum cs casei = .ok t) (hb : build t.expr t.backrefs = .ok b)
    (hk : b.kind = .fancy prog) (hst : s3Pattern t b = true) (hpos : c.pos ≤ c.len)
    (hfit : codeBound (renumber (wrapTree t.expr) 0).1 < UNSET) (limit fuel : Nat) :
    ∃ prog', genFront (fun g => t.backrefs.contains g) (renumber (wrapTree t.expr) 0).1 = .ok prog' ∧
      ((genRun (BCtx.ofCtx c) prog' ⟨limit, maxStackDefault⟩ fuel).1 = .outOfFuel ∨
       (genRun (BCtx.ofCtx c) prog' ⟨limit, maxStackDefault⟩ fuel).1 = .errStack ∨
       (genRun (BCtx.ofCtx c) prog' ⟨limit, maxStackDefault⟩ fuel).1 = .errLimit ∨
       match refSearch c b.raw b.nGroups with
       | some f => ∃ savesB, (genRun (BCtx.ofCtx c) prog' ⟨limit, maxStackDefault⟩ fuel).1 = .matched savesB ∧
           (viewSlots savesB).take (b.nGroups * 2) = f.slots.map (Option.map (offOf c.text))
       | none => (genRun (BCtx.ofCtx c) prog' ⟨limit, maxStackDefault⟩ fuel).1 = .noMatch) := by
  obtain ⟨hs3, hws, hz⟩ := s3Pattern_spec isAlnum cs casei t b hp hb hst
  exact C01_translated_chain_s3 c hceq hU t.expr t.backrefs b prog hb hk hs3 hws hz
    hpos (Parse.parse_analyzable isAlnum cs casei t hp) (Parse.parse_hiOK isAlnum cs casei t hp) hfit limit fuel

include hceq hU in
/-- **C05, the translated chain: no panic** -/
theorem C05_translated_chain_no_panic (tree : Expr) (backrefs : List Nat) (b : Built) (prog : Prog)
    (hb : build tree backrefs = .ok b) (hk : b.kind = .fancy prog)
    (hs3 : s3ok (fun g => backrefs.contains g) b.raw true = true) (hws : wellShaped b.raw = true)
    (hz : noBareEndZ b.raw = true) (hpos : c.pos ≤ c.len)
    (ha : analyzable tree = true) (hh : hiOK tree = true)
    (hfit : codeBound (renumber (wrapTree tree) 0).1 < UNSET) (limit fuel : Nat) :
    ∃ prog', genFront (fun g => backrefs.contains g) (renumber (wrapTree tree) 0).1 = .ok prog' ∧
      ∀ site, (genRun (BCtx.ofCtx c) prog' ⟨limit, maxStackDefault⟩ fuel).1 ≠ .panic site := by
  exact C05_translated_chain_no_panic_of_big2 c hceq hU tree backrefs b prog hb hk
    (big2_s3 tree backrefs b prog c hb hk hs3 hws hz (len_lt_unset c hU) hpos) hpos ha hh hfit limit fuel

include hceq hU in
/-- **C07, the translated chain: termination** — some amount of fuel suffices for every larger amount -/
theorem C07_translated_chain_terminates (tree : Expr) (backrefs : List Nat) (b : Built) (prog : Prog)
    (hb : build tree backrefs = .ok b) (hk : b.kind = .fancy prog)
    (hs3 : s3ok (fun g => backrefs.contains g) b.raw true = true) (hws : wellShaped b.raw = true)
    (hz : noBareEndZ b.raw = true) (hpos : c.pos ≤ c.len)
    (ha : analyzable tree = true) (hh : hiOK tree = true)
    (hfit : codeBound (renumber (wrapTree tree) 0).1 < UNSET) (limit : Nat) :
    ∃ prog', genFront (fun g => backrefs.contains g) (renumber (wrapTree tree) 0).1 = .ok prog' ∧
      ∃ N, ∀ fuel, N ≤ fuel → (genRun (BCtx.ofCtx c) prog' ⟨limit, maxStackDefault⟩ fuel).1 ≠ .outOfFuel := by
  exact C07_translated_chain_terminates_of_big2 c hceq hU tree backrefs b prog hb hk
    (big2_s3 tree backrefs b prog c hb hk hs3 hws hz (len_lt_unset c hU) hpos) hpos ha hh hfit limit

/-! ### from the source text of the parser too -/

include hceq hU in
/-- **C01, the whole translated chain**: parse.rs (`GenParse.parse_with_case_insensitive`), analyze.rs, compile.rs
    and `vm::run`, all as translated, on a stage-S3 pattern string compute the reference search -/
theorem C01_translated_chain_source (isAlnum : Char → Bool) (cs : List Char) (casei : Bool) (t : Parse.Tree)
    (b : Built) (prog : Prog)
    (hp : GenParse.parse_with_case_insensitive isAlnum (Parse.bytesOf cs) casei = .ok t)
    (hb : build t.expr t.backrefs = .ok b)
    (hk : b.kind = .fancy prog) (hst : s3Pattern t b = true) (hpos : c.pos ≤ c.len)
    (hfit : codeBound (renumber (wrapTree t.expr) 0).1 < UNSET) (limit fuel : Nat) :
    ∃ prog', genFront (fun g => t.backrefs.contains g) (renumber (wrapTree t.expr) 0).1 = .ok prog' ∧
      ((genRun (BCtx.ofCtx c) prog' ⟨limit, maxStackDefault⟩ fuel).1 = .outOfFuel ∨
       (genRun (BCtx.ofCtx c) prog' ⟨limit, maxStackDefault⟩ fuel).1 = .errStack ∨
       (genRun (BCtx.ofCtx c) prog' ⟨limit, maxStackDefault⟩ fuel).1 = .errLimit ∨
       match refSearch c b.raw b.nGroups with
       | some f => ∃ savesB, (genRun (BCtx.ofCtx c) prog' ⟨limit, maxStackDefault⟩ fuel).1 = .matched savesB ∧
           (viewSlots savesB).take (b.nGroups * 2) = f.slots.map (Option.map (offOf c.text))
       | none => (genRun (BCtx.ofCtx c) prog' ⟨limit, maxStackDefault⟩ fuel).1 = .noMatch) :=
  C01_translated_chain_pipeline c hceq hU isAlnum cs casei t b prog
    (by rw [← GenParse.Descent.C06_parse_translated_str]; exact hp) hb hk hst hpos hfit limit fuel

include hceq hU in
theorem C05_translated_chain_source_no_panic (isAlnum : Char → Bool) (cs : List Char) (casei : Bool) (t : Parse.Tree)
    (b : Built) (prog : Prog)
    (hp : GenParse.parse_with_case_insensitive isAlnum (Parse.bytesOf cs) casei = .ok t)
    (hb : build t.expr t.backrefs = .ok b)
    (hk : b.kind = .fancy prog) (hst : s3Pattern t b = true) (hpos : c.pos ≤ c.len)
    (hfit : codeBound (renumber (wrapTree t.expr) 0).1 < UNSET) (limit fuel : Nat) :
    ∃ prog', genFront (fun g => t.backrefs.contains g) (renumber (wrapTree t.expr) 0).1 = .ok prog' ∧
      ∀ site, (genRun (BCtx.ofCtx c) prog' ⟨limit, maxStackDefault⟩ fuel).1 ≠ .panic site := by
  have hp' : Parse.parseStr isAlnum cs casei = .ok t := by
    rw [← GenParse.Descent.C06_parse_translated_str]; exact hp
  obtain ⟨hs3, hws, hz⟩ := s3Pattern_spec isAlnum cs casei t b hp' hb hst
  exact C05_translated_chain_no_panic c hceq hU t.expr t.backrefs b prog hb hk hs3 hws hz
    hpos (Parse.parse_analyzable isAlnum cs casei t hp') (Parse.parse_hiOK isAlnum cs casei t hp') hfit limit fuel

include hceq hU in
theorem C07_translated_chain_source_terminates (isAlnum : Char → Bool) (cs : List Char) (casei : Bool)
    (t : Parse.Tree) (b : Built) (prog : Prog)
    (hp : GenParse.parse_with_case_insensitive isAlnum (Parse.bytesOf cs) casei = .ok t)
    (hb : build t.expr t.backrefs = .ok b)
    (hk : b.kind = .fancy prog) (hst : s3Pattern t b = true) (hpos : c.pos ≤ c.len)
    (hfit : codeBound (renumber (wrapTree t.expr) 0).1 < UNSET) (limit : Nat) :
    ∃ prog', genFront (fun g => t.backrefs.contains g) (renumber (wrapTree t.expr) 0).1 = .ok prog' ∧
      ∃ N, ∀ fuel, N ≤ fuel → (genRun (BCtx.ofCtx c) prog' ⟨limit, maxStackDefault⟩ fuel).1 ≠ .outOfFuel := by
  have hp' : Parse.parseStr isAlnum cs casei = .ok t := by
    rw [← GenParse.Descent.C06_parse_translated_str]; exact hp
  obtain ⟨hs3, hws, hz⟩ := s3Pattern_spec isAlnum cs casei t b hp' hb hst
  exact C07_translated_chain_terminates c hceq hU t.expr t.backrefs b prog hb hk hs3 hws hz
    hpos (Parse.parse_analyzable isAlnum cs casei t hp') (Parse.parse_hiOK isAlnum cs casei t hp') hfit limit

/-! ### with the size hypothesis discharged from the pattern length

`Parse.parse_codeBound` (Lemmas/ParseCodeBound.lean): `codeBound t.expr ≤ 44 * (pattern bytes) + 1` for every parsed
tree, `+ 24` for the wrapper; so a pattern shorter than `2^58` bytes is inside the translated compiler's domain. -/

include hceq hU in
/-- **C01, the whole translated chain, no translator-domain hypothesis left**: a stage-S3 pattern string shorter
    than `2^58` bytes, parsed by the translated parse.rs, analyzed by the translated analyze.rs, compiled by the
    translated compile.rs and run by the translated `vm::run` on the bytes of a text, computes the reference search -/
theorem C01_translated_chain_source' (isAlnum : Char → Bool) (cs : List Char) (casei : Bool) (t : Parse.Tree)
    (b : Built) (prog : Prog)
    (hp : GenParse.parse_with_case_insensitive isAlnum (Parse.bytesOf cs) casei = .ok t)
    (hb : build t.expr t.backrefs = .ok b)
    (hk : b.kind = .fancy prog) (hst : s3Pattern t b = true) (hpos : c.pos ≤ c.len)
    (hsize : (Parse.bytesOf cs).size < 2 ^ 58) (limit fuel : Nat) :
    ∃ prog', genFront (fun g => t.backrefs.contains g) (renumber (wrapTree t.expr) 0).1 = .ok prog' ∧
      ((genRun (BCtx.ofCtx c) prog' ⟨limit, maxStackDefault⟩ fuel).1 = .outOfFuel ∨
       (genRun (BCtx.ofCtx c) prog' ⟨limit, maxStackDefault⟩ fuel).1 = .errStack ∨
       (genRun (BCtx.ofCtx c) prog' ⟨limit, maxStackDefault⟩ fuel).1 = .errLimit ∨
       match refSearch c b.raw b.nGroups with
       | some f => ∃ savesB, (genRun (BCtx.ofCtx c) prog' ⟨limit, maxStackDefault⟩ fuel).1 = .matched savesB ∧
           (viewSlots savesB).take (b.nGroups * 2) = f.slots.map (Option.map (offOf c.text))
       | none => (genRun (BCtx.ofCtx c) prog' ⟨limit, maxStackDefault⟩ fuel).1 = .noMatch) :=
  C01_translated_chain_source c hceq hU isAlnum cs casei t b prog hp hb hk hst hpos
    (Parse.parse_codeBound_fits isAlnum cs casei t
      (by rw [← GenParse.Descent.C06_parse_translated_str]; exact hp) hsize) limit fuel

include hceq hU in
theorem C01_translated_chain_pipeline' (isAlnum : Char → Bool) (cs : List Char) (casei : Bool) (t : Parse.Tree)
    (b : Built) (prog : Prog) (hp : Parse.parseStr isAlnum cs casei = .ok t) (hb : build t.expr t.backrefs = .ok b)
    (hk : b.kind = .fancy prog) (hst : s3Pattern t b = true) (hpos : c.pos ≤ c.len)
    (hsize : (Parse.bytesOf cs).size < 2 ^ 58) (limit fuel : Nat) :
    ∃ prog', genFront (fun g => t.backrefs.contains g) (renumber (wrapTree t.expr) 0).1 = .ok prog' ∧
      ((genRun (BCtx.ofCtx c) prog' ⟨limit, maxStackDefault⟩ fuel).1 = .outOfFuel ∨
       (genRun (BCtx.ofCtx c) prog' ⟨limit, maxStackDefault⟩ fuel).1 = .errStack ∨
       (genRun (BCtx.ofCtx c) prog' ⟨limit, maxStackDefault⟩ fuel).1 = .errLimit ∨
       match refSearch c b.raw b.nGroups with
       | some f => ∃ savesB, (genRun (BCtx.ofCtx c) prog' ⟨limit, maxStackDefault⟩ fuel).1 = .matched savesB ∧
           (viewSlots savesB).take (b.nGroups * 2) = f.slots.map (Option.map (offOf c.text))
       | none => (genRun (BCtx.ofCtx c) prog' ⟨limit, maxStackDefault⟩ fuel).1 = .noMatch) :=
  C01_translated_chain_pipeline c hceq hU isAlnum cs casei t b prog hp hb hk hst hpos
    (Parse.parse_codeBound_fits isAlnum cs casei t hp hsize) limit fuel

include hceq hU in
theorem C05_translated_chain_source_no_panic' (isAlnum : Char → Bool) (cs : List Char) (casei : Bool) (t : Parse.Tree)
    (b : Built) (prog : Prog)
    (hp : GenParse.parse_with_case_insensitive isAlnum (Parse.bytesOf cs) casei = .ok t)
    (hb : build t.expr t.backrefs = .ok b)
    (hk : b.kind = .fancy prog) (hst : s3Pattern t b = true) (hpos : c.pos ≤ c.len)
    (hsize : (Parse.bytesOf cs).size < 2 ^ 58) (limit fuel : Nat) :
    ∃ prog', genFront (fun g => t.backrefs.contains g) (renumber (wrapTree t.expr) 0).1 = .ok prog' ∧
      ∀ site, (genRun (BCtx.ofCtx c) prog' ⟨limit, maxStackDefault⟩ fuel).1 ≠ .panic site :=
  C05_translated_chain_source_no_panic c hceq hU isAlnum cs casei t b prog hp hb hk hst hpos
    (Parse.parse_codeBound_fits isAlnum cs casei t
      (by rw [← GenParse.Descent.C06_parse_translated_str]; exact hp) hsize) limit fuel

include hceq hU in
theorem C07_translated_chain_source_terminates' (isAlnum : Char → Bool) (cs : List Char) (casei : Bool)
    (t : Parse.Tree) (b : Built) (prog : Prog)
    (hp : GenParse.parse_with_case_insensitive isAlnum (Parse.bytesOf cs) casei = .ok t)
    (hb : build t.expr t.backrefs = .ok b)
    (hk : b.kind = .fancy prog) (hst : s3Pattern t b = true) (hpos : c.pos ≤ c.len)
    (hsize : (Parse.bytesOf cs).size < 2 ^ 58) (limit : Nat) :
    ∃ prog', genFront (fun g => t.backrefs.contains g) (renumber (wrapTree t.expr) 0).1 = .ok prog' ∧
      ∃ N, ∀ fuel, N ≤ fuel → (genRun (BCtx.ofCtx c) prog' ⟨limit, maxStackDefault⟩ fuel).1 ≠ .outOfFuel :=
  C07_translated_chain_source_terminates c hceq hU isAlnum cs casei t b prog hp hb hk hst hpos
    (Parse.parse_codeBound_fits isAlnum cs casei t
      (by rw [← GenParse.Descent.C06_parse_translated_str]; exact hp) hsize) limit

end Chain

/-! ### Non-vacuity: the pattern string `a(?=b)` (VM path, stage S3), every text

All hypotheses of `C01_translated_chain_pipeline` hold: the string parses, builds to a VM program, is in
stage S3 (`exLook_parse`, `exLook_built`, Proofs/C08c.lean), and is in the domain of the translations. -/

set_option linter.unusedSimpArgs false in
example (c : Ctx) (hceq : ∀ a b, c.ceq false a b = (a == b)) (hU : (bytesOfChars c.text).length < UNSET)
    (hpos : c.pos ≤ c.len) (limit fuel : Nat) :
    ∃ b prog', build Api.exLook [] = .ok b ∧
      genFront (fun g => ([] : List Nat).contains g) (renumber (wrapTree Api.exLook) 0).1 = .ok prog' ∧
      ((genRun (BCtx.ofCtx c) prog' ⟨limit, maxStackDefault⟩ fuel).1 = .outOfFuel ∨
       (genRun (BCtx.ofCtx c) prog' ⟨limit, maxStackDefault⟩ fuel).1 = .errStack ∨
       (genRun (BCtx.ofCtx c) prog' ⟨limit, maxStackDefault⟩ fuel).1 = .errLimit ∨
       match refSearch c b.raw b.nGroups with
       | some f => ∃ savesB, (genRun (BCtx.ofCtx c) prog' ⟨limit, maxStackDefault⟩ fuel).1 = .matched savesB ∧
           (viewSlots savesB).take (b.nGroups * 2) = f.slots.map (Option.map (offOf c.text))
       | none => (genRun (BCtx.ofCtx c) prog' ⟨limit, maxStackDefault⟩ fuel).1 = .noMatch) := by
  obtain ⟨b, prog, hb, hk, hst, _, _⟩ := Api.exLook_built
  obtain ⟨prog', h1, h2⟩ := C01_translated_chain_pipeline c hceq hU _ _ _ ⟨Api.exLook, [], []⟩ b prog
    Api.exLook_parse hb hk hst hpos
    (by simp [Api.exLook, wrapTree, renumber, renumberList, codeBound, codeBoundList, UNSET])
    limit fuel
  exact ⟨b, prog', hb, h1, h2⟩

/-! ### `{n,18446744073709551615}`: the parser writes "no upper bound" (`hiOf`), as the crate does

`hiOK` excludes `some usize::MAX`; a tree with it exists, but no pattern string produces it:
`a{1,18446744073709551615}(?=b)` parses to `a{1,}(?=b)` (and the crate compiles it as `a+`: the real
program is `… save:0 lit:61 split:4:6 save:2 lit:62 restore:2 save:1 end`, the same as the model's). -/

example : hiOK (.repeat (.literal ['a'] false) 1 (some UNSET) true) = false := by simp [hiOK]

example : Parse.hiOf Parse.usizeMax = none ∧ Parse.hiOf 7 = some 7 := by decide

end Fancy
