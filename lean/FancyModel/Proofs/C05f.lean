import FancyModel.GeneratedVM
/-!
# C05 (sixth part) — the byte-level machine is the interpreter loop of vm.rs

`GeneratedVM.lean` is the body of `vm::run` (src/vm.rs) translated statement by statement by
`tools/rs2lean_vm.py` on every run of the check: one definition per arm of `match prog.body[pc]`
(`GenVM.armEnd` … `GenVM.armContinueFromPreviousMatchEnd`), the auxiliary functions of the `for` / `loop`
bodies, `GenVM.genStep` (the dispatch + `pc += 1`), `GenVM.genOnFail` (what follows `break 'fail` in the
outer loop) and `GenVM.genRun`. This file proves that the translation and the hand-written byte-level
machine (`stepB`, `runLoopB`, `runB` of Model/VMBytes.lean) are the same functions:

* `C05_vm_translated_eq`: `genStep bc prog pc ix s = stepB' bc prog pc ix s` for EVERY program, program counter,
  position and state, where `stepB'` (below) is `stepB` with four corners corrected to what vm.rs does;
* `C05_vm_stepB'_eq`: `stepB' = stepB` under the side condition `StepAgree prog pc s` (slot operands in range,
  `start_group ≤ end_group`, an unbounded repeat's counter is not `usize::MAX`); three `example`s show that the
  corners are real; `C05_vm_translated_eq_stepB` combines the two;
* `C05_vm_translated_fail`: `genOnFail` is what `runLoopB` does after `.fail` (`C07_vm_translated_limit`,
  `C07_vm_translated_resume`: the limit error exactly when the incremented counter exceeds the limit);
* `C05_vm_translated_loop` / `C05_vm_translated_run`: the loop built from `genStep` / `genOnFail` is `runLoopB` /
  `runB` along every run on which the side condition holds; `C05_vm_translated_run'`: unconditionally it is the
  same loop over `stepB'`;
* `C05_vm_loop_fuel`: the fuel the translator gives the `loop` of `FailNegativeLookAround` is never exhausted.

A change of meaning in `run` changes the generated definitions and breaks these proofs
(notes/translator-vm.md lists the mutations that were tried). The generated definitions are unfolded by
name only, one lemma per arm (`armX_eq`).
-/
set_option linter.unusedSimpArgs false
namespace Fancy
open Utf8 GenVM

variable (bc : BCtx) (prog : List Insn) (pc ix : Nat) (s : State)

theorem armAny_eq (h : prog[pc]? = some .any) :
    armAny bc bc.text bc.pos pc ix s = stepB bc prog pc ix s := by
  simp only [armAny, stepB, h, codepoint_len_at]
  by_cases hlt : ix < bc.text.length
  · simp [hlt]
  · simp [hlt, List.getElem?_eq_none (Nat.le_of_not_lt hlt)]

theorem armAnyNoNL_eq (h : prog[pc]? = some .anyNoNL) :
    armAnyNoNL bc bc.text bc.pos pc ix s = stepB bc prog pc ix s := by
  simp only [armAnyNoNL, stepB, h, codepoint_len_at]
  by_cases hlt : ix < bc.text.length
  · simp [hlt]
  · simp [hlt, List.getElem?_eq_none (Nat.le_of_not_lt hlt)]

theorem armLit_eq (val : List Char) (h : prog[pc]? = some (.lit val)) :
    armLit bc bc.text bc.pos pc ix s val = stepB bc prog pc ix s := by
  simp only [armLit, stepB, h, matches_literal]
  rfl

theorem armEnd_eq (h : prog[pc]? = some .end_) :
    armEnd bc bc.text bc.pos pc ix s = stepB bc prog pc ix s := by
  simp only [armEnd, stepB, h, capStartB, capStart]
  cases h1 : s.saves[1]? with
  | none => simp
  | some slot1 =>
    cases h0 : s.get 0 with
    | none => simp
    | some t1 =>
      simp only [Option.bind]
      by_cases hgt : t1 > slot1
      · simp only [hgt, decide_true, if_true]
        cases hs : s.save 0 slot1 with
        | none => simp
        | some s1 =>
          simp only
          cases h0' : s1.get 0 with
          | none => simp
          | some t2 =>
            by_cases hlt : t2 < bc.pos
            · simp only [hlt, decide_true, if_true]
              cases s1.save 0 bc.pos <;> simp
            · simp [hlt]
      · simp only [hgt, decide_false, if_false, h0]
        by_cases hlt : t1 < bc.pos
        · simp only [hlt, decide_true, if_true]
          cases s.save 0 bc.pos <;> simp
        · simp [hlt]

theorem armAssertion_eq (a : Assertion) (h : prog[pc]? = some (.assertion a)) :
    armAssertion bc bc.text bc.pos pc ix s a = stepB bc prog pc ix s := by
  -- whichever `LookMatcher` method the arm calls, it is `lookAt` for the assertion at hand
  have hl : armAssertion bc bc.text bc.pos pc ix s a =
      match lookAt bc a bc.text ix with
      | none => .done (.panic "assertion boundary")
      | some b => if b then .cont (pc + 1) ix s else .fail s := by
    rcases a with _ | _ | ⟨_ | _⟩ | ⟨_ | _⟩ | _ | _ | _ | _ <;> rfl
  simp only [hl, stepB, h, lookAt]
  cases charIx bc.text ix <;> rfl

theorem armSplit_eq (x y : Nat) (h : prog[pc]? = some (.split x y)) :
    armSplit bc bc.text bc.pos pc ix s x y = stepB bc prog pc ix s := by
  simp only [armSplit, stepB, h, pushOr]
  rfl

theorem armJmp_eq (t : Nat) (h : prog[pc]? = some (.jmp t)) :
    armJmp bc bc.text bc.pos pc ix s t = stepB bc prog pc ix s := by
  simp [armJmp, stepB, h]

theorem armSave_eq (slot : Nat) (h : prog[pc]? = some (.save slot)) :
    armSave bc bc.text bc.pos pc ix s slot = stepB bc prog pc ix s := by
  simp only [armSave, stepB, h]
  cases s.save slot ix <;> rfl

theorem armSave0_eq (slot : Nat) (h : prog[pc]? = some (.save0 slot)) :
    armSave0 bc bc.text bc.pos pc ix s slot = stepB bc prog pc ix s := by
  simp only [armSave0, stepB, h]
  cases s.save slot 0 <;> rfl

theorem armRestore_eq (slot : Nat) (h : prog[pc]? = some (.restore slot)) :
    armRestore bc bc.text bc.pos pc ix s slot = stepB bc prog pc ix s := by
  simp only [armRestore, stepB, h]
  cases s.get slot <;> rfl

theorem armBackrefExistsCondition_eq (g : Nat) (h : prog[pc]? = some (.backrefExists g)) :
    armBackrefExistsCondition bc bc.text bc.pos pc ix s g = stepB bc prog pc ix s := by
  simp only [armBackrefExistsCondition, stepB, h]
  cases s.get (g * 2) <;> rfl

theorem armBeginAtomic_eq (h : prog[pc]? = some .beginAtomic) :
    armBeginAtomic bc bc.text bc.pos pc ix s = stepB bc prog pc ix s := by
  simp only [armBeginAtomic, stepB, h]
  cases s.stackPush s.backtrackCount <;> rfl

theorem armEndAtomic_eq (h : prog[pc]? = some .endAtomic) :
    armEndAtomic bc bc.text bc.pos pc ix s = stepB bc prog pc ix s := by
  simp only [armEndAtomic, stepB, h]
  cases s.stackPop with
  | none => rfl
  | some r =>
    obtain ⟨s', count⟩ := r
    simp only
    cases s'.backtrackCut count <;> rfl

theorem armContinueFromPreviousMatchEnd_eq (h : prog[pc]? = some .contPrev) :
    armContinueFromPreviousMatchEnd bc bc.text bc.pos pc ix s = stepB bc prog pc ix s := by
  simp [armContinueFromPreviousMatchEnd, stepB, h, optionSkippedEmptyMatch]

/-! ## the loops -/

theorem loopGoBack_eq (n i : Nat) :
    loopGoBack bc bc.text bc.pos n i pc ix s =
      match goBackBytes bc.text n ix with
      | none => .done (.panic "goBack index")
      | some none => .fail s
      | some (some ix') => .cont pc ix' s := by
  induction n generalizing i ix with
  | zero => simp [loopGoBack, goBackBytes]
  | succ n ih =>
    simp only [loopGoBack, goBackBytes, prev_codepoint_ix]
    by_cases h0 : ix = 0
    · simp [h0]
    · simp only [h0, beq_iff_eq, if_false]
      cases prevCodepointIx bc.text ix with
      | none => rfl
      | some t => simp only; exact ih t (i + 1)

theorem armGoBack_eq (n : Nat) (h : prog[pc]? = some (.goBack n)) :
    armGoBack bc bc.text bc.pos pc ix s n = stepB bc prog pc ix s := by
  simp only [armGoBack, stepB, h, Nat.sub_zero, loopGoBack_eq]
  rcases goBackBytes bc.text n ix with _ | _ | _ <;> rfl

theorem pop_stack_length {s s' : State} {p i : Nat} (h : s.pop = some (s', p, i)) :
    s.stack.length = s'.stack.length + 1 := by
  unfold State.pop at h
  split at h
  · cases h
  · split at h
    · cases h
    · rename_i hst
      injection h with h
      injection h with h1 _
      subst h1
      simp [hst]

/-- the generated `loop` of `FailNegativeLookAround`, given at least `stack.length + 1` fuel, is `popUntil`
    (it never runs out of fuel: every iteration pops a branch, and popping the empty stack is a panic) -/
theorem loopFailNegativeLookAround_eq (fuel : Nat) (hf : s.stack.length + 1 ≤ fuel) :
    loopFailNegativeLookAround bc bc.text bc.pos fuel pc ix s =
      match popUntil (pc + 1) fuel s with
      | some s' => .cont pc ix s'
      | none => .done (.panic "failNegLook pop") := by
  induction fuel generalizing s with
  | zero => omega
  | succ fuel ih =>
    simp only [loopFailNegativeLookAround, popUntil]
    cases hp : s.pop with
    | none => rfl
    | some r =>
      obtain ⟨s', p, i⟩ := r
      have hl := pop_stack_length hp
      simp only
      by_cases hpc : p = pc + 1
      · simp [hpc]
      · simp only [beq_iff_eq, hpc, if_false]
        exact ih s' (by omega)

/-- `C05_vm_loop_fuel`: with the fuel the translator hands it, the generated `loop` never reports `outOfFuel` -/
theorem C05_vm_loop_fuel :
    loopFailNegativeLookAround bc bc.text bc.pos (s.stack.length + 1) pc ix s ≠ .done .outOfFuel := by
  rw [loopFailNegativeLookAround_eq bc pc ix s _ (Nat.le_refl _)]
  cases popUntil (pc + 1) (s.stack.length + 1) s <;> simp

theorem armFailNegativeLookAround_eq (h : prog[pc]? = some .failNegLook) :
    armFailNegativeLookAround bc bc.text bc.pos pc ix s = stepB bc prog pc ix s := by
  simp only [armFailNegativeLookAround, stepB, h, loopFailNegativeLookAround_eq bc pc ix s _ (Nat.le_refl _)]
  cases popUntil (pc + 1) (s.stack.length + 1) s <;> rfl

/-! ## `stepB'`: `stepB` with the corners corrected where vm.rs does something else -/

/-- the common tail of the two `RepeatEpsilon*` arms -/
def epsRest (s : State) (lo rep check cnt ix pushPc contPc fallPc : Nat) : StepResult :=
  match s.save rep (cnt + 1) with
  | none => .done (.panic "repeat save")
  | some s' =>
    if cnt ≥ lo then
      match s'.save check ix with
      | none => .done (.panic "repeat save")
      | some s'' => pushOr s'' pushPc ix fun s3 => .cont contPc ix s3
    else .cont fallPc ix s'

/-- `stepB`, except (as vm.rs does):
* `RepeatGr` / `RepeatNg`: the upper bound is the `usize` `hi` (`usize::MAX` = unbounded), compared with `==`: a
  counter that holds `usize::MAX` leaves an unbounded loop;
* `RepeatEpsilonGr` / `Ng`: `state.get(check)` is evaluated only if `repcount > lo` (`&&` short-circuits);
* `Backref`: `lo` is read and tested before `hi` is read;
* `Delegate`: `end_group - start_group` underflows (a panic) if `start_group > end_group`. -/
def stepB' (bc : BCtx) (prog : List Insn) (pc ix : Nat) (s : State) : StepResult :=
  match prog[pc]? with
  | none => .done (.panic "prog index")
  | some insn =>
  match insn with
  | .repeatGr lo hi next rep =>
    match s.get rep with
    | none => .done (.panic "repeat get")
    | some cnt =>
      if cnt == hiVal hi then .cont next ix s else
      match s.save rep (cnt + 1) with
      | none => .done (.panic "repeat save")
      | some s' =>
        if cnt ≥ lo then pushOr s' next ix fun s'' => .cont (pc + 1) ix s''
        else .cont (pc + 1) ix s'
  | .repeatNg lo hi next rep =>
    match s.get rep with
    | none => .done (.panic "repeat get")
    | some cnt =>
      if cnt == hiVal hi then .cont next ix s else
      match s.save rep (cnt + 1) with
      | none => .done (.panic "repeat save")
      | some s' =>
        if cnt ≥ lo then pushOr s' (pc + 1) ix fun s'' => .cont next ix s''
        else .cont (pc + 1) ix s'
  | .repeatEpsGr lo next rep check =>
    match s.get rep with
    | none => .done (.panic "repeat get")
    | some cnt =>
      if cnt > lo then
        match s.get check with
        | none => .done (.panic "repeat get")
        | some chk => if chk == ix then .fail s else epsRest s lo rep check cnt ix next (pc + 1) (pc + 1)
      else epsRest s lo rep check cnt ix next (pc + 1) (pc + 1)
  | .repeatEpsNg lo next rep check =>
    match s.get rep with
    | none => .done (.panic "repeat get")
    | some cnt =>
      if cnt > lo then
        match s.get check with
        | none => .done (.panic "repeat get")
        | some chk => if chk == ix then .fail s else epsRest s lo rep check cnt ix (pc + 1) next (pc + 1)
      else epsRest s lo rep check cnt ix (pc + 1) next (pc + 1)
  | .backref slot =>
    match s.get slot with
    | none => .done (.panic "backref get")
    | some lo =>
      if lo == UNSET then .fail s else
      match s.get (slot + 1) with
      | none => .done (.panic "backref get")
      | some hi =>
        if hi == UNSET then .fail s
        else if lo > hi then .fail s
        else
          match slice bc.text lo hi with
          | none => .done (.panic "backref slice")
          | some refText =>
            let ixEnd := ix + refText.length
            if matchesLiteral bc.text ix ixEnd refText then .cont (pc + 1) ixEnd s else .fail s
  | .delegate _ sg eg =>
    if eg < sg then .done (.panic "Delegate: sub") else stepB bc prog pc ix s
  | _ => stepB bc prog pc ix s

theorem armRepeatGr_eq (lo : Nat) (hi : Option Nat) (nx rep : Nat) (h : prog[pc]? = some (.repeatGr lo hi nx rep)) :
    armRepeatGr bc bc.text bc.pos pc ix s lo hi nx rep = stepB' bc prog pc ix s := by
  simp only [armRepeatGr, stepB', h, pushOr, decide_eq_true_eq]
  rfl

theorem armRepeatNg_eq (lo : Nat) (hi : Option Nat) (nx rep : Nat) (h : prog[pc]? = some (.repeatNg lo hi nx rep)) :
    armRepeatNg bc bc.text bc.pos pc ix s lo hi nx rep = stepB' bc prog pc ix s := by
  simp only [armRepeatNg, stepB', h, pushOr, decide_eq_true_eq]
  rfl

theorem armRepeatEpsilonGr_eq (lo nx rep check : Nat) (h : prog[pc]? = some (.repeatEpsGr lo nx rep check)) :
    armRepeatEpsilonGr bc bc.text bc.pos pc ix s lo nx rep check = stepB' bc prog pc ix s := by
  simp only [armRepeatEpsilonGr, stepB', h, epsRest, pushOr, decide_eq_true_eq]
  rfl

theorem armRepeatEpsilonNg_eq (lo nx rep check : Nat) (h : prog[pc]? = some (.repeatEpsNg lo nx rep check)) :
    armRepeatEpsilonNg bc bc.text bc.pos pc ix s lo nx rep check = stepB' bc prog pc ix s := by
  simp only [armRepeatEpsilonNg, stepB', h, epsRest, pushOr, decide_eq_true_eq]
  rfl

theorem armBackref_eq (slot : Nat) (h : prog[pc]? = some (.backref slot)) :
    armBackref bc bc.text bc.pos pc ix s slot = stepB' bc prog pc ix s := by
  simp only [armBackref, stepB', h, matches_literal, decide_eq_true_eq]
  rfl

/-! ## `Delegate`: the group-copy loop is `copyGroups` -/

/-- what `copyGroups` does for group `sg + i` -/
def copyOne (r : St) (sg i : Nat) (s : State) : Option State :=
  match r.slot ((sg + i) * 2), r.slot ((sg + i) * 2 + 1) with
  | some a, some b => (s.save ((sg + i) * 2) a).bind fun s => s.save ((sg + i) * 2 + 1) b
  | some _, none => none
  | none, _ => some s

/-- `copyGroups`, front to back (the order of the Rust loop) -/
def copyFwd (r : St) (sg : Nat) : Nat → Nat → State → Option State
  | 0, _, s => some s
  | n + 1, i, s => (copyOne r sg i s).bind (copyFwd r sg n (i + 1))

theorem copyGroups_succ (r : St) (sg n : Nat) (s : State) :
    copyGroups r sg (n + 1) s = (copyGroups r sg n s).bind (copyOne r sg n) := by
  simp only [copyGroups, copyOne]
  cases copyGroups r sg n s with
  | none => rfl
  | some s1 => rfl

theorem copyFwd_snoc (r : St) (sg n i : Nat) (s : State) :
    copyFwd r sg (n + 1) i s = (copyFwd r sg n i s).bind (copyOne r sg (i + n)) := by
  induction n generalizing i s with
  | zero => simp [copyFwd]
  | succ n ih =>
    rw [copyFwd]
    cases h1 : copyOne r sg i s with
    | none => simp [copyFwd, h1]
    | some s1 =>
      simp only [Option.bind]
      rw [ih (i + 1) s1]
      conv => rhs; rw [copyFwd, h1]
      simp only [Option.bind]
      have : i + 1 + n = i + (n + 1) := by omega
      rw [this]

theorem copyGroups_eq_fwd (r : St) (sg n : Nat) (s : State) : copyGroups r sg n s = copyFwd r sg n 0 s := by
  induction n with
  | zero => simp [copyGroups, copyFwd]
  | succ n ih => rw [copyGroups_succ, copyFwd_snoc, ih, Nat.zero_add]

theorem loopDelegate_eq (rB : St) (sg : Nat) (L : List (Option Nat)) (n i : Nat)
    (hL : ∀ j, j < i + n → L[(j + 1) * 2]? = some (rB.slot ((sg + j) * 2)) ∧
                            L[(j + 1) * 2 + 1]? = some (rB.slot ((sg + j) * 2 + 1))) :
    loopDelegate bc bc.text bc.pos L sg n i pc ix s =
      match copyFwd rB sg n i s with
      | some s' => .cont pc ix s'
      | none => .done (.panic "delegate copy") := by
  induction n generalizing i s with
  | zero => simp [loopDelegate, copyFwd]
  | succ n ih =>
    obtain ⟨h1, h2⟩ := hL i (by omega)
    have ih' := fun s' => ih s' (i + 1) (fun j hj => hL j (by omega))
    simp only [loopDelegate, copyFwd, copyOne, h1, h2]
    cases rB.slot ((sg + i) * 2) with
    | none => simp only [Option.bind]; exact ih' s
    | some a =>
      simp only
      cases rB.slot ((sg + i) * 2 + 1) with
      | none => rfl
      | some b =>
        simp only
        cases s.save ((sg + i) * 2) a with
        | none => rfl
        | some s1 =>
          simp only [Option.bind]
          cases s1.save ((sg + i) * 2 + 1) b with
          | none => rfl
          | some s2 => simp only; exact ih' s2

theorem vecResize_length {α : Type} (v : List α) (n : Nat) (x : α) : (vecResize v n x).length = n := by
  simp [vecResize]; omega

/-- the `Input` the `Delegate` arm builds is inside the model of `raSearch`: the search is `stepB`'s oracle call -/
theorem raSearch_anchored (es : List Expr) (sg eg : Nat) (t : Bytes) :
    raSearch bc s ⟨es, sg, eg⟩ (((RaInput.new t).span ix t.length).setAnchored true) =
      (charIx t ix).map fun k =>
        (delegateOracle bc.chars es sg eg k ((s.saves.take (2 * eg)).map (unmapV t))).map (St.toBytes bc.chars.text) := by
  simp only [raSearch, RaInput.setAnchored, RaInput.span, RaInput.new, beq_self_eq_true, Bool.and_self, if_true]
  cases charIx t ix <;> rfl

/-- the slots `search_slots` answers with: group `sg + j` of the VM sits at `2(j+1)`, `2(j+1)+1` -/
theorem raSlots_group (es : List Expr) (sg eg st : Nat) (r : St) (j b : Nat) (hj : j < eg - sg) (hb : b < 2) :
    ((List.range ((eg - sg + 1) * 2)).map (raSlot ⟨es, sg, eg⟩ st r))[(j + 1) * 2 + b]? =
      some (r.slot ((sg + j) * 2 + b)) := by
  have e1 : ((j + 1) * 2 + b) / 2 - 1 = j := by
    rw [Nat.mul_comm, Nat.mul_add_div (by decide), Nat.div_eq_of_lt hb]; rfl
  have e2 : ((j + 1) * 2 + b) % 2 = b := by rw [Nat.mul_comm, Nat.mul_add_mod, Nat.mod_eq_of_lt hb]
  obtain ⟨m, hm⟩ : ∃ m, (j + 1) * 2 + b = m + 2 := ⟨j * 2 + b, by omega⟩
  have : raSlot ⟨es, sg, eg⟩ st r (m + 2) =
      if (m + 2) / 2 - 1 < eg - sg then r.slot ((sg + ((m + 2) / 2 - 1)) * 2 + (m + 2) % 2) else none := rfl
  have hlt : (j + 1) * 2 + b < (eg - sg + 1) * 2 := by generalize eg - sg = n at hj ⊢; omega
  rw [List.getElem?_map, List.getElem?_range hlt, Option.map_some, hm, this, ← hm, e1, e2, if_pos hj]

theorem armDelegate_eq (slots0 : List (Option Nat)) (es : List Expr) (sg eg : Nat)
    (h : prog[pc]? = some (.delegate es sg eg)) :
    armDelegate bc bc.text bc.pos pc ix s slots0 es sg eg = stepB' bc prog pc ix s := by
  simp only [armDelegate, stepB', stepB, h, search_half, search_slots, raSearch_anchored, checkedSub]
  by_cases hse : sg = eg
  · subst hse
    simp only [beq_self_eq_true, if_true, Nat.lt_irrefl, if_false]
    cases charIx bc.text ix with
    | none => rfl
    | some k =>
      simp only [Option.map_some]
      cases delegateOracle bc.chars es sg sg k (List.map (unmapV bc.text) (List.take (2 * sg) s.saves)) <;> rfl
  · have hbeq : (sg == eg) = false := beq_eq_false_iff_ne.mpr hse
    simp only [hbeq, Bool.false_eq_true, if_false]
    by_cases hle : sg ≤ eg
    · rw [if_pos hle, if_neg (Nat.not_lt.mpr hle)]
      cases charIx bc.text ix with
      | none => rfl
      | some k =>
        simp only [Option.map_some]
        cases delegateOracle bc.chars es sg eg k (List.map (unmapV bc.text) (List.take (2 * eg) s.saves)) with
        | none => rfl
        | some r =>
          simp only [Option.map_some, Option.isSome_some, if_true, Nat.sub_zero, vecResize_length, RaInput.setAnchored,
            RaInput.span]
          rw [loopDelegate_eq bc pc ix s (r.toBytes bc.chars.text) sg _ (eg - sg) 0
              (fun j hj => ⟨raSlots_group es sg eg ix _ j 0 (Nat.zero_add (eg - sg) ▸ hj) (by decide),
                raSlots_group es sg eg ix _ j 1 (Nat.zero_add (eg - sg) ▸ hj) (by decide)⟩),
            ← copyGroups_eq_fwd, List.getElem?_map, List.getElem?_range (by generalize eg - sg = n; omega)]
          cases copyGroups (r.toBytes bc.chars.text) sg (eg - sg) s <;> rfl
    · rw [if_neg hle, if_pos (Nat.lt_of_not_le hle)]
/-! ## the step -/

/-- where `stepB'` and `stepB` agree: the side condition, per instruction -/
def StepAgree (prog : List Insn) (pc : Nat) (s : State) : Prop :=
  match prog[pc]? with
  | some (.repeatGr _ none _ rep) => s.get rep ≠ some UNSET
  | some (.repeatNg _ none _ rep) => s.get rep ≠ some UNSET
  | some (.repeatEpsGr _ _ _ check) => check < s.saves.length
  | some (.repeatEpsNg _ _ _ check) => check < s.saves.length
  | some (.backref slot) => slot + 1 < s.saves.length
  | some (.delegate _ sg eg) => sg ≤ eg
  | _ => True

/-- vm.rs compares the counter with the `usize` bound; `stepB` with the optional one -/
theorem beq_hiVal (hi : Option Nat) (cnt : Nat) (h : hi = none → cnt ≠ UNSET) :
    (cnt == hiVal hi) = (hi == some cnt) := by
  cases hi with
  | none => exact beq_eq_false_iff_ne.mpr (h rfl)
  | some v => exact Bool.beq_comm.trans (by simp only [hiVal, Option.some_beq_some])

theorem C05_vm_stepB'_eq (hA : StepAgree prog pc s) : stepB' bc prog pc ix s = stepB bc prog pc ix s := by
  unfold StepAgree at hA
  cases h : prog[pc]? with
  | none => simp only [stepB', stepB, h]
  | some insn =>
    rw [h] at hA
    cases insn with
    | repeatGr lo hi nx rep | repeatNg lo hi nx rep =>
      simp only [stepB', stepB, h]
      cases hg : s.get rep with
      | none => rfl
      | some cnt =>
        simp only [beq_hiVal hi cnt (fun e => by subst e; intro e; subst e; exact hA hg)]
        rfl
    | repeatEpsGr lo nx rep check | repeatEpsNg lo nx rep check =>
      simp only [stepB', stepB, h, epsRest, State.get, List.getElem?_eq_getElem (show check < s.saves.length from hA)]
      cases s.saves[rep]? with
      | none => rfl
      | some cnt =>
        by_cases hgt : cnt > lo
        · simp only [hgt, if_true, decide_true, Bool.true_and]
          rfl
        · simp only [hgt, if_false, decide_false, Bool.false_and, Bool.false_eq_true]
          rfl
    | backref slot =>
      simp only [stepB', stepB, h, State.get, List.getElem?_eq_getElem (show slot + 1 < s.saves.length from hA)]
      cases s.saves[slot]? with
      | none => rfl
      | some lo =>
        by_cases hlo : (lo == UNSET) = true
        · simp only [hlo, if_true, Bool.true_or]
        · simp only [hlo, if_false, Bool.false_or]
          rfl
    | delegate es sg eg =>
      simp only [stepB', h, if_neg (Nat.not_lt.mpr hA)]
    | _ => simp only [stepB', h]

/-- **The translated interpreter step is the (corrected) hand-written byte-level step**, for every program, program
    counter, position and state. -/
theorem C05_vm_translated_eq : genStep bc prog pc ix s = stepB' bc prog pc ix s := by
  cases h : prog[pc]? with
  | none => simp only [genStep, stepB', h]
  | some insn =>
    have plain : StepAgree prog pc s → stepB bc prog pc ix s = stepB' bc prog pc ix s :=
      fun hA => (C05_vm_stepB'_eq bc prog pc ix s hA).symm
    rw [StepAgree, h] at plain
    rw [genStep, h]
    cases insn with
    | end_ => exact (armEnd_eq bc prog pc ix s h).trans (plain trivial)
    | any => exact (armAny_eq bc prog pc ix s h).trans (plain trivial)
    | anyNoNL => exact (armAnyNoNL_eq bc prog pc ix s h).trans (plain trivial)
    | assertion a => exact (armAssertion_eq bc prog pc ix s a h).trans (plain trivial)
    | lit v => exact (armLit_eq bc prog pc ix s v h).trans (plain trivial)
    | split x y => exact (armSplit_eq bc prog pc ix s x y h).trans (plain trivial)
    | jmp t => exact (armJmp_eq bc prog pc ix s t h).trans (plain trivial)
    | save slot => exact (armSave_eq bc prog pc ix s slot h).trans (plain trivial)
    | save0 slot => exact (armSave0_eq bc prog pc ix s slot h).trans (plain trivial)
    | restore slot => exact (armRestore_eq bc prog pc ix s slot h).trans (plain trivial)
    | repeatGr lo hi nx rep => exact armRepeatGr_eq bc prog pc ix s lo hi nx rep h
    | repeatNg lo hi nx rep => exact armRepeatNg_eq bc prog pc ix s lo hi nx rep h
    | repeatEpsGr lo nx rep check => exact armRepeatEpsilonGr_eq bc prog pc ix s lo nx rep check h
    | repeatEpsNg lo nx rep check => exact armRepeatEpsilonNg_eq bc prog pc ix s lo nx rep check h
    | failNegLook => exact (armFailNegativeLookAround_eq bc prog pc ix s h).trans (plain trivial)
    | goBack n => exact (armGoBack_eq bc prog pc ix s n h).trans (plain trivial)
    | backref slot => exact armBackref_eq bc prog pc ix s slot h
    | beginAtomic => exact (armBeginAtomic_eq bc prog pc ix s h).trans (plain trivial)
    | endAtomic => exact (armEndAtomic_eq bc prog pc ix s h).trans (plain trivial)
    | delegate es sg eg => exact armDelegate_eq bc prog pc ix s [] es sg eg h
    | contPrev => exact (armContinueFromPreviousMatchEnd_eq bc prog pc ix s h).trans (plain trivial)
    | backrefExists g => exact (armBackrefExistsCondition_eq bc prog pc ix s g h).trans (plain trivial)
/-- the translated step against `stepB` itself, under the side condition -/
theorem C05_vm_translated_eq_stepB (hA : StepAgree prog pc s) : genStep bc prog pc ix s = stepB bc prog pc ix s := by
  rw [C05_vm_translated_eq, C05_vm_stepB'_eq bc prog pc ix s hA]

/-! ## the fail handler and the loop -/

/-- **The translated fail handler is what `runLoopB` does after `.fail`**: no branch left - no match; otherwise
    the backtrack counter is incremented, compared (`>`) with the limit, and the top branch is popped. -/
theorem C05_vm_translated_fail (o : VMOpts) (n : Nat) :
    genOnFail o pc ix s n =
      if s.stack.isEmpty then .done .noMatch n
      else if n + 1 > o.backtrackLimit then .done .errLimit (n + 1)
      else match s.pop with
        | none => .done (.panic "pop") (n + 1)
        | some (s'', pc', ix') => .resume pc' ix' s'' (n + 1) := by
  simp only [genOnFail]
  by_cases he : s.stack.isEmpty
  · simp [he]
  · simp only [he, Bool.false_eq_true, if_false]
    by_cases hl : n + 1 > o.backtrackLimit
    · simp [hl]
    · simp only [hl, decide_false, Bool.false_eq_true, if_false]
      cases s.pop with
      | none => rfl
      | some r => rfl

/-- C07: the limit error is reported exactly when a branch is left and the incremented counter exceeds the limit -/
theorem C07_vm_translated_limit (o : VMOpts) (n : Nat) (out : Outcome) (m : Nat) :
    genOnFail o pc ix s n = .done out m →
      (out = .noMatch ∧ s.stack.isEmpty ∧ m = n) ∨
      (out = .errLimit ∧ ¬ s.stack.isEmpty ∧ o.backtrackLimit < n + 1 ∧ m = n + 1) ∨
      (out = .panic "pop" ∧ ¬ s.stack.isEmpty ∧ n + 1 ≤ o.backtrackLimit ∧ s.pop = none ∧ m = n + 1) := by
  rw [C05_vm_translated_fail]
  by_cases he : s.stack.isEmpty = true
  · rw [if_pos he]
    intro h; injection h with h1 h2
    exact Or.inl ⟨h1.symm, he, h2.symm⟩
  · rw [if_neg he]
    by_cases hl : n + 1 > o.backtrackLimit
    · rw [if_pos hl]
      intro h; injection h with h1 h2
      exact Or.inr (Or.inl ⟨h1.symm, he, hl, h2.symm⟩)
    · rw [if_neg hl]
      cases hp : s.pop with
      | none =>
        intro h; injection h with h1 h2
        exact Or.inr (Or.inr ⟨h1.symm, he, by omega, rfl, h2.symm⟩)
      | some r => intro h; cases h

/-- C07: a resumed run has counted one more backtrack and is still within the limit -/
theorem C07_vm_translated_resume (o : VMOpts) (n : Nat) (pc' ix' : Nat) (s' : State) (m : Nat) :
    genOnFail o pc ix s n = .resume pc' ix' s' m →
      m = n + 1 ∧ m ≤ o.backtrackLimit ∧ s.pop = some (s', pc', ix') := by
  rw [C05_vm_translated_fail]
  by_cases he : s.stack.isEmpty
  · simp [he]
  · simp only [he, Bool.false_eq_true, if_false]
    by_cases hl : n + 1 > o.backtrackLimit
    · simp [hl]
    · simp only [hl, if_false]
      cases hp : s.pop with
      | none => intro h; cases h
      | some r =>
        obtain ⟨s2, p2, i2⟩ := r
        intro h; injection h with h1 h2 h3 h4
        subst h1 h2 h3 h4
        exact ⟨rfl, by omega, rfl⟩

/-- the loop built from the translated step and fail handler is `runLoopB`, along any run on which the side
    condition holds: `I` is any invariant of the machine that implies it -/
theorem C05_vm_translated_loop (o : VMOpts) (I : Nat → Nat → State → Prop)
    (hA : ∀ pc ix s, I pc ix s → StepAgree prog pc s)
    (hcont : ∀ pc ix s pc' ix' s', I pc ix s → stepB bc prog pc ix s = .cont pc' ix' s' → I pc' ix' s')
    (hfail : ∀ pc ix s s' s'' pc' ix', I pc ix s → stepB bc prog pc ix s = .fail s' →
      s'.pop = some (s'', pc', ix') → I pc' ix' s'')
    (fuel : Nat) (st : Stats) (h0 : I pc ix s) :
    driveLoop (genStep bc prog) (genOnFail o) fuel pc ix s st = runLoopB bc prog o fuel pc ix s st := by
  induction fuel generalizing pc ix s st with
  | zero => simp [driveLoop, runLoopB]
  | succ fuel ih =>
    simp only [driveLoop, runLoopB]
    rw [C05_vm_translated_eq_stepB bc prog pc ix s (hA pc ix s h0)]
    cases hs : stepB bc prog pc ix s with
    | done out => rfl
    | cont pc' ix' s' => simp only; exact ih pc' ix' s' _ (hcont pc ix s pc' ix' s' h0 hs)
    | fail s' =>
      simp only [C05_vm_translated_fail]
      by_cases he : s'.stack.isEmpty
      · simp [he]
      · simp only [he, Bool.false_eq_true, if_false]
        by_cases hl : st.backtracks + 1 > o.backtrackLimit
        · simp [hl]
        · simp only [hl, if_false]
          cases hp : s'.pop with
          | none => rfl
          | some r =>
            obtain ⟨s2, p2, i2⟩ := r
            simp only
            exact ih p2 i2 s2 _ (hfail pc ix s s' s2 p2 i2 h0 hs hp)

/-- the configurations the model's machine reaches from `(pc0, ix0, s0)` -/
inductive Reach (bc : BCtx) (prog : List Insn) (pc0 ix0 : Nat) (s0 : State) : Nat → Nat → State → Prop where
  | start : Reach bc prog pc0 ix0 s0 pc0 ix0 s0
  | cont {pc ix s pc' ix' s'} : Reach bc prog pc0 ix0 s0 pc ix s → stepB bc prog pc ix s = .cont pc' ix' s' →
      Reach bc prog pc0 ix0 s0 pc' ix' s'
  | fail {pc ix s s' s'' pc' ix'} : Reach bc prog pc0 ix0 s0 pc ix s → stepB bc prog pc ix s = .fail s' →
      s'.pop = some (s'', pc', ix') → Reach bc prog pc0 ix0 s0 pc' ix' s''

/-- **`run` as translated is `runB`**, provided the side condition holds at every configuration the run reaches
    (for the output of the compiler: every slot operand is below `n_saves`, `start_group ≤ end_group`, and a
    repeat counter is zeroed by `Save0` before its loop and cannot count to `usize::MAX`). -/
theorem C05_vm_translated_run (p : Prog) (o : VMOpts) (fuel : Nat)
    (hA : ∀ pc ix s, Reach bc p.body 0 bc.pos (State.new p.nSaves o.maxStack) pc ix s → StepAgree p.body pc s) :
    genRun bc p o fuel = runB bc p o fuel := by
  simp only [genRun, runB]
  exact C05_vm_translated_loop bc p.body 0 bc.pos _ o (Reach bc p.body 0 bc.pos (State.new p.nSaves o.maxStack)) hA
    (fun _ _ _ _ _ _ hr hs => .cont hr hs) (fun _ _ _ _ _ _ _ hr hs hp => .fail hr hs hp) fuel _ .start

/-- unconditionally: `run` as translated is the same loop over the corrected step -/
theorem C05_vm_translated_run' (p : Prog) (o : VMOpts) (fuel : Nat) :
    genRun bc p o fuel =
      driveLoop (stepB' bc p.body) (genOnFail o) fuel 0 bc.pos (State.new p.nSaves o.maxStack) {} := by
  have : genStep bc p.body = stepB' bc p.body := by
    funext pc ix s; exact C05_vm_translated_eq bc p.body pc ix s
  simp only [genRun, this]

/-! ## the corners are real: `stepB'` and `stepB` differ there -/

private def isFail : StepResult → Bool | .fail _ => true | _ => false
private def isPanic : StepResult → Bool | .done (.panic _) => true | _ => false
private def contStack : StepResult → Option Nat | .cont _ _ s => some s.stack.length | _ => none

/-- `Backref(0)` with one slot, unset: vm.rs fails at `lo == usize::MAX` before it would read slot 1; `stepB` reads both -/
example (bc : BCtx) : isFail (stepB' bc [.backref 0] 0 0 (State.new 1 10)) = true ∧
    isPanic (stepB bc [.backref 0] 0 0 (State.new 1 10)) = true := by
  constructor <;> simp [stepB', stepB, State.new, State.get, isFail, isPanic, UNSET]

/-- `RepeatEpsilonGr` below `lo` with `check` out of range: vm.rs does not read `check`; `stepB` does -/
example (bc : BCtx) : contStack (stepB' bc [.repeatEpsGr 1 7 0 5] 0 0 { State.new 1 10 with saves := [0] }) = some 0 ∧
    isPanic (stepB bc [.repeatEpsGr 1 7 0 5] 0 0 { State.new 1 10 with saves := [0] }) = true := by
  constructor <;> simp [stepB', stepB, epsRest, State.new, State.get, State.save, contStack, isPanic]

/-- an unbounded `RepeatGr` whose counter slot holds `usize::MAX` (e.g. never zeroed): vm.rs leaves the loop
    (`repcount == hi`), `stepB` (`hi = none`) iterates and pushes a branch -/
example (bc : BCtx) : contStack (stepB' bc [.repeatGr 0 none 7 0] 0 0 (State.new 1 10)) = some 0 ∧
    contStack (stepB bc [.repeatGr 0 none 7 0] 0 0 (State.new 1 10)) = some 1 := by
  constructor <;>
    simp [stepB', stepB, hiVal, pushOr, State.new, State.get, State.save, State.push, contStack, UNSET]

end Fancy

