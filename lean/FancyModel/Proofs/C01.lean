import FancyModel.Lemmas.SemK
import FancyModel.Model.Regex
/-!
# C01 — match existence and span follow ordered-backtracking reference semantics

What is proved here (all patterns, texts, offsets):

* `C01_refSearchK_eq`, `C01_delegateOracle_eq`: the first-result evaluators that the executable model
  and the driver run (`refSearchK`, `delegateOracle`) compute exactly the specification
  (`refSearch`, `delegateOracleSpec`), which is defined on the *list* of all results in priority
  order. So "the reference answer" reported by the driver is the specification's, not an
  implementation artefact.
* `C01_scan_leftmost`: the reference search is **leftmost** — it reports the first result of the
  least start position `≥ pos` that has one, and no smaller start position has any result.
* `C01_wrap_path`: on the whole-pattern hand-off path the model's search *is* the reference search
  (assumption A-RA made explicit: this is what regex-automata is trusted to compute).
* `C01_lazy_any_star`: the `(?s:.)*?` prefix that `wrap_tree` puts in front of every pattern
  enumerates the start positions `ix, ix+1, …, len` in that order — the reason the compiled
  program of the wrapped tree scans left to right.

`VmCorrect` below is the statement `vm_correct` of DESIGN §3.4: the VM run of the *compiled* wrapped tree
equals `refSearch`. In this file it is proved on the hand-off path only (`C01_vm_correct_partial`). On the
VM path it is proved, in the form `VmCorrectR` (Proofs/C01b.lean: the branch-stack cap named as third
resource stop), stage by stage: `C01_vm_correct_core` (C01b), `_s2` (C01c), `_s3` (C01d), `_s4` (C01g),
`_s5` (C01h). For patterns outside stage S5 the driver evaluates both sides and the check compares them on
every explored in-domain case (evidence key `oracle_cases`).
-/
namespace Fancy

/-- the executable reference search is the specified one -/
theorem C01_refSearchK_eq (c : Ctx) (e : Expr) (nGroups : Nat) :
    refSearchK c e nGroups = refSearch c e nGroups := by
  unfold refSearchK refSearch
  split
  · generalize c.len - c.pos + 1 = n
    generalize c.pos = start
    induction n generalizing start with
    | zero => rfl
    | succ n ih =>
      simp only [scanFromK, scanFrom, semK_eq, findSome?_some_eq_head?, ih]
      cases (sem c e ⟨start, (initSlots nGroups).set 0 (some start)⟩).head? <;> rfl
  · rfl

/-- the executable delegate oracle is the specified one -/
theorem C01_delegateOracle_eq (c : Ctx) (es : List Expr) (sg eg ix : Nat) (saves : List Nat) :
    delegateOracle c es sg eg ix saves = delegateOracleSpec c es sg eg ix saves := by
  unfold delegateOracle delegateOracleSpec
  rw [semKConcat_eq, findSome?_some_eq_head?]

def startState (nGroups start : Nat) : St := ⟨start, (initSlots nGroups).set 0 (some start)⟩

/-- **leftmost**: `scanFrom` reports the first result at the least start that has one -/
theorem scanFrom_spec (c : Ctx) (e : Expr) (nGroups : Nat) (n start : Nat) (f : Found)
    (h : scanFrom c e nGroups n start = some f) :
    ∃ s r, start ≤ s ∧ s < start + n ∧ (sem c e (startState nGroups s)).head? = some r ∧
      f = finish c r ∧ ∀ s', start ≤ s' → s' < s → sem c e (startState nGroups s') = [] := by
  induction n generalizing start with
  | zero => simp [scanFrom] at h
  | succ n ih =>
    simp only [scanFrom] at h
    cases hh : (sem c e ⟨start, (initSlots nGroups).set 0 (some start)⟩).head? with
    | some r =>
      simp only [hh, Option.some.injEq] at h
      exact ⟨start, r, Nat.le_refl _, by omega, hh, h.symm, fun s' h1 h2 => by omega⟩
    | none =>
      simp only [hh] at h
      obtain ⟨s, r, h1, h2, h3, h4, h5⟩ := ih (start + 1) h
      refine ⟨s, r, by omega, by omega, h3, h4, ?_⟩
      intro s' hs1 hs2
      rcases Nat.eq_or_lt_of_le hs1 with heq | hlt
      · subst heq
        simpa [startState, List.head?_eq_none_iff] using hh
      · exact h5 s' (by omega) hs2

/-- the reference search finds nothing only if no start position has a result -/
theorem scanFrom_none (c : Ctx) (e : Expr) (nGroups : Nat) (n start : Nat)
    (h : scanFrom c e nGroups n start = none) :
    ∀ s, start ≤ s → s < start + n → sem c e (startState nGroups s) = [] := by
  induction n generalizing start with
  | zero => intro s h1 h2; omega
  | succ n ih =>
    simp only [scanFrom] at h
    cases hh : (sem c e ⟨start, (initSlots nGroups).set 0 (some start)⟩).head? with
    | some r => simp [hh] at h
    | none =>
      simp only [hh] at h
      intro s h1 h2
      rcases Nat.eq_or_lt_of_le h1 with heq | hlt
      · subst heq; simpa [startState, List.head?_eq_none_iff] using hh
      · exact ih (start + 1) h s (by omega) (by omega)

/-- **C01, reference side**: a match is reported iff some start in `[pos, len]` has a result; the
    reported one belongs to the least such start and is its first result in priority order -/
theorem C01_scan_leftmost (c : Ctx) (e : Expr) (nGroups : Nat) (hpos : c.pos ≤ c.len) :
    (∀ f, refSearch c e nGroups = some f →
      ∃ s r, c.pos ≤ s ∧ s ≤ c.len ∧ (sem c e (startState nGroups s)).head? = some r ∧ f = finish c r ∧
        ∀ s', c.pos ≤ s' → s' < s → sem c e (startState nGroups s') = []) ∧
    (refSearch c e nGroups = none →
      ∀ s, c.pos ≤ s → s ≤ c.len → sem c e (startState nGroups s) = []) := by
  unfold refSearch
  simp only [hpos, ↓reduceIte]
  constructor
  · intro f h
    obtain ⟨s, r, h1, h2, h3, h4, h5⟩ := scanFrom_spec c e nGroups _ _ f h
    exact ⟨s, r, h1, by omega, h3, h4, h5⟩
  · intro h s h1 h2
    exact scanFrom_none c e nGroups _ _ h s h1 (by omega)

/-- on the whole-pattern hand-off path the model's search is the reference search (A-RA) -/
theorem C01_wrap_path (b : Built) (c : Ctx) (limit fuel : Nat) (hk : b.kind = .wrap) :
    (b.captures c limit fuel).1 =
      match refSearch c b.raw b.nGroups with
      | some f => .found f.slots
      | none => .noMatch := by
  unfold Built.captures
  simp only [hk, C01_refSearchK_eq]
  cases refSearch c b.raw b.nGroups <;> rfl

theorem range_map_shift (st : St) (m i : Nat) :
    (List.range (m + 1)).map (fun k => ({ st with ix := i + k } : St)) =
      { st with ix := i } :: (List.range m).map (fun k => { st with ix := i + 1 + k }) := by
  rw [List.range_succ_eq_map]
  simp only [List.map_cons, Nat.add_zero, List.map_map, List.cons.injEq, true_and]
  apply List.map_congr_left
  intro k _
  simp only [Function.comp]
  congr 1
  omega

/-- the `(?s:.)*?` prefix enumerates the positions `ix, ix+1, …, len` in order -/
theorem lazy_any_loop (c : Ctx) (fuel count : Nat) (st : St) (hix : st.ix ≤ c.len)
    (hfuel : c.len - st.ix < fuel) :
    repLoop (sem c (.any true)) 0 none false fuel count st =
      (List.range (c.len - st.ix + 1)).map fun k => { st with ix := st.ix + k } := by
  induction fuel generalizing count st with
  | zero => omega
  | succ fuel ih =>
    unfold repLoop
    simp only [reduceCtorEq, ↓reduceIte, Nat.not_lt_zero, Bool.false_eq_true, Option.isNone_none,
      Nat.zero_le, decide_true, Bool.and_self, Bool.true_and]
    by_cases hlt : st.ix < c.len
    · have hat : ∃ ch, c.at? st.ix = some ch := by
        unfold Ctx.at? Ctx.len at *
        exact ⟨c.text[st.ix], List.getElem?_eq_getElem hlt⟩
      obtain ⟨ch, hch⟩ := hat
      simp only [sem, hch, Bool.true_or, ↓reduceIte, List.flatMap_cons, List.flatMap_nil, List.append_nil]
      have hne : ((st.ix + 1 == st.ix) = false) := by simp
      simp only [hne, Bool.false_eq_true, ↓reduceIte]
      rw [ih (count + 1) { st with ix := st.ix + 1 } (Nat.succ_le_of_lt hlt) (by simp only; omega)]
      have hm : c.len - st.ix + 1 = (c.len - (st.ix + 1) + 1) + 1 := by omega
      rw [hm, range_map_shift st _ st.ix]
    · have heq : st.ix = c.len := by omega
      have hat : c.at? st.ix = none := by
        unfold Ctx.at? Ctx.len at *
        exact List.getElem?_eq_none (by omega)
      simp only [sem, hat, List.flatMap_nil, heq, Nat.sub_self, Nat.zero_add, List.range_one, List.map_cons,
        Nat.add_zero, List.map_nil]
      cases st
      simp_all

theorem C01_lazy_any_star (c : Ctx) (st : St) (hix : st.ix ≤ c.len) :
    sem c (.repeat (.any true) 0 none false) st =
      (List.range (c.len - st.ix + 1)).map fun k => { st with ix := st.ix + k } := by
  simp only [sem]
  exact lazy_any_loop c _ 0 st hix (by simp; omega)

/-- `vm_correct` of DESIGN §3.4: for a pattern in the domain, the model's search — VM run of the compiled
    wrapped tree — equals the reference. (`VmCorrectR` of Proofs/C01b.lean is the form proved for the VM path.) -/
def VmCorrect (b : Built) (c : Ctx) : Prop :=
  ∀ limit fuel, (b.captures c limit fuel).1 ≠ .outOfFuel → (b.captures c limit fuel).1 ≠ .errLimit →
    (b.captures c limit fuel).1 =
      match refSearch c b.raw b.nGroups with
      | some f => .found f.slots
      | none => .noMatch

/-- `VmCorrect` holds on the hand-off path (by A-RA); for the VM path see `C01_vm_correct_s5` (Proofs/C01h.lean) -/
theorem C01_vm_correct_partial (b : Built) (c : Ctx) (hk : b.kind = .wrap) : VmCorrect b c := by
  intro limit fuel _ _
  exact C01_wrap_path b c limit fuel hk

end Fancy
