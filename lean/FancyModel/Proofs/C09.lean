import FancyModel.Proofs.C08
import FancyModel.Model.Regex
/-!
# C09 — the search entry points are mutually coherent

* iterators: `captures_iter` and `find_iter` run the same state machine; for **every** captures
  oracle the spans of the one are the items of the other (this is what the F2 repair established —
  before it `CaptureMatches::next` did not pass the skipped-empty-match flag);
* single searches in the model: `find` is the span of `captures`, and `is_match` is `find ≠ none`
  (on the Fancy path these are the same `vm::run` call; on the Wrap path three regex-automata calls,
  which are outside the model and compared by the correspondence).
-/
namespace Fancy.Api

variable {α : Type}

/-- the span-only oracle induced by a captures oracle (`find_from_pos` vs `captures_from_pos`) -/
def Oracle.spans (f : Oracle α) (span : α → Nat × Nat) : Oracle (Nat × Nat) := fun pos flag =>
  match f pos flag with
  | .error e => .error e
  | .ok none => .ok none
  | .ok (some a) => .ok (some (span a))

def mapItem (span : α → Nat × Nat) : Except SearchErr α → Except SearchErr (Nat × Nat)
  | .ok a => .ok (span a)
  | .error e => .error e

/-- one `next()`: the two iterators stay in lock step -/
theorem next_spans (f : Oracle α) (span : α → Nat × Nat) (text : Utf8.Bytes) (fuel : Nat) (it : Iter) :
    Iter.next (f.spans span) id text fuel it =
      ((Iter.next f span text fuel it).1.map (mapItem span), (Iter.next f span text fuel it).2) := by
  refine Iter.next_cases f span text fuel it
    (P := fun fuel it r => Iter.next (f.spans span) id text fuel it = (r.1.map (mapItem span), r.2))
    ?_ ?_ ?_ ?_ ?_ ?_
  · intro _; rfl
  · intro fuel it h; exact Iter.next_past _ _ _ _ _ h
  · intro fuel it e h hf
    exact Iter.next_error _ _ _ _ _ h (by simp only [Oracle.spans, hf])
  · intro fuel it h hf
    exact Iter.next_noMatch _ _ _ _ _ h (by simp only [Oracle.spans, hf])
  · intro fuel it a h hf hd
    exact Iter.next_yield (f.spans span) id text fuel it (a := span a) h (by simp only [Oracle.spans, hf]) hd
  · intro fuel it a r h hf he hadj ih
    rw [← ih]
    exact Iter.next_skip (f.spans span) id text fuel it (a := span a) h (by simp only [Oracle.spans, hf]) he hadj

/-- **captures_iter yields exactly the spans find_iter yields, in the same order** — for every
    captures oracle, errors included -/
theorem C09_iters_equal (f : Oracle α) (span : α → Nat × Nat) (text : Utf8.Bytes) :
    findIter (f.spans span) text = (capturesIter f span text).map (mapItem span) := by
  unfold findIter capturesIter
  generalize Iter.start = it
  generalize text.length + 3 = n
  induction n generalizing it with
  | zero => simp [Iter.collect]
  | succ n ih =>
    unfold Iter.collect
    rw [next_spans]
    generalize Iter.next f span text (text.length + 2) it = r
    obtain ⟨item, it', oof⟩ := r
    cases item with
    | none => simp
    | some item => simp [ih]

end Fancy.Api

namespace Fancy

/-- `find` is the overall span of `captures` (`Match::new(text, saves[0], saves[1])`) -/
theorem C09_find_is_captures_span (b : Built) (c : Ctx) (limit fuel : Nat) :
    b.find c limit fuel =
      match (b.captures c limit fuel).1 with
      | .found slots => .found (slots.take 2)
      | r => r := by
  rfl

/-- `is_match` ⇔ `find` returns a match ⇔ `captures` returns captures (same outcome class) -/
theorem C09_same_outcome (b : Built) (c : Ctx) (limit fuel : Nat) :
    (∃ s, b.find c limit fuel = .found s) ↔ (∃ s, (b.captures c limit fuel).1 = .found s) := by
  rw [C09_find_is_captures_span]
  cases (b.captures c limit fuel).1 <;> simp

end Fancy
