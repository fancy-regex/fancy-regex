import FancyModel.Proofs.C01d
/-!
# C15 — conditionals in compiled programs, delegation included (engine refinement, stage S3)

As `Proofs/C15b.lean`, for programs that may contain `Delegate` instructions (stage predicate `s3Stage`):
conditions, branches and surroundings may contain classes, case-insensitive literals and easy
sub-patterns handed to the automata engine.
-/
namespace Fancy

theorem C15_vm_correct_cond_s3 (tree : Expr) (backrefs : List Nat) (b : Built) (prog : Prog) (c : Ctx)
    (hb : build tree backrefs = .ok b) (hk : b.kind = .fancy prog)
    (hok : s3ok (fun g => backrefs.contains g) b.raw true = true) (hws : wellShaped b.raw = true)
    (hz : noBareEndZ b.raw = true) (hdok : progDelegOK prog.nSaves prog.body = true)
    (hlen : c.len < UNSET) (hpos : c.pos ≤ c.len) : VmCorrectR b c :=
  C01_vm_correct_s3 tree backrefs b prog c hb hk hok hws hz hdok hlen hpos

/-! ### Non-vacuity: `(\w)?(?(1)\d|[a-c])+` — group test over classes, inside a loop -/
def exCond3 : Expr :=
  .concat [.repeat (.group 0 (.delegate ['\\', 'w'] 1 false)) 0 (some 1) true,
    .repeat (.cond (.backrefExists 1) (.delegate ['\\', 'd'] 1 false) (.delegate ['[', 'a', '-', 'c', ']'] 1 false)) 1 none true]

set_option linter.unusedSimpArgs false in
example : s3Stage exCond3 [1] = true := by
  simp [s3Stage, build, exCond3, wrapTree, renumber, renumberList, checkRefs, checkRefsList, isHard, isHardAny,
    compile, visit, visitMiddle, visitAlt, concatSplit, groupCount, groupCountList, constSize, constSizeAll, minSize, minSizeMin,
    minSizeSum, allMinSize, compileDelegates, compileDelegate, isLiteral, isLiteralAll, s3ok, s3okAll, s3okAlts, condFree, condFreeAll,
    boundsEq, satMul, satAdd, sureReps, UNSET, Assertion.isHard, wrapPosLook, posLookBodyPc, pushLiteral, wellShaped, wellShapedAll,
    noBareEndZ, noBareEndZAll, progDelegOK, slotsBelow, slotsBelowAll]

end Fancy
