import FancyModel.Driver.ApiOps
import FancyModel.Proofs.C01e
import FancyModel.Proofs.C05c
import FancyModel.Proofs.C08b
import FancyModel.Proofs.C09
import FancyModel.Proofs.C10
/-!
# C08c — `find_iter` / `captures_iter` / `split` from the engine down: the API layer over the
model engine yields the iteration of the REFERENCE search

Two layers were proved separately: (E) the engine — `VmCorrectR b c`: `Built.captures` is the
reference search `refSearch` up to the three resource stops (a theorem on the hand-off path and for
every pattern of stage S3) — and (A) the API state machines of `Model/Api.lean` over an ABSTRACT
well-formed oracle (`C08_eq_spec…`, `C10_pieces`, …). The glue between them (character indices ↔
byte offsets, `modelOracle`, `spanOracle`) existed only in the driver (`Driver/ApiOps.lean`). This
file composes them:

* `refCapsOracle` / `refSpanOracle` — the reference search as an oracle over BYTE positions;
* `C09_engine_agrees` / `C08_engine_agrees` / `C08_engine_errors` — under (E) an `Ok` answer of the
  driver's engine oracle is the reference answer, an `Err` answer is a resource stop;
* `C09_ref_wf` / `C08_ref_wf` / `C08_engine_wf` — the reference oracle (hence the engine's) is
  well-formed (`WFOracle`: `pos ≤ start ≤ end ≤ len` in bytes);
* `C08_find_iter_is_reference`, `C09_captures_iter_is_reference`, `C10_split_is_reference`
  (`C10_split_pieces_engine`) — the composition;
* `…_wrap`, `…_s3`, `…_s3_tree`, `…_driver` — (E) discharged: hand-off path / stage S3 from the
  pattern string / from the tree / on the driver's own `mkText`, `modelOracle`, `driverFuel`.

`modelOracleF` is `Drv.modelOracle` with the engine fuel as a parameter (`modelOracle_eq : … = …
driverFuel`, by `rfl`). The text is any byte list of the UTF-8 length of `chars` (`byteLen`); the
driver's `bytesOf s` has that length for `chars = s.toList` (`bytesOf_length`).
-/
namespace Fancy.Api
open Fancy Fancy.Drv Fancy.Utf8 Fancy.ApiSpec

/-! ### The byte layer of the driver glue: `offsets`, `charIndexOf`, `bytesOf` -/


def boff (cs : List Char) (k : Nat) : Nat := ((cs.take k).map Char.utf8Size).sum
def byteLen (cs : List Char) : Nat := (cs.map Char.utf8Size).sum

theorem boff_zero (cs : List Char) : boff cs 0 = 0 := by simp [boff]
theorem boff_cons_succ (c : Char) (cs : List Char) (k : Nat) :
    boff (c :: cs) (k + 1) = c.utf8Size + boff cs k := by simp [boff]
theorem boff_length (cs : List Char) : boff cs cs.length = byteLen cs := by simp [boff, byteLen]

theorem boff_mono (cs : List Char) (i j : Nat) (h : i ≤ j) : boff cs i ≤ boff cs j := by
  obtain ⟨d, rfl⟩ : ∃ d, j = i + d := ⟨j - i, by omega⟩
  unfold boff
  rw [List.take_add, List.map_append, List.sum_append]
  omega

theorem boff_le_byteLen (cs : List Char) (k : Nat) (hk : k ≤ cs.length) : boff cs k ≤ byteLen cs := by
  rw [← boff_length]; exact boff_mono cs k _ hk

theorem offsets_fold_toList (cs : List Char) (arr : Array Nat) (n : Nat) :
    (cs.foldl (fun (acc : Array Nat × Nat) ch => (acc.1.push (acc.2 + ch.utf8Size), acc.2 + ch.utf8Size))
      (arr, n)).1.toList = arr.toList ++ (List.range cs.length).map (fun j => n + boff cs (j + 1)) := by
  induction cs generalizing arr n with
  | nil => simp
  | cons c cs ih =>
    rw [List.foldl_cons, ih]
    simp only [Array.toList_push, List.length_cons, List.append_assoc, List.singleton_append]
    congr 1
    rw [List.range_succ_eq_map, List.map_cons, List.map_map]
    congr 1
    · simp [boff]
      intro a _; omega

theorem offsets_toList (cs : List Char) :
    (offsets cs).toList = (List.range (cs.length + 1)).map (boff cs) := by
  unfold offsets
  rw [offsets_fold_toList, List.range_succ_eq_map, List.map_cons, List.map_map]
  simp [boff_zero, Function.comp]

theorem offsets_getElem? (cs : List Char) (k : Nat) :
    (offsets cs)[k]? = if k ≤ cs.length then some (boff cs k) else none := by
  rw [← Array.getElem?_toList, offsets_toList, List.getElem?_map]
  by_cases h : k ≤ cs.length
  · rw [List.getElem?_range (by omega)]; simp [h]
  · rw [List.getElem?_eq_none (by simp; omega)]; simp [h]

theorem offsets_getD (cs : List Char) (k : Nat) (hk : k ≤ cs.length) :
    (offsets cs).getD k 0 = boff cs k := by
  rw [Array.getD_eq_getD_getElem?, offsets_getElem?]; simp [hk]

theorem charIndexOf_some (cs : List Char) (pos k : Nat) (h : charIndexOf (offsets cs) pos = some k) :
    k ≤ cs.length ∧ boff cs k = pos := by
  unfold charIndexOf at h
  rw [List.findIdx?_eq_some_iff_getElem] at h
  obtain ⟨hk, hp, _⟩ := h
  have hk' : k ≤ cs.length := by
    rw [offsets_toList] at hk; simp at hk; omega
  refine ⟨hk', ?_⟩
  have : (offsets cs).toList[k]? = some (boff cs k) := by
    rw [Array.getElem?_toList, offsets_getElem?]; simp [hk']
  rw [List.getElem?_eq_getElem hk] at this
  simp only [Option.some.injEq] at this
  rw [this] at hp
  simpa using hp


theorem ba_size_mk (arr : Array UInt8) : (ByteArray.mk arr).size = arr.size := rfl

theorem ba_loop_eq (arr : Array UInt8) (i : Nat) (r : List UInt8) (hi : i ≤ arr.size) :
    ByteArray.toList.loop ⟨arr⟩ i r = r.reverse ++ arr.toList.drop i := by
  induction h : arr.size - i generalizing i r with
  | zero =>
    unfold ByteArray.toList.loop
    rw [ba_size_mk]
    have : ¬ i < arr.size := by omega
    rw [if_neg this, List.drop_of_length_le (by simp; omega)]; simp
  | succ n ih =>
    unfold ByteArray.toList.loop
    rw [ba_size_mk]
    have hlt : i < arr.size := by omega
    rw [if_pos hlt, ih (i + 1) _ (by omega) (by omega)]
    rw [List.drop_eq_getElem_cons (l := arr.toList) (i := i) (by simpa using hlt)]
    have : (ByteArray.mk arr).get! i = arr.toList[i]'(by simpa using hlt) := by
      show arr[i]! = _
      simp [hlt]
    rw [this]; simp

theorem ba_toList_eq (bs : ByteArray) : bs.toList = bs.data.toList := by
  obtain ⟨arr⟩ := bs
  unfold ByteArray.toList
  rw [ba_loop_eq arr 0 [] (Nat.zero_le _)]; simp

theorem ba_toList_length (bs : ByteArray) : bs.toList.length = bs.size := by
  rw [ba_toList_eq]; exact Array.length_toList

theorem flatMap_enc_length (l : List Char) :
    (l.flatMap String.utf8EncodeChar).length = (l.map Char.utf8Size).sum := by
  induction l with
  | nil => rfl
  | cons c cs ih => simp [List.flatMap_cons, ih]

theorem bytesOf_length (s : String) : (bytesOf s).length = byteLen s.toList := by
  unfold bytesOf
  rw [List.length_map, String.toUTF8, ← String.utf8Encode_toList, ba_toList_length]
  simp [List.utf8Encode, byteLen]

/-! ### facts about `build` -/

theorem build_nGroups_pos (tree : Expr) (backrefs : List Nat) (b : Built) (h : build tree backrefs = .ok b) :
    1 ≤ b.nGroups := by
  unfold build at h
  simp only at h
  cases hc : checkRefs (renumber (wrapTree tree) 0).1 0 with
  | error e => simp [hc] at h
  | ok n =>
    simp only [hc] at h
    have hshape : (renumber (wrapTree tree) 0).1 =
        .concat [.repeat (.any true) 0 none false, .group 0 (renumber tree 1).1] := by
      simp [wrapTree, renumber, renumberList]
    rw [hshape] at h hc
    have hn := checkRefs_count _ _ _ hc
    simp only [groupCount, groupCountList] at hn
    simp only at h
    split at h
    · cases h; simp only; omega
    · split at h
      · cases h
      · cases h; simp only; omega

/-! ### The two oracles: the engine, and the reference search, over byte positions -/

/-- `Drv.modelOracle` with the engine fuel as a parameter (the theorems hold for every fuel) -/
def modelOracleF (b : Built) (chars : List Char) (off : Array Nat) (limit fuel : Nat) :
    Oracle (List (Option Nat)) := fun pos flag =>
  match charIndexOf off pos with
  | none => .ok none
  | some cpos =>
    match (b.captures (mkCtx chars cpos flag) limit fuel).1 with
    | .found slots => .ok (some (slotsToBytes off slots))
    | .noMatch => .ok none
    | .errLimit => .error .limit
    | .errStack => .error .stack
    | .panic _ => .error .panicked
    | .outOfFuel => .error .outOfFuel

/-- the driver's oracle is the instance with the driver's fuel -/
theorem modelOracle_eq (b : Built) (chars : List Char) (off : Array Nat) (limit : Nat) :
    modelOracle b chars off limit = modelOracleF b chars off limit driverFuel := rfl

/-- the REFERENCE search as a captures oracle over byte positions: at a byte position that is a
    character boundary of `chars`, `refSearch` in the context the driver builds (`mkCtx`: the text,
    the character index of the position, the skipped-empty-match flag, the modelled tables), every
    slot converted to its byte offset; no match off a boundary (as `modelOracle`) -/
def refCapsOracle (b : Built) (chars : List Char) : Nat → Bool → Option (List (Option Nat)) :=
  fun pos flag =>
    match charIndexOf (offsets chars) pos with
    | none => none
    | some cpos =>
      match refSearch (mkCtx chars cpos flag) b.raw b.nGroups with
      | some f => some (slotsToBytes (offsets chars) f.slots)
      | none => none

/-- … and its overall span (slots 0 and 1) -/
def refSpanOracle (b : Built) (chars : List Char) : Nat → Bool → Option (Nat × Nat) :=
  fun pos flag => (refCapsOracle b chars pos flag).map spanOfSlots

/-- the engine hypothesis (E): the engine is the reference search up to the three resource stops, in
    every context the oracle can build (the character index of a boundary is `≤ chars.length`) -/
def EngineOK (b : Built) (chars : List Char) : Prop :=
  ∀ cpos flag, cpos ≤ chars.length → VmCorrectR b (mkCtx chars cpos flag)

/-! ### 2. the engine oracle agrees with the reference oracle wherever it succeeds -/

/-- under (E) an answer of the engine oracle is the reference answer or one of the three resource stops -/
theorem modelOracleF_cases (b : Built) (chars : List Char) (limit fuel : Nat) (hE : EngineOK b chars)
    (pos : Nat) (flag : Bool) :
    modelOracleF b chars (offsets chars) limit fuel pos flag = .ok (refCapsOracle b chars pos flag) ∨
    ∃ e, modelOracleF b chars (offsets chars) limit fuel pos flag = .error e ∧
      (e = .limit ∨ e = .stack ∨ e = .outOfFuel) := by
  unfold modelOracleF refCapsOracle
  cases hci : charIndexOf (offsets chars) pos with
  | none => exact Or.inl rfl
  | some cpos =>
    simp only
    rcases hE cpos flag (charIndexOf_some chars pos cpos hci).1 limit fuel with hv | hv | hv | hv
    · rw [hv]; exact Or.inr ⟨_, rfl, Or.inr (Or.inr rfl)⟩
    · rw [hv]; exact Or.inr ⟨_, rfl, Or.inr (Or.inl rfl)⟩
    · rw [hv]; exact Or.inr ⟨_, rfl, Or.inl rfl⟩
    · rw [hv]
      cases refSearch (mkCtx chars cpos flag) b.raw b.nGroups <;> exact Or.inl rfl

/-- captures: an `Ok` answer of the engine oracle is the reference answer -/
theorem C09_engine_agrees (b : Built) (chars : List Char) (limit fuel : Nat) (hE : EngineOK b chars)
    (pos : Nat) (flag : Bool) (r : Option (List (Option Nat)))
    (h : modelOracleF b chars (offsets chars) limit fuel pos flag = .ok r) :
    refCapsOracle b chars pos flag = r := by
  rcases modelOracleF_cases b chars limit fuel hE pos flag with h' | ⟨e, h', _⟩
  · exact Except.ok.inj (h'.symm.trans h)
  · cases h'.symm.trans h

/-- an `Err` answer of the engine oracle is one of the three resource stops (never a panic) -/
theorem C08_engine_errors (b : Built) (chars : List Char) (limit fuel : Nat) (hE : EngineOK b chars)
    (pos : Nat) (flag : Bool) (e : SearchErr)
    (h : modelOracleF b chars (offsets chars) limit fuel pos flag = .error e) :
    e = .limit ∨ e = .stack ∨ e = .outOfFuel := by
  rcases modelOracleF_cases b chars limit fuel hE pos flag with h' | ⟨e', h', he⟩
  · cases h'.symm.trans h
  · cases h'.symm.trans h; exact he

theorem spanOracle_error (f : Oracle (List (Option Nat))) (pos : Nat) (flag : Bool) (e : SearchErr)
    (h : spanOracle f pos flag = .error e) : f pos flag = .error e := by
  unfold spanOracle at h
  cases hf : f pos flag with
  | error e' => simp only [hf] at h; cases h; rfl
  | ok r => cases r <;> simp [hf] at h

/-- **spans: an `Ok` answer of the engine's span oracle is the reference answer** -/
theorem C08_engine_agrees (b : Built) (chars : List Char) (limit fuel : Nat) (hE : EngineOK b chars)
    (pos : Nat) (flag : Bool) (r : Option (Nat × Nat))
    (h : spanOracle (modelOracleF b chars (offsets chars) limit fuel) pos flag = .ok r) :
    refSpanOracle b chars pos flag = r := by
  unfold spanOracle at h
  unfold refSpanOracle
  cases hf : modelOracleF b chars (offsets chars) limit fuel pos flag with
  | error e => simp [hf] at h
  | ok r' =>
    rw [C09_engine_agrees b chars limit fuel hE pos flag r' hf]
    cases r' with
    | none => simp only [hf] at h; cases h; rfl
    | some sl => simp only [hf] at h; cases h; rfl

/-! ### 3. the reference search, seen through the byte offsets, is a well-formed oracle -/

theorem spanOfSlots_slotsToBytes (off : Array Nat) (slots : List (Option Nat)) (s e : Nat)
    (h0 : slots[0]? = some (some s)) (h1 : slots[1]? = some (some e)) :
    spanOfSlots (slotsToBytes off slots) = (off.getD s 0, off.getD e 0) := by
  match slots, h0, h1 with
  | a :: b :: rest, h0, h1 =>
    simp only [List.getElem?_cons_zero, List.getElem?_cons_succ, Option.some.injEq] at h0 h1
    subst h0; subst h1
    simp [slotsToBytes, spanOfSlots]

/-- what an answer of the reference captures oracle is: slots 0 and 1 are the byte offsets of
    character positions `s ≤ e` at or after the search position -/
theorem refCaps_inv (b : Built) (chars : List Char) (hns : noSelfNest b.raw = true) (hg : 1 ≤ b.nGroups)
    (pos : Nat) (flag : Bool) (a : List (Option Nat)) (h : refCapsOracle b chars pos flag = some a) :
    ∃ cpos s e f, boff chars cpos = pos ∧ cpos ≤ s ∧ s ≤ e ∧ e ≤ chars.length ∧
      a = slotsToBytes (offsets chars) f ∧ f[0]? = some (some s) ∧ f[1]? = some (some e) ∧
      spanOfSlots a = (boff chars s, boff chars e) := by
  unfold refCapsOracle at h
  cases hci : charIndexOf (offsets chars) pos with
  | none => simp [hci] at h
  | some cpos =>
    simp only [hci] at h
    cases href : refSearch (mkCtx chars cpos flag) b.raw b.nGroups with
    | none => simp [href] at h
    | some f =>
      simp only [href, Option.some.injEq] at h
      subst h
      obtain ⟨s, e, h0, h1, hps, hse, hel⟩ :=
        (refSearch_valid (mkCtx chars cpos flag) b.raw b.nGroups hns f href).span (by omega)
      have hel' : e ≤ chars.length := hel
      refine ⟨cpos, s, e, f.slots, (charIndexOf_some chars pos cpos hci).2, hps, hse, hel', rfl, h0, h1, ?_⟩
      rw [spanOfSlots_slotsToBytes _ _ s e h0 h1, offsets_getD chars s (by omega), offsets_getD chars e hel']

/-- **the reference captures oracle is well-formed**: a reported overall span lies inside
    `[pos, len]` in byte offsets, `start ≤ end` — for every expression `renumber` can produce
    (`noSelfNest`) with at least the implicit group -/
theorem C09_ref_wf (b : Built) (chars : List Char) (hns : noSelfNest b.raw = true) (hg : 1 ≤ b.nGroups) :
    WFOracle (fun p fl => .ok (refCapsOracle b chars p fl)) spanOfSlots (byteLen chars) := by
  intro pos flag a h
  obtain ⟨cpos, s, e, _, hcp, hps, hse, hel, _, _, _, hsp⟩ :=
    refCaps_inv b chars hns hg pos flag a (Except.ok.inj h)
  rw [hsp, ← hcp]
  exact ⟨boff_mono chars cpos s hps, boff_mono chars s e hse, boff_le_byteLen chars e hel⟩

/-- **the reference span oracle is well-formed** -/
theorem C08_ref_wf (b : Built) (chars : List Char) (hns : noSelfNest b.raw = true) (hg : 1 ≤ b.nGroups) :
    WFOracle (fun p fl => .ok (refSpanOracle b chars p fl)) id (byteLen chars) := by
  intro pos flag a h
  simp only [Except.ok.injEq, refSpanOracle, Option.map_eq_some_iff] at h
  obtain ⟨sl, hsl, rfl⟩ := h
  exact C09_ref_wf b chars hns hg pos flag sl (by simp [hsl])

/-- hence so is the engine's own oracle, under (E) -/
theorem C08_engine_wf (b : Built) (chars : List Char) (limit fuel : Nat) (hE : EngineOK b chars)
    (hns : noSelfNest b.raw = true) (hg : 1 ≤ b.nGroups) :
    WFOracle (spanOracle (modelOracleF b chars (offsets chars) limit fuel)) id (byteLen chars) := by
  intro pos flag a h
  exact C08_ref_wf b chars hns hg pos flag a
    (by show Except.ok _ = _; rw [C08_engine_agrees b chars limit fuel hE pos flag _ h])

/-! ### 4. the composition -/

/-- every `Ok` item of one `next()` is an answer of the oracle -/
theorem next_ok_from_oracle {α : Type} (f : Oracle α) (span : α → Nat × Nat) (text : Bytes)
    (fuel : Nat) (it it' : Iter) (a : α) (oof : Bool)
    (h : Iter.next f span text fuel it = (some (.ok a), it', oof)) :
    ∃ p fl, f p fl = .ok (some a) := by
  refine Iter.next_cases f span text fuel it
    (P := fun _ _ r => ∀ a it' oof, r = (some (.ok a), it', oof) → ∃ p fl, f p fl = .ok (some a))
    ?_ ?_ ?_ ?_ ?_ ?_ a it' oof h
  · intro _ _ _ _ h; cases h
  · intro _ _ _ _ _ _ h; cases h
  · intro _ _ _ _ _ _ _ _ h; cases h
  · intro _ _ _ _ _ _ _ h; cases h
  · intro _ _ _ _ hf _ _ _ _ h; cases h; exact ⟨_, _, hf⟩
  · intro _ _ _ _ _ _ _ _ ih; exact ih

/-- every `Ok` item of the drained iterator is an answer of the oracle -/
theorem collect_ok_from_oracle {α : Type} (f : Oracle α) (span : α → Nat × Nat) (text : Bytes)
    (n : Nat) (it : Iter) (a : α) (h : .ok a ∈ Iter.collect f span text n it) :
    ∃ p fl, f p fl = .ok (some a) := by
  refine Iter.collect_cases f span text (P := fun _ _ l => .ok a ∈ l → ∃ p fl, f p fl = .ok (some a))
    ?_ ?_ ?_ ?_ n it h
  · intro _ h; cases h
  · intro _ _ _ _ _ h; cases h
  · intro _ _ _ _ _ _ h; simp at h
  · intro _ it a' it' oof _ hn ih h
    rcases List.mem_cons.mp h with h | h
    · cases h; exact next_ok_from_oracle f span text _ it it' a oof hn
    · exact ih h

/-- the composition with everything kept: the drained `find_iter` over the engine is the spec
    iteration of the reference search, or a prefix of it and one error the engine returned -/
theorem find_iter_core (b : Built) (chars : List Char) (limit fuel : Nat) (hE : EngineOK b chars)
    (hns : noSelfNest b.raw = true) (hg : 1 ≤ b.nGroups) (text : Bytes)
    (htext : text.length = byteLen chars) :
    findIter (spanOracle (modelOracleF b chars (offsets chars) limit fuel)) text =
        (ApiSpec.iter (refSpanOracle b chars) text).map .ok ∨
    ∃ ms e, findIter (spanOracle (modelOracleF b chars (offsets chars) limit fuel)) text =
          ms.map .ok ++ [.error e] ∧
        ms <+: ApiSpec.iter (refSpanOracle b chars) text ∧
        ∃ p fl, modelOracleF b chars (offsets chars) limit fuel p fl = .error e := by
  have hid : (fun p fl => (refSpanOracle b chars p fl).map id) = refSpanOracle b chars := by
    funext p fl; simp
  obtain ⟨as, ⟨h1, h2⟩ | ⟨e, h1, h2, p, fl, h3⟩⟩ :=
    C08_eq_spec_until_error (spanOracle (modelOracleF b chars (offsets chars) limit fuel))
      (refSpanOracle b chars) id text
      (C08_engine_agrees b chars limit fuel hE) (htext ▸ C08_ref_wf b chars hns hg)
  · left
    rw [hid, List.map_id] at h2
    rw [← h2]; exact h1
  · right
    rw [hid, List.map_id] at h2
    exact ⟨as, e, h1, h2, p, fl, spanOracle_error _ p fl e h3⟩

/-- **C08, from the engine down.** Let the engine be correct up to its resource stops on `chars`
    (`EngineOK`: a theorem for the patterns of `C08_find_iter_is_reference_wrap` / `_s3` below), and
    let `text` be as long as the UTF-8 encoding of `chars`. Then `find_iter` over the model engine is
    * either exactly the property's iteration (`ApiSpec.iter`: leftmost match from the previous end,
      one character after an empty match, empty match adjacent to the previous match dropped) of the
      REFERENCE search, every item `Ok`,
    * or `Ok` items that are a prefix of that iteration, followed by exactly one `Err` item, which
      is a resource stop (backtrack limit, stack cap, model fuel) — never a panic. -/
theorem C08_find_iter_is_reference (b : Built) (chars : List Char) (limit fuel : Nat)
    (hE : EngineOK b chars) (hns : noSelfNest b.raw = true) (hg : 1 ≤ b.nGroups) (text : Bytes)
    (htext : text.length = byteLen chars) :
    findIter (spanOracle (modelOracleF b chars (offsets chars) limit fuel)) text =
        (ApiSpec.iter (refSpanOracle b chars) text).map .ok ∨
    ∃ ms e, findIter (spanOracle (modelOracleF b chars (offsets chars) limit fuel)) text =
          ms.map .ok ++ [.error e] ∧
        ms <+: ApiSpec.iter (refSpanOracle b chars) text ∧
        (e = .limit ∨ e = .stack ∨ e = .outOfFuel) := by
  rcases find_iter_core b chars limit fuel hE hns hg text htext with h | ⟨ms, e, h1, h2, p, fl, h3⟩
  · exact Or.inl h
  · exact Or.inr ⟨ms, e, h1, h2, C08_engine_errors b chars limit fuel hE p fl e h3⟩

/-- **C09, from the engine down**: `captures_iter` over the model engine yields captures values
    whose overall spans are the property's iteration of the reference search (or a prefix of it and
    one resource stop), and every yielded value is, group for group, the reference search's answer
    at some search position (byte offsets). -/
theorem C09_captures_iter_is_reference (b : Built) (chars : List Char) (limit fuel : Nat)
    (hE : EngineOK b chars) (hns : noSelfNest b.raw = true) (hg : 1 ≤ b.nGroups) (text : Bytes)
    (htext : text.length = byteLen chars) :
    ∃ as : List (List (Option Nat)),
      (∀ a ∈ as, ∃ p fl, refCapsOracle b chars p fl = some a) ∧
      ((capturesIter (modelOracleF b chars (offsets chars) limit fuel) spanOfSlots text =
            as.map .ok ∧
          as.map spanOfSlots = ApiSpec.iter (refSpanOracle b chars) text) ∨
       (∃ e, capturesIter (modelOracleF b chars (offsets chars) limit fuel) spanOfSlots text =
            as.map .ok ++ [.error e] ∧
          as.map spanOfSlots <+: ApiSpec.iter (refSpanOracle b chars) text ∧
          (e = .limit ∨ e = .stack ∨ e = .outOfFuel))) := by
  have hmem : ∀ as : List (List (Option Nat)),
      (∀ a ∈ as, .ok a ∈ capturesIter (modelOracleF b chars (offsets chars) limit fuel) spanOfSlots text) →
      ∀ a ∈ as, ∃ p fl, refCapsOracle b chars p fl = some a := by
    intro as hsub a ha
    obtain ⟨p, fl, hp⟩ := collect_ok_from_oracle _ _ _ _ _ a (hsub a ha)
    exact ⟨p, fl, C09_engine_agrees b chars limit fuel hE p fl _ hp⟩
  obtain ⟨as, ⟨h1, h2⟩ | ⟨e, h1, h2, p, fl, h3⟩⟩ :=
    C08_eq_spec_until_error (modelOracleF b chars (offsets chars) limit fuel)
      (refCapsOracle b chars) spanOfSlots text
      (C09_engine_agrees b chars limit fuel hE) (htext ▸ C09_ref_wf b chars hns hg)
  · refine ⟨as, hmem as ?_, Or.inl ⟨h1, h2⟩⟩
    intro a ha; rw [h1]; exact List.mem_map_of_mem ha
  · refine ⟨as, hmem as ?_, Or.inr ⟨e, h1, h2, C08_engine_errors b chars limit fuel hE p fl e h3⟩⟩
    intro a ha; rw [h1]; exact List.mem_append_left _ (List.mem_map_of_mem ha)

/-- **C10, from the engine down**: when `find_iter` yields no `Err` item, `split` over the model
    engine yields exactly the substrings between consecutive matches of the reference iteration
    and then the rest of the text — one more piece than matches. -/
theorem C10_split_is_reference (b : Built) (chars : List Char) (limit fuel : Nat)
    (hE : EngineOK b chars) (hns : noSelfNest b.raw = true) (hg : 1 ≤ b.nGroups) (text : Bytes)
    (htext : text.length = byteLen chars)
    (hnoerr : ∀ e, .error e ∉ findIter (spanOracle (modelOracleF b chars (offsets chars) limit fuel)) text) :
    split (spanOracle (modelOracleF b chars (offsets chars) limit fuel)) text =
        (ApiSpec.pieces text.length (ApiSpec.iter (refSpanOracle b chars) text)).map
          (fun p => Item.piece p.1 p.2) ∧
      (split (spanOracle (modelOracleF b chars (offsets chars) limit fuel)) text).length =
        (ApiSpec.iter (refSpanOracle b chars) text).length + 1 := by
  have hwf := C08_engine_wf b chars limit fuel hE hns hg
  rw [← htext] at hwf
  rcases C08_find_iter_is_reference b chars limit fuel hE hns hg text htext with h | ⟨ms, e, h, _⟩
  · exact C10_split_spec _ text hwf _ h
  · exact absurd (by rw [h]; simp) (hnoerr e)

/-- in general (errors or not): the pieces `split` yields are those induced by the `find_iter`
    sequence (`toPieces`), which `C08_find_iter_is_reference` describes -/
theorem C10_split_pieces_engine (b : Built) (chars : List Char) (limit fuel : Nat)
    (hE : EngineOK b chars) (hns : noSelfNest b.raw = true) (hg : 1 ≤ b.nGroups) (text : Bytes)
    (htext : text.length = byteLen chars) :
    split (spanOracle (modelOracleF b chars (offsets chars) limit fuel)) text =
      toPieces text.length
        (findIter (spanOracle (modelOracleF b chars (offsets chars) limit fuel)) text) 0 := by
  have hwf := C08_engine_wf b chars limit fuel hE hns hg
  rw [← htext] at hwf
  exact C10_pieces _ text hwf

/-! ### 5. the engine hypothesis is a theorem: hand-off path, stage S3 -/

theorem mkCtx_len (chars : List Char) (cpos : Nat) (flag : Bool) : (mkCtx chars cpos flag).len = chars.length := rfl
theorem mkCtx_pos (chars : List Char) (cpos : Nat) (flag : Bool) : (mkCtx chars cpos flag).pos = cpos := rfl

/-- (E) on the hand-off path: every pattern `build` hands to the automata engine as a whole -/
theorem engineOK_wrap (b : Built) (chars : List Char) (hk : b.kind = .wrap) : EngineOK b chars :=
  fun cpos flag _ limit fuel => Or.inr (Or.inr (Or.inr (C01_wrap_path b (mkCtx chars cpos flag) limit fuel hk)))

/-- (E) for stage S3, from the tree (hypotheses of `C01_vm_correct_s3`) -/
theorem engineOK_s3_tree (tree : Expr) (backrefs : List Nat) (b : Built) (prog : Prog)
    (hb : build tree backrefs = .ok b) (hk : b.kind = .fancy prog)
    (hok : s3ok (fun g => backrefs.contains g) b.raw true = true) (hws : wellShaped b.raw = true)
    (hz : noBareEndZ b.raw = true) (hdok : progDelegOK prog.nSaves prog.body = true)
    (chars : List Char) (hlen : chars.length < UNSET) : EngineOK b chars :=
  fun cpos flag hc =>
    C01_vm_correct_s3 tree backrefs b prog (mkCtx chars cpos flag) hb hk hok hws hz hdok hlen hc

/-- (E) for stage S3, from the pattern string (hypotheses of `C01_pipeline_s3`) -/
theorem engineOK_s3 (isAlnum : Char → Bool) (cs : List Char) (casei : Bool) (t : Parse.Tree) (b : Built)
    (prog : Prog) (hp : Parse.parseStr isAlnum cs casei = .ok t) (hb : build t.expr t.backrefs = .ok b)
    (hk : b.kind = .fancy prog) (hst : s3Pattern t b = true)
    (chars : List Char) (hlen : chars.length < UNSET) : EngineOK b chars :=
  fun cpos flag hc =>
    C01_pipeline_s3 isAlnum cs casei t b prog (mkCtx chars cpos flag) hp hb hk hst hlen hc

theorem modelOracleF_wrap_no_error (b : Built) (chars : List Char) (limit fuel : Nat) (hk : b.kind = .wrap)
    (p : Nat) (fl : Bool) (e : SearchErr) :
    modelOracleF b chars (offsets chars) limit fuel p fl ≠ .error e := by
  intro h3
  unfold modelOracleF at h3
  cases hci : charIndexOf (offsets chars) p with
  | none => simp [hci] at h3
  | some cpos =>
    simp only [hci, C01_wrap_path b (mkCtx chars cpos fl) limit fuel hk] at h3
    cases href : refSearch (mkCtx chars cpos fl) b.raw b.nGroups <;> simp [href] at h3

/-- **hand-off path**: for every pattern that `build` hands to the automata engine as a whole
    (modelled by the reference search: assumption A-RA), every text: `find_iter` IS the property's
    iteration of the reference search — no error item at all. -/
theorem C08_find_iter_is_reference_wrap (tree : Expr) (backrefs : List Nat) (b : Built)
    (hb : build tree backrefs = .ok b) (hk : b.kind = .wrap)
    (chars : List Char) (limit fuel : Nat) (text : Bytes) (htext : text.length = byteLen chars) :
    findIter (spanOracle (modelOracleF b chars (offsets chars) limit fuel)) text =
      (ApiSpec.iter (refSpanOracle b chars) text).map .ok := by
  rcases find_iter_core b chars limit fuel (engineOK_wrap b chars hk)
    (build_noSelfNest tree backrefs b hb) (build_nGroups_pos tree backrefs b hb) text htext with
    h | ⟨ms, e, _, _, p, fl, h3⟩
  · exact h
  · exact absurd h3 (modelOracleF_wrap_no_error b chars limit fuel hk p fl e)

/-- **stage S3, from the pattern string**: for every pattern string whose parse lies in the proved
    stage (`s3Pattern`), both values of `case_insensitive`, every text shorter than `usize::MAX`
    characters, every backtrack limit and model fuel: `find_iter` over the compiled program run by the
    VM is the property's iteration of the reference search, or a prefix of it and one resource stop. -/
theorem C08_find_iter_is_reference_s3 (isAlnum : Char → Bool) (cs : List Char) (casei : Bool)
    (t : Parse.Tree) (b : Built) (prog : Prog)
    (hp : Parse.parseStr isAlnum cs casei = .ok t) (hb : build t.expr t.backrefs = .ok b)
    (hk : b.kind = .fancy prog) (hst : s3Pattern t b = true)
    (chars : List Char) (hlen : chars.length < UNSET) (limit fuel : Nat) (text : Bytes)
    (htext : text.length = byteLen chars) :
    findIter (spanOracle (modelOracleF b chars (offsets chars) limit fuel)) text =
        (ApiSpec.iter (refSpanOracle b chars) text).map .ok ∨
    ∃ ms e, findIter (spanOracle (modelOracleF b chars (offsets chars) limit fuel)) text =
          ms.map .ok ++ [.error e] ∧
        ms <+: ApiSpec.iter (refSpanOracle b chars) text ∧
        (e = .limit ∨ e = .stack ∨ e = .outOfFuel) :=
  C08_find_iter_is_reference b chars limit fuel
    (engineOK_s3 isAlnum cs casei t b prog hp hb hk hst chars hlen)
    (build_noSelfNest _ _ b hb) (build_nGroups_pos _ _ b hb) text htext

/-- the same from the tree (hypotheses exactly those of `C01_vm_correct_s3`) -/
theorem C08_find_iter_is_reference_s3_tree (tree : Expr) (backrefs : List Nat) (b : Built) (prog : Prog)
    (hb : build tree backrefs = .ok b) (hk : b.kind = .fancy prog)
    (hok : s3ok (fun g => backrefs.contains g) b.raw true = true) (hws : wellShaped b.raw = true)
    (hz : noBareEndZ b.raw = true) (hdok : progDelegOK prog.nSaves prog.body = true)
    (chars : List Char) (hlen : chars.length < UNSET) (limit fuel : Nat) (text : Bytes)
    (htext : text.length = byteLen chars) :
    findIter (spanOracle (modelOracleF b chars (offsets chars) limit fuel)) text =
        (ApiSpec.iter (refSpanOracle b chars) text).map .ok ∨
    ∃ ms e, findIter (spanOracle (modelOracleF b chars (offsets chars) limit fuel)) text =
          ms.map .ok ++ [.error e] ∧
        ms <+: ApiSpec.iter (refSpanOracle b chars) text ∧
        (e = .limit ∨ e = .stack ∨ e = .outOfFuel) :=
  C08_find_iter_is_reference b chars limit fuel
    (engineOK_s3_tree tree backrefs b prog hb hk hok hws hz hdok chars hlen)
    (build_noSelfNest _ _ b hb) (build_nGroups_pos _ _ b hb) text htext

/-- `split` for stage S3, from the pattern string, error-free run -/
theorem C10_split_is_reference_s3 (isAlnum : Char → Bool) (cs : List Char) (casei : Bool)
    (t : Parse.Tree) (b : Built) (prog : Prog)
    (hp : Parse.parseStr isAlnum cs casei = .ok t) (hb : build t.expr t.backrefs = .ok b)
    (hk : b.kind = .fancy prog) (hst : s3Pattern t b = true)
    (chars : List Char) (hlen : chars.length < UNSET) (limit fuel : Nat) (text : Bytes)
    (htext : text.length = byteLen chars)
    (hnoerr : ∀ e, .error e ∉ findIter (spanOracle (modelOracleF b chars (offsets chars) limit fuel)) text) :
    split (spanOracle (modelOracleF b chars (offsets chars) limit fuel)) text =
        (ApiSpec.pieces text.length (ApiSpec.iter (refSpanOracle b chars) text)).map
          (fun p => Item.piece p.1 p.2) ∧
      (split (spanOracle (modelOracleF b chars (offsets chars) limit fuel)) text).length =
        (ApiSpec.iter (refSpanOracle b chars) text).length + 1 :=
  C10_split_is_reference b chars limit fuel
    (engineOK_s3 isAlnum cs casei t b prog hp hb hk hst chars hlen)
    (build_noSelfNest _ _ b hb) (build_nGroups_pos _ _ b hb) text htext hnoerr

/-- `split` on the hand-off path: always the reference pieces -/
theorem C10_split_is_reference_wrap (tree : Expr) (backrefs : List Nat) (b : Built)
    (hb : build tree backrefs = .ok b) (hk : b.kind = .wrap)
    (chars : List Char) (limit fuel : Nat) (text : Bytes) (htext : text.length = byteLen chars) :
    split (spanOracle (modelOracleF b chars (offsets chars) limit fuel)) text =
        (ApiSpec.pieces text.length (ApiSpec.iter (refSpanOracle b chars) text)).map
          (fun p => Item.piece p.1 p.2) ∧
      (split (spanOracle (modelOracleF b chars (offsets chars) limit fuel)) text).length =
        (ApiSpec.iter (refSpanOracle b chars) text).length + 1 := by
  apply C10_split_is_reference b chars limit fuel (engineOK_wrap b chars hk)
    (build_noSelfNest tree backrefs b hb) (build_nGroups_pos tree backrefs b hb) text htext
  intro e he
  rw [C08_find_iter_is_reference_wrap tree backrefs b hb hk chars limit fuel text htext] at he
  simp at he

/-! ### the statement on the driver's own objects (`mkText`, `modelOracle`, `driverFuel`) -/

/-- what the driver's `iter M <text> <limit>` computes (`Drv.doIter`): for every string `s`, with
    `t := mkText s` (characters, UTF-8 bytes, offset table), stage S3 from the pattern string -/
theorem C08_find_iter_is_reference_driver (isAlnum : Char → Bool) (cs : List Char) (casei : Bool)
    (t : Parse.Tree) (b : Built) (prog : Prog)
    (hp : Parse.parseStr isAlnum cs casei = .ok t) (hb : build t.expr t.backrefs = .ok b)
    (hk : b.kind = .fancy prog) (hst : s3Pattern t b = true)
    (s : String) (hlen : s.toList.length < UNSET) (limit : Nat) :
    findIter (spanOracle (modelOracle b (mkText s).chars (mkText s).off limit)) (mkText s).bytes =
        (ApiSpec.iter (refSpanOracle b s.toList) (bytesOf s)).map .ok ∨
    ∃ ms e, findIter (spanOracle (modelOracle b (mkText s).chars (mkText s).off limit)) (mkText s).bytes =
          ms.map .ok ++ [.error e] ∧
        ms <+: ApiSpec.iter (refSpanOracle b s.toList) (bytesOf s) ∧
        (e = .limit ∨ e = .stack ∨ e = .outOfFuel) :=
  C08_find_iter_is_reference_s3 isAlnum cs casei t b prog hp hb hk hst s.toList hlen limit driverFuel
    (bytesOf s) (bytesOf_length s)

/-! ### 6. Non-vacuity

(a) hand-off path, `a*` on "aab": a non-empty match, a dropped adjacent empty match (at 2), a
yielded empty match at the end (at 3, with the skipped flag set) — the reference iteration is
evaluated, and `find_iter` / `split` over the engine are exactly it. -/

def exStar : Expr := .repeat (.literal ['a'] false) 0 none true
def exStarB : Built := ⟨exStar, .concat [.repeat (.any true) 0 none false, .group 0 exStar], 1, [], .wrap⟩

set_option linter.unusedSimpArgs false in
theorem exStar_build : build exStar [] = .ok exStarB := by
  simp [build, exStar, exStarB, wrapTree, renumber, renumberList, checkRefs, checkRefsList, isHard, isHardAny]

theorem exOff : offsets ['a','a','b'] = #[0,1,2,3] := by decide

set_option linter.unusedSimpArgs false in
theorem exStar_at0 : refSpanOracle exStarB ['a','a','b'] 0 false = some (0, 2) := by
  have h : charIndexOf #[0,1,2,3] 0 = some 0 := by decide
  simp [refSpanOracle, refCapsOracle, exOff, h, refSearch, scanFrom, sem, repLoop, exStarB, exStar, mkCtx, Ctx.len,
    Ctx.litAt, Ctx.at?, Chars.ceq, initSlots, finish, St.slot, slotsToBytes, spanOfSlots]

set_option linter.unusedSimpArgs false in
theorem exStar_at2 : refSpanOracle exStarB ['a','a','b'] 2 false = some (2, 2) := by
  have h : charIndexOf #[0,1,2,3] 2 = some 2 := by decide
  simp [refSpanOracle, refCapsOracle, exOff, h, refSearch, scanFrom, sem, repLoop, exStarB, exStar, mkCtx, Ctx.len,
    Ctx.litAt, Ctx.at?, Chars.ceq, initSlots, finish, St.slot, slotsToBytes, spanOfSlots]

set_option linter.unusedSimpArgs false in
theorem exStar_at3 : refSpanOracle exStarB ['a','a','b'] 3 true = some (3, 3) := by
  have h : charIndexOf #[0,1,2,3] 3 = some 3 := by decide
  simp [refSpanOracle, refCapsOracle, exOff, h, refSearch, scanFrom, sem, repLoop, exStarB, exStar, mkCtx, Ctx.len,
    Ctx.litAt, Ctx.at?, Chars.ceq, initSlots, finish, St.slot, slotsToBytes, spanOfSlots]

theorem exStar_iter : ApiSpec.iter (refSpanOracle exStarB ['a','a','b']) [97, 97, 98] = [(0, 2), (3, 3)] := by
  simp [ApiSpec.iter, ApiSpec.iterFrom, exStar_at0, exStar_at2, exStar_at3, Utf8.nextUtf8, Utf8.codepointLen]

example (limit fuel : Nat) :
    findIter (spanOracle (modelOracleF exStarB ['a','a','b'] (offsets ['a','a','b']) limit fuel)) [97, 97, 98] =
      [.ok (0, 2), .ok (3, 3)] := by
  rw [C08_find_iter_is_reference_wrap exStar [] exStarB exStar_build rfl ['a','a','b'] limit fuel [97, 97, 98] (by decide),
    exStar_iter]; rfl

example (limit fuel : Nat) :
    split (spanOracle (modelOracleF exStarB ['a','a','b'] (offsets ['a','a','b']) limit fuel)) [97, 97, 98] =
      [.piece 0 0, .piece 2 3, .piece 3 3] := by
  rw [(C10_split_is_reference_wrap exStar [] exStarB exStar_build rfl ['a','a','b'] limit fuel [97, 97, 98] (by decide)).1,
    exStar_iter]; rfl

/-! (b) the VM path, from the pattern string `a(?=b)` (stage S3) on "abab": every hypothesis of
`C08_find_iter_is_reference_s3` holds, and the reference iteration is `[(0,1), (2,3)]`. -/

def exLook : Expr := .concat [.literal ['a'] false, .look (.literal ['b'] false) .ahead]

theorem exLook_parse : Parse.parseStr (fun c => c.isAlphanum) "a(?=b)".toList false = .ok ⟨exLook, [], []⟩ :=
  Parse.isTree_sound (by decide +kernel)

set_option linter.unusedSimpArgs false in
theorem exLook_built : ∃ b prog, build exLook [] = .ok b ∧ b.kind = .fancy prog ∧ s3Pattern ⟨exLook, [], []⟩ b = true ∧
    b.raw = exLook ∧ b.nGroups = 1 := by
  simp [s3Pattern, build, exLook, wrapTree, renumber, renumberList, checkRefs, checkRefsList, isHard, isHardAny,
    compile, visit, visitMiddle, visitAlt, concatSplit, groupCount, groupCountList, constSize, constSizeAll, minSize, minSizeMin,
    minSizeSum, allMinSize, compileDelegates, compileDelegate, isLiteral, isLiteralAll, s3ok, s3okAll, s3okAlts, condFree, condFreeAll,
    boundsEq, satMul, satAdd, sureReps, UNSET, Assertion.isHard, wrapPosLook, posLookBodyPc, pushLiteral, wellShaped, wellShapedAll,
    noBareEndZ, noBareEndZAll, progDelegOK, slotsBelow, slotsBelowAll]

theorem exOff4 : offsets ['a','b','a','b'] = #[0,1,2,3,4] := by decide

set_option linter.unusedSimpArgs false in
theorem exLook_iter (b : Built) (hr : b.raw = exLook) (hn : b.nGroups = 1) :
    ApiSpec.iter (refSpanOracle b ['a','b','a','b']) [97, 98, 97, 98] = [(0, 1), (2, 3)] := by
  have h0 : charIndexOf #[0,1,2,3,4] 0 = some 0 := by decide
  have h1 : charIndexOf #[0,1,2,3,4] 1 = some 1 := by decide
  have h3 : charIndexOf #[0,1,2,3,4] 3 = some 3 := by decide
  have a0 : refSpanOracle b ['a','b','a','b'] 0 false = some (0, 1) := by
    simp [refSpanOracle, refCapsOracle, exOff4, h0, hr, hn, refSearch, scanFrom, sem, semConcat, firstOnly, exLook, mkCtx, Ctx.len,
      Ctx.litAt, Ctx.at?, Chars.ceq, initSlots, finish, St.slot, slotsToBytes, spanOfSlots]
  have a1 : refSpanOracle b ['a','b','a','b'] 1 false = some (2, 3) := by
    simp [refSpanOracle, refCapsOracle, exOff4, h1, hr, hn, refSearch, scanFrom, sem, semConcat, firstOnly, exLook, mkCtx, Ctx.len,
      Ctx.litAt, Ctx.at?, Chars.ceq, initSlots, finish, St.slot, slotsToBytes, spanOfSlots]
  have a3 : refSpanOracle b ['a','b','a','b'] 3 false = none := by
    simp [refSpanOracle, refCapsOracle, exOff4, h3, hr, hn, refSearch, scanFrom, sem, semConcat, firstOnly, exLook, mkCtx, Ctx.len,
      Ctx.litAt, Ctx.at?, Chars.ceq, initSlots, finish, St.slot, slotsToBytes, spanOfSlots]
  simp [ApiSpec.iter, ApiSpec.iterFrom, a0, a1, a3, Utf8.nextUtf8, Utf8.codepointLen]

example (limit fuel : Nat) : ∃ b, build exLook [] = .ok b ∧
    (findIter (spanOracle (modelOracleF b ['a','b','a','b'] (offsets ['a','b','a','b']) limit fuel)) [97, 98, 97, 98] =
        [.ok (0, 1), .ok (2, 3)] ∨
     ∃ ms e, findIter (spanOracle (modelOracleF b ['a','b','a','b'] (offsets ['a','b','a','b']) limit fuel)) [97, 98, 97, 98] =
          ms.map .ok ++ [.error e] ∧ ms <+: [(0, 1), (2, 3)] ∧ (e = .limit ∨ e = .stack ∨ e = .outOfFuel)) := by
  obtain ⟨b, prog, hb, hk, hst, hr, hn⟩ := exLook_built
  refine ⟨b, hb, ?_⟩
  have := C08_find_iter_is_reference_s3 _ _ _ ⟨exLook, [], []⟩ b prog exLook_parse hb hk hst ['a','b','a','b']
    (by decide) limit fuel [97, 98, 97, 98] (by decide)
  rw [exLook_iter b hr hn] at this
  exact this

/-- (c) the stage-S3 hypotheses hold of `\\w+(?=\\d)(?i:x)` (`ex3_parse`, `ex3_built`), for every string:
    the statement about the driver's own `iter M` computation -/
example (s : String) (hlen : s.toList.length < UNSET) (limit : Nat) : ∃ b, build exTree3 [] = .ok b ∧
    (findIter (spanOracle (modelOracle b (mkText s).chars (mkText s).off limit)) (mkText s).bytes =
        (ApiSpec.iter (refSpanOracle b s.toList) (bytesOf s)).map .ok ∨
     ∃ ms e, findIter (spanOracle (modelOracle b (mkText s).chars (mkText s).off limit)) (mkText s).bytes =
          ms.map .ok ++ [.error e] ∧
        ms <+: ApiSpec.iter (refSpanOracle b s.toList) (bytesOf s) ∧
        (e = .limit ∨ e = .stack ∨ e = .outOfFuel)) := by
  obtain ⟨b, prog, hb, hk, hst⟩ := ex3_built
  exact ⟨b, hb, C08_find_iter_is_reference_driver _ _ _ ⟨exTree3, [], []⟩ b prog ex3_parse hb hk hst s hlen limit⟩

end Fancy.Api
