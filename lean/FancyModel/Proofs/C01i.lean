import FancyModel.Proofs.C01h
import FancyModel.Proofs.C01f
/-!
# C01i — the byte-level and translated-chain theorems, for every stage with a `Big2` derivation (S3, S4, S5)

The byte-level theorems and the translated-chain theorems use ONE fact of the stage: the structured machine,
started in the initial configuration of the compiled program, reaches the reference answer,

  `Big2 c prog.body prog.nSaves (.run 0 c.pos (List.replicate prog.nSaves UNSET) [] []) (refAns c b)`

(the `*_of_big2` theorems of Proofs/C01d.lean and Proofs/C01f.lean). Here:

* `big2_staged`: the derivation for every proved stage — `s5Built br raw = s4ok br raw || s5Raw br raw`
  (`s4ok` contains `s3ok`), from `big2_s4` / `big2_s5`;
* `*_s5`: the S5 forms (`C01_bytes_vm_correct_s5`, `C05_bytes_no_panic_s5`, `C05_bytes_offsets_valid_s5`,
  `runB_refines_built_s5`, `C01_translated_chain_s5`, `C05_translated_chain_no_panic_s5`,
  `C07_translated_chain_terminates_s5`, and from the source text of the parser with the size bound
  `C01_translated_chain_source_s5`, `C05_translated_chain_source_no_panic_s5`,
  `C07_translated_chain_source_terminates_s5`: the hypotheses of `C01_translated_chain_source'` with `s5Pattern`
  in place of `s3Pattern`).
-/
namespace Fancy
open Utf8 GenAnalyze GenCompile GenVM

/-! ### the derivation for the proved stages -/

/-- the proved stage on the raw tree: S4 (which contains S3) or the new part of S5 -/
def s5Built (br : Nat → Bool) (raw : Expr) : Bool := s4ok br raw || s5Raw br raw

theorem s5Built_of_s3ok (br : Nat → Bool) (raw : Expr) (h : s3ok br raw true = true) : s5Built br raw = true := by
  simp [s5Built, s4ok_of_s3ok br raw h]

theorem s5Built_of_s4ok (br : Nat → Bool) (raw : Expr) (h : s4ok br raw = true) : s5Built br raw = true := by
  simp [s5Built, h]

/-- **the structured machine reaches the reference answer in every proved stage** -/
theorem big2_staged (tree : Expr) (backrefs : List Nat) (b : Built) (prog : Prog) (c : Ctx)
    (hb : build tree backrefs = .ok b) (hk : b.kind = .fancy prog)
    (hst : s5Built (fun g => backrefs.contains g) b.raw = true) (hws : wellShaped b.raw = true)
    (hz : noBareEndZ b.raw = true) (hlen : c.len < UNSET) (hpos : c.pos ≤ c.len) :
    Big2 c prog.body prog.nSaves (.run 0 c.pos (List.replicate prog.nSaves UNSET) [] []) (refAns c b) := by
  rcases (Bool.or_eq_true _ _).mp hst with h4 | h5
  · exact big2_s4 tree backrefs b prog c hb hk h4 hws hz hlen hpos
  · simp only [s5Raw, Bool.and_eq_true] at h5
    exact big2_s5 tree backrefs b prog c hb hk h5.1 h5.2 hws hz hlen hpos

/-- `s5Pattern` (Proofs/C01h.lean) in terms of `s5Built` -/
theorem s5Pattern_built (t : Parse.Tree) (b : Built) (h : s5Pattern t b = true) :
    s5Built (fun g => t.backrefs.contains g) b.raw = true ∧ noBareEndZ t.expr = true := by
  simp only [s5Pattern, s4Pattern, s5Built, Bool.or_eq_true, Bool.and_eq_true] at h ⊢
  rcases h with h | h
  · exact ⟨Or.inl h.1, h.2⟩
  · exact ⟨Or.inr h.1, h.2⟩

/-- the derivation from the pattern string -/
theorem big2_pattern (isAlnum : Char → Bool) (cs : List Char) (casei : Bool) (t : Parse.Tree) (b : Built)
    (prog : Prog) (c : Ctx)
    (hp : Parse.parseStr isAlnum cs casei = .ok t) (hb : build t.expr t.backrefs = .ok b)
    (hk : b.kind = .fancy prog) (hst : s5Pattern t b = true) (hlen : c.len < UNSET) (hpos : c.pos ≤ c.len) :
    Big2 c prog.body prog.nSaves (.run 0 c.pos (List.replicate prog.nSaves UNSET) [] []) (refAns c b) :=
  big2_staged t.expr t.backrefs b prog c hb hk (s5Pattern_built t b hst).1
    (Parse.parse_build_wellShaped isAlnum cs casei t b hp hb).2
    (build_raw_noBareEndZ t.expr t.backrefs b hb (s5Pattern_built t b hst).2) hlen hpos

/-! ### stage S5 (⊇ S4 ⊇ S3): the byte machine -/

section S5
variable (c : Ctx)
variable (hceq : ∀ a b, c.ceq false a b = (a == b))
variable (hU : (bytesOfChars c.text).length < UNSET)

include hceq hU in
/-- **stage S5: `runB` = mapped `run`**, no side condition -/
theorem runB_refines_built_s5 (tree : Expr) (backrefs : List Nat) (b : Built) (prog : Prog)
    (hb : build tree backrefs = .ok b) (hk : b.kind = .fancy prog)
    (hst : s5Built (fun g => backrefs.contains g) b.raw = true) (hws : wellShaped b.raw = true)
    (hz : noBareEndZ b.raw = true) (hlen : c.len < UNSET) (hpos : c.pos ≤ c.len) (limit fuel : Nat) :
    runB (BCtx.ofCtx c) prog ⟨limit, maxStackDefault⟩ fuel =
      (mapOut (tauOf prog.body b.nGroups) (offOf c.text) (run c prog ⟨limit, maxStackDefault⟩ fuel).1,
        (run c prog ⟨limit, maxStackDefault⟩ fuel).2) :=
  runB_refines_of_big2 c hceq hU tree backrefs b prog hb hk
    (big2_staged tree backrefs b prog c hb hk hst hws hz hlen hpos) hpos limit fuel

include hceq hU in
/-- **stage S5: the byte machine never panics** -/
theorem C05_bytes_no_panic_s5 (tree : Expr) (backrefs : List Nat) (b : Built) (prog : Prog)
    (hb : build tree backrefs = .ok b) (hk : b.kind = .fancy prog)
    (hst : s5Built (fun g => backrefs.contains g) b.raw = true) (hws : wellShaped b.raw = true)
    (hz : noBareEndZ b.raw = true) (hlen : c.len < UNSET) (hpos : c.pos ≤ c.len) (limit fuel : Nat)
    (site : String) : (runB (BCtx.ofCtx c) prog ⟨limit, maxStackDefault⟩ fuel).1 ≠ .panic site :=
  C05_bytes_no_panic_of_big2 c hceq hU tree backrefs b prog hb hk
    (big2_staged tree backrefs b prog c hb hk hst hws hz hlen hpos) hlen hpos limit fuel site

include hceq hU in
/-- **stage S5: every capture offset the byte machine reports is `UNSET` or a character boundary inside the
    text; the overall match satisfies `pos ≤ start ≤ end ≤ byte length`** -/
theorem C05_bytes_offsets_valid_s5 (tree : Expr) (backrefs : List Nat) (b : Built) (prog : Prog)
    (hb : build tree backrefs = .ok b) (hk : b.kind = .fancy prog)
    (hst : s5Built (fun g => backrefs.contains g) b.raw = true) (hws : wellShaped b.raw = true)
    (hz : noBareEndZ b.raw = true) (hlen : c.len < UNSET) (hpos : c.pos ≤ c.len) (limit fuel : Nat)
    (savesB : List Nat)
    (hm : (runB (BCtx.ofCtx c) prog ⟨limit, maxStackDefault⟩ fuel).1 = .matched savesB) :
    (∀ i w, i < 2 * b.nGroups → savesB[i]? = some w →
      w = UNSET ∨ (isBoundary (bytesOfChars c.text) w = true ∧ w ≤ (bytesOfChars c.text).length)) ∧
    (∃ s e, savesB[0]? = some s ∧ savesB[1]? = some e ∧
      (BCtx.ofCtx c).pos ≤ s ∧ s ≤ e ∧ e ≤ (bytesOfChars c.text).length ∧
      isBoundary (bytesOfChars c.text) s = true ∧ isBoundary (bytesOfChars c.text) e = true) :=
  C05_bytes_offsets_valid_of_big2 c hceq hU tree backrefs b prog hb hk
    (big2_staged tree backrefs b prog c hb hk hst hws hz hlen hpos) hlen hpos limit fuel savesB hm

include hceq hU in
/-- **stage S5: the byte machine's answer is the reference search's, in byte offsets** -/
theorem C01_bytes_vm_correct_s5 (tree : Expr) (backrefs : List Nat) (b : Built) (prog : Prog)
    (hb : build tree backrefs = .ok b) (hk : b.kind = .fancy prog)
    (hst : s5Built (fun g => backrefs.contains g) b.raw = true) (hws : wellShaped b.raw = true)
    (hz : noBareEndZ b.raw = true) (hlen : c.len < UNSET) (hpos : c.pos ≤ c.len) (limit fuel : Nat) :
    (runB (BCtx.ofCtx c) prog ⟨limit, maxStackDefault⟩ fuel).1 = .outOfFuel ∨
    (runB (BCtx.ofCtx c) prog ⟨limit, maxStackDefault⟩ fuel).1 = .errStack ∨
    (runB (BCtx.ofCtx c) prog ⟨limit, maxStackDefault⟩ fuel).1 = .errLimit ∨
    match refSearch c b.raw b.nGroups with
    | some f => ∃ savesB, (runB (BCtx.ofCtx c) prog ⟨limit, maxStackDefault⟩ fuel).1 = .matched savesB ∧
        (viewSlots savesB).take (b.nGroups * 2) = f.slots.map (Option.map (offOf c.text))
    | none => (runB (BCtx.ofCtx c) prog ⟨limit, maxStackDefault⟩ fuel).1 = .noMatch :=
  C01_bytes_vm_correct_of_big2 c hceq hU tree backrefs b prog hb hk
    (big2_staged tree backrefs b prog c hb hk hst hws hz hlen hpos) hlen hpos limit fuel

/-! ### stage S5: the translated chain -/

include hceq hU in
/-- **C01, the translated chain, stage S5** (the statement of `C01_translated_chain_s3`) -/
theorem C01_translated_chain_s5 (tree : Expr) (backrefs : List Nat) (b : Built) (prog : Prog)
    (hb : build tree backrefs = .ok b) (hk : b.kind = .fancy prog)
    (hst : s5Built (fun g => backrefs.contains g) b.raw = true) (hws : wellShaped b.raw = true)
    (hz : noBareEndZ b.raw = true) (hpos : c.pos ≤ c.len)
    (ha : analyzable tree = true) (hh : hiOK tree = true)
    (hfit : codeBound (renumber (wrapTree tree) 0).1 < UNSET) (limit fuel : Nat) :
    ∃ prog', genFront (fun g => backrefs.contains g) (renumber (wrapTree tree) 0).1 = .ok prog' ∧
      ((genRun (BCtx.ofCtx c) prog' ⟨limit, maxStackDefault⟩ fuel).1 = .outOfFuel ∨
       (genRun (BCtx.ofCtx c) prog' ⟨limit, maxStackDefault⟩ fuel).1 = .errStack ∨
       (genRun (BCtx.ofCtx c) prog' ⟨limit, maxStackDefault⟩ fuel).1 = .errLimit ∨
       match refSearch c b.raw b.nGroups with
       | some f => ∃ savesB, (genRun (BCtx.ofCtx c) prog' ⟨limit, maxStackDefault⟩ fuel).1 = .matched savesB ∧
           (viewSlots savesB).take (b.nGroups * 2) = f.slots.map (Option.map (offOf c.text))
       | none => (genRun (BCtx.ofCtx c) prog' ⟨limit, maxStackDefault⟩ fuel).1 = .noMatch) :=
  C01_translated_chain_of_big2 c hceq hU tree backrefs b prog hb hk
    (big2_staged tree backrefs b prog c hb hk hst hws hz (len_lt_unset c hU) hpos) hpos ha hh hfit limit fuel

include hceq hU in
/-- **C05, the translated chain, stage S5: no panic** -/
theorem C05_translated_chain_no_panic_s5 (tree : Expr) (backrefs : List Nat) (b : Built) (prog : Prog)
    (hb : build tree backrefs = .ok b) (hk : b.kind = .fancy prog)
    (hst : s5Built (fun g => backrefs.contains g) b.raw = true) (hws : wellShaped b.raw = true)
    (hz : noBareEndZ b.raw = true) (hpos : c.pos ≤ c.len)
    (ha : analyzable tree = true) (hh : hiOK tree = true)
    (hfit : codeBound (renumber (wrapTree tree) 0).1 < UNSET) (limit fuel : Nat) :
    ∃ prog', genFront (fun g => backrefs.contains g) (renumber (wrapTree tree) 0).1 = .ok prog' ∧
      ∀ site, (genRun (BCtx.ofCtx c) prog' ⟨limit, maxStackDefault⟩ fuel).1 ≠ .panic site :=
  C05_translated_chain_no_panic_of_big2 c hceq hU tree backrefs b prog hb hk
    (big2_staged tree backrefs b prog c hb hk hst hws hz (len_lt_unset c hU) hpos) hpos ha hh hfit limit fuel

include hceq hU in
/-- **C07, the translated chain, stage S5: termination** -/
theorem C07_translated_chain_terminates_s5 (tree : Expr) (backrefs : List Nat) (b : Built) (prog : Prog)
    (hb : build tree backrefs = .ok b) (hk : b.kind = .fancy prog)
    (hst : s5Built (fun g => backrefs.contains g) b.raw = true) (hws : wellShaped b.raw = true)
    (hz : noBareEndZ b.raw = true) (hpos : c.pos ≤ c.len)
    (ha : analyzable tree = true) (hh : hiOK tree = true)
    (hfit : codeBound (renumber (wrapTree tree) 0).1 < UNSET) (limit : Nat) :
    ∃ prog', genFront (fun g => backrefs.contains g) (renumber (wrapTree tree) 0).1 = .ok prog' ∧
      ∃ N, ∀ fuel, N ≤ fuel → (genRun (BCtx.ofCtx c) prog' ⟨limit, maxStackDefault⟩ fuel).1 ≠ .outOfFuel :=
  C07_translated_chain_terminates_of_big2 c hceq hU tree backrefs b prog hb hk
    (big2_staged tree backrefs b prog c hb hk hst hws hz (len_lt_unset c hU) hpos) hpos ha hh hfit limit

/-! #### from the pattern string, parsed by the model's parser / by the translated parse.rs -/

include hceq hU in
/-- the hypotheses of `C01_translated_chain_pipeline'` with `s5Pattern` -/
theorem C01_translated_chain_pipeline_s5 (isAlnum : Char → Bool) (cs : List Char) (casei : Bool) (t : Parse.Tree)
    (b : Built) (prog : Prog) (hp : Parse.parseStr isAlnum cs casei = .ok t) (hb : build t.expr t.backrefs = .ok b)
    (hk : b.kind = .fancy prog) (hst : s5Pattern t b = true) (hpos : c.pos ≤ c.len)
    (hsize : (Parse.bytesOf cs).size < 2 ^ 58) (limit fuel : Nat) :
    ∃ prog', genFront (fun g => t.backrefs.contains g) (renumber (wrapTree t.expr) 0).1 = .ok prog' ∧
      ((genRun (BCtx.ofCtx c) prog' ⟨limit, maxStackDefault⟩ fuel).1 = .outOfFuel ∨
       (genRun (BCtx.ofCtx c) prog' ⟨limit, maxStackDefault⟩ fuel).1 = .errStack ∨
       (genRun (BCtx.ofCtx c) prog' ⟨limit, maxStackDefault⟩ fuel).1 = .errLimit ∨
       match refSearch c b.raw b.nGroups with
       | some f => ∃ savesB, (genRun (BCtx.ofCtx c) prog' ⟨limit, maxStackDefault⟩ fuel).1 = .matched savesB ∧
           (viewSlots savesB).take (b.nGroups * 2) = f.slots.map (Option.map (offOf c.text))
       | none => (genRun (BCtx.ofCtx c) prog' ⟨limit, maxStackDefault⟩ fuel).1 = .noMatch) :=
  C01_translated_chain_of_big2 c hceq hU t.expr t.backrefs b prog hb hk
    (big2_pattern isAlnum cs casei t b prog c hp hb hk hst (len_lt_unset c hU) hpos) hpos
    (Parse.parse_analyzable isAlnum cs casei t hp) (Parse.parse_hiOK isAlnum cs casei t hp)
    (Parse.parse_codeBound_fits isAlnum cs casei t hp hsize) limit fuel

include hceq hU in
/-- **C01, the whole translated chain, stage S5**: a stage-S5 pattern string shorter than `2^58` bytes, parsed by
    the translated parse.rs, analyzed by the translated analyze.rs, compiled by the translated compile.rs and run
    by the translated `vm::run` on the bytes of a text, computes the reference search (the hypotheses of
    `C01_translated_chain_source'` with `s5Pattern` in place of `s3Pattern`) -/
theorem C01_translated_chain_source_s5 (isAlnum : Char → Bool) (cs : List Char) (casei : Bool) (t : Parse.Tree)
    (b : Built) (prog : Prog)
    (hp : GenParse.parse_with_case_insensitive isAlnum (Parse.bytesOf cs) casei = .ok t)
    (hb : build t.expr t.backrefs = .ok b)
    (hk : b.kind = .fancy prog) (hst : s5Pattern t b = true) (hpos : c.pos ≤ c.len)
    (hsize : (Parse.bytesOf cs).size < 2 ^ 58) (limit fuel : Nat) :
    ∃ prog', genFront (fun g => t.backrefs.contains g) (renumber (wrapTree t.expr) 0).1 = .ok prog' ∧
      ((genRun (BCtx.ofCtx c) prog' ⟨limit, maxStackDefault⟩ fuel).1 = .outOfFuel ∨
       (genRun (BCtx.ofCtx c) prog' ⟨limit, maxStackDefault⟩ fuel).1 = .errStack ∨
       (genRun (BCtx.ofCtx c) prog' ⟨limit, maxStackDefault⟩ fuel).1 = .errLimit ∨
       match refSearch c b.raw b.nGroups with
       | some f => ∃ savesB, (genRun (BCtx.ofCtx c) prog' ⟨limit, maxStackDefault⟩ fuel).1 = .matched savesB ∧
           (viewSlots savesB).take (b.nGroups * 2) = f.slots.map (Option.map (offOf c.text))
       | none => (genRun (BCtx.ofCtx c) prog' ⟨limit, maxStackDefault⟩ fuel).1 = .noMatch) :=
  C01_translated_chain_pipeline_s5 c hceq hU isAlnum cs casei t b prog
    (by rw [← GenParse.Descent.C06_parse_translated_str]; exact hp) hb hk hst hpos hsize limit fuel

include hceq hU in
theorem C05_translated_chain_source_no_panic_s5 (isAlnum : Char → Bool) (cs : List Char) (casei : Bool)
    (t : Parse.Tree) (b : Built) (prog : Prog)
    (hp : GenParse.parse_with_case_insensitive isAlnum (Parse.bytesOf cs) casei = .ok t)
    (hb : build t.expr t.backrefs = .ok b)
    (hk : b.kind = .fancy prog) (hst : s5Pattern t b = true) (hpos : c.pos ≤ c.len)
    (hsize : (Parse.bytesOf cs).size < 2 ^ 58) (limit fuel : Nat) :
    ∃ prog', genFront (fun g => t.backrefs.contains g) (renumber (wrapTree t.expr) 0).1 = .ok prog' ∧
      ∀ site, (genRun (BCtx.ofCtx c) prog' ⟨limit, maxStackDefault⟩ fuel).1 ≠ .panic site := by
  have hp' : Parse.parseStr isAlnum cs casei = .ok t := by
    rw [← GenParse.Descent.C06_parse_translated_str]; exact hp
  exact C05_translated_chain_no_panic_of_big2 c hceq hU t.expr t.backrefs b prog hb hk
    (big2_pattern isAlnum cs casei t b prog c hp' hb hk hst (len_lt_unset c hU) hpos) hpos
    (Parse.parse_analyzable isAlnum cs casei t hp') (Parse.parse_hiOK isAlnum cs casei t hp')
    (Parse.parse_codeBound_fits isAlnum cs casei t hp' hsize) limit fuel

include hceq hU in
theorem C07_translated_chain_source_terminates_s5 (isAlnum : Char → Bool) (cs : List Char) (casei : Bool)
    (t : Parse.Tree) (b : Built) (prog : Prog)
    (hp : GenParse.parse_with_case_insensitive isAlnum (Parse.bytesOf cs) casei = .ok t)
    (hb : build t.expr t.backrefs = .ok b)
    (hk : b.kind = .fancy prog) (hst : s5Pattern t b = true) (hpos : c.pos ≤ c.len)
    (hsize : (Parse.bytesOf cs).size < 2 ^ 58) (limit : Nat) :
    ∃ prog', genFront (fun g => t.backrefs.contains g) (renumber (wrapTree t.expr) 0).1 = .ok prog' ∧
      ∃ N, ∀ fuel, N ≤ fuel → (genRun (BCtx.ofCtx c) prog' ⟨limit, maxStackDefault⟩ fuel).1 ≠ .outOfFuel := by
  have hp' : Parse.parseStr isAlnum cs casei = .ok t := by
    rw [← GenParse.Descent.C06_parse_translated_str]; exact hp
  exact C07_translated_chain_terminates_of_big2 c hceq hU t.expr t.backrefs b prog hb hk
    (big2_pattern isAlnum cs casei t b prog c hp' hb hk hst (len_lt_unset c hU) hpos) hpos
    (Parse.parse_analyzable isAlnum cs casei t hp') (Parse.parse_hiOK isAlnum cs casei t hp')
    (Parse.parse_codeBound_fits isAlnum cs casei t hp' hsize) limit

end S5

/-! ### the S3 forms are instances -/

/-- e.g. `C05_bytes_no_panic_s3` (Proofs/C05e.lean) is the instance `s5Built_of_s3ok` of `C05_bytes_no_panic_s5` -/
example (c : Ctx) (hceq : ∀ a b, c.ceq false a b = (a == b)) (hU : (bytesOfChars c.text).length < UNSET)
    (tree : Expr) (backrefs : List Nat) (b : Built) (prog : Prog)
    (hb : build tree backrefs = .ok b) (hk : b.kind = .fancy prog)
    (hs3 : s3ok (fun g => backrefs.contains g) b.raw true = true) (hws : wellShaped b.raw = true)
    (hz : noBareEndZ b.raw = true) (hlen : c.len < UNSET) (hpos : c.pos ≤ c.len) (limit fuel : Nat) (site : String) :
    (runB (BCtx.ofCtx c) prog ⟨limit, maxStackDefault⟩ fuel).1 ≠ .panic site :=
  C05_bytes_no_panic_s5 c hceq hU tree backrefs b prog hb hk (s5Built_of_s3ok _ _ hs3) hws hz hlen hpos limit fuel site

end Fancy
