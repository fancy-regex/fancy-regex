import FancyModel.Proofs.C08
/-!
# C08b — the iterator state machine equals the property's wording

`Spec/ApiSpec.lean` writes the C08 sentence "repeatedly taking the leftmost match from the previous
end, stepping one character after an empty match and dropping an empty match adjacent to the
previous match" as the algorithm `ApiSpec.iter`. Here: the mirror of `Matches::next` /
`CaptureMatches::next` (`Api.Iter`, drained by `findIter` / `capturesIter`) yields exactly that
sequence, for every well-formed search oracle; and none of the fuel / item caps on either side is
ever the reason a side stops.

* `C08_eq_spec`            — `find_iter`, error-free oracle
* `C08_eq_spec_captures`   — `captures_iter`, error-free oracle, arbitrary span projection
* `C08_eq_spec_until_error`— oracle that may fail: the `Ok` items are a prefix of the spec
  iteration of *any* error-free well-formed search that agrees with the oracle where it succeeds,
  followed by exactly one `Err` item (or the full spec sequence if no error occurs)
* `C08_eq_spec_restrict`   — the same with the canonical restriction (error ↦ no match): equality
-/
namespace Fancy.Api
open Fancy.Utf8 Fancy.ApiSpec

variable {α : Type}

/-! ### `iterFrom`: one-step unfolding and fuel independence -/

/-- the `skipped` flag of `ApiSpec.iterFrom` -/
def skipFlag (pos : Nat) (prevEnd : Option Nat) : Bool :=
  match prevEnd with
  | some pe => decide (pos > pe)
  | none => false

theorem flag_eq_skipFlag (it : Iter) : it.flag = skipFlag it.lastEnd it.lastMatch := by
  unfold Iter.flag skipFlag
  cases it.lastMatch <;> rfl

theorem iterFrom_succ (search : Nat → Bool → Option (Nat × Nat)) (text : Bytes) (F pos : Nat)
    (pe : Option Nat) :
    iterFrom search text (F + 1) pos pe =
      if pos > text.length then [] else
      match search pos (skipFlag pos pe) with
      | none => []
      | some (s, e) =>
        if s == e then
          if some e == pe then iterFrom search text F (nextUtf8 text e) pe
          else (s, e) :: iterFrom search text F (nextUtf8 text e) (some e)
        else (s, e) :: iterFrom search text F e (some e) := by
  cases pe <;> rfl

theorem iterFrom_past (search : Nat → Bool → Option (Nat × Nat)) (text : Bytes) (F pos : Nat)
    (pe : Option Nat) (h : pos > text.length) : iterFrom search text F pos pe = [] := by
  cases F with
  | zero => rfl
  | succ F => rw [iterFrom_succ, if_pos h]

section iterFrom
variable (search : Nat → Bool → Option (Nat × Nat)) (text : Bytes) (F : Nat) {pos : Nat} {pe : Option Nat}

theorem iterFrom_noMatch (h : ¬ pos > text.length) (hs : search pos (skipFlag pos pe) = none) :
    iterFrom search text (F + 1) pos pe = [] := by
  rw [iterFrom_succ, if_neg h, hs]

theorem iterFrom_skip {s e : Nat} (h : ¬ pos > text.length) (hs : search pos (skipFlag pos pe) = some (s, e))
    (he : s = e) (hadj : pe = some e) :
    iterFrom search text (F + 1) pos pe = iterFrom search text F (nextUtf8 text e) pe := by
  rw [iterFrom_succ, if_neg h, hs]
  simp only [he, hadj, beq_self_eq_true, if_true]

theorem iterFrom_yield {s e : Nat} (h : ¬ pos > text.length) (hs : search pos (skipFlag pos pe) = some (s, e))
    (hd : ¬ (s = e ∧ pe = some e)) :
    iterFrom search text (F + 1) pos pe =
      (s, e) :: iterFrom search text F (if s = e then nextUtf8 text e else e) (some e) := by
  rw [iterFrom_succ, if_neg h, hs]
  by_cases he : s = e
  · have hadj : ¬ (some e == pe) = true := fun h' => hd ⟨he, (beq_iff_eq.mp h').symm⟩
    simp only [he, beq_self_eq_true, if_true, if_neg hadj]
  · have : ¬ (s == e) = true := fun h' => he (beq_iff_eq.mp h')
    simp only [if_neg this, if_neg he]
end iterFrom

/-- a search that reports matches at or after the search position -/
def WFSearch (search : Nat → Bool → Option (Nat × Nat)) : Prop :=
  ∀ p fl s e, search p fl = some (s, e) → p ≤ s ∧ s ≤ e

/-- **the fuel of `ApiSpec.iterFrom` is never what stops it**: any two fuels of at least
    `len + 2 - pos` give the same sequence (every step moves the position strictly forward) -/
theorem iterFrom_fuel (search : Nat → Bool → Option (Nat × Nat)) (text : Bytes)
    (hw : WFSearch search) (F F' pos : Nat) (pe : Option Nat)
    (h1 : text.length + 2 ≤ F + pos) (h2 : text.length + 2 ≤ F' + pos) :
    iterFrom search text F pos pe = iterFrom search text F' pos pe := by
  induction F generalizing F' pos pe with
  | zero =>
    rw [iterFrom_past _ _ _ _ _ (by omega), iterFrom_past _ _ _ _ _ (by omega)]
  | succ F ih =>
    by_cases hp : pos > text.length
    · rw [iterFrom_past _ _ _ _ _ hp, iterFrom_past _ _ _ _ _ hp]
    · obtain ⟨F', rfl⟩ : ∃ G, F' = G + 1 := ⟨F' - 1, by omega⟩
      cases hs : search pos (skipFlag pos pe) with
      | none => rw [iterFrom_noMatch _ _ _ hp hs, iterFrom_noMatch _ _ _ hp hs]
      | some se =>
        obtain ⟨s, e⟩ := se
        obtain ⟨w1, w2⟩ := hw _ _ _ _ hs
        by_cases hd : s = e ∧ pe = some e
        · have hn := nextUtf8_gt text e
          rw [iterFrom_skip _ _ _ hp hs hd.1 hd.2, iterFrom_skip _ _ _ hp hs hd.1 hd.2]
          exact ih _ _ _ (by omega) (by omega)
        · obtain ⟨_, hn⟩ := resume_bounds text w2
          rw [iterFrom_yield _ _ _ hp hs hd, iterFrom_yield _ _ _ hp hs hd,
            ih F' _ _ (by omega) (by omega)]

/-! ### One `next()` against one round of the spec -/

/-- the spec-level search induced by an `α`-valued search and a span projection -/
def spanSearch (search : Nat → Bool → Option α) (span : α → Nat × Nat) :
    Nat → Bool → Option (Nat × Nat) :=
  fun p fl => (search p fl).map span

/-- `search` is an error-free completion of the oracle `f` -/
def Agrees (f : Oracle α) (search : Nat → Bool → Option α) : Prop :=
  ∀ p fl r, f p fl = .ok r → search p fl = r

/-- well-formedness of an error-free search (= `WFOracle` of the oracle that wraps it) -/
abbrev WFS (search : Nat → Bool → Option α) (span : α → Nat × Nat) (len : Nat) : Prop :=
  WFOracle (fun p fl => .ok (search p fl)) span len

theorem WFS.wfSearch {search : Nat → Bool → Option α} {span : α → Nat × Nat} {len : Nat}
    (h : WFS search span len) : WFSearch (spanSearch search span) := by
  intro p fl s e hs
  unfold spanSearch at hs
  cases ha : search p fl with
  | none => simp [ha] at hs
  | some a =>
    simp only [ha, Option.map_some, Option.some.injEq] at hs
    obtain ⟨w1, w2, _⟩ := h p fl a (by simp [ha])
    rw [hs] at w1 w2
    exact ⟨w1, w2⟩

/-- the relation between the result `r` of one `next()` from state `it` (new state `it'`) and the
    spec sequence from `it` -/
def NextSpec (f : Oracle α) (S : Nat → Bool → Option (Nat × Nat)) (span : α → Nat × Nat)
    (text : Bytes) (F : Nat) (it it' : Iter) : Option (Except SearchErr α) → Prop
  | none => iterFrom S text F it.lastEnd it.lastMatch = []
  | some (.ok a) =>
      it.lastEnd < it'.lastEnd ∧
      ∀ F', text.length + 2 ≤ F' + it'.lastEnd →
        iterFrom S text F it.lastEnd it.lastMatch = span a :: iterFrom S text F' it'.lastEnd it'.lastMatch
  | some (.error e) => ∃ p fl, f p fl = .error e

theorem NextSpec.of_skip {f : Oracle α} {S : Nat → Bool → Option (Nat × Nat)} {span : α → Nat × Nat}
    {text : Bytes} {F F0 : Nat} {it it0 it' : Iter} {r : Option (Except SearchErr α)}
    (hle : it.lastEnd ≤ it0.lastEnd)
    (heq : iterFrom S text F it.lastEnd it.lastMatch = iterFrom S text F0 it0.lastEnd it0.lastMatch)
    (h : NextSpec f S span text F0 it0 it' r) : NextSpec f S span text F it it' r :=
  match r, h with
  | none, h => heq.trans h
  | some (.error _), h => h
  | some (.ok _), h => ⟨Nat.lt_of_le_of_lt hle h.1, fun F' hF' => heq.trans (h.2 F' hF')⟩

/-- what one call of `next()` (with enough recursion fuel) does, in terms of the spec:
    * `None`     — the spec sequence from this state is empty;
    * `Some(Ok)` — the spec sequence from this state is that match followed by the spec sequence
                   from the new state, and the search position moved strictly forward;
    * `Some(Err)`— the oracle returned that error. -/
theorem next_vs_spec (f : Oracle α) (search : Nat → Bool → Option α) (span : α → Nat × Nat)
    (text : Bytes) (hag : Agrees f search) (hwf : WFS search span text.length)
    (k : Nat) (it : Iter) (F : Nat)
    (hk : text.length + 1 ≤ k + it.lastEnd) (hF : text.length + 2 ≤ F + it.lastEnd)
    (r : Option (Except SearchErr α)) (it' : Iter) (oof : Bool)
    (h : Iter.next f span text (k + 1) it = (r, it', oof)) :
    NextSpec f (spanSearch search span) span text F it it' r := by
  have hws := hwf.wfSearch
  have hS : ∀ (it : Iter) o, f it.lastEnd it.flag = .ok o →
      spanSearch search span it.lastEnd (skipFlag it.lastEnd it.lastMatch) = o.map span := by
    intro it o hf
    unfold spanSearch; rw [← flag_eq_skipFlag, hag _ _ _ hf]
  have := Iter.next_cases f span text (k + 1) it
    (P := fun k it r => ∀ F, text.length + 2 ≤ k + it.lastEnd → text.length + 2 ≤ F + it.lastEnd →
      NextSpec f (spanSearch search span) span text F it r.2.1 r.1)
    ?_ ?_ ?_ ?_ ?_ ?_ F (by omega) hF
  · rw [h] at this; exact this
  · intro it F hk _
    exact iterFrom_past _ _ _ _ _ (by omega)
  · intro _ it hgt F _ _
    exact iterFrom_past _ _ _ _ _ hgt
  · intro _ it e _ hf F _ _
    exact ⟨_, _, hf⟩
  · intro _ it hgt hf F _ hF
    obtain ⟨F, rfl⟩ : ∃ G, F = G + 1 := ⟨F - 1, by omega⟩
    exact iterFrom_noMatch _ _ _ hgt (hS it _ hf)
  · intro _ it a hgt hf hd F _ hF
    obtain ⟨F, rfl⟩ : ∃ G, F = G + 1 := ⟨F - 1, by omega⟩
    obtain ⟨w1, w2, _⟩ := hwf it.lastEnd it.flag a (congrArg Except.ok (hag _ _ _ hf))
    obtain ⟨b1, b2⟩ := resume_bounds text w2
    refine ⟨Nat.lt_of_le_of_lt w1 b2, ?_⟩
    intro F' hF'
    rw [iterFrom_yield _ _ _ hgt (hS it _ hf) hd]
    exact congrArg _ (iterFrom_fuel _ text hws F F' _ _ (by omega) hF')
  · intro k it a r hgt hf he hadj ih F hk hF
    obtain ⟨F, rfl⟩ : ∃ G, F = G + 1 := ⟨F - 1, by omega⟩
    obtain ⟨w1, _, _⟩ := hwf it.lastEnd it.flag a (congrArg Except.ok (hag _ _ _ hf))
    have hn := nextUtf8_gt text (span a).2
    exact (ih F (by simp only; omega) (by simp only; omega)).of_skip (by simp only; omega)
      (iterFrom_skip _ _ _ hgt (hS it _ hf) he hadj)

/-! ### Draining the iterator against the spec -/

/-- the general statement, from any iterator state, with any adequate caps: the drained iterator is
    either the whole spec sequence, or a prefix of it followed by one error the oracle returned -/
theorem collect_vs_spec (f : Oracle α) (search : Nat → Bool → Option α) (span : α → Nat × Nat)
    (text : Bytes) (hag : Agrees f search) (hwf : WFS search span text.length)
    (n : Nat) (it : Iter) (F : Nat)
    (hn : text.length + 1 ≤ n + it.lastEnd) (hF : text.length + 2 ≤ F + it.lastEnd) :
    ∃ as : List α,
      (Iter.collect f span text n it = as.map Except.ok ∧
        as.map span = iterFrom (spanSearch search span) text F it.lastEnd it.lastMatch) ∨
      (∃ e, Iter.collect f span text n it = as.map Except.ok ++ [.error e] ∧
        as.map span <+: iterFrom (spanSearch search span) text F it.lastEnd it.lastMatch ∧
        ∃ p fl, f p fl = .error e) := by
  refine Iter.collect_cases f span text
    (P := fun n it l => ∀ F, text.length + 1 ≤ n + it.lastEnd → text.length + 2 ≤ F + it.lastEnd →
      ∃ as : List α,
        (l = as.map Except.ok ∧
          as.map span = iterFrom (spanSearch search span) text F it.lastEnd it.lastMatch) ∨
        (∃ e, l = as.map Except.ok ++ [.error e] ∧
          as.map span <+: iterFrom (spanSearch search span) text F it.lastEnd it.lastMatch ∧
          ∃ p fl, f p fl = .error e))
    ?_ ?_ ?_ ?_ n it F hn hF
  · intro it F hn _
    exact ⟨[], Or.inl ⟨rfl, (iterFrom_past _ _ _ _ _ (by omega)).symm⟩⟩
  · intro _ it it' oof hnx F _ hF
    have hsp := next_vs_spec f search span text hag hwf _ it F (by omega) hF _ it' oof hnx
    exact ⟨[], Or.inl ⟨rfl, hsp.symm⟩⟩
  · intro _ it e it' oof hnx F _ hF
    have hsp := next_vs_spec f search span text hag hwf _ it F (by omega) hF _ it' oof hnx
    exact ⟨[], Or.inr ⟨e, rfl, List.nil_prefix, hsp⟩⟩
  · intro n it a it' oof rest hnx ih F hn hF
    obtain ⟨hlt, hrest⟩ := next_vs_spec f search span text hag hwf _ it F (by omega) hF _ it' oof hnx
    obtain ⟨as, has⟩ := ih (text.length + 2) (by omega) (by omega)
    rw [hrest (text.length + 2) (by omega)]
    refine ⟨a :: as, ?_⟩
    rcases has with ⟨h1, h2⟩ | ⟨e, h1, h2, h3⟩
    · exact Or.inl ⟨by rw [h1]; rfl, by rw [List.map_cons, h2]⟩
    · refine Or.inr ⟨e, by rw [h1]; rfl, ?_, h3⟩
      rw [List.map_cons]
      exact List.prefix_cons_inj _ |>.mpr h2

/-- the caps of `ApiSpec.iter` and of `capturesIter` / `findIter` are adequate -/
theorem drain_vs_spec (f : Oracle α) (search : Nat → Bool → Option α) (span : α → Nat × Nat)
    (text : Bytes) (hag : Agrees f search) (hwf : WFS search span text.length) :
    ∃ as : List α,
      (capturesIter f span text = as.map Except.ok ∧
        as.map span = ApiSpec.iter (spanSearch search span) text) ∨
      (∃ e, capturesIter f span text = as.map Except.ok ++ [.error e] ∧
        as.map span <+: ApiSpec.iter (spanSearch search span) text ∧
        ∃ p fl, f p fl = .error e) :=
  collect_vs_spec f search span text hag hwf (text.length + 3) Iter.start
    (2 * text.length + 4) (by omega) (by omega)

/-! ### The property theorems -/

/-- **C08 (captures_iter), "the sequence equals the one obtained by repeatedly taking the reference
    leftmost match from the previous end, stepping one character after an empty match and dropping
    an empty match adjacent to the previous match"**: for every error-free well-formed search
    (`search`, values of any type `α` with a span projection), `captures_iter` yields only `Ok`
    items and their spans are exactly `ApiSpec.iter` of the span-projected search. -/
theorem C08_eq_spec_captures (search : Nat → Bool → Option α) (span : α → Nat × Nat) (text : Bytes)
    (hwf : WFOracle (fun pos flag => .ok (search pos flag)) span text.length) :
    ∃ as : List α,
      capturesIter (fun pos flag => .ok (search pos flag)) span text = as.map Except.ok ∧
      as.map span = ApiSpec.iter (fun p fl => (search p fl).map span) text := by
  obtain ⟨as, h | ⟨e, _, _, p, fl, he⟩⟩ :=
    drain_vs_spec (fun pos flag => .ok (search pos flag)) search span text
      (by intro p fl r h; simpa using h) hwf
  · exact ⟨as, h⟩
  · simp at he

/-- the same, as an equation between the lists of spans -/
theorem C08_eq_spec_captures_spans (search : Nat → Bool → Option α) (span : α → Nat × Nat)
    (text : Bytes) (hwf : WFOracle (fun pos flag => .ok (search pos flag)) span text.length) :
    (capturesIter (fun pos flag => .ok (search pos flag)) span text).map
        (fun r => match r with | .ok a => Except.ok (span a) | .error e => .error e) =
      (ApiSpec.iter (fun p fl => (search p fl).map span) text).map Except.ok := by
  obtain ⟨as, h1, h2⟩ := C08_eq_spec_captures search span text hwf
  rw [h1, ← h2, List.map_map, List.map_map]
  rfl

/-- **C08 (find_iter) equals the property's wording**: for every error-free well-formed oracle,
    `find_iter` is exactly `ApiSpec.iter` (every item `Ok`). -/
theorem C08_eq_spec (search : Nat → Bool → Option (Nat × Nat)) (text : Bytes)
    (hwf : WFOracle (fun pos flag => .ok (search pos flag)) id text.length) :
    findIter (fun pos flag => .ok (search pos flag)) text =
      (ApiSpec.iter search text).map Except.ok := by
  obtain ⟨as, h1, h2⟩ := C08_eq_spec_captures search id text hwf
  have hid : (fun p fl => (search p fl).map id) = search := by
    funext p fl; simp
  rw [hid, List.map_id] at h2
  rw [← h2]
  exact h1

/-- **C08, oracle that may fail**: let `search` be any error-free well-formed search that agrees
    with the oracle wherever the oracle succeeds (e.g. the reference search, when the engine's only
    failures are its limits). Then `captures_iter` is
    * either all `Ok`, with spans exactly the spec iteration of `search`,
    * or `Ok` items whose spans are a prefix of the spec iteration of `search`, followed by exactly
      one `Err` item, which is the last item and is an error the oracle returned. -/
theorem C08_eq_spec_until_error (f : Oracle α) (search : Nat → Bool → Option α)
    (span : α → Nat × Nat) (text : Bytes)
    (hag : ∀ p fl r, f p fl = .ok r → search p fl = r)
    (hwf : WFOracle (fun pos flag => .ok (search pos flag)) span text.length) :
    ∃ as : List α,
      (capturesIter f span text = as.map Except.ok ∧
        as.map span = ApiSpec.iter (fun p fl => (search p fl).map span) text) ∨
      (∃ e, capturesIter f span text = as.map Except.ok ++ [.error e] ∧
        as.map span <+: ApiSpec.iter (fun p fl => (search p fl).map span) text ∧
        ∃ p fl, f p fl = .error e) :=
  drain_vs_spec f search span text hag hwf

/-- the error-free restriction of an oracle: an error counts as "no match" -/
def restrict (f : Oracle α) : Nat → Bool → Option α :=
  fun p fl => match f p fl with
    | .ok r => r
    | .error _ => none

/-- with the canonical restriction the `Ok` items are the *whole* spec iteration (the spec stops
    where the oracle fails), and an `Err` item, if any, is the last one -/
theorem C08_eq_spec_restrict (f : Oracle α) (span : α → Nat × Nat) (text : Bytes)
    (hwf : WFOracle f span text.length) :
    ∃ (as : List α) (tail : List (Except SearchErr α)),
      capturesIter f span text = as.map Except.ok ++ tail ∧
      (tail = [] ∨ ∃ e, tail = [.error e] ∧ ∃ p fl, f p fl = .error e) ∧
      as.map span <+: ApiSpec.iter (fun p fl => (restrict f p fl).map span) text ∧
      (tail = [] → as.map span = ApiSpec.iter (fun p fl => (restrict f p fl).map span) text) := by
  have hag : ∀ p fl r, f p fl = .ok r → restrict f p fl = r := by
    intro p fl r h; simp [restrict, h]
  have hwf' : WFOracle (fun pos flag => .ok (restrict f pos flag)) span text.length := by
    intro p fl a h
    simp only [Except.ok.injEq] at h
    unfold restrict at h
    cases hf : f p fl with
    | error e => simp [hf] at h
    | ok r =>
      simp only [hf] at h
      subst h
      exact hwf p fl a hf
  obtain ⟨as, ⟨h1, h2⟩ | ⟨e, h1, h2, h3⟩⟩ := C08_eq_spec_until_error f (restrict f) span text hag hwf'
  · exact ⟨as, [], by simpa using h1, Or.inl rfl, by rw [h2]; exact List.prefix_rfl, fun _ => h2⟩
  · exact ⟨as, [.error e], h1, Or.inr ⟨e, rfl, h3⟩, h2, by simp⟩

/-! ### Non-vacuity -/

/-- the error-free search behind `demoOracle` (`a*` on "aab") -/
def demoSearch : Nat → Bool → Option (Nat × Nat) := fun pos _ =>
  if pos ≤ 0 then some (0, 2)
  else if pos ≤ 3 then some (max pos 2 |> fun p => if p == 2 then (2, 2) else (3, 3)) else none

theorem demoSearch_wf : WFOracle (fun pos flag => .ok (demoSearch pos flag)) id 3 := by
  intro pos flag a h
  simp only [demoSearch, Except.ok.injEq] at h
  split at h
  · simp only [Option.some.injEq] at h; subst h; simp; omega
  · split at h
    · simp only [Option.some.injEq] at h
      subst h
      simp only [id]
      split <;> simp_all <;> omega
    · simp at h

/-- the hypotheses of `C08_eq_spec` hold for `a*` on "aab"; the sequence has a non-empty match, a
    dropped adjacent empty match (at 2) and a yielded empty match (at 3) -/
example : WFOracle (fun pos flag => .ok (demoSearch pos flag)) id [97, 97, 98].length := demoSearch_wf
example : ApiSpec.iter demoSearch [97, 97, 98] = [(0, 2), (3, 3)] := by rfl
example : findIter (fun pos flag => .ok (demoSearch pos flag)) [97, 97, 98] =
    (ApiSpec.iter demoSearch [97, 97, 98]).map Except.ok :=
  C08_eq_spec demoSearch _ demoSearch_wf

/-- `C08_eq_spec_captures` with a non-trivial span projection (`α` = span plus a tag) -/
example : ∃ as : List ((Nat × Nat) × String),
    capturesIter (fun pos flag => .ok ((demoSearch pos flag).map (fun s => (s, "cap")))) Prod.fst
      [97, 97, 98] = as.map Except.ok ∧
    as.map Prod.fst = ApiSpec.iter
      (fun p fl => ((demoSearch p fl).map (fun s => (s, "cap"))).map Prod.fst) [97, 97, 98] :=
  C08_eq_spec_captures _ _ _ (by
    intro pos flag a h
    simp only [Except.ok.injEq, Option.map_eq_some_iff] at h
    obtain ⟨s, hs, rfl⟩ := h
    exact demoSearch_wf pos flag s (by simp [hs]))

/-- an oracle that fails (at position 3) and agrees with `demoSearch` elsewhere: one `Ok` item, a
    prefix of the spec sequence, then the error -/
def demoFailing : Oracle (Nat × Nat) := fun pos flag =>
  if pos == 3 then .error .limit else .ok (demoSearch pos flag)

example : ∀ p fl r, demoFailing p fl = .ok r → demoSearch p fl = r := by
  intro p fl r h
  unfold demoFailing at h
  split at h
  · simp at h
  · simpa using h
example : findIter demoFailing [97, 97, 98] = [.ok (0, 2), .error .limit] := by rfl

end Fancy.Api
