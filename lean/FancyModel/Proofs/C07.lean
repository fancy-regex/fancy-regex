import FancyModel.Model.VM
/-!
# C07 — limit errors only when the limit is really exceeded

About the interpreter loop `runLoop` (mirror of the loop of `vm::run`) for **every** program, text,
start state and fuel — no compile structure is used:

* `C07_limit_faithful`: with limit `L` the run returns `BacktrackLimitExceeded` or exactly what a run
  with any larger limit returns (outcome *and* counters);
* `C07_limit_sufficient`: if the run with the larger limit ends having taken `b` backtracks and
  `b ≤ L`, the run with limit `L` returns the same;
* `C07_limit_error_means_exceeded`: a limit error is reported only with `L + 1` backtracks counted;
* the branch stack: `push` refuses (StackOverflow, an `Err`) rather than exceed `max_stack`.

That searches of *compiled* programs terminate, with a number of instructions bounded independently of
fuel and limit, is `C07_search_terminates` / `C07_steps_bounded` (Proofs/C07b.lean; later stages:
`C07_terminates_s4`, `_s5`). A bound in terms of pattern and text is not proved; the counters are compared
on every explored case instead (the stats hook reports instructions, backtracks and peak stack; the model
reproduces all three exactly).
-/
namespace Fancy

theorem runLoop_backtracks_mono (c : Ctx) (prog : List Insn) (o : VMOpts) (fuel pc ix : Nat) (s : State)
    (st : Stats) : st.backtracks ≤ (runLoop c prog o fuel pc ix s st).2.backtracks := by
  induction fuel generalizing pc ix s st with
  | zero => simp [runLoop]
  | succ fuel ih =>
    unfold runLoop
    simp only
    split
    · simp
    · rename_i pc' ix' s' _
      exact Nat.le_trans (by simp) (ih pc' ix' s' _)
    · split
      · simp
      · split
        · simp
        · split
          · simp
          · rename_i s'' pc' ix' _
            exact Nat.le_trans (by simp) (ih pc' ix' s'' _)

/-- **sufficient limit**: if the run under the larger limit `o2` ends with at most `o1.limit`
    backtracks counted, the run under `o1` is identical -/
theorem C07_limit_sufficient (c : Ctx) (prog : List Insn) (o1 o2 : VMOpts)
    (hle : o1.backtrackLimit ≤ o2.backtrackLimit)
    (fuel pc ix : Nat) (s : State) (st : Stats)
    (hb : (runLoop c prog o2 fuel pc ix s st).2.backtracks ≤ o1.backtrackLimit) :
    runLoop c prog o1 fuel pc ix s st = runLoop c prog o2 fuel pc ix s st := by
  induction fuel generalizing pc ix s st with
  | zero => simp [runLoop]
  | succ fuel ih =>
    unfold runLoop at hb ⊢
    simp only at hb ⊢
    split
    · rfl
    · rename_i pc' ix' s' heq
      simp only [heq] at hb
      exact ih pc' ix' s' _ hb
    · rename_i s' heq
      simp only [heq] at hb
      split
      · rfl
      · rename_i hne
        simp only [hne, Bool.false_eq_true, ↓reduceIte] at hb
        by_cases h2 : st.backtracks + 1 > o2.backtrackLimit
        · -- the larger limit errs: then its count exceeds the smaller limit too — excluded
          simp only [h2, ↓reduceIte] at hb
          omega
        · simp only [h2, ↓reduceIte] at hb ⊢
          cases hp : s'.pop with
          | none =>
            simp only [hp] at hb ⊢
            have : ¬ (st.backtracks + 1 > o1.backtrackLimit) := by omega
            simp [this]
          | some t =>
            obtain ⟨s'', pc', ix'⟩ := t
            simp only [hp] at hb ⊢
            have hm := runLoop_backtracks_mono c prog o2 fuel pc' ix' s''
              { steps := st.steps + 1, backtracks := st.backtracks + 1, maxDepth := st.maxDepth }
            have : ¬ (st.backtracks + 1 > o1.backtrackLimit) := by simp only at hm; omega
            simp only [this, ↓reduceIte]
            exact ih pc' ix' s'' _ hb

/-- **faithful**: under limit `o1` the run reports the limit error, or exactly what the run under
    any larger limit `o2` reports -/
theorem C07_limit_faithful (c : Ctx) (prog : List Insn) (o1 o2 : VMOpts)
    (hle : o1.backtrackLimit ≤ o2.backtrackLimit)
    (fuel pc ix : Nat) (s : State) (st : Stats) :
    (runLoop c prog o1 fuel pc ix s st).1 = .errLimit ∨
      runLoop c prog o1 fuel pc ix s st = runLoop c prog o2 fuel pc ix s st := by
  induction fuel generalizing pc ix s st with
  | zero => right; simp [runLoop]
  | succ fuel ih =>
    unfold runLoop
    simp only
    split
    · right; rfl
    · rename_i pc' ix' s' _
      exact ih pc' ix' s' _
    · rename_i s' _
      split
      · right; rfl
      · by_cases h1 : st.backtracks + 1 > o1.backtrackLimit
        · left; simp [h1]
        · have h2 : ¬ (st.backtracks + 1 > o2.backtrackLimit) := by omega
          simp only [h1, h2, ↓reduceIte]
          cases hp : s'.pop with
          | none => right; rfl
          | some t =>
            obtain ⟨s'', pc', ix'⟩ := t
            exact ih pc' ix' s'' _

/-- a single instruction never reports the limit error (only the backtrack accounting does) -/
theorem step_done_not_limit (c : Ctx) (prog : List Insn) (pc ix : Nat) (s : State) (o : Outcome)
    (h : step c prog pc ix s = .done o) : o ≠ .errLimit := by
  unfold step at h
  simp only [pushOr] at h
  repeat' split at h
  all_goals first
    | (injection h with h; subst h; simp)
    | (simp at h)

/-- a limit error is reported only when the count has really passed the limit -/
theorem C07_limit_error_means_exceeded (c : Ctx) (prog : List Insn) (o : VMOpts)
    (fuel pc ix : Nat) (s : State) (st : Stats) (hst : st.backtracks ≤ o.backtrackLimit)
    (h : (runLoop c prog o fuel pc ix s st).1 = .errLimit) :
    (runLoop c prog o fuel pc ix s st).2.backtracks = o.backtrackLimit + 1 := by
  induction fuel generalizing pc ix s st with
  | zero => simp [runLoop] at h
  | succ fuel ih =>
    unfold runLoop at h ⊢
    simp only at h ⊢
    split
    · rename_i out heq
      simp only [heq] at h
      exact absurd h (step_done_not_limit c prog pc ix s out heq)
    · rename_i pc' ix' s' heq
      simp only [heq] at h
      exact ih pc' ix' s' _ (by simpa using hst) h
    · rename_i s' heq
      simp only [heq] at h
      split
      · rename_i he; simp [he] at h
      · rename_i hne
        simp only [hne, Bool.false_eq_true, ↓reduceIte] at h
        by_cases h1 : st.backtracks + 1 > o.backtrackLimit
        · simp only [h1, ↓reduceIte]; omega
        · simp only [h1, ↓reduceIte] at h ⊢
          cases hp : s'.pop with
          | none => simp [hp] at h
          | some t =>
            obtain ⟨s'', pc', ix'⟩ := t
            simp only [hp] at h ⊢
            exact ih pc' ix' s'' _ (by simp; omega) h

end Fancy
