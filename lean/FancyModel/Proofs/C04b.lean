import FancyModel.Proofs.C19b
import FancyModel.Model.ToStr
import FancyModel.Lemmas.ExprInduct
/-!
# C04 / C03 — `Expr::to_str` round trip through the parser model

fancy-regex hands the "easy" parts of a pattern to the regex crate as TEXT written by
`Expr::to_str` (`Model/ToStr.lean`), while the model gives a delegated piece the reference
semantics of the TREE.  This file ties the text back to the tree through the project's own parser
model (`Model/Parse.lean`):

    C04_roundtrip :  rtOK e = true → toStr isSpecial e 0 = some s →
                     ∃ t, parseStr isAlnum s false = .ok t ∧ t.expr = e          (norm = identity)
    C04_roundtrip_norm : the same with arbitrary group numbers in `e`, `t.expr = zeroGroups e`
    C04_roundtrip_parseRe / C04_roundtrip_levels : the statement in general position (the text
      anywhere in a pattern, at any depth, at each of the four precedence levels of `to_str`)

**The fragment `rtOK`** (`rtShape` + at most 63 nested parentheses in the text, the parser's
`MAX_RECURSION`): `Empty`; `Any` (`.` and `(?s:.)`); one-character `Literal`s, case-insensitive
only if the character is not special; the assertions `^ $ (?m:^) (?m:$)`; `Concat` of ≥ 2
non-`Empty` children; `Alt` of ≥ 2 children (`Empty` alternatives allowed); `Group` (number 0);
`Repeat` of a repeatable body with every quantifier spelling (`? * + {n} {n,} {n,m}`, greedy and
lazy, `lo ≤ usize::MAX`, `hi < usize::MAX` or none), nested arbitrarily — this is the parser's own
output shape (`parsedOK`) restricted to the constructors `to_str` supports.

**Left out, and why.**
* `Delegate` leaves: the inner text is opaque to `to_str`; a hypothesis "the parser maps `inner`
  back to this leaf" would be needed per leaf; not done here (kernel-checked instances for
  `[a-z]`, `(?i:[a-z])`, `\d`: `C04_roundtrip_delegate_examples`).
* `(?Rm:^)`, `(?Rm:$)` (CRLF line anchors): fancy-regex's parser has no `R` flag
  (`C04_roundtrip_counterexample_rejected`) — the text is only ever read by regex-syntax.
* `Literal` with `casei` of a special character, several-character literals, `Empty` in a
  concatenation, one-element concatenations: the round trip is not the identity
  (`C04_roundtrip_counterexample_*` below, with the verdict for each).
* deeper than 63 parentheses: the parser answers `RecursionExceeded` (regex-syntax has its own,
  larger, nest limit).

Proof: one structural induction (`all4`) proving, for every node, the four statements
`AtomOK / PieceOK / BranchOK / ReOK` ("`to_str e 3/2/1/0`, standing anywhere in a pattern and
followed by a suitable byte, is read back as `e` by `parse_atom / parse_piece / parse_branch /
parse_re`, which stop right after it"), from parser-only glue lemmas; explicit fuel accounting
(`2·bytes + 8·nesting + c ≤ fuel`), so that `descentFuel` suffices.
-/
namespace Fancy.Parse
open Fancy.Utf8 (codepointLen isLead)
open Fancy


/-! ## positions -/
def At (re : Bytes) (ix : Nat) (l : List Nat) : Prop := ∃ pre, re.toList = pre ++ l ∧ pre.length = ix

theorem At.get {re : Bytes} {ix b : Nat} {l : List Nat} (h : At re ix (b :: l)) : re[ix]? = some b := by
  obtain ⟨pre, h, rfl⟩ := h; exact get_of_split h
theorem At.size {re : Bytes} {ix : Nat} {l : List Nat} (h : At re ix l) : re.size = ix + l.length := by
  obtain ⟨pre, h, rfl⟩ := h; exact size_of_split h
theorem At.adv {re : Bytes} {ix : Nat} {a l : List Nat} (h : At re ix (a ++ l)) : At re (ix + a.length) l := by
  obtain ⟨pre, h, rfl⟩ := h; exact ⟨pre ++ a, by simp [h], by simp⟩
theorem At.lt_size {re : Bytes} {ix : Nat} {a l : List Nat} (h : At re ix (a ++ l)) (ha : 0 < a.length) :
    ix < re.size := by
  rw [h.size, List.length_append]; omega
theorem At.cons {re : Bytes} {ix b : Nat} {l : List Nat} (h : At re ix (b :: l)) : At re (ix + 1) l :=
  At.adv (a := [b]) h
theorem At.get? {re : Bytes} {ix : Nat} {l : List Nat} (h : At re ix l) (k : Nat) : re[ix + k]? = l[k]? := by
  obtain ⟨pre, h, rfl⟩ := h
  rw [← Array.getElem?_toList, h, List.getElem?_append_right (by omega)]; simp
theorem At.drop {re : Bytes} {ix : Nat} {l : List Nat} (h : At re ix l) : re.toList.drop ix = l := by
  obtain ⟨pre, h, rfl⟩ := h
  rw [h]; simp
theorem At.nil_get {re : Bytes} {ix : Nat} (h : At re ix []) : re[ix]? = none := by
  have := h.size; simp at this; simp [this]

/-- `starts_with` at a position reads the text standing there -/
theorem At.startsWith {re : Bytes} : ∀ (p : List Nat) {ix : Nat} {l : List Nat}, At re ix l →
    startsWithAt re ix p = (l.take p.length == p)
  | [], _, _, _ => rfl
  | c :: p, ix, l, h => by
    cases l with
    | nil => simp [startsWithAt, h.nil_get]
    | cons b l => rw [startsWithAt, h.get, At.startsWith p h.cons]; simp

theorem ne_size_of_get {re : Bytes} {i b : Nat} (h : re[i]? = some b) : i ≠ re.size :=
  Nat.ne_of_lt (lt_size_of_get h)

/-- no `(?#` here -/
def noCmt (l : List Nat) : Bool := !(l.take 3 == [40, 63, 35])

theorem optWs_at {re : Bytes} {fl : Flags} {ix : Nat} {l : List Nat} (h : At re ix l)
    (hfl : fl.ignoreSpace = false) (hn : noCmt l = true) : optWs re fl ix = .ok ix := by
  cases l with
  | nil =>
    have := h.size
    exact optWs_stay hfl (by simp at this; omega) (by intro b hb; have := lt_size_of_get hb; simp at *; omega)
  | cons b rest =>
    have hg := h.get
    have hsz := h.size
    by_cases hb : b = ch '('
    · subst hb
      rw [optWs_step hg]
      have : startsWithAt re ix [ch '(', ch '?', ch '#'] = false := by
        rw [h.startsWith]
        simpa [noCmt, ch] using hn
      simp [this, hfl]
    · exact optWs_stay hfl (by simp at hsz; omega) (by intro b' hb'; rw [hg] at hb'; cases hb'; exact hb)


theorem optWs_byte {re : Bytes} {fl : Flags} {ix b : Nat} {l : List Nat} (hp : At re ix (b :: l))
    (hfl : fl.ignoreSpace = false) (hb : b ≠ ch '(') : optWs re fl ix = .ok ix :=
  optWs_at hp hfl (by simp [noCmt]; exact Or.inl hb)

/-! ## follow sets -/
/-- what may follow a piece that is to stay as it is: no quantifier, no comment -/
def quietL (l : List Nat) : Bool :=
  noCmt l && (match l with
    | [] => true
    | b :: _ => !(b == 63) && !(b == 42) && !(b == 43) && !(b == 123))
/-- what ends a branch: `|`, `)`, the end -/
def termL (l : List Nat) : Bool := match l with | [] => true | b :: _ => b == 124 || b == 41
/-- what ends an alternation: `)`, the end -/
def closeL (l : List Nat) : Bool := match l with | [] => true | b :: _ => b == 41

theorem termL_of_closeL {l : List Nat} (h : closeL l = true) : termL l = true := by
  cases l with
  | nil => rfl
  | cons b r => simp [closeL] at h; simp [termL, h]

theorem quietL_of_termL {l : List Nat} (h : termL l = true) : quietL l = true := by
  cases l with
  | nil => rfl
  | cons b r =>
    simp [termL] at h
    rcases h with rfl | rfl <;> simp [quietL, noCmt]

theorem noCmt_of_quietL {l : List Nat} (h : quietL l = true) : noCmt l = true := by
  simp only [quietL, Bool.and_eq_true] at h; exact h.1

structure GoodSt (st : PState) : Prop where
  flags : st.flags = {}
  nb : st.numericBackrefs = false

theorem GoodSt.ws {st : PState} (h : GoodSt st) : st.flags.ignoreSpace = false := by rw [h.flags]

/-- `parse_atom` where `optional_whitespace` stays put: the dispatch on the byte found there -/
theorem parseAtom_at (isAlnum : Char → Bool) {re : Bytes} (f : Nat) (st : PState) {ix b : Nat} (d : Nat)
    (hws : optWs re st.flags ix = .ok ix) (hg : re[ix]? = some b) :
    parseAtom isAlnum (f + 1) re st ix d =
      if b == ch '.' then .ok (ix + 1, .any st.flags.dotnl, st)
      else if b == ch '^' then
        .ok (ix + 1, .assertion (if st.flags.multi then .startLine false else .startText), st)
      else if b == ch '$' then
        .ok (ix + 1, .assertion (if st.flags.multi then .endLine false else .endText), st)
      else if b == ch '(' then parseGroup isAlnum f re st ix d
      else if b == ch '\\' then parseEscape isAlnum re st ix false
      else if b == ch '+' || b == ch '*' || b == ch '?' || b == ch '|' || b == ch ')' then
        .ok (ix, .empty, st)
      else if b == ch '[' then parseClass isAlnum re st ix
      else (do
        let s ← slice re ix (ix + codepointLen b) "parse_atom: self.re[ix..next]"
        .ok (ix + codepointLen b, .literal (decodeList s) st.flags.casei, st)) := by
  have hne : (ix == re.size) = false := beq_false_of_ne (ne_size_of_get hg)
  rw [parseAtom]
  simp only [hws, Res.ok_bind, hne, Bool.false_eq_true, ↓reduceIte, byteAt, hg]

/-- … and at the end of the pattern -/
theorem parseAtom_end (isAlnum : Char → Bool) {re : Bytes} (f : Nat) (st : PState) (d : Nat)
    (hws : optWs re st.flags re.size = .ok re.size) :
    parseAtom isAlnum (f + 1) re st re.size d = .ok (re.size, .empty, st) := by
  rw [parseAtom]
  simp only [hws, Res.ok_bind, beq_self_eq_true, ↓reduceIte]

/-! ## glue: pieces -/

theorem parsePiece_noquant {re : Bytes} (isAlnum : Char → Bool) {f : Nat} {st st' : PState}
    {ix ix' d : Nat} {child : Expr} {post : List Nat}
    (ha : parseAtom isAlnum f re st ix d = .ok (ix', child, st'))
    (hfl : st'.flags.ignoreSpace = false) (hp : At re ix' post) (hq : quietL post = true) :
    parsePiece isAlnum (f + 1) re st ix d = .ok (ix', child, st') := by
  have hws := optWs_at hp hfl (noCmt_of_quietL hq)
  unfold parsePiece
  simp only [ha, Res.ok_bind, hws]
  cases post with
  | nil => have := hp.size; simp at this; simp [this]
  | cons b rest =>
    have hg := hp.get
    have hlt := lt_size_of_get hg
    simp only [quietL, Bool.and_eq_true, Bool.not_eq_true'] at hq
    obtain ⟨_, ⟨⟨h2, h3⟩, h4⟩, h5⟩ := hq
    have e2 : (b == ch '?') = false := h2
    have e3 : (b == ch '*') = false := h3
    have e4 : (b == ch '+') = false := h4
    have e5 : (b == ch '{') = false := h5
    simp only [hlt, ↓reduceIte, byteAt, hg, Res.ok_bind, e2, e3, e4, e5, Bool.false_eq_true,
      Res.pure_bind']

theorem parsePiece_term {re : Bytes} (isAlnum : Char → Bool) {f : Nat} {st : PState}
    {ix d : Nat} {post : List Nat} (hfl : st.flags.ignoreSpace = false)
    (hp : At re ix post) (ht : termL post = true) :
    parsePiece isAlnum (f + 2) re st ix d = .ok (ix, .empty, st) := by
  have hq := quietL_of_termL ht
  have hws := optWs_at hp hfl (noCmt_of_quietL hq)
  have ha : parseAtom isAlnum (f + 1) re st ix d = .ok (ix, .empty, st) := by
    cases post with
    | nil =>
      have : ix = re.size := by have := hp.size; simpa using this.symm
      subst this
      exact parseAtom_end isAlnum f st d hws
    | cons b rest =>
      rw [parseAtom_at isAlnum f st d hws hp.get]
      simp [termL] at ht
      rcases ht with rfl | rfl <;> rfl
  exact parsePiece_noquant isAlnum ha hfl hp hq

theorem branchLoop_nil {re : Bytes} (isAlnum : Char → Bool) {f : Nat} {st : PState}
    {ix d : Nat} {post : List Nat} (hfl : st.flags.ignoreSpace = false)
    (hp : At re ix post) (ht : termL post = true) :
    branchLoop isAlnum (f + 3) re st ix d = .ok (ix, [], st) := by
  unfold branchLoop
  simp only [parsePiece_term isAlnum hfl hp ht, Res.ok_bind, beq_self_eq_true, ↓reduceIte, ite_self]

theorem branchLoop_cons {re : Bytes} (isAlnum : Char → Bool) {f : Nat} {st st1 st' : PState}
    {ix ix1 ix' d : Nat} {child : Expr} {rest : List Expr}
    (hp : parsePiece isAlnum f re st ix d = .ok (ix1, child, st1)) (hlt : ix < ix1) (hsz : ix < re.size)
    (hne : child.isEmpty = false)
    (hl : branchLoop isAlnum f re st1 ix1 d = .ok (ix', rest, st')) :
    branchLoop isAlnum (f + 1) re st ix d = .ok (ix', child :: rest, st') := by
  have : (ix1 == ix) = false := by simpa using (by omega : ix1 ≠ ix)
  unfold branchLoop
  simp only [hsz, ↓reduceIte, hp, Res.ok_bind, this, Bool.false_eq_true, hl, hne]

theorem parseBranch_of_loop {re : Bytes} (isAlnum : Char → Bool) {f : Nat} {st st' : PState}
    {ix ix' d : Nat} {cs : List Expr}
    (hl : branchLoop isAlnum f re st ix d = .ok (ix', cs, st')) :
    parseBranch isAlnum (f + 1) re st ix d = .ok (ix', branchTree cs, st') := by
  unfold parseBranch
  simp only [hl, Res.ok_bind]
  match cs with
  | [] => rfl
  | [_] => rfl
  | _ :: _ :: _ => rfl

/-! ## glue: alternations -/

theorem boundary_at_term {re : Bytes} {ix : Nat} {post : List Nat} (hp : At re ix post)
    (ht : termL post = true) : isBoundary re ix = true := by
  cases post with
  | nil => have := hp.size; simp at this; rw [← this]; exact isBoundary_size re
  | cons b rest =>
    simp [termL] at ht
    exact isBoundary_of_ascii hp.get (by rcases ht with rfl | rfl <;> decide)

theorem parseRe_of_branch {re : Bytes} (isAlnum : Char → Bool) {f : Nat} {st st' : PState}
    {ix ix' d : Nat} {child : Expr} {post : List Nat}
    (hb : parseBranch isAlnum f re st ix d = .ok (ix', child, st'))
    (hfl : st'.flags.ignoreSpace = false) (hnb : st'.numericBackrefs = false)
    (hp : At re ix' post) (hc : closeL post = true) :
    parseRe isAlnum (f + 1) re st ix d = .ok (ix', child, { st' with lastReHadAlt := false }) := by
  have ht := termL_of_closeL hc
  have hws := optWs_at hp hfl (noCmt_of_quietL (quietL_of_termL ht))
  have hbd := boundary_at_term hp ht
  have hnp : re[ix']? ≠ some (ch '|') := by
    cases post with
    | nil => simp [hp.nil_get]
    | cons b rest => simp [closeL] at hc; subst hc; rw [hp.get]; decide
  unfold parseRe
  simp [hb, hws, sliceFrom, sliceFromOk, hbd, hnp, hnb]

theorem reAltLoop_nil {re : Bytes} (isAlnum : Char → Bool) {f : Nat} {st : PState}
    {ix d : Nat} {post : List Nat} (hp : At re ix post) (hc : closeL post = true) :
    reAltLoop isAlnum (f + 1) re st ix d = .ok (ix, [], st) := by
  have hbd := boundary_at_term hp (termL_of_closeL hc)
  have hnp : re[ix]? ≠ some (ch '|') := by
    cases post with
    | nil => simp [hp.nil_get]
    | cons b rest => simp [closeL] at hc; subst hc; rw [hp.get]; decide
  unfold reAltLoop
  simp [sliceFrom, sliceFromOk, hbd, hnp]

theorem reAltLoop_cons {re : Bytes} (isAlnum : Char → Bool) {f : Nat} {st st1 st' : PState}
    {ix ix1 ix' d : Nat} {child : Expr} {rest : List Expr} {post : List Nat}
    (hbar : re[ix]? = some (ch '|'))
    (hb : parseBranch isAlnum f re st (ix + 1) d = .ok (ix1, child, st1))
    (hfl : st1.flags.ignoreSpace = false) (hp : At re ix1 post) (ht : termL post = true)
    (hl : reAltLoop isAlnum f re st1 ix1 d = .ok (ix', rest, st')) :
    reAltLoop isAlnum (f + 1) re st ix d = .ok (ix', child :: rest, st') := by
  have hbd : isBoundary re ix = true := isBoundary_of_ascii hbar (by decide)
  have hws := optWs_at hp hfl (noCmt_of_quietL (quietL_of_termL ht))
  unfold reAltLoop
  simp [sliceFrom, sliceFromOk, hbd, hbar, hb, hws, hl]

theorem parseRe_of_alt {re : Bytes} (isAlnum : Char → Bool) {f : Nat} {st st1 st' : PState}
    {ix ix1 ix' d : Nat} {child : Expr} {rest : List Expr} {post : List Nat}
    (hb : parseBranch isAlnum f re st ix d = .ok (ix1, child, st1))
    (hfl : st1.flags.ignoreSpace = false) (hp : At re ix1 (ch '|' :: post))
    (hl : reAltLoop isAlnum f re st1 ix1 d = .ok (ix', rest, st')) :
    parseRe isAlnum (f + 1) re st ix d =
      .ok (ix', .alt (child :: rest), { st' with lastReHadAlt := true }) := by
  have hbar := hp.get
  have hbd : isBoundary re ix1 = true := isBoundary_of_ascii hbar (by decide)
  have hws := optWs_at hp hfl (by simp [noCmt, ch])
  unfold parseRe
  simp [hb, hws, sliceFrom, sliceFromOk, hbd, hbar, hl]


/-! ## glue: parenthesised atoms -/

theorem parseAtom_paren {re : Bytes} (isAlnum : Char → Bool) {f : Nat} {st : PState}
    {ix d : Nat} {l : List Nat} (hp : At re ix (ch '(' :: l)) (hn : noCmt (ch '(' :: l) = true)
    (hfl : st.flags.ignoreSpace = false) :
    parseAtom isAlnum (f + 1) re st ix d = parseGroup isAlnum f re st ix d := by
  rw [parseAtom_at isAlnum f st d (optWs_at hp hfl hn) hp.get]
  rfl

theorem checkForCloseParen_at {re : Bytes} {fl : Flags} {ix : Nat} (hfl : fl.ignoreSpace = false)
    (hcl : re[ix]? = some (ch ')')) : checkForCloseParen re fl ix = .ok (ix + 1) := by
  have hws : optWs re fl ix = .ok ix := C19_optWs_no_x hfl hcl (by decide)
  unfold checkForCloseParen
  simp [hws, ne_size_of_get hcl, byteAt, hcl]

theorem parseAtom_group {re : Bytes} (hwf : WF re) (isAlnum : Char → Bool) {f : Nat} {st st2 : PState}
    {ix ix2 d : Nat} {child : Expr} {l : List Nat}
    (hp : At re ix (ch '(' :: l)) (hq : quietL l = true) (hfl : st.flags.ignoreSpace = false)
    (hd : d + 1 < Generated.maxRecursion)
    (hr : parseRe isAlnum f re { st with currGroup := st.currGroup + 1 } (ix + 1) (d + 1) =
      .ok (ix2, child, st2))
    (hfl2 : st2.flags.ignoreSpace = false) (hcl : re[ix2]? = some (ch ')')) :
    parseAtom isAlnum (f + 2) re st ix d = .ok (ix2 + 1, .group 0 child, st2) := by
  have hne : re[ix + 1]? ≠ some (ch '?') := by
    rw [hp.get? 1]
    cases l with
    | nil => simp
    | cons b r =>
      simp only [quietL, Bool.and_eq_true, Bool.not_eq_true', beq_eq_false_iff_ne] at hq
      simp [ch]; exact hq.2.1.1.1
  have hn : noCmt (ch '(' :: l) = true := by
    cases l with
    | nil => rfl
    | cons b r =>
      simp only [quietL, Bool.and_eq_true, Bool.not_eq_true', beq_eq_false_iff_ne] at hq
      have := hq.2.1.1.1
      simp [noCmt]; exact Or.inr (Or.inl this)
  have hws : optWs re st.flags (ix + 1) = .ok (ix + 1) := optWs_at hp.cons hfl (noCmt_of_quietL hq)
  rw [parseAtom_paren isAlnum hp hn hfl, parseGroup_plain isAlnum hwf f st d hp.get hne hws hd]
  simp only [hr, Res.ok_bind, checkForCloseParen_at hfl2 hcl]

theorem parseGroup_flags {re : Bytes} (isAlnum : Char → Bool) {f : Nat} {st : PState}
    {ix d x : Nat} {l : List Nat}
    (hp : At re ix (ch '(' :: ch '?' :: x :: l))
    (hx : x = ch ':' ∨ x = ch 'i' ∨ x = ch 'm' ∨ x = ch 's')
    (hfl : st.flags.ignoreSpace = false) (hd : d + 1 < Generated.maxRecursion) :
    parseAtom isAlnum (f + 2) re st ix d = parseFlags isAlnum f re st (ix + 1) (d + 1) := by
  have hn : noCmt (ch '(' :: ch '?' :: x :: l) = true := by
    rcases hx with rfl | rfl | rfl | rfl <;> simp [noCmt, ch]
  have h1 : re[ix + 1]? = some (ch '?') := by rw [hp.get? 1]; rfl
  have h2 : re[ix + 2]? = some x := by rw [hp.get? 2]; rfl
  have hx' : x ≠ ch '=' ∧ x ≠ ch '!' ∧ x ≠ ch '<' ∧ x ≠ ch 'P' ∧ x ≠ ch '>' ∧ x ≠ ch '(' := by
    rcases hx with rfl | rfl | rfl | rfl <;> decide
  rw [parseAtom_paren isAlnum hp hn hfl,
    parseGroup_query isAlnum f st d h1 h2 ⟨hx'.1, hx'.2.1, hx'.2.2.1, hx'.2.2.2.1⟩ hd,
    if_neg hx'.2.2.2.2.1, if_neg hx'.2.2.2.2.2]


theorem flagsLoop_colon {re : Bytes} {n : Nat} {fl : Flags} {s0 s : Nat} {l : List Nat}
    (hp : At re s (ch ':' :: l)) (hfl : fl.ignoreSpace = false) :
    flagsLoop (n + 1) re fl s0 s false = .ok (.colon s, fl) := by
  have hg := hp.get
  have hws : optWs re fl s = .ok s := optWs_byte hp hfl (by decide)
  have hne := ne_size_of_get hg
  rw [flagsLoop]
  simp [hws, hne, hg, ch]

theorem flagsLoop_letter {re : Bytes} {n : Nat} {fl : Flags} {s0 s b : Nat} {l : List Nat}
    (hp : At re s (b :: ch ':' :: l)) (hb : b = ch 'i' ∨ b = ch 'm' ∨ b = ch 's')
    (hfl : fl.ignoreSpace = false) :
    flagsLoop (n + 2) re fl s0 s false = .ok (.colon (s + 1), updateFlag fl b false) := by
  have hg := hp.get
  have hws : optWs re fl s = .ok s := optWs_byte hp hfl (by rcases hb with rfl | rfl | rfl <;> decide)
  have hne := ne_size_of_get hg
  have hfl' : (updateFlag fl b false).ignoreSpace = false := by
    rcases hb with rfl | rfl | rfl <;> simp [updateFlag, ch, hfl]
  have hnext := flagsLoop_colon (n := n) (s0 := s0) hp.cons hfl'
  rw [flagsLoop]
  rcases hb with rfl | rfl | rfl <;> simp [hws, hne, hg, ch] <;> exact hnext

theorem parseFlags_colon {re : Bytes} (isAlnum : Char → Bool) {f : Nat} {st st2 : PState}
    {ix i ix2 d : Nat} {fl : Flags} {child : Expr}
    (hl : flagsLoop (re.size + 2) re st.flags (ix + 1) (ix + 1) false = .ok (.colon i, fl))
    (hr : parseRe isAlnum f re { st with flags := fl } (i + 1) d = .ok (ix2, child, st2))
    (hcl : re[ix2]? = some (ch ')')) :
    parseFlags isAlnum (f + 1) re st ix d = .ok (ix2 + 1, child, { st2 with flags := st.flags }) := by
  have hne := ne_size_of_get hcl
  rw [parseFlags]
  simp [hl, hr, hne, byteAt, hcl]

/-- `(?:X)`: the atom is the tree of `X` -/
theorem parseAtom_wrap0 {re : Bytes} (isAlnum : Char → Bool) {f : Nat} {st st2 : PState}
    {ix ix2 d : Nat} {child : Expr} {l : List Nat}
    (hp : At re ix (ch '(' :: ch '?' :: ch ':' :: l)) (hfl : st.flags.ignoreSpace = false)
    (hd : d + 1 < Generated.maxRecursion)
    (hr : parseRe isAlnum f re st (ix + 3) (d + 1) = .ok (ix2, child, st2))
    (hcl : re[ix2]? = some (ch ')')) :
    parseAtom isAlnum (f + 3) re st ix d = .ok (ix2 + 1, child, { st2 with flags := st.flags }) := by
  rw [parseGroup_flags isAlnum hp (Or.inl rfl) hfl hd]
  have hl := flagsLoop_colon (n := re.size + 1) (s0 := ix + 1 + 1) (fl := st.flags) hp.cons.cons hfl
  exact parseFlags_colon isAlnum hl hr hcl

/-- `(?i:X)`, `(?m:X)`, `(?s:X)` -/
theorem parseAtom_wrap1 {re : Bytes} (isAlnum : Char → Bool) {f : Nat} {st st2 : PState}
    {ix ix2 d b : Nat} {child : Expr} {l : List Nat}
    (hp : At re ix (ch '(' :: ch '?' :: b :: ch ':' :: l)) (hb : b = ch 'i' ∨ b = ch 'm' ∨ b = ch 's')
    (hfl : st.flags.ignoreSpace = false)
    (hd : d + 1 < Generated.maxRecursion)
    (hr : parseRe isAlnum f re { st with flags := updateFlag st.flags b false } (ix + 4) (d + 1) =
      .ok (ix2, child, st2))
    (hcl : re[ix2]? = some (ch ')')) :
    parseAtom isAlnum (f + 3) re st ix d = .ok (ix2 + 1, child, { st2 with flags := st.flags }) := by
  rw [parseGroup_flags isAlnum hp (Or.inr hb) hfl hd]
  have hl := flagsLoop_letter (n := re.size) (s0 := ix + 1 + 1) (fl := st.flags) hp.cons.cons hb hfl
  exact parseFlags_colon isAlnum hl hr hcl


/-! ## leaves -/

/-- a pattern that is one atom, up to the closing parenthesis -/
theorem parseRe_single {re : Bytes} (isAlnum : Char → Bool) {f : Nat} {st st' : PState}
    {ix ix' d : Nat} {child : Expr} {post : List Nat}
    (ha : parseAtom isAlnum (f + 2) re st ix d = .ok (ix', child, st'))
    (hlt : ix < ix') (hne : child.isEmpty = false)
    (hfl : st'.flags.ignoreSpace = false) (hnb : st'.numericBackrefs = false)
    (hp : At re ix' post) (hc : closeL post = true) :
    parseRe isAlnum (f + 6) re st ix d = .ok (ix', child, { st' with lastReHadAlt := false }) := by
  have ht := termL_of_closeL hc
  have hpc := parsePiece_noquant isAlnum ha hfl hp (quietL_of_termL ht)
  have hsz : ix < re.size := by have := hp.size; omega
  have hl := branchLoop_cons isAlnum hpc hlt hsz hne (branchLoop_nil isAlnum hfl hp ht)
  have hb := parseBranch_of_loop isAlnum hl
  exact parseRe_of_branch isAlnum hb hfl hnb hp hc

/-- the atoms that are one byte and depend on the flags only: `.`, `^`, `$` -/
def byteAtom (c : Nat) (fl : Flags) : Expr :=
  if c == ch '.' then .any fl.dotnl
  else if c == ch '^' then .assertion (if fl.multi then .startLine false else .startText)
  else .assertion (if fl.multi then .endLine false else .endText)

theorem parseAtom_byte {re : Bytes} (isAlnum : Char → Bool) {f : Nat} {st : PState} {ix d c : Nat}
    {l : List Nat} (hc : c = ch '.' ∨ c = ch '^' ∨ c = ch '$') (hp : At re ix (c :: l))
    (hfl : st.flags.ignoreSpace = false) :
    parseAtom isAlnum (f + 1) re st ix d = .ok (ix + 1, byteAtom c st.flags, st) := by
  rw [parseAtom_at isAlnum f st d (optWs_byte hp hfl (by rcases hc with rfl | rfl | rfl <;> decide)) hp.get]
  rcases hc with rfl | rfl | rfl <;> rfl

/-- a character that is not special, written as itself -/
theorem parseAtom_plainAt {re : Bytes} (hwf : WF re) (isAlnum : Char → Bool) {f : Nat} {st : PState}
    {ix d : Nat} {c : Char} {l : List Nat} (hp : At re ix (Utf8.encodeChar c.toNat ++ l))
    (hfl : st.flags.ignoreSpace = false) (hs : Generated.isSpecial c = false) :
    parseAtom isAlnum (f + 1) re st ix d =
      .ok (ix + (Utf8.encodeChar c.toNat).length, .literal [c] st.flags.casei, st) := by
  obtain ⟨pre, h, rfl⟩ := hp
  exact parseAtom_plain hwf isAlnum f st d h hfl (by
    intro b' rest' he'
    exact (plain_atomPlain (lead_plain hs he')).1)

/-- a special character, written with a backslash -/
theorem parseAtom_escapedAt {re : Bytes} (hwf : WF re) (isAlnum : Char → Bool) {f : Nat} {st : PState}
    {ix d : Nat} {c : Char} {l : List Nat} (hp : At re ix (ch '\\' :: c.toNat :: l))
    (hfl : st.flags.ignoreSpace = false) (hs : Generated.isSpecial c = true) :
    parseAtom isAlnum (f + 1) re st ix d = .ok (ix + 2, .literal [c] false, st) :=
  parseAtom_escaped hwf isAlnum f st d hfl hp.get (by rw [hp.get? 1]; rfl)
    (special_escPlain c (mem_special hs))


/-! ## glue: quantifiers -/

theorem At.head_quiet {re : Bytes} {k : Nat} {post : List Nat} (hp : At re k post)
    (hq : quietL post = true) : re[k]? ≠ some (ch '?') ∧ re[k]? ≠ some (ch '+') := by
  cases post with
  | nil => simp [hp.nil_get]
  | cons b r =>
    simp only [quietL, Bool.and_eq_true, Bool.not_eq_true', beq_eq_false_iff_ne] at hq
    rw [hp.get]
    simp [ch]
    exact ⟨hq.2.1.1.1, hq.2.1.2⟩

theorem parsePiece_quant {re : Bytes} (isAlnum : Char → Bool) {f : Nat} {st st1 : PState}
    {ix ix1 d b lo hi qe : Nat} {child : Expr} {lz post : List Nat}
    (ha : parseAtom isAlnum f re st ix d = .ok (ix1, child, st1))
    (hg : GoodSt st1) (hb : re[ix1]? = some b) (hbq : b ≠ ch '(')
    (hq : quantAt re st1.flags ix1 b = .ok (some (lo, hi, qe)))
    (hr : isRepeatable child = true)
    (hp : At re (qe + 1) (lz ++ post)) (hlz : lz = [] ∨ lz = [ch '?']) (hpost : quietL post = true) :
    parsePiece isAlnum (f + 1) re st ix d =
      .ok (qe + 1 + lz.length, .repeat child lo (hiOf hi) lz.isEmpty, st1) := by
  have hlt := lt_size_of_get hb
  have hw : optWs re st1.flags ix1 = .ok ix1 := optWs_stay hg.ws (by omega) (by
    intro b' hb'; rw [hb] at hb'; cases hb'; exact hbq)
  have hw3 : optWs re st1.flags (qe + 1) = .ok (qe + 1) := optWs_at hp hg.ws (by
    rcases hlz with rfl | rfl
    · exact noCmt_of_quietL hpost
    · simp [noCmt, ch])
  rw [parsePiece_suffix isAlnum ha hw hb hq hr hw3]
  have hsw : st1.flags.swapGreed = false := by rw [hg.flags]
  rcases hlz with rfl | rfl
  · simp only [List.nil_append] at hp
    obtain ⟨h1, h2⟩ := hp.head_quiet hpost
    have hl : lazyAt re (qe + 1) = false := by
      simp only [lazyAt, Bool.and_eq_false_imp, decide_eq_true_eq]
      intro _; simpa using h1
    simp [afterLazy, repNode, hl, h2, hsw]
  · have h0 := hp.get
    have hl : lazyAt re (qe + 1) = true := by
      unfold lazyAt; rw [h0]; simp [lt_size_of_get h0]
    obtain ⟨h1, h2⟩ := (hp.cons).head_quiet hpost
    simp [afterLazy, repNode, hl, h2, hsw]

/-! ## the fragment -/

/-- does `to_str` put `(?:…)` around this node at this precedence -/
def wrapped : Expr → Nat → Bool
  | .concat _, p => decide (p > 1)
  | .alt _, p => decide (p > 0)
  | .repeat _ _ _ _, p => decide (p > 2)
  | _, _ => false

mutual
/-- parenthesis nesting of the text `to_str` writes for the node, without its own `(?:…)` -/
def nestIn : Expr → Nat
  | .any nl => if nl then 1 else 0
  | .literal _ ci => if ci then 1 else 0
  | .assertion a => match a with
    | .startText => 0
    | .endText => 0
    | _ => 1
  | .concat es => nestMax es 2
  | .alt es => nestMax es 1
  | .group _ e => 1 + nestIn e
  | .repeat e _ _ _ => nestIn e + (if wrapped e 3 then 1 else 0)
  | _ => 0
def nestMax : List Expr → Nat → Nat
  | [], _ => 0
  | e :: es, p => max (nestIn e + (if wrapped e p then 1 else 0)) (nestMax es p)
end

/-- parenthesis nesting of `to_str e prec` -/
def nestP (e : Expr) (p : Nat) : Nat := nestIn e + (if wrapped e p then 1 else 0)

/-- the quantifier as `to_str` spells it -/
def quantText (lo : Nat) (hi : Option Nat) : List Char :=
  match lo, hi with
  | 0, some 1 => ['?']
  | 0, none => ['*']
  | 1, none => ['+']
  | lo, hi =>
    '{' :: natDigits lo ++
      (if hi == some lo || (hi.isNone && lo == UNSET) then []
       else ',' :: (match hi with | some h => natDigits h | none => []))
      ++ ['}']

mutual
/-- the shape of the trees for which the round trip is the identity -/
def rtShape : Expr → Bool
  | .empty => true
  | .any _ => true
  | .literal val casei => match val with
    | [c] => !(casei && Generated.isSpecial c)
    | _ => false
  | .assertion a => match a with
    | .startText => true
    | .endText => true
    | .startLine crlf => !crlf
    | .endLine crlf => !crlf
    | _ => false
  | .concat es => decide (2 ≤ es.length) && rtPieces es
  | .alt es => decide (2 ≤ es.length) && rtAll es
  | .group g e => g == 0 && rtShape e
  | .repeat e lo hi _ => rtShape e && isRepeatable e && decide (lo ≤ usizeMax) &&
      (match hi with | some h => decide (h < usizeMax) | none => true)
  | _ => false
/-- children of a concatenation: in the fragment, and not `Empty` -/
def rtPieces : List Expr → Bool
  | [] => true
  | e :: es => rtShape e && !e.isEmpty && rtPieces es
def rtAll : List Expr → Bool
  | [] => true
  | e :: es => rtShape e && rtAll es
end

/-- the fragment: the shape, and at most 63 levels of parentheses in the text (the parser's
    `MAX_RECURSION`) -/
def rtOK (e : Expr) : Bool := rtShape e && decide (nestP e 0 < Generated.maxRecursion)

/-! ## bytes of the texts -/

theorem enc_append (a b : List Char) : enc (a ++ b) = enc a ++ enc b := by
  simp [enc, Utf8.encode]

theorem enc_ascii (c : Char) (cs : List Char) (h : c.toNat < 128) : enc (c :: cs) = c.toNat :: enc cs := by
  rw [enc_cons]; simp [Utf8.encodeChar, h]

theorem enc_wrap (t : List Char) : enc ("(?:".toList ++ t ++ [')']) = 40 :: 63 :: 58 :: (enc t ++ [41]) := by
  simp only [enc_append]; rfl
theorem enc_group (t : List Char) : enc ('(' :: t ++ [')']) = 40 :: (enc t ++ [41]) := by
  rw [show '(' :: t ++ [')'] = ['('] ++ t ++ [')'] from rfl]
  simp only [enc_append]; rfl

theorem toStr_repeat (sp : Char → Bool) (e : Expr) (lo : Nat) (hi : Option Nat) (g : Bool) (p : Nat) :
    toStr sp (.repeat e lo hi g) p = (toStr sp e 3).map fun s =>
      let body := s ++ quantText lo hi ++ (if g then [] else ['?'])
      if p > 2 then "(?:".toList ++ body ++ [')'] else body := by
  simp only [toStr]; rfl

/-! ## how the texts start -/

theorem quietL_wrap (x : Nat) (l : List Nat) (hx : x ≠ 35) : quietL (40 :: 63 :: x :: l) = true := by
  simp [quietL, noCmt, hx]

theorem quietL_plain {b : Nat} (l : List Nat) (h : quiet b = true) : quietL (b :: l) = true := by
  simp only [quiet, Bool.and_eq_true, Bool.not_eq_true', beq_eq_false_iff_ne, ch] at h
  obtain ⟨⟨⟨⟨h1, h2⟩, h3⟩, h4⟩, h5⟩ := h
  have : noCmt (b :: l) = true := by
    simp [noCmt]; exact Or.inl h1
  simp only [quietL, this, Bool.true_and, Bool.and_eq_true, Bool.not_eq_true', beq_eq_false_iff_ne]
  exact ⟨⟨⟨h2, h3⟩, h4⟩, h5⟩

theorem quietL_head_ne {l : List Nat} (h : quietL l = true) : l.head? ≠ some 63 := by
  cases l with
  | nil => simp
  | cons b r =>
    simp only [quietL, Bool.and_eq_true, Bool.not_eq_true', beq_eq_false_iff_ne] at h
    simp; exact h.2.1.1.1

theorem quietL_group (l : List Nat) (h : quietL l = true) : quietL (40 :: l) = true := by
  have := quietL_head_ne h
  cases l with
  | nil => rfl
  | cons b r =>
    simp at this
    simp [quietL, noCmt, this]

theorem enc_lit_plain {c : Char} (hs : Generated.isSpecial c = false) (l : List Nat) :
    (Utf8.encodeChar c.toNat) ≠ [] ∧ quietL (Utf8.encodeChar c.toNat ++ l) = true := by
  obtain ⟨b, rest, he, _⟩ := Utf8.encodeChar_shape c.toNat
  rw [he]
  exact ⟨by simp, quietL_plain _ (plain_atomPlain (lead_plain hs he)).2⟩

theorem toStrAlt_false_head (sp : Char → Bool) : ∀ (es : List Expr) (t : List Char),
    toStrAlt sp es false = some t → t = [] ∨ ∃ t', t = '|' :: t'
  | [], t, h => by simp [toStrAlt] at h; exact Or.inl h
  | e :: es, t, h => by
    simp only [toStrAlt] at h
    split at h
    · rename_i a b _ _
      simp at h; subst h
      exact Or.inr ⟨a ++ b, by simp⟩
    · cases h

/-- `to_str e prec` is `to_str e 0`, in `(?:…)` if the node binds weaker than `prec` asks -/
theorem toStr_prec (sp : Char → Bool) (e : Expr) (p : Nat) :
    toStr sp e p = (toStr sp e 0).map fun t => if wrapped e p then "(?:".toList ++ t ++ [')'] else t := by
  cases e with
  | concat es =>
    simp only [toStr, wrapped]
    cases toStrConcat sp es with
    | none => rfl
    | some t => simp only [Option.map, decide_eq_true_eq, gt_iff_lt, Nat.not_lt_zero, ↓reduceIte]
  | alt es =>
    simp only [toStr, wrapped]
    cases toStrAlt sp es true with
    | none => rfl
    | some t => simp only [Option.map, decide_eq_true_eq, gt_iff_lt, Nat.lt_irrefl, ↓reduceIte]
  | «repeat» e lo hi g =>
    simp only [toStr_repeat, wrapped]
    cases toStr sp e 3 with
    | none => rfl
    | some t => simp only [Option.map, decide_eq_true_eq, gt_iff_lt, Nat.not_lt_zero, ↓reduceIte]
  | group g e => simp only [toStr, wrapped]; cases toStr sp e 0 <;> rfl
  | assertion a => cases a <;> (try rename_i b; cases b) <;> rfl
  | _ => rfl

theorem toStr_concat0 (sp : Char → Bool) (es : List Expr) : toStr sp (.concat es) 0 = toStrConcat sp es := by
  simp only [toStr]; cases toStrConcat sp es <;> rfl

theorem toStr_alt0 (sp : Char → Bool) (es : List Expr) : toStr sp (.alt es) 0 = toStrAlt sp es true := by
  simp only [toStr]; cases toStrAlt sp es true <;> rfl

theorem toStr_repeat0 (sp : Char → Bool) (e : Expr) (lo : Nat) (hi : Option Nat) (g : Bool) :
    toStr sp (.repeat e lo hi g) 0 =
      (toStr sp e 3).map fun s => s ++ quantText lo hi ++ (if g then [] else ['?']) := by
  rw [toStr_repeat]; rfl

theorem wrapped_zero (e : Expr) : wrapped e 0 = false := by
  cases e <;> rfl

/-- a text that is not empty and, whatever follows it, offers its left neighbour neither a
    quantifier nor a comment opener -/
def QuietText (s : List Char) : Prop := s ≠ [] ∧ ∀ post, quietL (enc s ++ post) = true

theorem QuietText.append {a : List Char} (h : QuietText a) (b : List Char) : QuietText (a ++ b) :=
  ⟨by simp [h.1], fun post => by rw [enc_append, List.append_assoc]; exact h.2 _⟩

theorem quietText_wrap (t : List Char) : QuietText ("(?:".toList ++ t ++ [')']) :=
  ⟨by simp, fun post => by rw [enc_wrap]; exact quietL_wrap _ _ (by decide)⟩

/-- it is enough to look at `to_str e 0`: the wrapped text starts with `(?:` -/
theorem quietText_of_zero {sp : Char → Bool} {e : Expr}
    (h0 : ∀ s, toStr sp e 0 = some s → QuietText s) (p : Nat) (s : List Char)
    (hs : toStr sp e p = some s) : QuietText s := by
  rw [toStr_prec, Option.map_eq_some_iff] at hs
  obtain ⟨t, ht, rfl⟩ := hs
  split
  · exact quietText_wrap t
  · exact h0 t ht

theorem isEmpty_eq {e : Expr} (h : e.isEmpty = true) : e = .empty := by
  cases e <;> simp_all [Expr.isEmpty]

theorem quietText_literal {c : Char} {ci : Bool} (hr : rtShape (.literal [c] ci) = true) {s : List Char}
    (hs : toStr Generated.isSpecial (.literal [c] ci) 0 = some s) : QuietText s := by
  simp only [toStr, Option.some.injEq] at hs; subst hs
  cases ci
  · simp only [Bool.false_eq_true, ↓reduceIte, pushQuoted]
    cases hc : Generated.isSpecial c
    · refine ⟨by simp, fun post => ?_⟩
      rw [if_neg (by simp), enc_cons, enc_nil, List.append_nil]
      exact (enc_lit_plain hc post).2
    · refine ⟨by simp, fun post => ?_⟩
      rw [if_pos rfl, enc_ascii _ _ (by decide)]
      exact quietL_plain _ (by decide)
  · exact ⟨by simp, fun post => quietL_wrap _ _ (by decide)⟩

theorem quietText_assertion {a : Assertion} (hr : rtShape (.assertion a) = true) {s : List Char}
    (hs : toStr Generated.isSpecial (.assertion a) 0 = some s) : QuietText s := by
  cases a with
  | startText | endText =>
    simp only [toStr, Option.some.injEq] at hs; subst hs; exact ⟨by simp, fun post => rfl⟩
  | startLine crlf | endLine crlf =>
    cases crlf
    · simp only [toStr, Option.some.injEq] at hs; subst hs
      exact ⟨by simp, fun post => quietL_wrap _ _ (by decide)⟩
    · cases hr
  | _ => cases hr

/-- the text of a tree of the fragment other than `Empty` is quiet at every precedence -/
theorem quietNE : ∀ (e : Expr), rtShape e = true → e.isEmpty = false → ∀ (p : Nat) (s : List Char),
    toStr Generated.isSpecial e p = some s → QuietText s := by
  intro e
  induction e using Expr.induct with
  | empty => intro _ h; cases h
  | any nl =>
    refine fun _ _ => quietText_of_zero fun s hs => ?_
    simp only [toStr, Option.some.injEq] at hs; subst hs
    cases nl
    · exact ⟨by simp, fun post => rfl⟩
    · exact ⟨by simp, fun post => quietL_wrap _ _ (by decide)⟩
  | literal val ci =>
    intro hr _
    match val, hr with
    | [c], hr => exact quietText_of_zero fun s hs => quietText_literal hr hs
  | assertion a => exact fun hr _ => quietText_of_zero fun s hs => quietText_assertion hr hs
  | concat es ih =>
    refine fun hr _ => quietText_of_zero fun s hs => ?_
    match es, hr with
    | e :: es', hr =>
      simp only [rtShape, rtPieces, Bool.and_eq_true, Bool.not_eq_true'] at hr
      simp only [toStr_concat0, toStrConcat] at hs
      split at hs
      · rename_i a b ha hb
        cases hs
        exact (ih e (by simp) hr.2.1.1 hr.2.1.2 2 a ha).append b
      · cases hs
  | alt es ih =>
    refine fun hr _ => quietText_of_zero fun s hs => ?_
    match es, hr with
    | e :: e2 :: es', hr =>
      simp only [rtShape, rtAll, Bool.and_eq_true] at hr
      simp only [toStr_alt0, toStrAlt] at hs
      split at hs
      · rename_i a b ha hb
        split at hb
        · rename_i a2 b2 ha2 hb2
          cases hb; cases hs
          cases hemp : e.isEmpty
          · exact (ih e (by simp) hr.2.1 hemp 1 a ha).append _
          · cases isEmpty_eq hemp
            cases ha
            refine ⟨by simp, fun post => ?_⟩
            show quietL (enc ('|' :: (a2 ++ b2)) ++ post) = true
            rw [enc_ascii _ _ (by decide)]
            rfl
        · cases hb
      · cases hs
  | group g e ih =>
    refine fun hr _ => quietText_of_zero fun s hs => ?_
    simp only [rtShape, Bool.and_eq_true] at hr
    simp only [toStr, Option.map_eq_some_iff] at hs
    obtain ⟨t, ht, rfl⟩ := hs
    refine ⟨by simp, fun post => ?_⟩
    rw [enc_group, List.cons_append, List.append_assoc]
    apply quietL_group
    cases hemp : e.isEmpty
    · exact (ih hr.2 hemp 0 t ht).2 _
    · cases isEmpty_eq hemp
      cases ht
      rfl
  | «repeat» e lo hi g ih =>
    refine fun hr _ => quietText_of_zero fun s hs => ?_
    simp only [rtShape, Bool.and_eq_true] at hr
    rw [toStr_repeat0, Option.map_eq_some_iff] at hs
    obtain ⟨t, ht, rfl⟩ := hs
    have hemp : e.isEmpty = false := by
      cases hemp : e.isEmpty
      · rfl
      · cases isEmpty_eq hemp; cases hr.1.1.2
    rw [List.append_assoc]
    exact (ih hr.1.1.1 hemp 3 t ht).append _
  | _ => intro hr; cases hr

/-! ## the four levels -/


def AtomOK (e : Expr) : Prop :=
  ∀ (isAlnum : Char → Bool) (re : Bytes), WF re → ∀ (s : List Char) (post : List Nat) (st : PState)
    (ix f d : Nat), toStr Generated.isSpecial e 3 = some s → At re ix (enc s ++ post) → GoodSt st →
    d + nestP e 3 < Generated.maxRecursion → 2 * (enc s).length + 8 * nestP e 3 + 4 ≤ f →
    ∃ st', parseAtom isAlnum f re st ix d = .ok (ix + (enc s).length, e, st') ∧ GoodSt st'

def PieceOK (e : Expr) : Prop :=
  ∀ (isAlnum : Char → Bool) (re : Bytes), WF re → ∀ (s : List Char) (post : List Nat) (st : PState)
    (ix f d : Nat), toStr Generated.isSpecial e 2 = some s → At re ix (enc s ++ post) →
    quietL post = true → GoodSt st →
    d + nestP e 2 < Generated.maxRecursion → 2 * (enc s).length + 8 * nestP e 2 + 5 ≤ f →
    ∃ st', parsePiece isAlnum f re st ix d = .ok (ix + (enc s).length, e, st') ∧ GoodSt st'

def BranchOK (e : Expr) : Prop :=
  ∀ (isAlnum : Char → Bool) (re : Bytes), WF re → ∀ (s : List Char) (post : List Nat) (st : PState)
    (ix f d : Nat), toStr Generated.isSpecial e 1 = some s → At re ix (enc s ++ post) →
    termL post = true → GoodSt st →
    d + nestP e 1 < Generated.maxRecursion → 2 * (enc s).length + 8 * nestP e 1 + 7 ≤ f →
    ∃ st', parseBranch isAlnum f re st ix d = .ok (ix + (enc s).length, e, st') ∧ GoodSt st'

def ReOK (e : Expr) : Prop :=
  ∀ (isAlnum : Char → Bool) (re : Bytes), WF re → ∀ (s : List Char) (post : List Nat) (st : PState)
    (ix f d : Nat), toStr Generated.isSpecial e 0 = some s → At re ix (enc s ++ post) →
    closeL post = true → GoodSt st →
    d + nestP e 0 < Generated.maxRecursion → 2 * (enc s).length + 8 * nestP e 0 + 8 ≤ f →
    ∃ st', parseRe isAlnum f re st ix d = .ok (ix + (enc s).length, e, st') ∧ GoodSt st'

/-- a fuel bound `… + c ≤ f` leaves `k ≤ c` frames to spend -/
theorem fuel_ge {k c a f : Nat} (hk : k ≤ c) (hf : a + c ≤ f) : ∃ f', f = f' + k :=
  ⟨f - k, by omega⟩

/-- the nesting and fuel budgets of a list node, split between its head (text of `x` bytes, nesting
    `A`) and its tail (`y` bytes, nesting `B`); `s` counts the separator byte -/
theorem budget_split {d A B M x y s c f : Nat} (hd : d + max A B < M)
    (hf : 2 * (x + y + s) + 8 * max A B + (c + 1) ≤ f) :
    ∃ f', f = f' + 1 ∧ d + A < M ∧ d + B < M ∧ 2 * x + 8 * A + (c + s) ≤ f' ∧
      2 * y + 8 * B + c ≤ f' ∧ (0 < x + s → 2 * y + 8 * B + (c + 1) ≤ f') := by
  have h1 : A ≤ max A B := Nat.le_max_left _ _
  have h2 : B ≤ max A B := Nat.le_max_right _ _
  generalize max A B = m at *
  exact ⟨f - 1, by omega, by omega, by omega, by omega, by omega, by omega⟩

theorem enc_pos {s : List Char} (h : s ≠ []) : 0 < (enc s).length := by
  have := enc_length_ge s
  have : 0 < s.length := List.length_pos_iff.mpr h
  omega

/-- two precedences at which the node is wrapped alike give the same text and nesting -/
theorem level_eq (sp : Char → Bool) {e : Expr} {p q : Nat} (h : wrapped e p = wrapped e q) :
    toStr sp e p = toStr sp e q ∧ nestP e p = nestP e q :=
  ⟨by rw [toStr_prec sp e p, toStr_prec sp e q, h], by simp only [nestP, h]⟩

theorem piece_of_atom {e : Expr} (hw : wrapped e 2 = wrapped e 3) (ha : AtomOK e) : PieceOK e := by
  intro isAlnum re hwf s post st ix f d hs hp hq hg hd hf
  obtain ⟨f, rfl⟩ := fuel_ge (k := 1) (by decide) hf
  rw [(level_eq _ hw).1] at hs; rw [(level_eq Generated.isSpecial hw).2] at hd hf
  obtain ⟨st', h1, hg'⟩ := ha isAlnum re hwf s post st ix f d hs hp hg hd (Nat.le_of_succ_le_succ hf)
  exact ⟨st', parsePiece_noquant isAlnum h1 hg'.ws hp.adv hq, hg'⟩

theorem branch_of_piece {e : Expr} (hr : rtShape e = true) (hemp : e.isEmpty = false)
    (hw : wrapped e 1 = wrapped e 2) (hpc : PieceOK e) : BranchOK e := by
  intro isAlnum re hwf s post st ix f d hs hp ht hg hd hf
  rw [(level_eq _ hw).1] at hs; rw [(level_eq Generated.isSpecial hw).2] at hd hf
  have hpos := enc_pos (quietNE e hr hemp 2 s hs).1
  obtain ⟨f, rfl⟩ := fuel_ge (k := 5) (by decide) hf
  obtain ⟨st', h1, hg'⟩ := hpc isAlnum re hwf s post st ix (f + 3) d hs hp (quietL_of_termL ht) hg hd
    (Nat.le_of_add_le_add_right (b := 2) hf)
  have hl := branchLoop_cons isAlnum h1 (Nat.lt_add_of_pos_right hpos) (hp.lt_size hpos) hemp
    (branchLoop_nil isAlnum hg'.ws hp.adv ht)
  exact ⟨st', parseBranch_of_loop isAlnum hl, hg'⟩

theorem GoodSt.alt {st : PState} (h : GoodSt st) (b : Bool) : GoodSt { st with lastReHadAlt := b } :=
  ⟨h.flags, h.nb⟩

theorem re_of_branch {e : Expr} (hw : wrapped e 0 = wrapped e 1) (hb : BranchOK e) : ReOK e := by
  intro isAlnum re hwf s post st ix f d hs hp hc hg hd hf
  rw [(level_eq _ hw).1] at hs; rw [(level_eq Generated.isSpecial hw).2] at hd hf
  obtain ⟨f, rfl⟩ := fuel_ge (k := 1) (by decide) hf
  obtain ⟨st', h1, hg'⟩ := hb isAlnum re hwf s post st ix f d hs hp (termL_of_closeL hc) hg hd
    (Nat.le_of_succ_le_succ hf)
  exact ⟨_, parseRe_of_branch isAlnum h1 hg'.ws hg'.nb hp.adv hc, hg'.alt false⟩

theorem nestP_zero (e : Expr) : nestP e 0 = nestIn e := by
  simp only [nestP, wrapped_zero]; rfl

/-- a node that `to_str` wraps at precedence 3 is, as an atom, the group `(?:…)` around its text -/
theorem atom_of_re {e : Expr} (hw : wrapped e 3 = true) (hre : ReOK e) : AtomOK e := by
  intro isAlnum re hwf s post st ix f d hs hp hg hd hf
  rw [toStr_prec, hw, Option.map_eq_some_iff] at hs
  obtain ⟨t, ht, rfl⟩ := hs
  have hn : nestP e 3 = nestP e 0 + 1 := by rw [nestP_zero, nestP, hw]; rfl
  rw [hn] at hd hf
  rw [if_pos rfl, enc_wrap] at hp hf ⊢
  obtain ⟨f, rfl⟩ := fuel_ge (k := 3) (by decide) hf
  simp only [List.length_cons, List.length_append, List.length_nil] at hf ⊢
  have hp3 : At re (ix + 3) (enc t ++ (41 :: post)) := by
    have := hp.cons.cons.cons
    simpa [List.append_assoc] using this
  obtain ⟨st2, h1, hg2⟩ := hre isAlnum re hwf t (41 :: post) st (ix + 3) f (d + 1) ht hp3 rfl hg
    (by omega) (by omega)
  have hcl : re[ix + 3 + (enc t).length]? = some (ch ')') := hp3.adv.get
  have hp0 : At re ix (ch '(' :: ch '?' :: ch ':' :: ((enc t ++ [41]) ++ post)) := hp
  have := parseAtom_wrap0 isAlnum hp0 hg.ws (by omega) h1 hcl
  refine ⟨{ st2 with flags := st.flags }, ?_, ⟨hg.flags, hg2.nb⟩⟩
  rw [this]
  congr 2
  omega

/-! ## leaves of the fragment -/

theorem atom_flagged {re : Bytes} (isAlnum : Char → Bool) {g : Nat} {st : PState}
    {ix d b : Nat} {child : Expr} {body post : List Nat}
    (hb : b = ch 'i' ∨ b = ch 'm' ∨ b = ch 's') (hg : GoodSt st)
    (hd : d + 1 < Generated.maxRecursion)
    (hp : At re ix (ch '(' :: ch '?' :: b :: ch ':' :: (body ++ (ch ')' :: post))))
    (hbody : 0 < body.length) (hne : child.isEmpty = false)
    (ha : ∀ st1 : PState, st1.flags = updateFlag {} b false →
      parseAtom isAlnum (g + 2) re st1 (ix + 4) (d + 1) = .ok (ix + 4 + body.length, child, st1)) :
    ∃ st', parseAtom isAlnum (g + 9) re st ix d = .ok (ix + 5 + body.length, child, st') ∧
      GoodSt st' := by
  have hfl1 : (updateFlag st.flags b false).ignoreSpace = false := by
    rw [hg.flags]; rcases hb with rfl | rfl | rfl <;> simp [updateFlag, ch]
  have h1 := ha { st with flags := updateFlag st.flags b false } (by rw [hg.flags])
  have hp4 : At re (ix + 4) (body ++ (ch ')' :: post)) := hp.cons.cons.cons.cons
  have hre := parseRe_single isAlnum h1 (by omega) hne hfl1 hg.nb hp4.adv rfl
  have hcl : re[ix + 4 + body.length]? = some (ch ')') := hp4.adv.get
  have := parseAtom_wrap1 isAlnum hp hb hg.ws hd hre hcl
  refine ⟨{ st with lastReHadAlt := false }, ?_, ⟨hg.flags, hg.nb⟩⟩
  rw [this]; congr 2; omega

/-- `.`, `^`, `$` under the default flags -/
theorem atomOK_byte {c : Nat} (hc : c = ch '.' ∨ c = ch '^' ∨ c = ch '$') {s : List Char}
    (hs0 : toStr Generated.isSpecial (byteAtom c {}) 3 = some s) (he : enc s = [c]) :
    AtomOK (byteAtom c {}) := by
  intro isAlnum re hwf s' post st ix f d hs hp hg hd hf
  rw [hs0] at hs; cases hs
  rw [he] at hp ⊢
  obtain ⟨f, rfl⟩ := fuel_ge (k := 1) (by decide) hf
  have := parseAtom_byte isAlnum (f := f) (d := d) hc hp hg.ws
  rw [hg.flags] at this
  exact ⟨st, this, hg⟩

/-- `(?m:^)`, `(?m:$)`, `(?s:.)`: the same atoms under one flag letter -/
theorem atomOK_flagged1 {b c : Nat} (hb : b = ch 'i' ∨ b = ch 'm' ∨ b = ch 's')
    (hc : c = ch '.' ∨ c = ch '^' ∨ c = ch '$') {s : List Char}
    (hs0 : toStr Generated.isSpecial (byteAtom c (updateFlag {} b false)) 3 = some s)
    (he : enc s = [40, 63, b, 58, c, 41]) (hn : nestP (byteAtom c (updateFlag {} b false)) 3 = 1) :
    AtomOK (byteAtom c (updateFlag {} b false)) := by
  intro isAlnum re hwf s' post st ix f d hs hp hg hd hf
  rw [hs0] at hs; cases hs
  rw [he] at hp hf ⊢
  rw [hn] at hd hf
  simp only [List.length_cons, List.length_nil] at hf ⊢
  obtain ⟨g, rfl⟩ : ∃ g, f = g + 9 := ⟨f - 9, by omega⟩
  have hp' : At re ix (ch '(' :: ch '?' :: b :: ch ':' :: ([c] ++ (ch ')' :: post))) := hp
  refine atom_flagged isAlnum hb hg (by omega) hp' (by simp)
    (by rcases hc with rfl | rfl | rfl <;> rcases hb with rfl | rfl | rfl <;> rfl) fun st1 h1 => ?_
  rw [parseAtom_byte isAlnum hc hp'.cons.cons.cons.cons (by rw [h1]; rcases hb with rfl | rfl | rfl <;> rfl),
    h1]
  rfl

theorem atomOK_any (nl : Bool) : AtomOK (.any nl) := by
  cases nl
  · exact atomOK_byte (c := ch '.') (Or.inl rfl) rfl rfl
  · exact atomOK_flagged1 (b := ch 's') (c := ch '.') (Or.inr (Or.inr rfl)) (Or.inl rfl) rfl (by decide) rfl

theorem atomOK_assertion (a : Assertion) (hr : rtShape (.assertion a) = true) : AtomOK (.assertion a) := by
  cases a with
  | startText => exact atomOK_byte (c := ch '^') (Or.inr (Or.inl rfl)) rfl rfl
  | endText => exact atomOK_byte (c := ch '$') (Or.inr (Or.inr rfl)) rfl rfl
  | startLine crlf =>
    cases crlf
    · exact atomOK_flagged1 (b := ch 'm') (c := ch '^') (Or.inr (Or.inl rfl)) (Or.inr (Or.inl rfl)) rfl
        (by decide) rfl
    · cases hr
  | endLine crlf =>
    cases crlf
    · exact atomOK_flagged1 (b := ch 'm') (c := ch '$') (Or.inr (Or.inl rfl)) (Or.inr (Or.inr rfl)) rfl
        (by decide) rfl
    · cases hr
  | _ => cases hr

theorem atomOK_literal (c : Char) (ci : Bool) (hr : rtShape (.literal [c] ci) = true) :
    AtomOK (.literal [c] ci) := by
  intro isAlnum re hwf s post st ix f d hs hp hg hd hf
  simp only [rtShape, Bool.not_eq_true', Bool.and_eq_false_iff] at hr
  simp only [toStr, Option.some.injEq] at hs; subst hs
  cases ci
  · simp only [Bool.false_eq_true, ↓reduceIte, pushQuoted] at hp hf ⊢
    obtain ⟨f, rfl⟩ := fuel_ge (k := 1) (by decide) hf
    cases hc : Generated.isSpecial c
    · simp only [hc, Bool.false_eq_true, ↓reduceIte, enc_cons, enc_nil, List.append_nil] at hp hf ⊢
      have := parseAtom_plainAt hwf isAlnum (f := f) (d := d) hp hg.ws hc
      rw [hg.flags] at this
      exact ⟨st, this, hg⟩
    · have h128 := special_ascii c (mem_special hc)
      have he : enc ['\\', c] = [ch '\\', c.toNat] := by
        rw [enc_ascii _ _ (by decide), enc_ascii _ _ h128, enc_nil]
      simp only [hc, ↓reduceIte] at hp hf ⊢
      rw [he] at hp hf ⊢
      exact ⟨st, parseAtom_escapedAt hwf isAlnum (f := f) (d := d) hp hg.ws hc, hg⟩
  · have hc : Generated.isSpecial c = false := by simpa using hr
    have he : enc ("(?i:".toList ++ pushQuoted Generated.isSpecial [c] ++ [')']) =
        ch '(' :: ch '?' :: ch 'i' :: ch ':' :: (Utf8.encodeChar c.toNat ++ [ch ')']) := by
      simp only [pushQuoted, hc, Bool.false_eq_true, ↓reduceIte, enc_append, enc_cons, enc_nil,
        List.append_nil]
      rfl
    simp only [↓reduceIte] at hp hf ⊢
    rw [he] at hp hf ⊢
    simp only [nestP, nestIn, wrapped, ↓reduceIte, Bool.false_eq_true, List.length_cons,
      List.length_append, List.length_nil] at hd hf ⊢
    have hpos := encodeChar_len_pos c.toNat
    obtain ⟨g, rfl⟩ : ∃ g, f = g + 9 := ⟨f - 9, by omega⟩
    have hp' : At re ix (ch '(' :: ch '?' :: ch 'i' :: ch ':' ::
        (Utf8.encodeChar c.toNat ++ (ch ')' :: post))) := by
      simpa [List.append_assoc] using hp
    obtain ⟨st', h1, hg'⟩ := atom_flagged isAlnum (child := .literal [c] true) (Or.inl rfl) hg
      (by omega) hp' hpos rfl (by
        intro st1 h1
        have := parseAtom_plainAt hwf isAlnum (f := g + 1) (d := d + 1) (st := st1)
          (hp'.cons.cons.cons.cons) (by rw [h1]; rfl) hc
        rw [this, h1]; rfl)
    refine ⟨st', ?_, hg'⟩
    rw [h1]; congr 2; omega

/-! ## composite nodes -/

theorem quietAny {e : Expr} (hr : rtShape e = true) {p : Nat} {s : List Char}
    (hs : toStr Generated.isSpecial e p = some s) {post : List Nat} (hq : quietL post = true) :
    quietL (enc s ++ post) = true := by
  cases hemp : e.isEmpty
  · exact (quietNE e hr hemp p s hs).2 post
  · have := isEmpty_eq hemp; subst this
    simp only [toStr, Option.some.injEq] at hs; subst hs
    exact hq

theorem GoodSt.grp {st : PState} (h : GoodSt st) (n : Nat) : GoodSt { st with currGroup := n } :=
  ⟨h.flags, h.nb⟩

theorem atomOK_group {g : Nat} {e : Expr} (hr : rtShape (.group g e) = true) (hre : ReOK e) :
    AtomOK (.group g e) := by
  intro isAlnum re hwf s post st ix f d hs hp hg hd hf
  simp only [rtShape, Bool.and_eq_true, beq_iff_eq] at hr
  obtain ⟨rfl, hr⟩ := hr
  simp only [toStr, Option.map_eq_some_iff] at hs
  obtain ⟨t, ht, rfl⟩ := hs
  rw [enc_group] at hp hf ⊢
  have hn : nestP (.group 0 e) 3 = nestP e 0 + 1 := by
    rw [nestP_zero]; simp only [nestP, nestIn, wrapped]; simp; omega
  rw [hn] at hd hf
  obtain ⟨f, rfl⟩ := fuel_ge (k := 2) (by decide) hf
  simp only [List.length_cons, List.length_append, List.length_nil] at hf ⊢
  have hp0 : At re ix (ch '(' :: (enc t ++ (41 :: post))) := by
    rw [show (ch '(' :: (enc t ++ (41 :: post))) = (40 :: (enc t ++ [41])) ++ post by simp [ch]]
    exact hp
  have hq : quietL (enc t ++ (41 :: post)) = true := quietAny hr ht rfl
  obtain ⟨st2, h1, hg2⟩ := hre isAlnum re hwf t (41 :: post) { st with currGroup := st.currGroup + 1 }
    (ix + 1) f (d + 1) ht hp0.cons rfl (hg.grp _) (by omega) (by omega)
  have hcl : re[ix + 1 + (enc t).length]? = some (ch ')') := hp0.cons.adv.get
  have := parseAtom_group hwf isAlnum hp0 hq hg.ws (by omega) h1 hg2.ws hcl
  refine ⟨st2, ?_, hg2⟩
  rw [this]; congr 2; omega

theorem quiet_concat : ∀ {es : List Expr}, rtPieces es = true → ∀ {t : List Char},
    toStrConcat Generated.isSpecial es = some t → ∀ {post : List Nat}, quietL post = true →
    quietL (enc t ++ post) = true
  | [], _, t, ht, post, hq => by
    simp [toStrConcat] at ht; subst ht; exact hq
  | e :: es, hr, t, ht, post, hq => by
    simp only [rtPieces, Bool.and_eq_true, Bool.not_eq_true'] at hr
    simp only [toStrConcat] at ht
    split at ht
    · rename_i a b ha hb
      simp at ht; subst ht
      rw [enc_append, List.append_assoc]
      exact (quietNE e hr.1.1 hr.1.2 2 a ha).2 _
    · cases ht

theorem pieces_loop : ∀ (es : List Expr), rtPieces es = true → (∀ e ∈ es, PieceOK e) →
    ∀ (isAlnum : Char → Bool) (re : Bytes), WF re → ∀ (t : List Char) (post : List Nat) (st : PState)
      (ix f d : Nat), toStrConcat Generated.isSpecial es = some t → At re ix (enc t ++ post) →
      termL post = true → GoodSt st → d + nestMax es 2 < Generated.maxRecursion →
      2 * (enc t).length + 8 * nestMax es 2 + 6 ≤ f →
      ∃ st', branchLoop isAlnum f re st ix d = .ok (ix + (enc t).length, es, st') ∧ GoodSt st'
  | [], _, _, isAlnum, re, hwf, t, post, st, ix, f, d, ht, hp, htm, hg, hd, hf => by
    simp [toStrConcat] at ht; subst ht
    obtain ⟨f, rfl⟩ := fuel_ge (k := 3) (by decide) hf
    exact ⟨st, by simpa [enc_nil] using branchLoop_nil isAlnum hg.ws hp htm, hg⟩
  | e :: es, hr, hall, isAlnum, re, hwf, t, post, st, ix, f, d, ht, hp, htm, hg, hd, hf => by
    have hr' := hr
    simp only [rtPieces, Bool.and_eq_true, Bool.not_eq_true'] at hr'
    simp only [toStrConcat] at ht
    split at ht
    · rename_i a b ha hb
      simp at ht; subst ht
      rw [enc_append] at hf hp ⊢
      rw [List.append_assoc] at hp
      simp only [List.length_append] at hf ⊢
      simp only [nestMax] at hd hf
      have hpos := enc_pos (quietNE e hr'.1.1 hr'.1.2 2 a ha).1
      obtain ⟨f, rfl, hdA, hdB, hfA, -, hfB⟩ := budget_split (A := nestP e 2) (B := nestMax es 2)
        (x := (enc a).length) (y := (enc b).length) (s := 0) (c := 5) hd hf
      obtain ⟨st1, h1, hg1⟩ := hall e (by simp) isAlnum re hwf a (enc b ++ post) st ix f d ha hp
        (quiet_concat hr'.2 hb (quietL_of_termL htm)) hg hdA hfA
      obtain ⟨st', h2, hg'⟩ := pieces_loop es hr'.2 (fun e' he' => hall e' (by simp [he'])) isAlnum re hwf
        b post st1 (ix + (enc a).length) f d hb hp.adv htm hg1 hdB (hfB hpos)
      refine ⟨st', ?_, hg'⟩
      rw [branchLoop_cons isAlnum h1 (Nat.lt_add_of_pos_right hpos) (hp.lt_size hpos) hr'.1.2 h2,
        Nat.add_assoc]
    · cases ht

theorem term_alt {es : List Expr} {t : List Char} (ht : toStrAlt Generated.isSpecial es false = some t)
    {post : List Nat} (hc : closeL post = true) : termL (enc t ++ post) = true := by
  rcases toStrAlt_false_head _ es t ht with rfl | ⟨t', rfl⟩
  · simpa [enc_nil] using termL_of_closeL hc
  · rw [enc_ascii _ _ (by decide)]; rfl

theorem alts_loop : ∀ (es : List Expr), (∀ e ∈ es, BranchOK e) →
    ∀ (isAlnum : Char → Bool) (re : Bytes), WF re → ∀ (t : List Char) (post : List Nat) (st : PState)
      (ix f d : Nat), toStrAlt Generated.isSpecial es false = some t → At re ix (enc t ++ post) →
      closeL post = true → GoodSt st → d + nestMax es 1 < Generated.maxRecursion →
      2 * (enc t).length + 8 * nestMax es 1 + 7 ≤ f →
      ∃ st', reAltLoop isAlnum f re st ix d = .ok (ix + (enc t).length, es, st') ∧ GoodSt st'
  | [], _, isAlnum, re, hwf, t, post, st, ix, f, d, ht, hp, hc, hg, hd, hf => by
    simp [toStrAlt] at ht; subst ht
    obtain ⟨f, rfl⟩ := fuel_ge (k := 1) (by decide) hf
    exact ⟨st, by simpa [enc_nil] using reAltLoop_nil isAlnum hp hc, hg⟩
  | e :: es, hall, isAlnum, re, hwf, t, post, st, ix, f, d, ht, hp, hc, hg, hd, hf => by
    simp only [toStrAlt] at ht
    split at ht
    · rename_i a b ha hb
      simp at ht; subst ht
      have he : enc ('|' :: (a ++ b)) = ch '|' :: (enc a ++ enc b) := by
        rw [enc_ascii _ _ (by decide), enc_append]
      rw [he] at hf hp ⊢
      simp only [List.length_cons, List.length_append] at hf ⊢
      obtain ⟨f, rfl, hdA, hdB, hfA, -, hfB⟩ := budget_split (A := nestP e 1) (B := nestMax es 1)
        (x := (enc a).length) (y := (enc b).length) (s := 1) (c := 6) hd hf
      have hp1 : At re (ix + 1) (enc a ++ (enc b ++ post)) := by
        simpa [List.append_assoc] using hp.cons
      have htm := term_alt hb hc
      obtain ⟨st1, h1, hg1⟩ := hall e (by simp) isAlnum re hwf a (enc b ++ post) st (ix + 1) f d ha hp1
        htm hg hdA hfA
      obtain ⟨st', h2, hg'⟩ := alts_loop es (fun e' he' => hall e' (by simp [he'])) isAlnum re hwf
        b post st1 (ix + 1 + (enc a).length) f d hb hp1.adv hc hg1 hdB (hfB (Nat.succ_pos _))
      refine ⟨st', ?_, hg'⟩
      rw [reAltLoop_cons isAlnum hp.get h1 hg1.ws hp1.adv htm h2]
      congr 2; omega
    · cases ht



/-! ## decimal numbers -/

theorem digitChar_toNat : ∀ n, n < 10 → (Nat.digitChar n).toNat = 48 + n := by decide

theorem digitsVal_snoc (a : List Nat) (d : Nat) : digitsVal (a ++ [d]) = digitsVal a * 10 + (d - 48) := by
  simp [digitsVal, List.foldl_append]

/-- the bytes of the decimal spelling of `n`: ASCII digits, not empty, and they read back as `n` -/
theorem enc_natDigits (n : Nat) :
    enc (natDigits n) ≠ [] ∧ (∀ x ∈ enc (natDigits n), isDigit x = true) ∧
      digitsVal (enc (natDigits n)) = n := by
  rw [natDigits_toDigits]
  induction n using Nat.strongRecOn with
  | _ n ih =>
    rw [Nat.toDigits_eq_if (by decide)]
    split
    · rename_i h
      have hd := digitChar_toNat n h
      have h128 : (Nat.digitChar n).toNat < 128 := by omega
      rw [enc_ascii _ _ h128, enc_nil, hd]
      refine ⟨by simp, ?_, ?_⟩
      · intro x hx; simp at hx; subst hx; simp [isDigit]; omega
      · simp [digitsVal]
    · rename_i h
      have hlt : n / 10 < n := by omega
      obtain ⟨h1, h2, h3⟩ := ih (n / 10) hlt
      have hm : n % 10 < 10 := Nat.mod_lt _ (by decide)
      have hd := digitChar_toNat (n % 10) hm
      have h128 : (Nat.digitChar (n % 10)).toNat < 128 := by omega
      rw [enc_append, enc_ascii _ _ h128, enc_nil, hd]
      refine ⟨by simp, ?_, ?_⟩
      · intro x hx
        rcases List.mem_append.mp hx with hx | hx
        · exact h2 x hx
        · simp at hx; subst hx; simp [isDigit]; omega
      · rw [digitsVal_snoc, h3]; omega

theorem takeWhile_digits : ∀ (ds : List Nat) (c : Nat) (rest : List Nat),
    (∀ x ∈ ds, isDigit x = true) → isDigit c = false → (ds ++ c :: rest).takeWhile isDigit = ds
  | [], c, rest, _, hc => by simp [hc]
  | d :: ds, c, rest, h, hc => by
    have hd : isDigit d = true := h d (by simp)
    simp only [List.cons_append, List.takeWhile_cons, hd, ↓reduceIte, List.cons.injEq, true_and]
    exact takeWhile_digits ds c rest (fun x hx => h x (by simp [hx])) hc

/-- `parse_decimal` on a run of digits (possibly empty) that a non-digit ASCII byte ends -/
theorem parseDecimal_at {re : Bytes} {ix c : Nat} {ds rest : List Nat}
    (hp : At re ix (ds ++ c :: rest)) (hds : ∀ x ∈ ds, isDigit x = true)
    (hc : isDigit c = false) (hc128 : c < 128) (hv : digitsVal ds ≤ usizeMax) :
    parseDecimal re ix = .ok (if ds.isEmpty then none else some (ix + ds.length, digitsVal ds)) := by
  have htw : (re.toList.drop ix).takeWhile isDigit = ds := by
    rw [hp.drop]; exact takeWhile_digits ds c rest hds hc
  have hb2 : isBoundary re (ix + ds.length) = true := isBoundary_of_ascii hp.adv.get hc128
  have hb1 : isBoundary re ix = true := by
    match ds, hds, hp with
    | [], _, hp => exact isBoundary_of_ascii hp.get hc128
    | d :: ds', hds, hp => exact isBoundary_of_ascii hp.get (isDigit_ascii (hds d (by simp)))
  have hle : ix + ds.length ≤ re.size := by
    have := hp.size
    simp only [List.length_append, List.length_cons] at this
    omega
  unfold parseDecimal
  simp only [htw, sliceOk, hb1, hb2, hle, hv, Nat.le_add_right, decide_true, Bool.and_self, Bool.not_true,
    Bool.false_eq_true, ↓reduceIte]
  cases ds <;> rfl

theorem digit_facts {d : Nat} (h : isDigit d = true) : d ≠ ch '(' ∧ d ≠ ch ',' ∧ d ≠ ch '}' := by
  simp [isDigit, ch] at *; omega

/-- what `parse_repeat` meets after the `{`: `optional_whitespace` stays at the first digit of `lo`,
    which is no comma, and `parse_decimal` reads `lo` -/
theorem repeat_lo {re : Bytes} {fl : Flags} (hfl : fl.ignoreSpace = false) {ix c : Nat}
    {D rest : List Nat} (hD : ∀ x ∈ D, isDigit x = true) (hne : D ≠ []) (hv : digitsVal D ≤ usizeMax)
    (hp : At re ix (D ++ c :: rest)) (hc : isDigit c = false) (hc128 : c < 128) :
    optWs re fl ix = .ok ix ∧ (ix == re.size) = false ∧
      (∃ d, re[ix]? = some d ∧ (d == ch ',') = false) ∧
      parseDecimal re ix = .ok (some (ix + D.length, digitsVal D)) := by
  match D, hne, hD, hv, hp with
  | d :: D', _, hD, hv, hp =>
    have hd := digit_facts (hD d (by simp))
    have hg := hp.get
    exact ⟨C19_optWs_no_x hfl hg hd.1, beq_false_of_ne (Nat.ne_of_lt (lt_size_of_get hg)),
      ⟨d, hg, beq_false_of_ne hd.2.1⟩, parseDecimal_at hp hD hc hc128 hv⟩

/-- `optional_whitespace` stays at a byte of the quantifier that is no `(`, inside the pattern -/
theorem repeat_at {re : Bytes} {fl : Flags} (hfl : fl.ignoreSpace = false) {ix b : Nat} {l : List Nat}
    (hp : At re ix (b :: l)) (hb : b ≠ ch '(') :
    optWs re fl ix = .ok ix ∧ (ix == re.size) = false ∧ re[ix]? = some b :=
  ⟨C19_optWs_no_x hfl hp.get hb, beq_false_of_ne (Nat.ne_of_lt (lt_size_of_get hp.get)), hp.get⟩

/-- `{lo}` -/
theorem parseRepeat_exact {re : Bytes} {fl : Flags} (hfl : fl.ignoreSpace = false) {ix : Nat}
    {D rest : List Nat} (hD : ∀ x ∈ D, isDigit x = true) (hne : D ≠ []) (hv : digitsVal D ≤ usizeMax)
    (hp : At re ix (ch '{' :: (D ++ ch '}' :: rest))) :
    parseRepeat re fl ix = .ok (ix + 1 + D.length + 1, digitsVal D, digitsVal D) := by
  obtain ⟨hw1, hn1, ⟨d, hg1, e0⟩, hdec⟩ := repeat_lo hfl hD hne hv hp.cons (by decide) (by decide)
  obtain ⟨hw2, hn2, hg2⟩ := repeat_at hfl hp.cons.adv (by decide)
  unfold parseRepeat
  simp only [hw1, hn1, byteAt, hg1, e0, hdec, hw2, hn2, hg2, Res.ok_bind, Res.pure_bind', Bool.false_eq_true,
    ↓reduceIte, beq_self_eq_true, bne_self_eq_false]

/-- `{lo,}` (`H` empty) and `{lo,hi}` -/
theorem parseRepeat_comma {re : Bytes} {fl : Flags} (hfl : fl.ignoreSpace = false) {ix : Nat}
    {D H rest : List Nat} (hD : ∀ x ∈ D, isDigit x = true) (hne : D ≠ []) (hv : digitsVal D ≤ usizeMax)
    (hH : ∀ x ∈ H, isDigit x = true) (hvH : digitsVal H ≤ usizeMax)
    (hp : At re ix (ch '{' :: (D ++ ch ',' :: (H ++ ch '}' :: rest)))) :
    parseRepeat re fl ix = .ok (ix + 1 + D.length + 1 + H.length + 1, digitsVal D,
      if H.isEmpty then usizeMax else digitsVal H) := by
  obtain ⟨hw1, hn1, ⟨d, hg1, e0⟩, hdec⟩ := repeat_lo hfl hD hne hv hp.cons (by decide) (by decide)
  have hp2 : At re (ix + 1 + D.length) (ch ',' :: (H ++ ch '}' :: rest)) := hp.cons.adv
  obtain ⟨hw2, hn2, hg2⟩ := repeat_at hfl hp2 (by decide)
  obtain ⟨hw4, hn4, hg4⟩ := repeat_at hfl hp2.cons.adv (by decide)
  have hw3 : optWs re fl (ix + 1 + D.length + 1) = .ok (ix + 1 + D.length + 1) := by
    match H, hH, hp2.cons with
    | [], _, hp3 => exact C19_optWs_no_x hfl hp3.get (by decide)
    | h :: H', hH, hp3 => exact C19_optWs_no_x hfl hp3.get (digit_facts (hH h (by simp))).1
  have hdec2 := parseDecimal_at hp2.cons hH (by decide) (by decide) hvH
  have e1 : (ch ',' == ch '}') = false := by decide
  -- the walk up to the second number does not look at what `parse_decimal` returned for it
  generalize hr : (if H.isEmpty then none else some (ix + 1 + D.length + 1 + H.length, digitsVal H)) = r
    at hdec2
  unfold parseRepeat
  simp only [hw1, hn1, byteAt, hg1, e0, hdec, hw2, hn2, hg2, e1, hw3, hdec2, Res.ok_bind, Res.pure_bind',
    Bool.false_eq_true, ↓reduceIte, beq_self_eq_true]
  subst hr
  cases H with
  | nil =>
    simp only [List.length_nil, Nat.add_zero] at hw4 hn4 hg4
    simp only [List.isEmpty_nil, ↓reduceIte, Res.pure_bind', hw4, Res.ok_bind, hn4, Bool.false_eq_true, hg4,
      bne_self_eq_false, List.length_nil, Nat.add_zero]
  | cons h H' =>
    simp only [List.isEmpty_cons, Bool.false_eq_true, ↓reduceIte, Res.pure_bind', hw4, Res.ok_bind, hn4, hg4,
      bne_self_eq_false]

/-! ## quantifiers -/

/-- the parser reads the quantifier text back as `(lo, hi)` -/
def QuantOK (lo : Nat) (hi : Option Nat) : Prop :=
  ∀ (re : Bytes), WF re → ∀ (fl : Flags), fl.ignoreSpace = false → ∀ (ix : Nat) (rest : List Nat),
    At re ix (enc (quantText lo hi) ++ rest) →
    ∃ b hi' qe, re[ix]? = some b ∧ b ≠ ch '(' ∧ quantAt re fl ix b = .ok (some (lo, hi', qe)) ∧
      hiOf hi' = hi ∧ qe + 1 = ix + (enc (quantText lo hi)).length

theorem pieceOK_repeat {e : Expr} {lo : Nat} {hi : Option Nat} {g : Bool}
    (hrep : isRepeatable e = true) (ha : AtomOK e) (hq : QuantOK lo hi) :
    PieceOK (.repeat e lo hi g) := by
  intro isAlnum re hwf s post st ix f d hs hp hpost hg hd hf
  rw [toStr_repeat] at hs
  simp only [Option.map_eq_some_iff] at hs
  obtain ⟨t, ht, rfl⟩ := hs
  have hn : nestP (.repeat e lo hi g) 2 = nestP e 3 := by
    simp [nestP, nestIn, wrapped]
  rw [hn] at hd hf
  simp only [gt_iff_lt, Nat.lt_irrefl, ↓reduceIte] at hp hf ⊢
  obtain ⟨lz, hlz, hlzg, hlze⟩ : ∃ lz : List Nat, (lz = [] ∨ lz = [ch '?']) ∧ lz.isEmpty = g ∧
      enc (if g = true then [] else ['?']) = lz := by
    cases g
    · exact ⟨[ch '?'], Or.inr rfl, rfl, by decide⟩
    · exact ⟨[], Or.inl rfl, rfl, rfl⟩
  rw [enc_append, enc_append, hlze] at hp hf ⊢
  simp only [List.length_append] at hf ⊢
  obtain ⟨f, rfl⟩ := fuel_ge (k := 1) (by decide) hf
  have hp1 : At re ix (enc t ++ (enc (quantText lo hi) ++ (lz ++ post))) := by
    simpa [List.append_assoc] using hp
  obtain ⟨st1, h1, hg1⟩ := ha isAlnum re hwf t _ st ix f d ht hp1 hg hd (by omega)
  obtain ⟨b, hi', qe, hb, hbq, hqa, hhi, hqe⟩ := hq re hwf st1.flags hg1.ws _ _ hp1.adv
  have hp2 : At re (qe + 1) (lz ++ post) := by
    rw [hqe]; exact hp1.adv.adv
  have := parsePiece_quant isAlnum h1 hg1 hb hbq hqa hrep hp2 hlz hpost
  refine ⟨st1, ?_, hg1⟩
  rw [this, hhi, hlzg]
  congr 2
  omega

/-! ## the induction -/

structure All4 (e : Expr) : Prop where
  atom : e.isEmpty = false → AtomOK e
  piece : e.isEmpty = false → PieceOK e
  branch : BranchOK e
  re : ReOK e

/-- a node that `to_str` never wraps: the atom is the piece, the branch and the whole -/
theorem all4_of_atom {e : Expr} (hr : rtShape e = true) (hemp : e.isEmpty = false)
    (ha : AtomOK e) (hw : ∀ p, wrapped e p = false) : All4 e :=
  have hp := piece_of_atom ((hw 2).trans (hw 3).symm) ha
  have hb := branch_of_piece hr hemp ((hw 1).trans (hw 2).symm) hp
  ⟨fun _ => ha, fun _ => hp, hb, re_of_branch ((hw 0).trans (hw 1).symm) hb⟩

theorem rtPieces_mem : ∀ {es : List Expr}, rtPieces es = true → ∀ e ∈ es,
    rtShape e = true ∧ e.isEmpty = false
  | [], _, e, he => by simp at he
  | e' :: es, h, e, he => by
    simp only [rtPieces, Bool.and_eq_true, Bool.not_eq_true'] at h
    rcases List.mem_cons.mp he with rfl | he
    · exact h.1
    · exact rtPieces_mem h.2 e he

theorem rtAll_mem : ∀ {es : List Expr}, rtAll es = true → ∀ e ∈ es, rtShape e = true
  | [], _, e, he => by simp at he
  | e' :: es, h, e, he => by
    simp only [rtAll, Bool.and_eq_true] at h
    rcases List.mem_cons.mp he with rfl | he
    · exact h.1
    · exact rtAll_mem h.2 e he

theorem emptyBranchOK : BranchOK .empty := by
  intro isAlnum re hwf s post st ix f d hs hp ht hg hd hf
  simp only [toStr, Option.some.injEq] at hs; subst hs
  obtain ⟨f, rfl⟩ := fuel_ge (k := 4) (by decide) hf
  have hl := branchLoop_nil isAlnum (f := f) (d := d) hg.ws hp ht
  refine ⟨st, ?_, hg⟩
  have := parseBranch_of_loop isAlnum hl
  simpa [enc_nil, branchTree] using this

theorem hiOf_lt {h : Nat} (hh : h < usizeMax) : hiOf h = some h := by
  have : h ≠ usizeMax := by omega
  simp [hiOf, this]

theorem quantOK {lo : Nat} {hi : Option Nat} (hlo : lo ≤ usizeMax)
    (hhi : ∀ h, hi = some h → h < usizeMax) : QuantOK lo hi := by
  intro re hwf fl hfl ix rest hp
  generalize hq : quantText lo hi = q at hp ⊢
  unfold quantText at hq
  split at hq
  · subst hq
    have hp' : At re ix (ch '?' :: rest) := hp
    exact ⟨ch '?', 1, ix, hp'.get, by decide, quantAt_opt re fl ix, by decide, rfl⟩
  · subst hq
    have hp' : At re ix (ch '*' :: rest) := hp
    exact ⟨ch '*', usizeMax, ix, hp'.get, by decide, quantAt_star re fl ix, by decide, rfl⟩
  · subst hq
    have hp' : At re ix (ch '+' :: rest) := hp
    exact ⟨ch '+', usizeMax, ix, hp'.get, by decide, quantAt_plus re fl ix, by decide, rfl⟩
  · obtain ⟨hD1, hD2, hD3⟩ := enc_natDigits lo
    have hb : ∀ (X : List Char), enc ('{' :: natDigits lo ++ X ++ ['}']) =
        ch '{' :: (enc (natDigits lo) ++ (enc X ++ [ch '}'])) := by
      intro X
      rw [show '{' :: natDigits lo ++ X ++ ['}'] = '{' :: (natDigits lo ++ (X ++ ['}'])) by simp,
        enc_ascii _ _ (by decide), enc_append, enc_append]
      rfl
    subst hq
    rw [hb] at hp ⊢
    have hg0 := hp.get
    by_cases hc : (hi == some lo || (hi.isNone && lo == UNSET)) = true
    · rw [if_pos hc] at hp ⊢
      have hp' : At re ix (ch '{' :: (enc (natDigits lo) ++ ch '}' :: rest)) := by
        simpa [enc_nil, List.append_assoc] using hp
      have hpr := parseRepeat_exact (fl := fl) hfl hD2 hD1 (by rw [hD3]; exact hlo) hp'
      rw [hD3] at hpr
      refine ⟨ch '{', lo, _, hg0, by decide, quantAt_brace hpr (by omega), ?_, ?_⟩
      · simp only [Bool.or_eq_true, beq_iff_eq, Bool.and_eq_true, Option.isNone_iff_eq_none] at hc
        rcases hc with hc | ⟨hc, hu⟩
        · rw [hc]; exact hiOf_lt (hhi lo hc)
        · rw [hc, hu]; rfl
      · simp [enc_nil]; omega
    · rw [if_neg hc] at hp ⊢
      cases hi with
      | none =>
        have he : enc [','] = [ch ','] := by decide
        simp only at hp ⊢
        rw [he] at hp ⊢
        have hp' : At re ix (ch '{' :: (enc (natDigits lo) ++ ch ',' :: ch '}' :: rest)) := by
          simpa [List.append_assoc] using hp
        have hpr := parseRepeat_comma (fl := fl) (H := []) hfl hD2 hD1 (by rw [hD3]; exact hlo)
          (fun _ h => nomatch h) (Nat.zero_le _) hp'
        rw [hD3] at hpr
        refine ⟨ch '{', usizeMax, _, hg0, by decide, quantAt_brace hpr (by omega), by decide, ?_⟩
        simp; omega
      | some h =>
        obtain ⟨hH1, hH2, hH3⟩ := enc_natDigits h
        have he : enc (',' :: natDigits h) = ch ',' :: enc (natDigits h) := by
          rw [enc_ascii _ _ (by decide)]
        simp only at hp ⊢
        rw [he] at hp ⊢
        have hp' : At re ix (ch '{' :: (enc (natDigits lo) ++ ch ',' ::
            (enc (natDigits h) ++ ch '}' :: rest))) := by
          simpa [List.append_assoc] using hp
        have hh := hhi h rfl
        have hpr := parseRepeat_comma (fl := fl) hfl hD2 hD1 (by rw [hD3]; exact hlo) hH2
          (by rw [hH3]; omega) hp'
        rw [hD3, hH3, if_neg (by simpa using hH1)] at hpr
        refine ⟨ch '{', h, _, hg0, by decide, quantAt_brace hpr (by omega), hiOf_lt hh, ?_⟩
        simp; omega


theorem all4_empty : All4 .empty :=
  ⟨fun h => absurd h (by decide), fun h => absurd h (by decide), emptyBranchOK,
    re_of_branch rfl emptyBranchOK⟩

theorem all4_group {g : Nat} {e : Expr} (hr : rtShape (.group g e) = true) (ih : All4 e) :
    All4 (.group g e) :=
  all4_of_atom hr rfl (atomOK_group hr ih.re) fun _ => rfl

/-- a concatenation is a branch whose loop collects the pieces -/
theorem all4_concat {es : List Expr} (hr : rtShape (.concat es) = true) (ih : ∀ e ∈ es, All4 e) :
    All4 (.concat es) := by
  have hr' := hr
  simp only [rtShape, Bool.and_eq_true, decide_eq_true_eq] at hr'
  have hb : BranchOK (.concat es) := by
    intro isAlnum re hwf s post st ix f d hs hp ht hg hd hf
    rw [(level_eq _ (show wrapped (.concat es) 1 = wrapped (.concat es) 0 from rfl)).1,
      toStr_concat0] at hs
    have hn : nestP (.concat es) 1 = nestMax es 2 := rfl
    rw [hn] at hd hf
    obtain ⟨f, rfl⟩ := fuel_ge (k := 1) (by decide) hf
    obtain ⟨st', h1, hg'⟩ := pieces_loop es hr'.2
      (fun e he => (ih e he).piece (rtPieces_mem hr'.2 e he).2) isAlnum re hwf s post st ix f d hs hp ht
      hg hd (by omega)
    refine ⟨st', ?_, hg'⟩
    rw [parseBranch_of_loop isAlnum h1]
    match es, hr'.1 with
    | _ :: _ :: _, _ => rfl
  have hre : ReOK (.concat es) := re_of_branch rfl hb
  have ha : AtomOK (.concat es) := atom_of_re rfl hre
  exact ⟨fun _ => ha, fun _ => piece_of_atom rfl ha, hb, hre⟩

/-- an alternation is a first branch, a `|`, and the loop over the others -/
theorem all4_alt {es : List Expr} (hr : rtShape (.alt es) = true) (ih : ∀ e ∈ es, All4 e) :
    All4 (.alt es) := by
  have hr' := hr
  simp only [rtShape, Bool.and_eq_true, decide_eq_true_eq] at hr'
  have hre : ReOK (.alt es) := by
    intro isAlnum re hwf s post st ix f d hs hp hc hg hd hf
    rw [toStr_alt0] at hs
    have hn : nestP (.alt es) 0 = nestMax es 1 := rfl
    rw [hn] at hd hf
    match es, hr'.1, ih, hs with
    | e :: e2 :: es', _, ih, hs =>
      simp only [toStrAlt] at hs
      split at hs
      · rename_i a b ha hb
        simp at hs; subst hs
        rw [enc_append] at hp hf ⊢
        simp only [List.length_append] at hf ⊢
        obtain ⟨f, rfl, hdA, hdB, hfA, hfB, -⟩ := budget_split (A := nestP e 1)
          (B := nestMax (e2 :: es') 1) (x := (enc a).length) (y := (enc b).length) (s := 0) (c := 7) hd hf
        have hp1 : At re ix (enc a ++ (enc b ++ post)) := by
          simpa [List.append_assoc] using hp
        have hb' : toStrAlt Generated.isSpecial (e2 :: es') false = some b := by
          simpa only [toStrAlt] using hb
        have htm := term_alt hb' hc
        obtain ⟨st1, h1, hg1⟩ := (ih e (by simp)).branch isAlnum re hwf a (enc b ++ post) st ix f d ha
          hp1 htm hg hdA hfA
        obtain ⟨st', h2, hg'⟩ := alts_loop (e2 :: es') (fun e' he' => (ih e' (by simp [he'])).branch)
          isAlnum re hwf b post st1 (ix + (enc a).length) f d hb' hp1.adv hc hg1 hdB hfB
        have hbar : ∃ b', enc b ++ post = ch '|' :: b' := by
          split at hb
          · rename_i a2 b2 _ _
            simp at hb; subst hb
            exact ⟨enc (a2 ++ b2) ++ post, by
              rw [enc_ascii _ _ (by decide)]; rfl⟩
          · cases hb
        obtain ⟨b', hb'⟩ := hbar
        have hp2 : At re (ix + (enc a).length) (ch '|' :: b') := by rw [← hb']; exact hp1.adv
        refine ⟨_, ?_, hg'.alt true⟩
        rw [parseRe_of_alt isAlnum h1 hg1.ws hp2 h2]
        congr 2
        omega
      · cases hs
  have ha : AtomOK (.alt es) := atom_of_re rfl hre
  have hp : PieceOK (.alt es) := piece_of_atom rfl ha
  exact ⟨fun _ => ha, fun _ => hp, branch_of_piece hr rfl rfl hp, hre⟩

theorem all4_repeat {e : Expr} {lo : Nat} {hi : Option Nat} {g : Bool}
    (hr : rtShape (.repeat e lo hi g) = true) (ih : All4 e) : All4 (.repeat e lo hi g) := by
  have hr' := hr
  simp only [rtShape, Bool.and_eq_true, decide_eq_true_eq] at hr'
  have hemp : e.isEmpty = false := by
    cases hemp : e.isEmpty
    · rfl
    · cases isEmpty_eq hemp; cases hr'.1.1.2
  have hp : PieceOK (.repeat e lo hi g) :=
    pieceOK_repeat hr'.1.1.2 (ih.atom hemp) (quantOK hr'.1.2 (by
      intro h hh; subst hh; simpa using hr'.2))
  have hb := branch_of_piece hr rfl rfl hp
  have hre := re_of_branch rfl hb
  exact ⟨fun _ => atom_of_re rfl hre, fun _ => hp, hb, hre⟩

theorem all4 : ∀ (e : Expr), rtShape e = true → All4 e := by
  intro e
  induction e using Expr.induct with
  | empty => exact fun _ => all4_empty
  | any nl => exact fun hr => all4_of_atom hr rfl (atomOK_any nl) fun _ => rfl
  | assertion a => exact fun hr => all4_of_atom hr rfl (atomOK_assertion a hr) fun _ => rfl
  | literal val ci =>
    intro hr
    match val, hr with
    | [c], hr => exact all4_of_atom hr rfl (atomOK_literal c ci hr) fun _ => rfl
  | group g e ih =>
    exact fun hr => all4_group hr (ih (by simp only [rtShape, Bool.and_eq_true] at hr; exact hr.2))
  | concat es ih =>
    intro hr
    have hr' := hr
    simp only [rtShape, Bool.and_eq_true] at hr'
    exact all4_concat hr fun e he => ih e he (rtPieces_mem hr'.2 e he).1
  | alt es ih =>
    intro hr
    have hr' := hr
    simp only [rtShape, Bool.and_eq_true] at hr'
    exact all4_alt hr fun e he => ih e he (rtAll_mem hr'.2 e he)
  | «repeat» e lo hi g ih =>
    exact fun hr => all4_repeat hr (ih (by simp only [rtShape, Bool.and_eq_true] at hr; exact hr.1.1.1))
  | _ => intro hr; cases hr

theorem all4List : ∀ (es : List Expr), rtAll es = true → ∀ e ∈ es, All4 e :=
  fun _ h e he => all4 e (rtAll_mem h e he)

/-! ## the round trip -/

/-- **C04_roundtrip** (general position): wherever the text `to_str e 0` stands in a pattern, closed
    by `)` or the end, `parse_re` started there (default flags, depth `d`, enough fuel) returns
    exactly `e` and stops right after the text -/
theorem C04_roundtrip_parseRe (e : Expr) (h : rtShape e = true) : ReOK e := (all4 e h).re

/-- the same for the three inner levels of the grammar: `to_str e 1` under `parse_branch`,
    `to_str e 2` under `parse_piece` (followed by no quantifier), `to_str e 3` under `parse_atom` -/
theorem C04_roundtrip_levels (e : Expr) (h : rtShape e = true) :
    BranchOK e ∧ (e.isEmpty = false → PieceOK e ∧ AtomOK e) :=
  ⟨(all4 e h).branch, fun hne => ⟨(all4 e h).piece hne, (all4 e h).atom hne⟩⟩

/-- **C04_roundtrip**: for every tree of the fragment `rtOK`, the text `Expr::to_str` writes for it
    is accepted by the parser and parses back to the very same tree (`norm` = identity) -/
theorem C04_roundtrip (isAlnum : Char → Bool) (e : Expr) (h : rtOK e = true) (s : List Char)
    (hs : toStr Generated.isSpecial e 0 = some s) :
    ∃ t, parseStr isAlnum s false = .ok t ∧ t.expr = e := by
  simp only [rtOK, Bool.and_eq_true, decide_eq_true_eq] at h
  have hwf := WF_bytesOf s
  have hp : At (bytesOf s) 0 (enc s ++ []) := ⟨[], by simp [bytesOf_toList], rfl⟩
  have hsz : (bytesOf s).size = (enc s).length := by
    rw [← Array.length_toList, bytesOf_toList]
  obtain ⟨st', h1, _⟩ := (all4 e h.1).re isAlnum (bytesOf s) hwf s [] { flags := { casei := false } } 0
    (descentFuel (bytesOf s).size) 0 hs hp rfl ⟨rfl, rfl⟩ (by omega)
    (by rw [hsz]; simp only [descentFuel]; have := h.2; simp only [Generated.maxRecursion] at *; omega)
  refine ⟨⟨e, st'.backrefs, st'.namedGroups⟩, ?_, rfl⟩
  unfold parseStr parseBytes
  simp only [h1]
  simp [hsz]

/-! ## group numbers: the parser writes `Group` without a number (0 in the model) -/

mutual
/-- `norm`: all group numbers set to 0 (what the parser returns; `to_str` does not print them) -/
def zeroGroups : Expr → Expr
  | .concat es => .concat (zeroGroupsList es)
  | .alt es => .alt (zeroGroupsList es)
  | .group _ e => .group 0 (zeroGroups e)
  | .look e la => .look (zeroGroups e) la
  | .repeat e lo hi g => .repeat (zeroGroups e) lo hi g
  | .atomic e => .atomic (zeroGroups e)
  | .cond c y n => .cond (zeroGroups c) (zeroGroups y) (zeroGroups n)
  | e => e
def zeroGroupsList : List Expr → List Expr
  | [] => []
  | e :: es => zeroGroups e :: zeroGroupsList es
end

mutual
theorem toStr_zeroGroups (sp : Char → Bool) : ∀ (e : Expr) (p : Nat),
    toStr sp (zeroGroups e) p = toStr sp e p
  | .concat es, p => by simp only [zeroGroups, toStr, toStrConcat_zeroGroups sp es]
  | .alt es, p => by simp only [zeroGroups, toStr, toStrAlt_zeroGroups sp es]
  | .group _ e, p => by simp only [zeroGroups, toStr, toStr_zeroGroups sp e]
  | .repeat e lo hi g, p => by simp only [zeroGroups, toStr, toStr_zeroGroups sp e]
  | .look _ _, _ | .atomic _, _ | .cond _ _ _, _ => by simp [zeroGroups, toStr]
  | .empty, _ | .any _, _ | .literal _ _, _ | .assertion _, _ | .delegate _ _ _, _ | .backref _, _
  | .keepOut, _ | .contPrev, _ | .backrefExists _, _ | .subroutine _, _ => by simp [zeroGroups]
theorem toStrConcat_zeroGroups (sp : Char → Bool) : ∀ (es : List Expr),
    toStrConcat sp (zeroGroupsList es) = toStrConcat sp es
  | [] => rfl
  | e :: es => by
    simp only [zeroGroupsList, toStrConcat, toStr_zeroGroups sp e, toStrConcat_zeroGroups sp es]
theorem toStrAlt_zeroGroups (sp : Char → Bool) : ∀ (es : List Expr) (b : Bool),
    toStrAlt sp (zeroGroupsList es) b = toStrAlt sp es b
  | [], _ => rfl
  | e :: es, b => by
    simp only [zeroGroupsList, toStrAlt, toStr_zeroGroups sp e, toStrAlt_zeroGroups sp es]
end

/-- **C04_roundtrip_norm**: with arbitrary group numbers in the tree (as after the analyzer's
    numbering), the text parses back to the tree with the numbers reset: `t.expr = zeroGroups e`.
    The fragment is stated on the normalised tree. -/
theorem C04_roundtrip_norm (isAlnum : Char → Bool) (e : Expr) (h : rtOK (zeroGroups e) = true)
    (s : List Char) (hs : toStr Generated.isSpecial e 0 = some s) :
    ∃ t, parseStr isAlnum s false = .ok t ∧ t.expr = zeroGroups e :=
  C04_roundtrip isAlnum (zeroGroups e) h s (by rw [toStr_zeroGroups]; exact hs)

/-! ## machine-checked instances -/

section Examples
private abbrev al : Char → Bool := fun c => c.isAlphanum
private abbrev la : Expr := .literal ['a'] false
private abbrev lb : Expr := .literal ['b'] false
private abbrev lc : Expr := .literal ['c'] false

/-- `a|bc*` -/
theorem C04_roundtrip_ex1 :
    toStr Generated.isSpecial (.alt [la, .concat [lb, .repeat lc 0 none true]]) 0 = some "a|bc*".toList ∧
    parseStr al "a|bc*".toList false = .ok ⟨.alt [la, .concat [lb, .repeat lc 0 none true]], [], []⟩ :=
  ⟨by decide +kernel,
   isTree_sound (by decide +kernel)⟩

/-- `(?:ab){2,3}?x` -/
theorem C04_roundtrip_ex2 :
    toStr Generated.isSpecial (.concat [.repeat (.concat [la, lb]) 2 (some 3) false, .literal ['x'] false]) 0 =
      some "(?:ab){2,3}?x".toList ∧
    parseStr al "(?:ab){2,3}?x".toList false =
      .ok ⟨.concat [.repeat (.concat [la, lb]) 2 (some 3) false, .literal ['x'] false], [], []⟩ :=
  ⟨by decide +kernel,
   isTree_sound (by decide +kernel)⟩

/-- `(a|b)+?c` -/
theorem C04_roundtrip_ex3 :
    toStr Generated.isSpecial (.concat [.repeat (.group 0 (.alt [la, lb])) 1 none false, lc]) 0 =
      some "(a|b)+?c".toList ∧
    parseStr al "(a|b)+?c".toList false =
      .ok ⟨.concat [.repeat (.group 0 (.alt [la, lb])) 1 none false, lc], [], []⟩ :=
  ⟨by decide +kernel,
   isTree_sound (by decide +kernel)⟩

/-- `(?i:k)\.` -/
theorem C04_roundtrip_ex4 :
    toStr Generated.isSpecial (.concat [.literal ['k'] true, .literal ['.'] false]) 0 =
      some "(?i:k)\\.".toList ∧
    parseStr al "(?i:k)\\.".toList false =
      .ok ⟨.concat [.literal ['k'] true, .literal ['.'] false], [], []⟩ :=
  ⟨by decide +kernel,
   isTree_sound (by decide +kernel)⟩

/-- the four trees are in the fragment (so `C04_roundtrip` applies to them; also `wrap_tree`'s
    prefix `(?s:.)*?`) -/
theorem C04_roundtrip_ex_inFragment :
    rtOK (.alt [la, .concat [lb, .repeat lc 0 none true]]) = true ∧
    rtOK (.concat [.repeat (.concat [la, lb]) 2 (some 3) false, .literal ['x'] false]) = true ∧
    rtOK (.concat [.repeat (.group 0 (.alt [la, lb])) 1 none false, lc]) = true ∧
    rtOK (.concat [.literal ['k'] true, .literal ['.'] false]) = true ∧
    rtOK (.concat [.repeat (.any true) 0 none false, .group 0 la]) = true := by
  decide +kernel

/-! ## where the round trip is NOT the identity -/

/-- **a case-insensitive literal of a special character** comes back case-sensitive: `to_str`
    writes `(?i:\.)`, and `parse_escape` makes every escaped punctuation character a
    `make_literal` (`casei = false`).  The tree is reachable from a pattern: `(?i)\x2E` parses to
    it (`parse_hex` keeps the flag).  Same language: a special character has no case variants. -/
theorem C04_roundtrip_counterexample_casei_special :
    toStr Generated.isSpecial (.literal ['.'] true) 0 = some "(?i:\\.)".toList ∧
    parseStr al "(?i:\\.)".toList false = .ok ⟨.literal ['.'] false, [], []⟩ ∧
    parseStr al "(?i)\\x2E".toList false = .ok ⟨.literal ['.'] true, [], []⟩ :=
  ⟨by decide +kernel,
   isTree_sound (by decide +kernel), isTree_sound (by decide +kernel)⟩

/-- **a literal of several characters under a quantifier** is printed without `(?:…)` (`to_str`
    never wraps a `Literal`): `Repeat(Literal "ab", *)` is written `ab*`, which is `a(?:b*)` — a
    different language.  A precedence defect of `to_str`, but NOT reachable from a parsed pattern:
    the parser only makes one-character literals (`parse_parsedOK`), and nothing in the crate
    merges them before `to_str`; only a hand-built `Expr` shows it. -/
theorem C04_roundtrip_counterexample_multichar_literal :
    toStr Generated.isSpecial (.repeat (.literal ['a', 'b'] false) 0 none true) 0 = some "ab*".toList ∧
    parseStr al "ab*".toList false = .ok ⟨.concat [la, .repeat lb 0 none true], [], []⟩ :=
  ⟨by decide +kernel,
   isTree_sound (by decide +kernel)⟩

/-- shapes the parser normalises (same language): `Empty` inside a concatenation is dropped, a
    one-element concatenation is its element, a several-character literal becomes a
    concatenation, `(?i:ab)` distributes the flag -/
theorem C04_roundtrip_counterexample_normalised :
    (toStr Generated.isSpecial (.concat [la, .empty, lb]) 0 = some "ab".toList ∧
      toStr Generated.isSpecial (.literal ['a', 'b'] false) 0 = some "ab".toList ∧
      parseStr al "ab".toList false = .ok ⟨.concat [la, lb], [], []⟩) ∧
    (toStr Generated.isSpecial (.concat [la]) 0 = some "a".toList ∧
      parseStr al "a".toList false = .ok ⟨la, [], []⟩) ∧
    (toStr Generated.isSpecial (.literal ['a', 'b'] true) 0 = some "(?i:ab)".toList ∧
      parseStr al "(?i:ab)".toList false =
        .ok ⟨.concat [.literal ['a'] true, .literal ['b'] true], [], []⟩) :=
  ⟨⟨by decide +kernel,
    by decide +kernel,
    isTree_sound (by decide +kernel)⟩,
   ⟨by decide +kernel,
    isTree_sound (by decide +kernel)⟩,
   ⟨by decide +kernel,
    isTree_sound (by decide +kernel)⟩⟩

/-- texts fancy-regex's own parser rejects (they are only ever read by regex-syntax): the CRLF
    line anchors `(?Rm:^)`, and a quantified assertion -/
theorem C04_roundtrip_counterexample_rejected :
    (toStr Generated.isSpecial (.assertion (.startLine true)) 0 = some "(?Rm:^)".toList ∧
      parseStr al "(?Rm:^)".toList false = .err (.unknownFlag [40, 63, 82]) 2) ∧
    (toStr Generated.isSpecial (.repeat (.assertion .startText) 0 none false) 0 = some "^*?".toList ∧
      parseStr al "^*?".toList false = .err .targetNotRepeatable 1) :=
  ⟨⟨by decide +kernel, isErr_sound (by decide +kernel)⟩,
   ⟨by decide +kernel, isErr_sound (by decide +kernel)⟩⟩

/-- `Delegate` leaves are outside `rtOK`; on the texts the parser itself produces they do come
    back (instances) -/
theorem C04_roundtrip_delegate_examples :
    (toStr Generated.isSpecial (.delegate "[a-z]".toList 1 false) 0 = some "[a-z]".toList ∧
      parseStr al "[a-z]".toList false = .ok ⟨.delegate "[a-z]".toList 1 false, [], []⟩) ∧
    (toStr Generated.isSpecial (.delegate "[a-z]".toList 1 true) 0 = some "(?i:[a-z])".toList ∧
      parseStr al "(?i:[a-z])".toList false = .ok ⟨.delegate "[a-z]".toList 1 true, [], []⟩) ∧
    (toStr Generated.isSpecial (.concat [.delegate "\\d".toList 1 false, la]) 0 = some "\\da".toList ∧
      parseStr al "\\da".toList false = .ok ⟨.concat [.delegate "\\d".toList 1 false, la], [], []⟩) :=
  ⟨⟨by decide +kernel, isTree_sound (by decide +kernel)⟩,
   ⟨by decide +kernel, isTree_sound (by decide +kernel)⟩,
   ⟨by decide +kernel,
    isTree_sound (by decide +kernel)⟩⟩

end Examples

end Fancy.Parse
