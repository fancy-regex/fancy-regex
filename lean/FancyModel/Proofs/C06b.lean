import FancyModel.Model.Parse
import FancyModel.Proofs.C05b
/-!
# C06 (parser part) — theorems about the model of src/parse.rs (`Model/Parse.lean`)

The model is tied to the Rust parser by `tools/parsetie.py` (millions of patterns, byte-for-byte
equal answers).  Proved here, for all inputs:

* the leaf scanners return indices within the pattern and never panic
  (`C06_parseDecimal_*`, `C06_optionalWhitespace_*`, `C06_parseRepeat_*`, `C06_parseHex_*`,
  `C06_parseId_*`, `C06_flagsLoop_*`), and their fuel suffices;
* `C06_error_pos`: a reported parse-error position is at most the pattern length;
* `C06_parse_no_panic`: on valid UTF-8 the parser never panics;
* `C06_depth`: the depth of the tree is bounded by a constant times `MAX_RECURSION`;
* `C06_parse_total`: the fuel of the model's descent is never exhausted, so the model parser ends
  with `ok` or `err` on every string (the descent needs at most
  `2·(bytes left) + 8·(nesting levels left) + 7` frames).

"Valid UTF-8" enters only through `WF re`: stepping from a character boundary by
`codepoint_len` of the byte there lands on a character boundary (`WF_bytesOf`: true of the bytes
of every string).
-/
namespace Fancy.Parse
open Fancy.Utf8 (codepointLen isLead)

/-! ## Boundaries -/

theorem isBoundary_le {re : Bytes} {i : Nat} (h : isBoundary re i = true) : i ≤ re.size := by
  simp only [isBoundary, Bool.or_eq_true, beq_iff_eq] at h
  rcases h with (h | h) | h
  · omega
  · omega
  · cases hg : re[i]? with
    | none => rw [hg] at h; cases h
    | some b =>
      have := (Array.getElem?_eq_some_iff.mp hg).1
      omega

theorem isBoundary_zero (re : Bytes) : isBoundary re 0 = true := by simp [isBoundary]

theorem isBoundary_size (re : Bytes) : isBoundary re re.size = true := by simp [isBoundary]

theorem isBoundary_of_lead {re : Bytes} {i b : Nat} (h : re[i]? = some b) (hb : isLead b = true) :
    isBoundary re i = true := by
  simp [isBoundary, h, hb]

theorem isBoundary_of_ascii {re : Bytes} {i b : Nat} (h : re[i]? = some b) (hb : b < 128) :
    isBoundary re i = true :=
  isBoundary_of_lead h (by simp [isLead]; omega)

theorem lt_size_of_get {re : Bytes} {i b : Nat} (h : re[i]? = some b) : i < re.size :=
  (Array.getElem?_eq_some_iff.mp h).1

/-- what the parser needs of valid UTF-8: from a boundary, `codepoint_len` of the byte there leads
    to a boundary -/
def WF (re : Bytes) : Prop :=
  ∀ i b, re[i]? = some b → isBoundary re i = true → isBoundary re (i + codepointLen b) = true

theorem WF.step {re : Bytes} (h : WF re) {i b : Nat} (hg : re[i]? = some b)
    (hb : isBoundary re i = true) : isBoundary re (i + codepointLen b) = true := h i b hg hb

theorem WF.step_ascii {re : Bytes} (h : WF re) {i b : Nat} (hg : re[i]? = some b) (hb : b < 128) :
    isBoundary re (i + 1) = true := by
  have := h i b hg (isBoundary_of_ascii hg hb)
  have hc : codepointLen b = 1 := by simp [codepointLen]; omega
  rwa [hc] at this

theorem codepointLen_pos (b : Nat) : 0 < codepointLen b := by
  unfold codepointLen; repeat' split
  all_goals omega

theorem codepointLen_le (b : Nat) : codepointLen b ≤ 4 := by
  unfold codepointLen; repeat' split
  all_goals omega

theorem isBoundary_toArray (l : List Nat) (i : Nat) :
    isBoundary l.toArray i = Utf8.isBoundary l i := by
  simp only [isBoundary, Utf8.isBoundary, List.size_toArray, List.getElem?_toArray]
  cases l[i]? <;> rfl

theorem WF_encode (cs : List Nat) : WF (Utf8.encode cs).toArray := by
  intro i b hg hb
  rw [isBoundary_toArray] at hb ⊢
  have hg' : (Utf8.encode cs)[i]? = some b := by simpa using hg
  obtain ⟨k, hk, rfl⟩ := (Utf8.C05_boundary_iff cs i).mp hb
  have hlt : Utf8.off cs k < (Utf8.encode cs).length := (List.getElem?_eq_some_iff.mp hg').1
  have hk' : k < cs.length := by
    rcases Nat.lt_or_ge k cs.length with h | h
    · exact h
    · have : k = cs.length := by omega
      subst this; rw [Utf8.off_length] at hlt; omega
  have hn := (Utf8.C05_next_boundary cs k hk').1
  simp only [Utf8.nextUtf8, hg'] at hn
  rw [hn]
  exact (Utf8.C05_boundary_iff cs _).mpr ⟨k + 1, by omega, rfl⟩

theorem WF_bytesOf (cs : List Char) : WF (bytesOf cs) := WF_encode _

/-! ## Outcomes -/

/-- the shape every parser function's outcome has: a good value, an error inside the pattern,
    never a panic -/
def Good {α : Type} (re : Bytes) (P : α → Prop) : Res α → Prop
  | .ok a => P a
  | .err _ p => p ≤ re.size
  | .cerr => True
  | .panic _ => False
  | .outOfFuel => True

theorem Good.bind {α β : Type} {re : Bytes} {P : α → Prop} {Q : β → Prop} {x : Res α}
    {f : α → Res β} (hx : Good re P x) (hf : ∀ a, P a → Good re Q (f a)) :
    Good re Q (x >>= f) := by
  cases x with
  | ok a => exact hf a hx
  | err k p => exact hx
  | cerr => trivial
  | panic s => exact hx
  | outOfFuel => trivial

theorem Good.mono {α : Type} {re : Bytes} {P Q : α → Prop} {x : Res α}
    (hx : Good re P x) (h : ∀ a, P a → Q a) : Good re Q x := by
  cases x with
  | ok a => exact h a hx
  | err k p => exact hx
  | cerr => trivial
  | panic s => exact hx
  | outOfFuel => trivial

@[simp] theorem Good_ok {α : Type} (re : Bytes) (P : α → Prop) (a : α) :
    Good re P (.ok a) = P a := rfl
@[simp] theorem Good_pure {α : Type} (re : Bytes) (P : α → Prop) (a : α) :
    Good re P (pure a) = P a := rfl
@[simp] theorem Good_err {α : Type} (re : Bytes) (P : α → Prop) (k : PErr) (p : Nat) :
    Good re P (.err k p) = (p ≤ re.size) := rfl
@[simp] theorem Good_cerr {α : Type} (re : Bytes) (P : α → Prop) : Good re P .cerr = True := rfl
@[simp] theorem Good_panic {α : Type} (re : Bytes) (P : α → Prop) (s : String) :
    Good re P (.panic s) = False := rfl
@[simp] theorem Good_outOfFuel {α : Type} (re : Bytes) (P : α → Prop) :
    Good re P .outOfFuel = True := rfl

theorem Good.not_panic {α : Type} {re : Bytes} {P : α → Prop} {x : Res α} (h : Good re P x)
    (s : String) : x ≠ .panic s := by
  intro e; subst e; exact h

theorem Good.err_pos {α : Type} {re : Bytes} {P : α → Prop} {x : Res α} (h : Good re P x)
    {k : PErr} {p : Nat} (e : x = .err k p) : p ≤ re.size := by
  subst e; exact h

theorem Good.ok_val {α : Type} {re : Bytes} {P : α → Prop} {x : Res α} (h : Good re P x)
    {a : α} (e : x = .ok a) : P a := by
  subst e; exact h

/-! ## Slices and byte access -/

/-- `Good` and not out of fuel -/
def GoodS {α : Type} (re : Bytes) (P : α → Prop) : Res α → Prop
  | .ok a => P a
  | .err _ p => p ≤ re.size
  | .cerr => True
  | .panic _ => False
  | .outOfFuel => False

theorem GoodS.good {α : Type} {re : Bytes} {P : α → Prop} {x : Res α} (h : GoodS re P x) :
    Good re P x := by
  cases x <;> first | exact h | trivial

theorem GoodS.bind {α β : Type} {re : Bytes} {P : α → Prop} {Q : β → Prop} {x : Res α}
    {f : α → Res β} (hx : GoodS re P x) (hf : ∀ a, P a → GoodS re Q (f a)) :
    GoodS re Q (x >>= f) := by
  cases x with
  | ok a => exact hf a hx
  | err k p => exact hx
  | cerr => trivial
  | panic s => exact hx
  | outOfFuel => exact hx

theorem GoodS.ite {α : Type} {re : Bytes} {P : α → Prop} {c : Prop} [Decidable c] {t e : Res α}
    (ht : c → GoodS re P t) (he : ¬c → GoodS re P e) : GoodS re P (if c then t else e) := by
  split
  · exact ht ‹_›
  · exact he ‹_›

/-- case analysis on an outcome known to be `GoodS`: only `ok`, an error inside the pattern and
    `cerr` remain (for the places where the model spells `>>=` out as a `match`) -/
@[elab_as_elim] theorem GoodS.byCases {α : Type} {re : Bytes} {P : α → Prop} {motive : Res α → Prop}
    {x : Res α} (hx : GoodS re P x) (ok : ∀ a, P a → motive (.ok a))
    (err : ∀ k p, p ≤ re.size → motive (.err k p)) (cerr : motive .cerr) : motive x := by
  cases x with
  | ok a => exact ok a hx
  | err k p => exact err k p hx
  | cerr => exact cerr
  | panic s => exact hx.elim
  | outOfFuel => exact hx.elim

theorem eq_of_not_bne {a b : Nat} (h : ¬ (a != b) = true) : a = b := by simpa using h

theorem GoodS.mono {α : Type} {re : Bytes} {P Q : α → Prop} {x : Res α}
    (hx : GoodS re P x) (h : ∀ a, P a → Q a) : GoodS re Q x := by
  cases x with
  | ok a => exact h a hx
  | err k p => exact hx
  | cerr => trivial
  | panic s => exact hx
  | outOfFuel => exact hx

theorem GoodS.spec {α : Type} {re : Bytes} {P : α → Prop} {x : Res α} (h : GoodS re P x) :
    (∀ a, x = .ok a → P a) ∧ (∀ k p, x = .err k p → p ≤ re.size) ∧ (∀ s, x ≠ .panic s) ∧
      x ≠ .outOfFuel :=
  ⟨fun _ e => h.good.ok_val e, fun _ _ e => h.good.err_pos e, h.good.not_panic,
    fun e => by rw [e] at h; exact h⟩

@[simp] theorem GoodS_ok {α : Type} (re : Bytes) (P : α → Prop) (a : α) :
    GoodS re P (.ok a) = P a := rfl
@[simp] theorem GoodS_pure {α : Type} (re : Bytes) (P : α → Prop) (a : α) :
    GoodS re P (pure a) = P a := rfl
@[simp] theorem GoodS_err {α : Type} (re : Bytes) (P : α → Prop) (k : PErr) (p : Nat) :
    GoodS re P (.err k p) = (p ≤ re.size) := rfl
@[simp] theorem GoodS_cerr {α : Type} (re : Bytes) (P : α → Prop) : GoodS re P .cerr = True := rfl
@[simp] theorem GoodS_panic {α : Type} (re : Bytes) (P : α → Prop) (s : String) :
    GoodS re P (.panic s) = False := rfl
@[simp] theorem GoodS_outOfFuel {α : Type} (re : Bytes) (P : α → Prop) :
    GoodS re P .outOfFuel = False := rfl

theorem goodS_sliceFrom {re : Bytes} {a : Nat} (s : String) (h : isBoundary re a = true) :
    GoodS re (fun _ => True) (sliceFrom re a s) := by
  simp [sliceFrom, sliceFromOk, h]

theorem goodS_slice {re : Bytes} {a b : Nat} (s : String) (hab : a ≤ b)
    (ha : isBoundary re a = true) (hb : isBoundary re b = true) :
    GoodS re (fun l => l = (re.extract a b).toList) (slice re a b s) := by
  have := isBoundary_le hb
  simp [slice, sliceOk, ha, hb, hab, this]

theorem goodS_byteAt {re : Bytes} {i : Nat} (s : String) (h : i < re.size) :
    GoodS re (fun b => re[i]? = some b) (byteAt re i s) := by
  unfold byteAt
  cases hg : re[i]? with
  | none => rw [Array.getElem?_eq_none_iff] at hg; omega
  | some b => simp

theorem good_sliceFrom {re : Bytes} {a : Nat} (s : String) (h : isBoundary re a = true) :
    Good re (fun _ => True) (sliceFrom re a s) :=
  (goodS_sliceFrom s h).good

theorem good_slice {re : Bytes} {a b : Nat} (s : String) (hab : a ≤ b)
    (ha : isBoundary re a = true) (hb : isBoundary re b = true) :
    Good re (fun _ => True) (slice re a b s) :=
  (goodS_slice s hab ha hb).good.mono fun _ _ => trivial

theorem good_byteAt {re : Bytes} {i : Nat} (s : String) (h : i < re.size) :
    Good re (fun b => re[i]? = some b) (byteAt re i s) :=
  (goodS_byteAt s h).good

/-! ## `parse_decimal` -/

theorem isDigit_ascii {b : Nat} (h : isDigit b = true) : b < 128 := by
  simp [isDigit] at h; omega

/-- the run of digits from `ix`: it ends inside the pattern, and just before a non-empty run's
    end there is a digit -/
theorem digits_run (re : Bytes) (ix : Nat) (hix : ix ≤ re.size) :
    ix + ((re.toList.drop ix).takeWhile isDigit).length ≤ re.size ∧
    (0 < ((re.toList.drop ix).takeWhile isDigit).length →
      ∃ d, re[ix + ((re.toList.drop ix).takeWhile isDigit).length - 1]? = some d ∧
        isDigit d = true) := by
  have happ := List.takeWhile_append_dropWhile (p := isDigit) (l := re.toList.drop ix)
  have hlen := congrArg List.length happ
  simp only [List.length_append, List.length_drop, Array.length_toList] at hlen
  refine ⟨by omega, fun hpos => ?_⟩
  generalize hds : (re.toList.drop ix).takeWhile isDigit = ds at *
  have hne : ds ≠ [] := by intro h; subst h; simp at hpos
  refine ⟨ds.getLast hne, ?_, ?_⟩
  · have h1 : (re.toList.drop ix)[ds.length - 1]? = some (ds.getLast hne) := by
      rw [← happ, List.getElem?_append_left (by omega)]
      rw [← List.getLast?_eq_getElem?, List.getLast?_eq_some_getLast hne]
    rw [List.getElem?_drop, Array.getElem?_toList] at h1
    rw [← h1]; congr 1; omega
  · have hall := List.all_takeWhile (p := isDigit) (l := re.toList.drop ix)
    rw [hds, List.all_eq_true] at hall
    exact hall _ (List.getLast_mem hne)

/-- what `parse_decimal` returns, by whether its slice `s[ix..end]` exists: a panic if not; else
    `ok`, and a number only after a non-empty run of digits, with the end of the run -/
theorem parseDecimal_cases (re : Bytes) (ix : Nat) :
    (sliceOk re ix (ix + ((re.toList.drop ix).takeWhile isDigit).length) = false ∧
      ∃ s, parseDecimal re ix = .panic s) ∨
    (sliceOk re ix (ix + ((re.toList.drop ix).takeWhile isDigit).length) = true ∧
      ∃ r, parseDecimal re ix = .ok r ∧ ∀ e v, r = some (e, v) →
        e = ix + ((re.toList.drop ix).takeWhile isDigit).length ∧
        0 < ((re.toList.drop ix).takeWhile isDigit).length ∧ v ≤ usizeMax) := by
  unfold parseDecimal
  generalize (re.toList.drop ix).takeWhile isDigit = ds
  simp only
  cases hs : sliceOk re ix (ix + ds.length) with
  | false => exact .inl ⟨rfl, _, rfl⟩
  | true =>
    refine .inr ⟨rfl, ?_⟩
    simp only [Bool.not_true, Bool.false_eq_true, ↓reduceIte]
    cases ds with
    | nil => exact ⟨_, rfl, nofun⟩
    | cons d ds =>
      simp only [List.isEmpty_cons, Bool.false_eq_true, ↓reduceIte]
      by_cases hv : digitsVal (d :: ds) ≤ usizeMax
      · rw [if_pos hv]
        exact ⟨_, rfl, fun e v h => by cases h; exact ⟨rfl, Nat.succ_pos _, hv⟩⟩
      · rw [if_neg hv]
        exact ⟨_, rfl, nofun⟩

/-- `parse_decimal` from a boundary of well-formed bytes: a value within `usize`, an end strictly
    to the right on a boundary; never an error, a panic or out of fuel -/
theorem goodS_parseDecimal {re : Bytes} (hwf : WF re) {ix : Nat} (hb : isBoundary re ix = true) :
    GoodS re (fun r => ∀ e v, r = some (e, v) → ix < e ∧ isBoundary re e = true ∧ v ≤ usizeMax)
      (parseDecimal re ix) := by
  obtain ⟨h1, h2⟩ := digits_run re ix (isBoundary_le hb)
  have hbe : isBoundary re (ix + ((re.toList.drop ix).takeWhile isDigit).length) = true := by
    rcases Nat.eq_zero_or_pos ((re.toList.drop ix).takeWhile isDigit).length with h0 | hpos
    · rw [h0]; exact hb
    · obtain ⟨d, hd, hdig⟩ := h2 hpos
      have := hwf.step_ascii hd (isDigit_ascii hdig)
      rwa [Nat.sub_add_cancel (Nat.le_add_left_of_le hpos)] at this
  obtain ⟨hs, _⟩ | ⟨_, r, hr, hv⟩ := parseDecimal_cases re ix
  · simp [sliceOk, hb, hbe, h1] at hs
  · rw [hr]
    intro e v h
    obtain ⟨rfl, hpos, hle⟩ := hv e v h
    exact ⟨Nat.lt_add_of_pos_right hpos, hbe, hle⟩

/-- **parse_decimal, any byte string**: what it returns lies strictly to the right of `ix`, inside
    the pattern, on a boundary, and the value fits a `usize` -/
theorem C06_parseDecimal_bounds (re : Bytes) (ix e v : Nat)
    (h : parseDecimal re ix = .ok (some (e, v))) :
    ix < e ∧ e ≤ re.size ∧ isBoundary re e = true ∧ v ≤ usizeMax := by
  obtain ⟨_, s, hp⟩ | ⟨hs, r, hr, hv⟩ := parseDecimal_cases re ix
  · rw [hp] at h; cases h
  · rw [hr] at h
    cases h
    obtain ⟨rfl, hpos, hle⟩ := hv e v rfl
    simp only [sliceOk, Bool.and_eq_true, decide_eq_true_eq] at hs
    exact ⟨Nat.lt_add_of_pos_right hpos, hs.1.1.2, hs.2, hle⟩

/-- **parse_decimal never panics** from a boundary of valid UTF-8, never errs, needs no fuel -/
theorem C06_parseDecimal_no_panic {re : Bytes} (hwf : WF re) {ix : Nat}
    (hb : isBoundary re ix = true) :
    (∀ s, parseDecimal re ix ≠ .panic s) ∧ parseDecimal re ix ≠ .outOfFuel ∧
      ∀ k p, parseDecimal re ix ≠ .err k p := by
  obtain ⟨_, _, h3, h4⟩ := (goodS_parseDecimal hwf hb).spec
  refine ⟨h3, h4, fun k p e => ?_⟩
  obtain ⟨_, s, hp⟩ | ⟨_, r, hr, _⟩ := parseDecimal_cases re ix
  · rw [hp] at e; cases e
  · rw [hr] at e; cases e

example : parseDecimal #[97, 49, 50, 125] 1 = .ok (some (3, 12)) := by rfl

/-! ## `optional_whitespace` -/

/-- the comment loop, on any byte string: it ends strictly to the right, inside the pattern, just
    after a `)`; its only error is at `len`; it never panics; fuel `len + 1 - ix` suffices -/
theorem goodS_skipComment (re : Bytes) : ∀ (f ix : Nat), re.size < ix + f → 0 < f →
    GoodS re (fun ix' => ix < ix' ∧ ix' ≤ re.size ∧ re[ix' - 1]? = some (ch ')'))
      (skipComment f re ix) := by
  intro f
  induction f with
  | zero => intro ix _ h; omega
  | succ f ih =>
    intro ix hf _
    unfold skipComment
    refine GoodS.ite (fun _ => Nat.le_refl _) (fun hge => ?_)
    cases hg : re[ix]? with
    | none => rw [Array.getElem?_eq_none_iff] at hg; omega
    | some b =>
      simp only
      -- further right the loop finds its `)`, or reports the error at once
      have next : ∀ k, 0 < k → GoodS re (fun ix' => ix < ix' ∧ ix' ≤ re.size ∧
          re[ix' - 1]? = some (ch ')')) (skipComment f re (ix + k)) := fun k hk => by
        by_cases hz : ix + k ≥ re.size
        · cases f with
          | zero => omega
          | succ f => unfold skipComment; exact GoodS.ite (fun _ => Nat.le_refl _) (fun h => absurd hz h)
        · exact (ih (ix + k) (by omega) (by omega)).mono fun a h => ⟨by omega, h.2⟩
      refine GoodS.ite (fun h1 => ?_) (fun _ => ?_)
      · obtain rfl : b = ch ')' := eq_of_beq h1
        exact ⟨Nat.lt_succ_self _, by omega, hg⟩
      · exact GoodS.ite (fun _ => next 2 (by decide)) (fun _ => next 1 (by decide))

theorem startsWithAt_head {re : Bytes} {ix c : Nat} {cs : List Nat}
    (h : startsWithAt re ix (c :: cs) = true) : re[ix]? = some c ∧ startsWithAt re (ix + 1) cs = true := by
  simpa [startsWithAt] using h

/-- `optional_whitespace` from any index inside the pattern, on any byte string: the result is not
    to the left, inside the pattern, and (for well-formed bytes) on a boundary if it started on
    one; never a panic; fuel `len + 1 - ix` suffices -/
theorem goodS_optionalWhitespace (re : Bytes) (fl : Flags) : ∀ (f ix : Nat), ix ≤ re.size →
    re.size < ix + f →
    GoodS re (fun ix' => ix ≤ ix' ∧ ix' ≤ re.size ∧
        (WF re → isBoundary re ix = true → isBoundary re ix' = true))
      (optionalWhitespace f re fl ix) := by
  intro f
  induction f with
  | zero => intro ix h1 h2; omega
  | succ f ih =>
    intro ix hix hf
    unfold optionalWhitespace
    refine GoodS.ite (fun _ => ⟨Nat.le_refl _, hix, fun _ h => h⟩) (fun heq => ?_)
    have hlt : ix < re.size := Nat.lt_of_le_of_ne hix fun e => heq (beq_iff_eq.mpr e)
    cases hg : re[ix]? with
    | none => rw [Array.getElem?_eq_none_iff] at hg; omega
    | some b =>
      simp only
      -- the loop goes on from `ix'`, which a step from an ASCII byte has made a boundary
      have next : ∀ ix', ix < ix' → ix' ≤ re.size →
          (WF re → isBoundary re ix = true → isBoundary re ix' = true) →
          GoodS re (fun r => ix ≤ r ∧ r ≤ re.size ∧
            (WF re → isBoundary re ix = true → isBoundary re r = true))
            (optionalWhitespace f re fl ix') := fun ix' h1 h2 h3 =>
        (ih ix' h2 (by omega)).mono fun a h =>
          ⟨by omega, h.2.1, fun hwf hb => h.2.2 hwf (h3 hwf hb)⟩
      refine GoodS.ite (fun _ => ?_) (fun _ => ?_)
      · -- `#` comment to the end of the line
        split
        · rename_i x hx
          obtain ⟨hxl, hpx, _⟩ := List.findIdx?_eq_some_iff_getElem.mp hx
          simp only [List.length_drop, Array.length_toList] at hxl
          have hnl : re[ix + x]? = some 10 := by
            have : (re.toList.drop ix)[x]? = some 10 := by
              rw [List.getElem?_eq_getElem (by simpa using hxl)]
              simpa using hpx
            rwa [List.getElem?_drop, Array.getElem?_toList] at this
          exact next _ (by omega) (by omega) fun hwf _ => hwf.step_ascii hnl (by decide)
        · exact ⟨Nat.le_of_lt hlt, Nat.le_refl _, fun _ _ => isBoundary_size re⟩
      refine GoodS.ite (fun hc => ?_) (fun _ => ?_)
      · have hb : b < 128 := by
          have h := (Bool.and_eq_true_iff.mp hc).1
          simp only [ch, Bool.or_eq_true, beq_iff_eq] at h
          rcases h with ((h | h) | h) | h <;> (subst h; decide)
        exact next _ (Nat.lt_succ_self _) hlt fun hwf _ => hwf.step_ascii hg hb
      refine GoodS.ite (fun _ => ?_) (fun _ => ⟨Nat.le_refl _, hix, fun _ h => h⟩)
      -- `(?#…)`
      refine (goodS_skipComment re (re.size + 1) (ix + 3) (by omega) (by omega)).byCases
        (fun ix' hsc => ?_) (fun _ _ hp => hp) trivial
      obtain ⟨hs1, hs2, hs3⟩ := hsc
      refine next ix' (by omega) hs2 fun hwf _ => ?_
      have := hwf.step_ascii hs3 (by decide)
      rwa [show ix' - 1 + 1 = ix' by omega] at this

/-- `self.optional_whitespace(ix)` as the parser calls it -/
theorem goodS_optWs (re : Bytes) (fl : Flags) (ix : Nat) (hix : ix ≤ re.size) :
    GoodS re (fun ix' => ix ≤ ix' ∧ ix' ≤ re.size ∧
        (WF re → isBoundary re ix = true → isBoundary re ix' = true)) (optWs re fl ix) :=
  goodS_optionalWhitespace re fl (re.size + 2) ix hix (by omega)

/-- the form used in the descent -/
theorem goodS_optWs' {re : Bytes} (hwf : WF re) (fl : Flags) {ix : Nat}
    (hb : isBoundary re ix = true) :
    GoodS re (fun ix' => ix ≤ ix' ∧ isBoundary re ix' = true) (optWs re fl ix) :=
  (goodS_optWs re fl ix (isBoundary_le hb)).mono fun _ h => ⟨h.1, h.2.2 hwf hb⟩

/-- **optional_whitespace, any byte string, any flags**: from an index inside the pattern it
    returns an index not to the left and inside the pattern, or the `UnclosedOpenParen` error at
    `len`; it never panics and never runs out of fuel -/
theorem C06_optionalWhitespace_bounds (re : Bytes) (fl : Flags) (ix : Nat) (hix : ix ≤ re.size) :
    (∀ ix', optWs re fl ix = .ok ix' → ix ≤ ix' ∧ ix' ≤ re.size) ∧
    (∀ k p, optWs re fl ix = .err k p → p ≤ re.size) ∧
    (∀ s, optWs re fl ix ≠ .panic s) ∧ optWs re fl ix ≠ .outOfFuel := by
  obtain ⟨h1, h⟩ := (goodS_optWs re fl ix hix).spec
  exact ⟨fun ix' e => ⟨(h1 _ e).1, (h1 _ e).2.1⟩, h⟩

-- "(?x) # c\n(?#d)a": white space, a line comment and a group comment are skipped
example : optWs #[32, 35, 32, 99, 10, 40, 63, 35, 100, 41, 97] { ignoreSpace := true } 0 = .ok 10 := by rfl

/-! ## `parse_repeat` -/


theorem lt_of_ne_size {re : Bytes} {i : Nat} (h : isBoundary re i = true)
    (hne : ¬ (i == re.size) = true) : i < re.size := by
  have := isBoundary_le h
  have : i ≠ re.size := by simpa using hne
  omega

theorem goodS_parseRepeat {re : Bytes} (hwf : WF re) (fl : Flags) {ix : Nat}
    (hg : re[ix]? = some (ch '{')) :
    GoodS re (fun r => ix + 1 < r.1 ∧ isBoundary re r.1 = true) (parseRepeat re fl ix) := by
  have hb1 : isBoundary re (ix + 1) = true := hwf.step_ascii hg (by decide)
  unfold parseRepeat
  refine GoodS.bind (goodS_optWs' hwf fl hb1) (fun ix1 h1 => ?_)
  have hsz1 := isBoundary_le h1.2
  refine GoodS.ite (fun _ => hsz1) (fun hne => ?_)
  refine GoodS.bind (goodS_byteAt _ (lt_of_ne_size h1.2 hne)) (fun b _ => ?_)
  refine GoodS.bind (P := fun lo_end => ix1 ≤ lo_end.2 ∧ isBoundary re lo_end.2 = true) ?_
    (fun lo_end h2 => ?_)
  · refine GoodS.ite (fun _ => ⟨Nat.le_refl _, h1.2⟩) (fun _ => ?_)
    refine GoodS.bind (goodS_parseDecimal hwf h1.2) (fun r hr => ?_)
    cases r with
    | none => exact hsz1
    | some p => exact ⟨Nat.le_of_lt (hr _ _ rfl).1, (hr _ _ rfl).2.1⟩
  refine GoodS.bind (goodS_optWs' hwf fl h2.2) (fun ix2 h3 => ?_)
  have hsz2 := isBoundary_le h3.2
  refine GoodS.ite (fun _ => hsz2) (fun hne2 => ?_)
  refine GoodS.bind (goodS_byteAt _ (lt_of_ne_size h3.2 hne2)) (fun b2 hb2 => ?_)
  refine GoodS.bind (P := fun hi_end => ix2 ≤ hi_end.2 ∧ isBoundary re hi_end.2 = true) ?_
    (fun hi_end h4 => ?_)
  · refine GoodS.ite (fun _ => ⟨Nat.le_refl _, h3.2⟩) (fun _ => ?_)
    refine GoodS.ite (fun hcomma => ?_) (fun _ => hsz2)
    obtain rfl : b2 = ch ',' := eq_of_beq hcomma
    refine GoodS.bind (goodS_optWs' hwf fl (hwf.step_ascii hb2 (by decide))) (fun e he => ?_)
    have hle : ix2 ≤ e := Nat.le_trans (Nat.le_succ _) he.1
    refine GoodS.bind (goodS_parseDecimal hwf he.2) (fun r hr => ?_)
    cases r with
    | none => exact ⟨hle, he.2⟩
    | some p => exact ⟨Nat.le_trans hle (Nat.le_of_lt (hr _ _ rfl).1), (hr _ _ rfl).2.1⟩
  refine GoodS.bind (goodS_optWs' hwf fl h4.2) (fun ix3 h5 => ?_)
  have hsz3 := isBoundary_le h5.2
  refine GoodS.ite (fun _ => hsz3) (fun hne3 => ?_)
  refine GoodS.bind (goodS_byteAt _ (lt_of_ne_size h5.2 hne3)) (fun b3 hb3 => ?_)
  refine GoodS.ite (fun _ => hsz3) (fun hclose => ?_)
  obtain rfl : b3 = ch '}' := eq_of_not_bne hclose
  exact ⟨show ix + 1 < ix3 + 1 by omega, hwf.step_ascii hb3 (by decide)⟩

/-- **parse_repeat** (valid UTF-8, `ix` at the `{`): the index it returns is beyond the `{` and on
    a boundary; errors are inside the pattern; no panic, no fuel exhaustion -/
theorem C06_parseRepeat_bounds {re : Bytes} (hwf : WF re) (fl : Flags) {ix : Nat}
    (hg : re[ix]? = some (ch '{')) :
    (∀ next lo hi, parseRepeat re fl ix = .ok (next, lo, hi) →
      ix + 1 < next ∧ next ≤ re.size ∧ isBoundary re next = true) ∧
    (∀ k p, parseRepeat re fl ix = .err k p → p ≤ re.size) ∧
    (∀ s, parseRepeat re fl ix ≠ .panic s) ∧ parseRepeat re fl ix ≠ .outOfFuel := by
  obtain ⟨h1, h⟩ := (goodS_parseRepeat hwf fl hg).spec
  exact ⟨fun n lo hi e => ⟨(h1 _ e).1, isBoundary_le (h1 _ e).2, (h1 _ e).2⟩, h⟩

-- "a{2,3}" : the repeat at index 1 ends at 6 with bounds 2 and 3
example : parseRepeat #[97, 123, 50, 44, 51, 125] {} 1 = .ok (6, 2, 3) := by rfl

/-! ## `parse_hex` -/


theorem isHexDigit_ascii {d : Nat} (h : isHexDigit d = true) : d < 128 := by
  simp only [isHexDigit, Bool.or_eq_true, Bool.and_eq_true, decide_eq_true_eq] at h
  rcases h with h | h
  · exact isDigit_ascii h
  · have := Nat.left_le_or (n := d) (m := 32); omega

theorem hexVal_le {d : Nat} (h : isHexDigit d = true) : hexVal d ≤ 15 := by
  simp only [isHexDigit, Bool.or_eq_true, Bool.and_eq_true, decide_eq_true_eq] at h
  unfold hexVal
  split
  · rename_i hd; simp [isDigit] at hd; omega
  · rename_i hd
    rcases h with h | h
    · exact absurd h hd
    · omega

theorem foldl_hex_bound : ∀ (s : List Nat) (a : Nat), (∀ d ∈ s, isHexDigit d = true) →
    s.foldl (fun a d => a * 16 + hexVal d) a < (a + 1) * 16 ^ s.length := by
  intro s
  induction s with
  | nil => intro a _; simp
  | cons d s ih =>
    intro a h
    simp only [List.foldl_cons, List.length_cons]
    have hd := hexVal_le (h d (by simp))
    have := ih (a * 16 + hexVal d) (fun x hx => h x (by simp [hx]))
    calc _ < (a * 16 + hexVal d + 1) * 16 ^ s.length := this
      _ ≤ ((a + 1) * 16) * 16 ^ s.length := Nat.mul_le_mul_right _ (by omega)
      _ = (a + 1) * 16 ^ (s.length + 1) := by rw [Nat.pow_succ, Nat.mul_assoc, Nat.mul_comm 16]

theorem parseHexU32_some {s : List Nat} (hne : s ≠ []) (hall : ∀ d ∈ s, isHexDigit d = true)
    (hlen : s.length ≤ 8) : ∃ v, parseHexU32 s = some v := by
  unfold parseHexU32
  have hb := foldl_hex_bound s 0 hall
  have hp : 16 ^ s.length ≤ 16 ^ 8 := Nat.pow_le_pow_right (by omega) hlen
  have : s.isEmpty = false := by cases s <;> simp_all
  simp only [this, Bool.false_eq_true, ↓reduceIte]
  refine ⟨_, if_pos ?_⟩
  simp only [Nat.zero_add, Nat.one_mul] at hb
  have : (16:Nat) ^ 8 = 4294967296 := by decide
  omega

theorem extract_all {re : Bytes} {a b : Nat} {p : Nat → Bool} (hb : b ≤ re.size)
    (h : ∀ j, a ≤ j → j < b → ∃ d, re[j]? = some d ∧ p d = true) :
    ∀ d ∈ (re.extract a b).toList, p d = true := by
  intro d hd
  rw [Array.mem_toList_iff, Array.mem_iff_getElem?] at hd
  obtain ⟨k, hk⟩ := hd
  rw [Array.getElem?_extract] at hk
  split at hk
  · rename_i hlt
    rw [Nat.min_eq_left hb] at hlt
    obtain ⟨d', h1, h2⟩ := h (a + k) (by omega) (by omega)
    rw [h1] at hk; cases hk; exact h2
  · cases hk

theorem all_extract {re : Bytes} {a b : Nat} {p : Nat → Bool} (hb : b ≤ re.size)
    (h : (re.extract a b).toList.all p = true) :
    ∀ j, a ≤ j → j < b → ∃ d, re[j]? = some d ∧ p d = true := by
  intro j h1 h2
  rw [List.all_eq_true] at h
  have hj : j < re.size := by omega
  refine ⟨re[j], by simp [hj], h _ ?_⟩
  rw [Array.mem_toList_iff, Array.mem_iff_getElem?]
  refine ⟨j - a, ?_⟩
  rw [Array.getElem?_extract, Nat.min_eq_left hb, if_pos (by omega)]
  rw [show a + (j - a) = j by omega]; simp [hj]

/-- the `{…}` loop of `parse_hex` on any byte string -/
theorem goodS_hexBraceLoop (re : Bytes) (ix starthex : Nat) (hix : ix ≤ re.size) :
    ∀ (f endhex : Nat), starthex ≤ endhex → endhex ≤ starthex + 8 → endhex ≤ re.size →
    starthex + 8 < endhex + f →
    (∀ j, starthex ≤ j → j < endhex → ∃ d, re[j]? = some d ∧ isHexDigit d = true) →
    GoodS re (fun e => starthex < e ∧ e ≤ starthex + 8 ∧ re[e]? = some (ch '}') ∧
        ∀ j, starthex ≤ j → j < e → ∃ d, re[j]? = some d ∧ isHexDigit d = true)
      (hexBraceLoop f re ix starthex endhex) := by
  intro f
  induction f with
  | zero => intro e h1 h2 _ h3; omega
  | succ f ih =>
    intro endhex h1 h2 hsz hf hall
    unfold hexBraceLoop
    refine GoodS.ite (fun _ => hix) (fun hne => ?_)
    have hne' : endhex ≠ re.size := fun e => hne (beq_iff_eq.mpr e)
    cases hg : re[endhex]? with
    | none => rw [Array.getElem?_eq_none_iff] at hg; omega
    | some b =>
      simp only
      refine GoodS.ite (fun hc => ?_) (fun _ => ?_)
      · simp only [Bool.and_eq_true, decide_eq_true_eq, beq_iff_eq] at hc
        exact ⟨hc.1, h2, by rw [hg, hc.2], hall⟩
      refine GoodS.ite (fun hc => ?_) (fun _ => hix)
      simp only [Bool.and_eq_true, decide_eq_true_eq] at hc
      refine ih (endhex + 1) (by omega) (by omega) (by omega) (by omega) (fun j hj1 hj2 => ?_)
      rcases Nat.lt_or_ge j endhex with h | h
      · exact hall j hj1 h
      · obtain rfl : j = endhex := by omega
        exact ⟨b, hg, hc.1⟩

/-- between one and eight hex digits of the pattern, as `parse_hex` slices them out -/
theorem hexDigits_extract {re : Bytes} {a b : Nat} (hab : a < b) (hb8 : b ≤ a + 8) (hb : b ≤ re.size)
    (h : ∀ j, a ≤ j → j < b → ∃ d, re[j]? = some d ∧ isHexDigit d = true) :
    (re.extract a b).toList ≠ [] ∧ (re.extract a b).toList.length ≤ 8 ∧
      ∀ d ∈ (re.extract a b).toList, isHexDigit d = true := by
  have hlen : (re.extract a b).toList.length = b - a := by
    simp only [Array.length_toList, Array.size_extract, Nat.min_eq_left hb]
  refine ⟨fun h0 => ?_, by omega, extract_all hb h⟩
  rw [h0] at hlen
  simp only [List.length_nil] at hlen
  omega

/-- `parse_hex` from a boundary of well-formed bytes, `digits ∈ 1..8` -/
theorem goodS_parseHex {re : Bytes} (hwf : WF re) (fl : Flags) {ix digits : Nat}
    (hb : isBoundary re ix = true) (hd : 0 < digits) (hd8 : digits ≤ 8) :
    GoodS re (fun r => ix < r.1 ∧ isBoundary re r.1 = true ∧ ∃ c ci, r.2 = .literal [c] ci)
      (parseHex re fl ix digits) := by
  have hix := isBoundary_le hb
  unfold parseHex
  refine GoodS.ite (fun _ => hix) (fun hge => ?_)
  refine GoodS.bind (goodS_byteAt _ (Nat.lt_of_not_le hge)) (fun b hbyte => ?_)
  refine GoodS.bind (P := fun es => ix < es.1 ∧ isBoundary re es.1 = true ∧ es.2 ≠ [] ∧
      es.2.length ≤ 8 ∧ ∀ d ∈ es.2, isHexDigit d = true) ?_ (fun es h => ?_)
  · refine GoodS.ite (fun hc => ?_) (fun _ => ?_)
    · simp only [Bool.and_eq_true, decide_eq_true_eq] at hc
      have hall := all_extract hc.1 hc.2
      have hbe : isBoundary re (ix + digits) = true := by
        obtain ⟨d, h1, h2⟩ := hall (ix + digits - 1) (by omega) (by omega)
        have := hwf.step_ascii h1 (isHexDigit_ascii h2)
        rwa [show ix + digits - 1 + 1 = ix + digits by omega] at this
      refine GoodS.bind (goodS_slice _ (Nat.le_add_right _ _) hb hbe) (fun s hs => ?_)
      subst hs
      exact ⟨Nat.lt_add_of_pos_right hd, hbe,
        hexDigits_extract (Nat.lt_add_of_pos_right hd) (by omega) hc.1 hall⟩
    refine GoodS.ite (fun hbrace => ?_) (fun _ => hix)
    obtain rfl : b = ch '{' := eq_of_beq hbrace
    have hb1 : isBoundary re (ix + 1) = true := hwf.step_ascii hbyte (by decide)
    refine GoodS.bind (goodS_hexBraceLoop re ix (ix + 1) hix 16 (ix + 1) (Nat.le_refl _) (by omega)
      (isBoundary_le hb1) (by omega) (fun j h1 h2 => by omega)) (fun e he => ?_)
    obtain ⟨he1, he2, he3, he4⟩ := he
    have hesz := lt_size_of_get he3
    refine GoodS.bind (goodS_slice _ (Nat.le_of_lt he1) hb1 (isBoundary_of_ascii he3 (by decide)))
      (fun s hs => ?_)
    subst hs
    exact ⟨show ix < e + 1 by omega, hwf.step_ascii he3 (by decide),
      hexDigits_extract he1 he2 (Nat.le_of_lt hesz) he4⟩
  · obtain ⟨h1, h2, h3, h4, h5⟩ := h
    obtain ⟨v, hv⟩ := parseHexU32_some h3 h5 h4
    simp only [hv]
    exact GoodS.ite (fun _ => ⟨h1, h2, _, _, rfl⟩) (fun _ => hix)

/-- **parse_hex** (valid UTF-8, from a boundary, 2/4/8 digits): the end is to the right on a
    boundary, the result a one-character literal; errors inside the pattern; the
    `from_str_radix(..).unwrap()` never fails; no fuel exhaustion -/
theorem C06_parseHex_bounds {re : Bytes} (hwf : WF re) (fl : Flags) {ix digits : Nat}
    (hb : isBoundary re ix = true) (hd : 0 < digits) (hd8 : digits ≤ 8) :
    (∀ e x, parseHex re fl ix digits = .ok (e, x) → ix < e ∧ e ≤ re.size ∧ isBoundary re e = true) ∧
    (∀ k p, parseHex re fl ix digits = .err k p → p ≤ re.size) ∧
    (∀ s, parseHex re fl ix digits ≠ .panic s) ∧ parseHex re fl ix digits ≠ .outOfFuel := by
  obtain ⟨h1, h⟩ := (goodS_parseHex hwf fl hb hd hd8).spec
  exact ⟨fun n x e => ⟨(h1 _ e).1, isBoundary_le (h1 _ e).2.1, (h1 _ e).2.1⟩, h⟩

/-! ## `parse_id` -/

theorem decodeAt_snd (re : Bytes) (ix b : Nat) : (decodeAt re ix b).2 = codepointLen b := by
  unfold decodeAt
  simp only
  split <;> rfl

/-- `find(|ch| !pred(ch))` over the characters from a boundary -/
theorem goodS_findNot {re : Bytes} (hwf : WF re) (pred : Char → Bool) : ∀ (f ix : Nat),
    isBoundary re ix = true → re.size < ix + f →
    GoodS re (fun r => ∀ p, r = some p → ix ≤ p ∧ p < re.size ∧ isBoundary re p = true)
      (findNot pred f re ix) := by
  intro f
  induction f with
  | zero => intro ix hb hf; have := isBoundary_le hb; omega
  | succ f ih =>
    intro ix hb hf
    unfold findNot
    cases hg : re[ix]? with
    | none => simp
    | some b =>
      simp only
      have hn := decodeAt_snd re ix b
      have hlt := lt_size_of_get hg
      generalize decodeAt re ix b = cn at hn
      obtain ⟨c, n⟩ := cn
      simp only at hn ⊢
      subst hn
      split
      · have hpos := codepointLen_pos b
        refine (ih (ix + codepointLen b) (hwf.step hg hb) (by omega)).mono fun r h p hp => ?_
        have := h p hp
        exact ⟨by omega, this.2⟩
      · simp only [GoodS_ok]
        intro p hp; cases hp
        exact ⟨Nat.le_refl _, hlt, hb⟩

/-- a matched ASCII prefix ends on a boundary -/
theorem startsWithAt_boundary {re : Bytes} (hwf : WF re) : ∀ (l : List Nat) (ix : Nat),
    l.all (· < 128) = true → startsWithAt re ix l = true → isBoundary re ix = true →
    isBoundary re (ix + l.length) = true := by
  intro l
  induction l with
  | nil => intro ix _ _ h; exact h
  | cons c cs ih =>
    intro ix hc hs hb
    simp only [List.all_cons, Bool.and_eq_true] at hc
    obtain ⟨h1, h2⟩ := startsWithAt_head hs
    have := ih (ix + 1) hc.2 h2 (hwf.step_ascii h1 (of_decide_eq_true hc.1))
    rwa [Nat.add_assoc, Nat.add_comm 1] at this

/-- `parse_id` at a boundary of well-formed bytes with ASCII delimiters (as in every call): when
    it finds an identifier, `skip` is positive and `base + skip` is a boundary -/
theorem goodS_parseId {re : Bytes} (hwf : WF re) (isAlnum : Char → Bool) {base : Nat}
    {open_ close : List Nat} (allowRel : Bool) (hb : isBoundary re base = true)
    (hopen : open_.all (· < 128) = true) (hclose : close.all (· < 128) = true) (hne : close ≠ [])
    (hdbg : ∀ c, close.head? = some c → isIdChar isAlnum (mkChar c) = false) :
    GoodS re (fun r => ∀ a b skip, r = some (a, b, skip) → 0 < skip ∧
        isBoundary re (base + skip) = true) (parseId isAlnum re base open_ close allowRel) := by
  obtain ⟨c0, cs0, rfl⟩ : ∃ c cs, close = c :: cs := by
    cases close with
    | nil => exact absurd rfl hne
    | cons c cs => exact ⟨c, cs, rfl⟩
  unfold parseId
  simp only [hdbg c0 rfl, Bool.false_eq_true, ↓reduceIte]
  refine GoodS.ite (fun _ => nofun) (fun hsw => ?_)
  have hbs := startsWithAt_boundary hwf open_ base hopen (by simpa using hsw) hb
  have hsz := isBoundary_le hbs
  refine GoodS.bind (goodS_sliceFrom _ hbs) (fun _ _ => ?_)
  refine GoodS.bind (P := fun r => ∀ p, r = some p → base + open_.length ≤ p ∧ p < re.size ∧
    isBoundary re p = true) ?_ (fun afterId haf => ?_)
  · refine GoodS.ite (fun hrel => ?_) (fun _ => goodS_findNot hwf _ _ _ hbs (by omega))
    have hminus : re[base + open_.length]? = some (ch '-') :=
      eq_of_beq (Bool.and_eq_true_iff.mp hrel).2
    refine (goodS_findNot hwf _ _ _ (hwf.step_ascii hminus (by decide)) (by omega)).mono
      fun r h p hp => ⟨Nat.le_of_succ_le (h p hp).1, (h p hp).2⟩
  refine GoodS.bind (P := fun idLen => ∀ l, idLen = some l →
    isBoundary re (base + open_.length + l + (c0 :: cs0).length) = true ∧
    isBoundary re (base + open_.length + l) = true) ?_ (fun idLen hl => ?_)
  · cases afterId with
    | none => exact nofun
    | some p =>
      obtain ⟨hp1, hp2, hp3⟩ := haf p rfl
      refine GoodS.bind (goodS_sliceFrom _ hp3) (fun _ _ => ?_)
      refine GoodS.ite (fun hcl => ?_) (fun _ => nofun)
      intro l hl
      cases hl
      rw [show base + open_.length + (p - (base + open_.length)) = p by omega]
      exact ⟨startsWithAt_boundary hwf (c0 :: cs0) p hclose hcl hp3, hp3⟩
  · cases idLen with
    | none => exact nofun
    | some l =>
      obtain ⟨h1, h2⟩ := hl l rfl
      cases l with
      | zero => exact nofun
      | succ l =>
        have hs : sliceOk re (base + open_.length) (base + open_.length + (l + 1)) = true := by
          simp [sliceOk, hbs, h2, isBoundary_le h2]
        simp only [hs, Bool.not_true, Bool.false_eq_true, ↓reduceIte, GoodS_ok]
        intro a b skip h
        cases h
        refine ⟨by omega, ?_⟩
        rw [show base + (base + open_.length + (l + 1) - base + (c0 :: cs0).length)
          = base + open_.length + (l + 1) + (c0 :: cs0).length by omega]
        exact h1

/-- **parse_id** (valid UTF-8, from a boundary, ASCII delimiters, a non-empty closing delimiter
    that is not an identifier character — as in all five call sites): when an identifier is found,
    `skip` is positive and `base + skip` is a boundary inside the pattern; it never errs, never
    panics (the three slices are in range and on boundaries, the `debug_assert!` holds) and the
    fuel of its scanning loop suffices -/
theorem C06_parseId_bounds {re : Bytes} (hwf : WF re) (isAlnum : Char → Bool) {base : Nat}
    {open_ close : List Nat} (allowRel : Bool) (hb : isBoundary re base = true)
    (hopen : ∀ c ∈ open_, c < 128) (hclose : ∀ c ∈ close, c < 128) (hne : close ≠ [])
    (hdbg : ∀ c, close.head? = some c → isIdChar isAlnum (mkChar c) = false) :
    (∀ a b skip, parseId isAlnum re base open_ close allowRel = .ok (some (a, b, skip)) →
      0 < skip ∧ base + skip ≤ re.size ∧ isBoundary re (base + skip) = true) ∧
    (∀ s, parseId isAlnum re base open_ close allowRel ≠ .panic s) ∧
    parseId isAlnum re base open_ close allowRel ≠ .outOfFuel := by
  have h := goodS_parseId hwf isAlnum allowRel hb
    (List.all_eq_true.mpr fun c hc => decide_eq_true (hopen c hc))
    (List.all_eq_true.mpr fun c hc => decide_eq_true (hclose c hc)) hne hdbg
  obtain ⟨h1, _, h3, h4⟩ := h.spec
  exact ⟨fun a b skip e => have := h1 _ e a b skip rfl; ⟨this.1, isBoundary_le this.2, this.2⟩,
    h3, h4⟩

-- `<n>` : the identifier is bytes 1..2, three bytes are used
example : parseId (fun c => c.isAlphanum) #[60, 110, 62] 0 [60] [62] false = .ok (some (1, 2, 3)) := by
  rfl
-- the hypotheses are satisfiable: the bytes of any string are well-formed
example : WF (bytesOf "(?<é>a)".toList) := WF_bytesOf _

/-! ## References (`parse_numbered_backref`, `parse_named_backref`) -/
set_option linter.unusedVariables false

mutual
/-- depth of a tree (a leaf has depth 1) -/
def depth : Expr → Nat
  | .concat es => 1 + depthList es
  | .alt es => 1 + depthList es
  | .group _ e => 1 + depth e
  | .look e _ => 1 + depth e
  | .repeat e _ _ _ => 1 + depth e
  | .atomic e => 1 + depth e
  | .cond c y n => 1 + max (depth c) (max (depth y) (depth n))
  | _ => 1
def depthList : List Expr → Nat
  | [] => 0
  | e :: es => max (depth e) (depthList es)
end

/-- an alternation is deeper than its first alternative and at least as deep as the rest -/
theorem depth_alt_cons {t : Expr} {rest : List Expr} {D : Nat} (h : depth (.alt (t :: rest)) ≤ D) :
    depth t < D ∧ depth (.alt rest) ≤ D := by
  simp only [depth, depthList] at h ⊢
  omega

theorem depth_cond_le {c y n : Expr} {D : Nat} (hc : depth c ≤ D) (hy : depth y ≤ D)
    (hn : depth n ≤ D) : depth (.cond c y n) ≤ D + 1 := by
  simp only [depth]
  omega

/-- the assumption on `is_alphanumeric` that the `debug_assert!` of `parse_id` relies on: the
    closing delimiters are not identifier characters -/
def AlnumOK (isAlnum : Char → Bool) : Prop :=
  isAlnum '\'' = false ∧ isAlnum '>' = false ∧ isAlnum ')' = false

/-- a literal holds exactly one character (what the `debug_assert_eq!` of `parse_class` checks),
    an alternation is not empty (what `alternatives.remove(0)` of `parse_conditional` relies on) -/
def lit1 : Expr → Prop
  | .literal v _ => v.length = 1
  | .alt es => es ≠ []
  | _ => True

/-- outcome of the functions that parse one item at `ix`: progress, a boundary, a shallow tree,
    one-character literals -/
def Item (re : Bytes) (ix d : Nat) (r : Nat × Expr × PState) : Prop :=
  ix < r.1 ∧ isBoundary re r.1 = true ∧ depth r.2.1 ≤ d ∧ lit1 r.2.1

theorem depth_mk (k : RefKind) (g : Nat) : depth (k.mk g) = 1 := by
  cases k <;> simp [RefKind.mk, depth]

theorem lit1_mk (k : RefKind) (g : Nat) : lit1 (k.mk g) := by
  cases k <;> simp [RefKind.mk, lit1]

theorem goodS_parseNumberedBackref {re : Bytes} (hwf : WF re) (st : PState) {ix : Nat}
    (hb : isBoundary re ix = true) (k : RefKind) :
    GoodS re (Item re ix 1) (parseNumberedBackref re st ix k) := by
  have hix := isBoundary_le hb
  unfold parseNumberedBackref
  refine GoodS.bind (goodS_parseDecimal hwf hb) (fun r hr => ?_)
  cases r with
  | none => exact hix
  | some p =>
    obtain ⟨e, g⟩ := p
    have := hr _ _ rfl
    simp only
    split
    · exact ⟨this.1, this.2.1, by simp [depth_mk], lit1_mk _ _⟩
    · exact hix

theorem goodS_parseNamedBackref {re : Bytes} (hwf : WF re) (isAlnum : Char → Bool) (st : PState)
    {ix : Nat} {open_ close : List Nat} (allowRel : Bool) (k : RefKind)
    (hb : isBoundary re ix = true)
    (hopen : open_.all (· < 128) = true) (hclose : close.all (· < 128) = true) (hne : close ≠ [])
    (hdbg : ∀ c, close.head? = some c → isIdChar isAlnum (mkChar c) = false) :
    GoodS re (Item re ix 1) (parseNamedBackref isAlnum re st ix open_ close allowRel k) := by
  have hix := isBoundary_le hb
  unfold parseNamedBackref
  refine GoodS.bind (goodS_sliceFrom _ hb) (fun _ _ => ?_)
  refine GoodS.bind (goodS_parseId hwf isAlnum allowRel hb hopen hclose hne hdbg) (fun r hr => ?_)
  cases r with
  | none => exact hix
  | some p =>
    obtain ⟨a, b, skip⟩ := p
    have := hr _ _ _ rfl
    simp only
    split
    · exact ⟨by simp only; omega, this.2, by simp [depth_mk], lit1_mk _ _⟩
    · exact hix

/-- a one-character closing delimiter that `is_alphanumeric` rejects passes the `debug_assert!`
    of `parse_id` -/
theorem idChar_close {isAlnum : Char → Bool} {q : Char} (h : isAlnum q = false)
    (hq : mkChar q.toNat = q ∧ q ≠ '_') :
    ∀ c, [ch q].head? = some c → isIdChar isAlnum (mkChar c) = false := by
  intro c hc
  cases hc
  rw [show mkChar (ch q) = q from hq.1]
  simp [isIdChar, h, hq.2]

/-- `\k'…'`, `\g'…'`, `(?('…')` -/
theorem goodS_namedQuote {re : Bytes} (hwf : WF re) {isAlnum : Char → Bool} (hal : AlnumOK isAlnum)
    (st : PState) {ix : Nat} (k : RefKind) (hb : isBoundary re ix = true) :
    GoodS re (Item re ix 1)
      (parseNamedBackref isAlnum re st ix [ch '\''] [ch '\''] true k) :=
  goodS_parseNamedBackref hwf isAlnum st true k hb (by decide) (by decide)
    (by simp) (idChar_close hal.1 (by decide))

/-- `\k<…>`, `\g<…>`, `(?(<…>)` -/
theorem goodS_namedAngle {re : Bytes} (hwf : WF re) {isAlnum : Char → Bool} (hal : AlnumOK isAlnum)
    (st : PState) {ix : Nat} (k : RefKind) (hb : isBoundary re ix = true) :
    GoodS re (Item re ix 1)
      (parseNamedBackref isAlnum re st ix [ch '<'] [ch '>'] true k) :=
  goodS_parseNamedBackref hwf isAlnum st true k hb (by decide) (by decide)
    (by simp) (idChar_close hal.2.1 (by decide))

/-- `(?P=…)`, `(?P>…)` -/
theorem goodS_namedParen {re : Bytes} (hwf : WF re) {isAlnum : Char → Bool} (hal : AlnumOK isAlnum)
    (st : PState) {ix : Nat} (k : RefKind) (hb : isBoundary re ix = true) :
    GoodS re (Item re ix 1)
      (parseNamedBackref isAlnum re st ix [] [ch ')'] false k) :=
  goodS_parseNamedBackref hwf isAlnum st false k hb (by decide) (by decide)
    (by simp) (idChar_close hal.2.2 (by decide))

/-- the `\p{…}` loop -/
theorem goodS_uniNameLoop {re : Bytes} (hwf : WF re) (ix : Nat) (hix : ix ≤ re.size) :
    ∀ (f e : Nat), isBoundary re e = true → re.size < e + f →
    GoodS re (fun e' => e < e' ∧ isBoundary re e' = true) (uniNameLoop f re ix e) := by
  intro f
  induction f with
  | zero => intro e hb hf; have := isBoundary_le hb; omega
  | succ f ih =>
    intro e hb hf
    have he := isBoundary_le hb
    unfold uniNameLoop
    split
    · exact hix
    · rename_i hne
      have hlt := lt_of_ne_size hb hne
      cases hg : re[e]? with
      | none => rw [Array.getElem?_eq_none_iff] at hg; omega
      | some b =>
        simp only
        split
        · rename_i hc
          obtain rfl : b = ch '}' := eq_of_beq hc
          exact ⟨by omega, hwf.step_ascii hg (by decide)⟩
        · have hpos := codepointLen_pos b
          exact (ih _ (hwf.step hg hb) (by omega)).mono fun a h => ⟨by omega, h.2⟩

/-! ## `parse_escape` -/

theorem Item.mono {re : Bytes} {ix ix' d d' : Nat} {r : Nat × Expr × PState}
    (h : Item re ix' d' r) (h1 : ix ≤ ix') (h2 : d' ≤ d) : Item re ix d r :=
  ⟨by have := h.1; omega, h.2.1, by have := h.2.2.1; omega, h.2.2.2⟩

/-- the bytes of one character decode to one character -/
theorem decodeList_one : ∀ (s : List Nat) (b : Nat) (rest : List Nat), s = b :: rest →
    s.length = codepointLen b → (decodeList s).length = 1 := by
  intro s b rest hs hl
  subst hs
  unfold codepointLen at hl
  unfold decodeList
  split at hl
  · rename_i h
    have : rest = [] := by cases rest <;> simp_all
    subst this; simp [h, decodeList]
  · rename_i h
    simp only [h, ↓reduceIte]
    split at hl
    · rename_i h2
      simp only [h2, ↓reduceIte]
      match rest, hl with
      | [c1], _ => simp [decodeList]
    · rename_i h2
      simp only [h2, ↓reduceIte]
      split at hl
      · rename_i h3
        simp only [h3, ↓reduceIte]
        match rest, hl with
        | [c1, c2], _ => simp [decodeList]
      · rename_i h3
        simp only [h3, ↓reduceIte]
        match rest, hl with
        | [c1, c2, c3], _ => simp [decodeList]

theorem decode_char_slice {re : Bytes} {ix b : Nat} (hg : re[ix]? = some b)
    (hsz : ix + codepointLen b ≤ re.size) :
    (decodeList (re.extract ix (ix + codepointLen b)).toList).length = 1 := by
  have hpos := codepointLen_pos b
  have hlen : (re.extract ix (ix + codepointLen b)).toList.length = codepointLen b := by
    simp only [Array.length_toList, Array.size_extract, Nat.min_eq_left hsz]; omega
  have hhead : (re.extract ix (ix + codepointLen b)).toList[0]? = some b := by
    rw [Array.getElem?_toList, Array.getElem?_extract, Nat.min_eq_left hsz, if_pos (by omega)]
    simpa using hg
  cases hl : (re.extract ix (ix + codepointLen b)).toList with
  | nil => rw [hl] at hlen; simp at hlen; omega
  | cons x rest =>
    rw [hl] at hhead hlen
    simp at hhead; subst hhead
    exact decodeList_one _ x rest rfl hlen


theorem goodS_parseEscape {re : Bytes} (hwf : WF re) {isAlnum : Char → Bool} (hal : AlnumOK isAlnum)
    (st : PState) {ix : Nat} (inClass : Bool) (hg : re[ix]? = some (ch '\\')) :
    GoodS re (Item re ix 2) (parseEscape isAlnum re st ix inClass) := by
  have hb0 : isBoundary re ix = true := isBoundary_of_ascii hg (by decide)
  have hb1 : isBoundary re (ix + 1) = true := hwf.step_ascii hg (by decide)
  have hix := isBoundary_le hb0
  unfold parseEscape
  cases hg1 : re[ix + 1]? with
  | none => exact hix
  | some b =>
    simp only
    have hbe : isBoundary re (ix + 1 + codepointLen b) = true := hwf.step hg1 hb1
    have hpos := codepointLen_pos b
    have hsz := isBoundary_le hbe
    generalize hend : ix + 1 + codepointLen b = end_ at *
    have hlt : ix < end_ := by omega
    have hle : ix ≤ end_ := Nat.le_of_lt hlt
    have simple : ∀ (e : Expr), depth e ≤ 2 → lit1 e → GoodS re (Item re ix 2) (.ok (end_, e, st)) :=
      fun e he hl => ⟨hlt, hbe, he, hl⟩
    have hexcase : ∀ digits, 0 < digits → digits ≤ 8 → GoodS re (Item re ix 2)
        (do let (e, x) ← parseHex re st.flags end_ digits; Res.ok (e, x, st)) := by
      intro digits h1 h2
      refine GoodS.bind (goodS_parseHex hwf st.flags hbe h1 h2) (fun r hr => ?_)
      obtain ⟨e, x⟩ := r
      obtain ⟨h3, h4, c, ci, h5⟩ := hr
      simp only at h5; subst h5
      exact ⟨by simp only; omega, h4, by simp [depth], by simp [lit1]⟩
    -- digit
    refine GoodS.ite (fun h => ?_) (fun _ => ?_)
    · exact (goodS_parseNumberedBackref hwf st hb1 _).mono fun r hr => hr.mono (Nat.le_succ _) (Nat.le_succ _)
    -- \k
    refine GoodS.ite (fun h => ?_) (fun _ => ?_)
    · refine GoodS.ite (fun _ => ?_) (fun _ => ?_)
      · exact (goodS_namedQuote hwf hal st _ hbe).mono fun r hr => hr.mono hle (Nat.le_succ _)
      · exact (goodS_namedAngle hwf hal st _ hbe).mono fun r hr => hr.mono hle (Nat.le_succ _)
    -- \A \z \Z
    refine GoodS.ite (fun h => simple _ (by decide) trivial) (fun _ => ?_)
    refine GoodS.ite (fun h => simple _ (by decide) trivial) (fun _ => ?_)
    refine GoodS.ite (fun h => simple _ (by decide) trivial) (fun _ => ?_)
    -- \b
    refine GoodS.ite (fun h => ?_) (fun _ => ?_)
    · refine GoodS.ite (fun _ => ?_) (fun _ => simple _ (by decide) trivial)
      refine GoodS.bind (goodS_slice _ hlt hb1 hbe) (fun s _ => ?_)
      exact hix
    -- \B
    refine GoodS.ite (fun h => ?_) (fun _ => ?_)
    · refine GoodS.ite (fun _ => ?_) (fun _ => simple _ (by decide) trivial)
      refine GoodS.bind (goodS_slice _ hlt hb1 hbe) (fun s _ => ?_)
      exact hix
    -- \< \>
    refine GoodS.ite (fun h => simple _ (by decide) trivial) (fun _ => ?_)
    refine GoodS.ite (fun h => simple _ (by decide) trivial) (fun _ => ?_)
    -- \d \s \w
    refine GoodS.ite (fun h => ?_) (fun _ => ?_)
    · refine GoodS.bind (goodS_slice _ hle hb0 hbe) (fun s _ => ?_)
      exact simple _ (Nat.le_succ 1) trivial
    -- \h
    refine GoodS.ite (fun h => simple _ (Nat.le_succ 1) trivial) (fun _ => ?_)
    -- \x \u \U
    refine GoodS.ite (fun h => hexcase 2 (by decide) (by decide)) (fun _ => ?_)
    refine GoodS.ite (fun h => hexcase 4 (by decide) (by decide)) (fun _ => ?_)
    refine GoodS.ite (fun h => hexcase 8 (by decide) (by decide)) (fun _ => ?_)
    -- \p
    refine GoodS.ite (fun h => ?_) (fun _ => ?_)
    · have hne : ¬ (end_ == re.size) = true := by simpa using (Bool.and_eq_true_iff.mp h).2
      refine GoodS.bind (goodS_byteAt _ (lt_of_ne_size hbe hne)) (fun b2 hb2 => ?_)
      have hbe1 := hwf.step hb2 hbe
      have hlt1 := Nat.lt_add_of_pos_right (n := end_) (codepointLen_pos b2)
      refine GoodS.bind (P := fun e2 => end_ < e2 ∧ isBoundary re e2 = true) ?_ (fun e2 he2 => ?_)
      · refine GoodS.ite (fun _ => ?_) (fun _ => ⟨hlt1, hbe1⟩)
        exact (goodS_uniNameLoop hwf ix hix _ _ hbe1 (by omega)).mono fun a ha =>
          ⟨Nat.lt_trans hlt1 ha.1, ha.2⟩
      · have hlt2 := Nat.lt_trans hlt he2.1
        refine GoodS.bind (goodS_slice _ (Nat.le_of_lt hlt2) hb0 he2.2) (fun s _ => ?_)
        exact ⟨hlt2, he2.2, Nat.le_succ 1, trivial⟩
    -- \K \G
    refine GoodS.ite (fun h => simple _ (by decide) trivial) (fun _ => ?_)
    refine GoodS.ite (fun h => simple _ (by decide) trivial) (fun _ => ?_)
    -- \g
    refine GoodS.ite (fun h => ?_) (fun _ => ?_)
    · refine GoodS.ite (fun _ => hix) (fun hne => ?_)
      refine GoodS.bind (goodS_byteAt _ (lt_of_ne_size hbe hne)) (fun b2 hb2 => ?_)
      refine GoodS.ite (fun _ => ?_) (fun _ => ?_)
      · exact (goodS_parseNumberedBackref hwf st hbe _).mono fun r hr => hr.mono hle (Nat.le_succ _)
      refine GoodS.ite (fun _ => ?_) (fun _ => ?_)
      · exact (goodS_namedQuote hwf hal st _ hbe).mono fun r hr => hr.mono hle (Nat.le_succ _)
      · exact (goodS_namedAngle hwf hal st _ hbe).mono fun r hr => hr.mono hle (Nat.le_succ _)
    -- single-letter escapes
    refine GoodS.ite (fun h => simple _ (by decide) rfl) (fun _ => ?_)
    refine GoodS.ite (fun h => simple _ (by decide) rfl) (fun _ => ?_)
    refine GoodS.ite (fun h => simple _ (by decide) rfl) (fun _ => ?_)
    refine GoodS.ite (fun h => simple _ (by decide) rfl) (fun _ => ?_)
    refine GoodS.ite (fun h => simple _ (by decide) rfl) (fun _ => ?_)
    refine GoodS.ite (fun h => simple _ (by decide) rfl) (fun _ => ?_)
    refine GoodS.ite (fun h => simple _ (by decide) rfl) (fun _ => ?_)
    refine GoodS.ite (fun h => simple _ (by decide) rfl) (fun _ => ?_)
    refine GoodS.ite (fun h => simple _ (by decide) rfl) (fun _ => ?_)
    refine GoodS.bind (goodS_slice _ hlt hb1 hbe) (fun s hs => ?_)
    refine GoodS.ite (fun _ => hix) (fun _ => simple _ (by simp [depth, makeLiteral]) ?_)
    subst hs
    subst hend
    simpa [lit1, makeLiteral] using decode_char_slice hg1 hsz

/-! ## `parse_class` -/

/-- the loop of `parse_class` from a boundary: it stops at a `]` -/
theorem goodS_classLoop {re : Bytes} (hwf : WF re) {isAlnum : Char → Bool} (hal : AlnumOK isAlnum) :
    ∀ (f : Nat) (st : PState) (ix : Nat) (nest : Int) (rcls : List Char),
    isBoundary re ix = true → re.size < ix + f →
    GoodS re (fun r => ix ≤ r.1 ∧ re[r.1]? = some (ch ']'))
      (classLoop isAlnum f re st ix nest rcls) := by
  intro f
  induction f with
  | zero => intro st ix nest rcls hb hf; have := isBoundary_le hb; omega
  | succ f ih =>
    intro st ix nest rcls hb hf
    have hix := isBoundary_le hb
    unfold classLoop
    refine GoodS.ite (fun _ => hix) (fun hne => ?_)
    have hlt := lt_of_ne_size hb hne
    cases hg : re[ix]? with
    | none => rw [Array.getElem?_eq_none_iff] at hg; omega
    | some b =>
      simp only
      have next : ∀ st' ix' nest' rcls', ix < ix' → isBoundary re ix' = true →
          GoodS re (fun r => ix ≤ r.1 ∧ re[r.1]? = some (ch ']'))
            (classLoop isAlnum f re st' ix' nest' rcls') := fun _ ix' _ _ hlt' hb' =>
        (ih _ ix' _ _ hb' (by omega)).mono fun r hr => ⟨by omega, hr.2⟩
      refine GoodS.ite (fun hc => ?_) (fun _ => ?_)
      · obtain rfl : b = ch '\\' := eq_of_beq hc
        refine (goodS_parseEscape hwf hal st true hg).byCases (fun r hesc => ?_) (fun _ _ hp => hp)
          trivial
        obtain ⟨end_, e, st'⟩ := r
        obtain ⟨h1, h2, _, h4⟩ := hesc
        cases e with
        | literal val ci =>
          have hv : (val.length != 1) = false := by rw [show val.length = 1 from h4]; rfl
          simp only [hv, Bool.false_eq_true, ↓reduceIte]
          exact next _ _ _ _ h1 h2
        | delegate inner size ci => exact next _ _ _ _ h1 h2
        | _ => exact hix
      refine GoodS.ite (fun hc => ?_) (fun _ => ?_)
      · obtain rfl : b = ch '[' := eq_of_beq hc
        exact next _ _ _ _ (Nat.lt_succ_self _) (hwf.step_ascii hg (by decide))
      refine GoodS.ite (fun hc => ?_) (fun _ => ?_)
      · obtain rfl : b = ch ']' := eq_of_beq hc
        refine GoodS.ite (fun _ => ⟨Nat.le_refl _, hg⟩) (fun _ => ?_)
        exact next _ _ _ _ (Nat.lt_succ_self _) (hwf.step_ascii hg (by decide))
      · have hbe := hwf.step hg hb
        have hlt' := Nat.lt_add_of_pos_right (n := ix) (codepointLen_pos b)
        exact (goodS_slice _ (Nat.le_of_lt hlt') hb hbe).byCases (fun s _ => next _ _ _ _ hlt' hbe)
          (fun _ _ hp => hp) trivial

/-- `parse_class` at a `[` -/
theorem goodS_parseClass {re : Bytes} (hwf : WF re) {isAlnum : Char → Bool} (hal : AlnumOK isAlnum)
    (st : PState) {ix : Nat} (hg : re[ix]? = some (ch '[')) :
    GoodS re (Item re ix 1) (parseClass isAlnum re st ix) := by
  have hb1 : isBoundary re (ix + 1) = true := hwf.step_ascii hg (by decide)
  unfold parseClass
  simp only
  -- after the optional `^` and the optional `]` the index is a boundary to the right of `ix`
  generalize hp1 : (if (re[ix + 1]? == some (ch '^')) = true then (ix + 1 + 1, ['^', '[']) else (ix + 1, ['['])) = p1
  have h1 : ix < p1.1 ∧ isBoundary re p1.1 = true := by
    subst hp1
    split
    · rename_i h; exact ⟨by simp only; omega, hwf.step_ascii (by simpa using h) (by decide)⟩
    · exact ⟨by simp only; omega, hb1⟩
  obtain ⟨i1, r1⟩ := p1
  simp only at h1 ⊢
  generalize hp2 : (if (re[i1]? == some (ch ']')) = true then (i1 + 1, ']' :: r1) else (i1, r1)) = p2
  have h2 : ix < p2.1 ∧ isBoundary re p2.1 = true := by
    subst hp2
    split
    · rename_i h; exact ⟨by simp only; omega, hwf.step_ascii (by simpa using h) (by decide)⟩
    · exact h1
  obtain ⟨i2, r2⟩ := p2
  simp only at h2 ⊢
  refine GoodS.bind (goodS_classLoop hwf hal (re.size + 2) st i2 1 r2 h2.2 (by omega)) (fun r hr => ?_)
  obtain ⟨i3, r3, st3⟩ := r
  simp only at hr ⊢
  exact ⟨by omega, hwf.step_ascii hr.2 (by decide), by simp [depth], by simp [lit1]⟩

/-! ## `check_for_close_paren`, `parse_flags` -/

/-- `check_for_close_paren` from a boundary -/
theorem goodS_checkForCloseParen {re : Bytes} (hwf : WF re) (fl : Flags) {ix : Nat}
    (hb : isBoundary re ix = true) :
    GoodS re (fun ix' => ix < ix' ∧ isBoundary re ix' = true) (checkForCloseParen re fl ix) := by
  unfold checkForCloseParen
  refine GoodS.bind (goodS_optWs' hwf fl hb) (fun ix1 h1 => ?_)
  refine GoodS.ite (fun _ => isBoundary_le h1.2) (fun hne => ?_)
  refine GoodS.bind (goodS_byteAt _ (lt_of_ne_size h1.2 hne)) (fun b hb => ?_)
  refine GoodS.ite (fun _ => isBoundary_le h1.2) (fun hc => ?_)
  obtain rfl : b = ch ')' := eq_of_not_bne hc
  exact ⟨by omega, hwf.step_ascii hb (by decide)⟩

/-- `unknown_flag(re, start, end)` with `start ≤ end < len`, both boundaries -/
theorem goodS_unknownFlag {re : Bytes} (hwf : WF re) {start end_ : Nat} (hse : start ≤ end_)
    (hbs : isBoundary re start = true) (hbe : isBoundary re end_ = true) (hlt : end_ < re.size) :
    GoodS re (fun _ => True) (unknownFlag re start end_) := by
  unfold unknownFlag
  refine GoodS.bind (goodS_byteAt _ hlt) (fun b hb => ?_)
  have := codepointLen_pos b
  refine GoodS.bind (goodS_slice _ (by omega) hbs (hwf.step hb hbe)) (fun s _ => ?_)
  trivial

/-- the error `parse_flags` makes of `unknown_flag` -/
theorem goodS_unknownFlagErr {re : Bytes} (hwf : WF re) {α : Type} (P : α → Prop) {start end_ : Nat}
    (hse : start ≤ end_)
    (hbs : isBoundary re start = true) (hbe : isBoundary re end_ = true) (hlt : end_ < re.size) :
    GoodS re P (match unknownFlag re start end_ with
      | .ok e => .err e start
      | .err k p => .err k p | .cerr => .cerr | .panic s => .panic s | .outOfFuel => .outOfFuel) := by
  exact (goodS_unknownFlag hwf hse hbs hbe hlt).byCases (fun _ _ => isBoundary_le hbs)
    (fun _ _ hp => hp) trivial

/-- what the letter loop of `parse_flags` stops at -/
def FlagsEndOK (re : Bytes) (ix : Nat) : FlagsEnd → Prop
  | .close i => ix ≤ i ∧ re[i]? = some (ch ')')
  | .colon i => ix ≤ i ∧ re[i]? = some (ch ':')

theorem FlagsEndOK.mono {re : Bytes} {ix ix' : Nat} {e : FlagsEnd} (h : FlagsEndOK re ix' e)
    (hle : ix ≤ ix') : FlagsEndOK re ix e := by
  cases e with
  | close i => exact ⟨Nat.le_trans hle h.1, h.2⟩
  | colon i => exact ⟨Nat.le_trans hle h.1, h.2⟩

theorem updateFlag_ascii {b : Nat}
    (h : (b == ch 'i' || b == ch 'm' || b == ch 's' || b == ch 'U' || b == ch 'x') = true) :
    b < 128 := by
  simp only [ch, Bool.or_eq_true, beq_iff_eq] at h
  rcases h with (((h | h) | h) | h) | h <;> (subst h; decide)

/-- the letter loop of `parse_flags` -/
theorem goodS_flagsLoop {re : Bytes} (hwf : WF re) {start : Nat} (hbs : isBoundary re start = true) :
    ∀ (f : Nat) (fl : Flags) (ix : Nat) (neg : Bool), start ≤ ix → isBoundary re ix = true →
    re.size < ix + f →
    GoodS re (fun r => FlagsEndOK re ix r.1) (flagsLoop f re fl start ix neg) := by
  intro f
  induction f with
  | zero => intro fl ix neg _ hb hf; have := isBoundary_le hb; omega
  | succ f ih =>
    intro fl ix neg hsi hb hf
    unfold flagsLoop
    refine (goodS_optWs' hwf fl hb).byCases (fun ix1 hws => ?_) (fun _ _ hp => hp) trivial
    obtain ⟨h1, h2⟩ := hws
    simp only
    have hsz := isBoundary_le h2
    refine GoodS.ite (fun _ => hsz) (fun hne => ?_)
    have hlt := lt_of_ne_size h2 hne
    cases hg : re[ix1]? with
    | none => rw [Array.getElem?_eq_none_iff] at hg; omega
    | some b =>
      simp only
      have next : ∀ fl' neg', b < 128 →
          GoodS re (fun r => FlagsEndOK re ix r.1) (flagsLoop f re fl' start (ix1 + 1) neg') :=
        fun fl' neg' hb128 =>
          (ih fl' (ix1 + 1) neg' (by omega) (hwf.step_ascii hg hb128) (by omega)).mono fun r hr =>
            hr.mono (Nat.le_succ_of_le h1)
      have uf : ∀ {α : Type} (P : α → Prop), GoodS re P (match unknownFlag re start ix1 with
          | .ok e => .err e start
          | .err k p => .err k p | .cerr => .cerr | .panic s => .panic s
          | .outOfFuel => .outOfFuel) :=
        fun P => goodS_unknownFlagErr hwf P (Nat.le_trans hsi h1) hbs h2 hlt
      refine GoodS.ite (fun hc => next _ _ (updateFlag_ascii hc)) (fun _ => ?_)
      refine GoodS.ite (fun hc => ?_) (fun _ => ?_)
      · obtain rfl : b = ch 'u' := eq_of_beq hc
        exact GoodS.ite (fun _ => hsz) (fun _ => next _ _ (by decide))
      refine GoodS.ite (fun hc => ?_) (fun _ => ?_)
      · obtain rfl : b = ch '-' := eq_of_beq hc
        exact GoodS.ite (fun _ => uf _) (fun _ => next _ _ (by decide))
      refine GoodS.ite (fun hc => ?_) (fun _ => ?_)
      · obtain rfl : b = ch ')' := eq_of_beq hc
        exact GoodS.ite (fun _ => uf _) (fun _ => ⟨h1, hg⟩)
      refine GoodS.ite (fun hc => ?_) (fun _ => uf _)
      · obtain rfl : b = ch ':' := eq_of_beq hc
        exact GoodS.ite (fun _ => uf _) (fun _ => ⟨h1, hg⟩)

/-- **parse_flags' letter loop** (valid UTF-8, `start` and `ix` boundaries, as `parse_flags` calls
    it): it stops at a `)` or `:` not to the left of `ix`; errors are inside the pattern; no
    panic; no fuel exhaustion -/
theorem C06_flagsLoop_bounds {re : Bytes} (hwf : WF re) (fl : Flags) {start : Nat}
    (hbs : isBoundary re start = true) :
    (∀ e fl', flagsLoop (re.size + 2) re fl start start false = .ok (e, fl') →
        FlagsEndOK re start e) ∧
    (∀ k p, flagsLoop (re.size + 2) re fl start start false = .err k p → p ≤ re.size) ∧
    (∀ s, flagsLoop (re.size + 2) re fl start start false ≠ .panic s) ∧
    flagsLoop (re.size + 2) re fl start start false ≠ .outOfFuel := by
  obtain ⟨h1, h⟩ :=
    (goodS_flagsLoop hwf hbs (re.size + 2) fl start false (Nat.le_refl _) hbs (by omega)).spec
  exact ⟨fun e fl' he => h1 _ he, h⟩

/-! ## The recursive descent -/

/-- `MAX_RECURSION` -/
abbrev M : Nat := Generated.maxRecursion

/-- the depth that the nesting levels left at depth `d` can add to a tree -/
def Rb (d : Nat) : Nat := 5 * (M - d)

theorem Rb_succ {d : Nat} (h : ¬ d + 1 ≥ M) : Rb (d + 1) + 5 = Rb d := by
  unfold Rb; omega

/-- the frames a descent function needs at `ix` and nesting depth `d`: two for every byte left,
    eight for every level left, and `c` of its own -/
def need (re : Bytes) (ix d c : Nat) : Nat := 2 * (re.size - ix) + 8 * (M - d) + c

/-- a callee with a smaller constant, not to the left -/
theorem need_same {re : Bytes} {ix ix' d c c' f : Nat} (hix : ix ≤ ix') (hc : c' < c)
    (h : need re ix d c ≤ f + 1) : need re ix' d c' ≤ f := by
  unfold need at *; omega

/-- a callee strictly to the right may have the same constant, or the next -/
theorem need_right {re : Bytes} {ix ix' d c c' f : Nat} (hix : ix < ix') (hsz : ix' ≤ re.size)
    (hc : c' ≤ c + 1) (h : need re ix d c ≤ f + 1) : need re ix' d c' ≤ f := by
  unfold need at *; omega

/-- a callee one level down may have a constant larger by 7 -/
theorem need_deeper {re : Bytes} {ix ix' d c c' f : Nat} (hd : ¬ d + 1 ≥ M) (hix : ix ≤ ix')
    (hc : c' ≤ c + 7) (h : need re ix d c ≤ f + 1) : need re ix' (d + 1) c' ≤ f := by
  unfold need at *; omega

/-- outcome of a descent function started at `ix`: not to the left, on a boundary, depth bounded -/
def Node (re : Bytes) (ix D : Nat) : Nat × Expr × PState → Prop
  | (a, e, _) => ix ≤ a ∧ isBoundary re a = true ∧ depth e ≤ D ∧ lit1 e

/-- the same for the two loops, which return the list of children -/
def NodeL (re : Bytes) (ix D : Nat) : Nat × List Expr × PState → Prop
  | (a, es, _) => ix ≤ a ∧ isBoundary re a = true ∧ depthList es ≤ D ∧ ∀ e ∈ es, lit1 e

theorem Item.node {re : Bytes} {ix d D : Nat} {r : Nat × Expr × PState} (h : Item re ix d r)
    (hd : d ≤ D) : Node re ix D r :=
  ⟨Nat.le_of_lt h.1, h.2.1, Nat.le_trans h.2.2.1 hd, h.2.2.2⟩

theorem Node.mono {re : Bytes} {ix ix' D D' : Nat} {r : Nat × Expr × PState}
    (h : Node re ix' D' r) (h1 : ix ≤ ix') (h2 : D' ≤ D) : Node re ix D r :=
  ⟨Nat.le_trans h1 h.1, h.2.1, Nat.le_trans h.2.2.1 h2, h.2.2.2⟩

/-- the induction hypothesis of the descent: all functions at fuel `f`, each with the frames it
    needs and the depth it may return -/
structure Desc (re : Bytes) (isAlnum : Char → Bool) (f : Nat) : Prop where
  re_ : ∀ st ix d, isBoundary re ix = true → need re ix d 6 ≤ f →
    GoodS re (Node re ix (Rb d + 6)) (parseRe isAlnum f re st ix d)
  alt_ : ∀ st ix d, isBoundary re ix = true → need re ix d 5 ≤ f →
    GoodS re (NodeL re ix (Rb d + 5)) (reAltLoop isAlnum f re st ix d)
  branch_ : ∀ st ix d, isBoundary re ix = true → need re ix d 5 ≤ f →
    GoodS re (Node re ix (Rb d + 5)) (parseBranch isAlnum f re st ix d)
  bloop_ : ∀ st ix d, isBoundary re ix = true → need re ix d 4 ≤ f →
    GoodS re (NodeL re ix (Rb d + 4)) (branchLoop isAlnum f re st ix d)
  piece_ : ∀ st ix d, isBoundary re ix = true → need re ix d 3 ≤ f →
    GoodS re (Node re ix (Rb d + 4)) (parsePiece isAlnum f re st ix d)
  atom_ : ∀ st ix d, isBoundary re ix = true → need re ix d 2 ≤ f →
    GoodS re (Node re ix (Rb d + 2)) (parseAtom isAlnum f re st ix d)
  group_ : ∀ st ix d, re[ix]? = some (ch '(') → need re ix d 1 ≤ f →
    GoodS re (Node re ix (Rb d + 2)) (parseGroup isAlnum f re st ix d)
  flags_ : ∀ st ix d, re[ix]? = some (ch '?') → need re ix d 7 ≤ f →
    GoodS re (Node re ix (Rb d + 6)) (parseFlags isAlnum f re st ix d)
  cond_ : ∀ st ix d, isBoundary re ix = true → need re ix d 7 ≤ f →
    GoodS re (Node re ix (Rb d + 7)) (parseConditional isAlnum f re st ix d)

variable {re : Bytes} {isAlnum : Char → Bool}

theorem step_parseRe (hwf : WF re) {f : Nat} (h : Desc re isAlnum f) (st : PState) (ix d : Nat)
    (hb : isBoundary re ix = true) (hf : need re ix d 6 ≤ f + 1) :
    GoodS re (Node re ix (Rb d + 6)) (parseRe isAlnum (f + 1) re st ix d) := by
  unfold parseRe
  refine GoodS.bind (h.branch_ st ix d hb (need_same (Nat.le_refl _) (by decide) hf)) (fun r hr => ?_)
  obtain ⟨ix1, child, st1⟩ := r
  obtain ⟨h1, h2, h3, hl⟩ := hr
  simp only
  refine GoodS.bind (goodS_optWs' hwf _ h2) (fun ix2 h4 => ?_)
  refine GoodS.bind (goodS_sliceFrom _ h4.2) (fun _ _ => ?_)
  refine GoodS.ite (fun _ => ?_) (fun _ => ?_)
  · refine GoodS.bind (h.alt_ st1 ix2 d h4.2 (need_same (by omega) (by decide) hf)) (fun r hr => ?_)
    obtain ⟨ix3, rest, st3⟩ := r
    obtain ⟨h5, h6, h7, _⟩ := hr
    exact ⟨by omega, h6, by simp only [depth, depthList]; omega, List.cons_ne_nil _ _⟩
  · exact GoodS.ite (fun _ => trivial) (fun _ => ⟨by omega, h4.2, by omega, hl⟩)

theorem step_reAltLoop (hwf : WF re) {f : Nat} (h : Desc re isAlnum f) (st : PState) (ix d : Nat)
    (hb : isBoundary re ix = true) (hf : need re ix d 5 ≤ f + 1) :
    GoodS re (NodeL re ix (Rb d + 5)) (reAltLoop isAlnum (f + 1) re st ix d) := by
  unfold reAltLoop
  refine GoodS.bind (goodS_sliceFrom _ hb) (fun _ _ => ?_)
  refine GoodS.ite (fun hc => ?_) (fun _ => ⟨Nat.le_refl _, hb, Nat.zero_le _, nofun⟩)
  have hbar : re[ix]? = some (ch '|') := by simpa using hc
  have hb1 := hwf.step_ascii hbar (by decide)
  refine GoodS.bind (h.branch_ st (ix + 1) d hb1
    (need_right (Nat.lt_succ_self _) (isBoundary_le hb1) (by decide) hf)) (fun r hr => ?_)
  obtain ⟨ix1, child, st1⟩ := r
  obtain ⟨h1, h2, h3, hl⟩ := hr
  simp only
  refine GoodS.bind (goodS_optWs' hwf _ h2) (fun ix2 h4 => ?_)
  refine GoodS.bind (h.alt_ st1 ix2 d h4.2
    (need_right (by omega) (isBoundary_le h4.2) (by decide) hf)) (fun r hr => ?_)
  obtain ⟨ix3, rest, st3⟩ := r
  obtain ⟨h5, h6, h7, hl2⟩ := hr
  exact ⟨by omega, h6, by simp only [depthList]; omega, List.forall_mem_cons.mpr ⟨hl, hl2⟩⟩

theorem step_parseBranch {f : Nat} (h : Desc re isAlnum f) (st : PState) (ix d : Nat)
    (hb : isBoundary re ix = true) (hf : need re ix d 5 ≤ f + 1) :
    GoodS re (Node re ix (Rb d + 5)) (parseBranch isAlnum (f + 1) re st ix d) := by
  unfold parseBranch
  refine GoodS.bind (h.bloop_ st ix d hb (need_same (Nat.le_refl _) (by decide) hf)) (fun r hr => ?_)
  obtain ⟨ix1, children, st1⟩ := r
  obtain ⟨h1, h2, h3, hl⟩ := hr
  match children, h3, hl with
  | [], _, _ => exact ⟨h1, h2, by simp only [depth]; omega, trivial⟩
  | [c], h3, hl => exact ⟨h1, h2, by simp only [depthList] at h3; omega, hl c (List.mem_singleton_self c)⟩
  | c1 :: c2 :: cs, h3, _ => exact ⟨h1, h2, by simp only [depth]; omega, trivial⟩

theorem step_branchLoop {f : Nat} (h : Desc re isAlnum f) (st : PState) (ix d : Nat)
    (hb : isBoundary re ix = true) (hf : need re ix d 4 ≤ f + 1) :
    GoodS re (NodeL re ix (Rb d + 4)) (branchLoop isAlnum (f + 1) re st ix d) := by
  unfold branchLoop
  refine GoodS.ite (fun _ => ?_) (fun _ => ⟨Nat.le_refl _, hb, Nat.zero_le _, nofun⟩)
  refine GoodS.bind (h.piece_ st ix d hb (need_same (Nat.le_refl _) (by decide) hf)) (fun r hr => ?_)
  obtain ⟨next, child, st1⟩ := r
  obtain ⟨h1, h2, h3, hl⟩ := hr
  simp only
  refine GoodS.ite (fun _ => ⟨Nat.le_refl _, hb, Nat.zero_le _, nofun⟩) (fun hnx => ?_)
  have hnx' : next ≠ ix := by simpa using hnx
  refine GoodS.bind (h.bloop_ st1 next d h2
    (need_right (by omega) (isBoundary_le h2) (by decide) hf)) (fun r hr => ?_)
  obtain ⟨ix3, rest, st3⟩ := r
  obtain ⟨h5, h6, h7, hl2⟩ := hr
  refine ⟨by omega, h6, ?_, ?_⟩
  · split
    · exact h7
    · simp only [depthList]; omega
  · split
    · exact hl2
    · exact List.forall_mem_cons.mpr ⟨hl, hl2⟩

theorem step_parsePiece (hwf : WF re) {f : Nat} (h : Desc re isAlnum f) (st : PState) (ix d : Nat)
    (hb : isBoundary re ix = true) (hf : need re ix d 3 ≤ f + 1) :
    GoodS re (Node re ix (Rb d + 4)) (parsePiece isAlnum (f + 1) re st ix d) := by
  unfold parsePiece
  refine GoodS.bind (h.atom_ st ix d hb (need_same (Nat.le_refl _) (by decide) hf)) (fun r hr => ?_)
  obtain ⟨ix1, child, st1⟩ := r
  obtain ⟨h1, h2, h3, hl⟩ := hr
  simp only
  refine GoodS.bind (goodS_optWs' hwf _ h2) (fun ix2 h4 => ?_)
  have hchild : Node re ix (Rb d + 4) (ix2, child, st1) := ⟨by omega, h4.2, by omega, hl⟩
  refine GoodS.ite (fun hlt => ?_) (fun _ => hchild)
  refine GoodS.bind (goodS_byteAt _ hlt) (fun b hbyte => ?_)
  -- a quantifier ends with an ASCII byte at `i`
  refine GoodS.bind (P := fun q => ∀ lo hi i, q = some (lo, hi, i) → ix2 ≤ i ∧
    isBoundary re (i + 1) = true) ?_ (fun q hq => ?_)
  · have q0 : ∀ lo hi : Nat, b < 128 → ∀ lo' hi' i, some (lo, hi, ix2) = some (lo', hi', i) →
        ix2 ≤ i ∧ isBoundary re (i + 1) = true := by
      intro lo hi hb128 lo' hi' i hi2
      cases hi2
      exact ⟨Nat.le_refl _, hwf.step_ascii hbyte hb128⟩
    refine GoodS.ite (fun hc => q0 _ _ (by rw [eq_of_beq hc]; decide)) (fun _ => ?_)
    refine GoodS.ite (fun hc => q0 _ _ (by rw [eq_of_beq hc]; decide)) (fun _ => ?_)
    refine GoodS.ite (fun hc => q0 _ _ (by rw [eq_of_beq hc]; decide)) (fun _ => ?_)
    refine GoodS.ite (fun hc => ?_) (fun _ => nofun)
    obtain rfl : b = ch '{' := eq_of_beq hc
    refine (goodS_parseRepeat hwf st1.flags hbyte).byCases (fun r hrep => ?_) (fun _ _ _ => nofun)
      nofun
    obtain ⟨next, lo, hi⟩ := r
    obtain ⟨hr1, hr2⟩ := hrep
    cases next with
    | zero => exact absurd hr1 (Nat.not_lt_zero _)
    | succ n =>
      refine GoodS.ite (fun hz => absurd (eq_of_beq hz) (Nat.succ_ne_zero n)) (fun _ => ?_)
      intro lo' hi' i hi2
      cases hi2
      exact ⟨Nat.le_of_lt_succ (Nat.lt_of_succ_lt hr1), hr2⟩
  · cases q with
    | none => exact hchild
    | some p =>
      obtain ⟨lo, hi, i⟩ := p
      obtain ⟨hq1, hq2⟩ := hq _ _ _ rfl
      simp only
      refine GoodS.ite (fun _ => Nat.le_trans (Nat.le_succ i) (isBoundary_le hq2)) (fun _ => ?_)
      refine GoodS.bind (goodS_optWs' hwf _ hq2) (fun ix3 h6 => ?_)
      -- after the optional `?`
      generalize hix4 : (if (decide (ix3 < re.size) && re[ix3]? == some (ch '?')) = true then ix3 + 1
        else ix3) = ix4
      have h7 : ix3 ≤ ix4 ∧ isBoundary re ix4 = true := by
        subst hix4
        split
        · rename_i hc
          exact ⟨Nat.le_succ _, hwf.step_ascii (eq_of_beq (Bool.and_eq_true_iff.mp hc).2) (by decide)⟩
        · exact ⟨Nat.le_refl _, h6.2⟩
      refine GoodS.ite (fun hc => ?_) (fun _ => ⟨by omega, h7.2, by simp only [depth]; omega, trivial⟩)
      exact ⟨by omega, hwf.step_ascii (eq_of_beq (Bool.and_eq_true_iff.mp hc).2) (by decide),
        by simp only [depth]; omega, trivial⟩

theorem step_parseAtom (hwf : WF re) (hal : AlnumOK isAlnum) {f : Nat} (h : Desc re isAlnum f)
    (st : PState) (ix d : Nat) (hb : isBoundary re ix = true) (hf : need re ix d 2 ≤ f + 1) :
    GoodS re (Node re ix (Rb d + 2)) (parseAtom isAlnum (f + 1) re st ix d) := by
  unfold parseAtom
  refine GoodS.bind (goodS_optWs' hwf _ hb) (fun ix1 h1 => ?_)
  have empty : Node re ix (Rb d + 2) (ix1, .empty, st) := ⟨h1.1, h1.2, Nat.le_add_left _ _, trivial⟩
  refine GoodS.ite (fun _ => empty) (fun hne => ?_)
  refine GoodS.bind (goodS_byteAt _ (lt_of_ne_size h1.2 hne)) (fun b hbyte => ?_)
  have one : ∀ (e : Expr) {c : Char}, (b == ch c) = true → c.toNat < 128 → depth e = 1 → lit1 e →
      Node re ix (Rb d + 2) (ix1 + 1, e, st) :=
    fun e c hc h128 he hl =>
      ⟨by omega, hwf.step_ascii hbyte (by rw [eq_of_beq hc]; exact h128), by omega, hl⟩
  refine GoodS.ite (fun hc => one _ hc (by decide) rfl trivial) (fun _ => ?_)
  refine GoodS.ite (fun hc => one _ hc (by decide) rfl trivial) (fun _ => ?_)
  refine GoodS.ite (fun hc => one _ hc (by decide) rfl trivial) (fun _ => ?_)
  refine GoodS.ite (fun hc => ?_) (fun _ => ?_)
  · obtain rfl : b = ch '(' := eq_of_beq hc
    exact (h.group_ st ix1 d hbyte (need_same h1.1 (by decide) hf)).mono fun r hr =>
      hr.mono h1.1 (Nat.le_refl _)
  refine GoodS.ite (fun hc => ?_) (fun _ => ?_)
  · obtain rfl : b = ch '\\' := eq_of_beq hc
    exact (goodS_parseEscape hwf hal st false hbyte).mono fun r hr =>
      (hr.node (Nat.le_add_left _ _)).mono h1.1 (Nat.le_refl _)
  refine GoodS.ite (fun hc => empty) (fun _ => ?_)
  refine GoodS.ite (fun hc => ?_) (fun _ => ?_)
  · obtain rfl : b = ch '[' := eq_of_beq hc
    exact (goodS_parseClass hwf hal st hbyte).mono fun r hr =>
      (hr.node (by omega)).mono h1.1 (Nat.le_refl _)
  · have hbe := hwf.step hbyte h1.2
    have hpos := codepointLen_pos b
    refine GoodS.bind (goodS_slice _ (by omega) h1.2 hbe) (fun s hs => ?_)
    subst hs
    exact ⟨by omega, hbe, Nat.le_add_left _ _, decode_char_slice hbyte (isBoundary_le hbe)⟩

theorem lookOf_boundary (hwf : WF re) {ix skip : Nat} {la : Look} (hb : isBoundary re ix = true)
    (h : lookOf re ix = some (la, skip)) : isBoundary re (ix + skip) = true := by
  unfold lookOf at h
  by_cases h1 : startsWithAt re ix [ch '?', ch '='] = true
  · rw [if_pos h1] at h; cases h
    exact (startsWithAt_boundary hwf _ ix (by decide) h1 hb :)
  rw [if_neg h1] at h
  by_cases h2 : startsWithAt re ix [ch '?', ch '!'] = true
  · rw [if_pos h2] at h; cases h
    exact (startsWithAt_boundary hwf _ ix (by decide) h2 hb :)
  rw [if_neg h2] at h
  by_cases h3 : startsWithAt re ix [ch '?', ch '<', ch '='] = true
  · rw [if_pos h3] at h; cases h
    exact (startsWithAt_boundary hwf _ ix (by decide) h3 hb :)
  rw [if_neg h3] at h
  by_cases h4 : startsWithAt re ix [ch '?', ch '<', ch '!'] = true
  · rw [if_pos h4] at h; cases h
    exact (startsWithAt_boundary hwf _ ix (by decide) h4 hb :)
  · rw [if_neg h4] at h; cases h

theorem step_parseGroup (hwf : WF re) (hal : AlnumOK isAlnum) {f : Nat} (h : Desc re isAlnum f)
    (st : PState) (ix d : Nat) (hg : re[ix]? = some (ch '(')) (hf : need re ix d 1 ≤ f + 1) :
    GoodS re (Node re ix (Rb d + 2)) (parseGroup isAlnum (f + 1) re st ix d) := by
  have hix := lt_size_of_get hg
  unfold parseGroup
  refine GoodS.ite (fun _ => Nat.le_of_lt hix) (fun hd => ?_)
  have hRs := Rb_succ hd
  refine GoodS.bind (goodS_optWs' hwf _ (hwf.step_ascii hg (by decide))) (fun ix1 h1 => ?_)
  refine GoodS.bind (goodS_sliceFrom _ h1.2) (fun _ _ => ?_)
  extract_lets body st2
  have hbody : ∀ la skip st', isBoundary re (ix1 + skip) = true →
      GoodS re (Node re ix (Rb d + 2)) (body la skip st') := by
    intro la skip st' hbs
    simp only [body]
    refine GoodS.bind (h.re_ st' (ix1 + skip) (d + 1) hbs (need_deeper hd (by omega) (by decide) hf))
      (fun r hr => ?_)
    obtain ⟨ix2, child, st3⟩ := r
    obtain ⟨h2, h3, h4, _⟩ := hr
    simp only
    refine GoodS.bind (goodS_checkForCloseParen hwf _ h3) (fun ix3 h5 => ?_)
    have wrap : ∀ e : Expr, depth e = 1 + depth child → lit1 e → Node re ix (Rb d + 2) (ix3, e, st3) :=
      fun e he hl => ⟨by omega, h5.2, by omega, hl⟩
    cases la with
    | some la => exact wrap _ rfl trivial
    | none => exact GoodS.ite (fun _ => wrap _ rfl trivial) (fun _ => wrap _ rfl trivial)
  clear_value body
  have hsz1 := isBoundary_le h1.2
  cases hlook : lookOf re ix1 with
  | some p => exact hbody _ _ _ (lookOf_boundary hwf h1.2 hlook)
  | none =>
    simp only
    -- `(?<name>`
    refine GoodS.ite (fun hs => ?_) (fun _ => ?_)
    · have hb1 := hwf.step_ascii (startsWithAt_head hs).1 (by decide)
      refine GoodS.bind (goodS_sliceFrom _ hb1) (fun _ _ => ?_)
      refine GoodS.bind (goodS_parseId hwf isAlnum false hb1 (by decide) (by decide) (by simp)
        (idChar_close hal.2.1 (by decide))) (fun r hr => ?_)
      cases r with
      | none => exact hsz1
      | some p =>
        obtain ⟨a, b, skip⟩ := p
        exact hbody _ _ _ (by rw [Nat.add_comm skip, ← Nat.add_assoc]; exact (hr _ _ _ rfl).2)
    -- `(?P<name>`
    refine GoodS.ite (fun hs => ?_) (fun _ => ?_)
    · have hb2 := hwf.step_ascii (startsWithAt_head (startsWithAt_head hs).2).1 (by decide)
      refine GoodS.bind (goodS_sliceFrom _ hb2) (fun _ _ => ?_)
      refine GoodS.bind (goodS_parseId hwf isAlnum false hb2 (by decide) (by decide) (by simp)
        (idChar_close hal.2.1 (by decide))) (fun r hr => ?_)
      cases r with
      | none => exact hsz1
      | some p =>
        obtain ⟨a, b, skip⟩ := p
        exact hbody _ _ _ (by rw [Nat.add_comm skip, ← Nat.add_assoc]; exact (hr _ _ _ rfl).2)
    -- `(?P=name)`
    refine GoodS.ite (fun hs => ?_) (fun _ => ?_)
    · exact (goodS_namedParen hwf hal st _ (startsWithAt_boundary hwf _ ix1 (by decide) hs h1.2 :)).mono
        fun r hr => (hr.node (Nat.le_add_left _ _)).mono (by omega) (Nat.le_refl _)
    -- `(?>`
    refine GoodS.ite (fun hs => ?_) (fun _ => ?_)
    · exact hbody _ _ _ (startsWithAt_boundary hwf _ ix1 (by decide) hs h1.2 :)
    -- `(?(`
    refine GoodS.ite (fun hs => ?_) (fun _ => ?_)
    · exact (h.cond_ st _ (d + 1) (startsWithAt_boundary hwf _ ix1 (by decide) hs h1.2 :)
        (need_deeper hd (by omega) (by decide) hf)).mono fun r hr => hr.mono (by omega) (by omega)
    -- `(?P>name)`
    refine GoodS.ite (fun hs => ?_) (fun _ => ?_)
    · exact (goodS_namedParen hwf hal st _ (startsWithAt_boundary hwf _ ix1 (by decide) hs h1.2 :)).mono
        fun r hr => (hr.node (Nat.le_add_left _ _)).mono (by omega) (Nat.le_refl _)
    -- `(?flags`
    refine GoodS.ite (fun hs => ?_) (fun _ => ?_)
    · exact (h.flags_ st ix1 (d + 1) (startsWithAt_head hs).1
        (need_deeper hd (by omega) (by decide) hf)).mono fun r hr => hr.mono (by omega) (by omega)
    · exact hbody _ _ _ h1.2

theorem step_parseFlags (hwf : WF re) {f : Nat} (h : Desc re isAlnum f)
    (st : PState) (ix d : Nat) (hg : re[ix]? = some (ch '?')) (hf : need re ix d 7 ≤ f + 1) :
    GoodS re (Node re ix (Rb d + 6)) (parseFlags isAlnum (f + 1) re st ix d) := by
  have hbs : isBoundary re (ix + 1) = true := hwf.step_ascii hg (by decide)
  unfold parseFlags
  refine GoodS.bind (goodS_flagsLoop hwf hbs (re.size + 2) st.flags (ix + 1) false (Nat.le_refl _) hbs
    (by omega)) (fun r hr => ?_)
  obtain ⟨e, fl⟩ := r
  cases e with
  | close i =>
    obtain ⟨h1, h2⟩ := hr
    exact ⟨by omega, hwf.step_ascii h2 (by decide), Nat.le_add_left _ _, trivial⟩
  | colon i =>
    obtain ⟨h1, h2⟩ := hr
    simp only
    refine GoodS.bind (h.re_ _ (i + 1) d (hwf.step_ascii h2 (by decide))
      (need_same (by omega) (by decide) hf)) (fun r hr => ?_)
    obtain ⟨ix2, child, st2⟩ := r
    obtain ⟨h3, h4, h5, hl⟩ := hr
    simp only
    have hsz := isBoundary_le h4
    refine GoodS.ite (fun _ => hsz) (fun hne => ?_)
    refine GoodS.bind (goodS_byteAt _ (lt_of_ne_size h4 hne)) (fun b hb => ?_)
    refine GoodS.ite (fun _ => hsz) (fun hc => ?_)
    obtain rfl : b = ch ')' := eq_of_not_bne hc
    exact ⟨by omega, hwf.step_ascii hb (by decide), h5, hl⟩

theorem step_parseConditional (hwf : WF re) (hal : AlnumOK isAlnum) {f : Nat} (h : Desc re isAlnum f)
    (st : PState) (ix d : Nat) (hb : isBoundary re ix = true) (hf : need re ix d 7 ≤ f + 1) :
    GoodS re (Node re ix (Rb d + 7)) (parseConditional isAlnum (f + 1) re st ix d) := by
  have hix := isBoundary_le hb
  unfold parseConditional
  refine GoodS.ite (fun _ => hix) (fun hge => ?_)
  refine GoodS.bind (goodS_byteAt _ (Nat.lt_of_not_le hge)) (fun b hbyte => ?_)
  refine GoodS.bind (P := Node re ix (Rb d + 6)) ?_ (fun r hr => ?_)
  · refine GoodS.ite (fun _ => ?_) (fun _ => ?_)
    · exact (goodS_parseNumberedBackref hwf st hb _).mono fun r hr => hr.node (Nat.le_add_left _ _)
    refine GoodS.ite (fun _ => ?_) (fun _ => ?_)
    · exact (goodS_namedQuote hwf hal st _ hb).mono fun r hr => hr.node (Nat.le_add_left _ _)
    refine GoodS.ite (fun _ => ?_) (fun _ => ?_)
    · exact (goodS_namedAngle hwf hal st _ hb).mono fun r hr => hr.node (Nat.le_add_left _ _)
    · exact h.re_ st ix d hb (need_same (Nat.le_refl _) (by decide) hf)
  obtain ⟨next, condition, st1⟩ := r
  obtain ⟨h1, h2, h3, hl⟩ := hr
  simp only
  refine GoodS.bind (goodS_checkForCloseParen hwf _ h2) (fun next2 h4 => ?_)
  have hp2 : ix ≤ next2 := Nat.le_trans h1 (Nat.le_of_lt h4.1)
  refine GoodS.bind (h.re_ st1 next2 d h4.2 (need_same hp2 (by decide) hf)) (fun r hr => ?_)
  obtain ⟨end_, child, st2⟩ := r
  obtain ⟨h5, h6, h7, hl2⟩ := hr
  simp only
  have closed : ∀ {after}, end_ < after → ix ≤ after := fun h8 =>
    Nat.le_trans hp2 (Nat.le_trans h5 (Nat.le_of_lt h8))
  refine GoodS.ite (fun _ => ?_) (fun _ => ?_)
  · -- `(?(1))`
    split
    · refine GoodS.bind (goodS_checkForCloseParen hwf _ h6) (fun after h8 => ?_)
      exact ⟨closed h8.1, h8.2, Nat.le_add_left _ _, trivial⟩
    · exact isBoundary_le h6
  · refine GoodS.bind (P := fun br => depth br.1 ≤ Rb d + 6 ∧ depth br.2 ≤ Rb d + 6) ?_
      (fun br hbr => ?_)
    · split
      · -- `Expr::Alt(alternatives) if has_else`
        rename_i alternatives _
        cases alternatives with
        | nil => exact absurd rfl hl2
        | cons t rest =>
          obtain ⟨ht, hrest⟩ := depth_alt_cons h7
          simp only
          split
          · exact ⟨Nat.le_of_lt ht, Nat.le_of_lt (depth_alt_cons hrest).1⟩
          · exact ⟨Nat.le_of_lt ht, hrest⟩
      · exact ⟨h7, Nat.le_add_left _ _⟩
    · refine GoodS.bind (goodS_checkForCloseParen hwf _ h6) (fun after h8 => ?_)
      -- the condition enters the tree as it is, or as a group test
      refine GoodS.ite (fun _ => ?_) (fun _ => ?_)
      · refine ⟨closed h8.1, h8.2, ?_, ?_⟩
        · split
          · exact Nat.le_add_left _ _
          · exact Nat.le_succ_of_le h3
        · split
          · trivial
          · exact hl
      · refine ⟨closed h8.1, h8.2, depth_cond_le ?_ hbr.1 hbr.2, trivial⟩
        split
        · exact Nat.le_add_left _ _
        · exact h3

theorem desc (hwf : WF re) (hal : AlnumOK isAlnum) : ∀ f, Desc re isAlnum f := by
  intro f
  induction f with
  | zero =>
    have h0 : ∀ ix d c, 0 < c → ¬ need re ix d c ≤ 0 := fun ix d c hc => by unfold need; omega
    exact {
      re_ := fun _ _ _ _ hf => absurd hf (h0 _ _ _ (by decide))
      alt_ := fun _ _ _ _ hf => absurd hf (h0 _ _ _ (by decide))
      branch_ := fun _ _ _ _ hf => absurd hf (h0 _ _ _ (by decide))
      bloop_ := fun _ _ _ _ hf => absurd hf (h0 _ _ _ (by decide))
      piece_ := fun _ _ _ _ hf => absurd hf (h0 _ _ _ (by decide))
      atom_ := fun _ _ _ _ hf => absurd hf (h0 _ _ _ (by decide))
      group_ := fun _ _ _ _ hf => absurd hf (h0 _ _ _ (by decide))
      flags_ := fun _ _ _ _ hf => absurd hf (h0 _ _ _ (by decide))
      cond_ := fun _ _ _ _ hf => absurd hf (h0 _ _ _ (by decide)) }
  | succ f ih =>
    exact {
      re_ := step_parseRe hwf ih
      alt_ := step_reAltLoop hwf ih
      branch_ := step_parseBranch ih
      bloop_ := step_branchLoop ih
      piece_ := step_parsePiece hwf ih
      atom_ := step_parseAtom hwf hal ih
      group_ := step_parseGroup hwf hal ih
      flags_ := step_parseFlags hwf ih
      cond_ := step_parseConditional hwf hal ih }

theorem good_parseBytes (hwf : WF re) (hal : AlnumOK isAlnum) (casei : Bool) :
    GoodS re (fun t => depth t.expr ≤ 5 * Generated.maxRecursion + 6)
      (parseBytes isAlnum re casei) := by
  unfold parseBytes
  simp only
  refine ((desc hwf hal (descentFuel re.size)).re_ { flags := { casei := casei } } 0 0
    (isBoundary_zero re) (by simp only [need, descentFuel, M]; omega)).byCases (fun r h => ?_)
    (fun _ _ hp => hp) trivial
  obtain ⟨ix, e, st⟩ := r
  obtain ⟨_, h2, h3, _⟩ := h
  exact GoodS.ite (fun _ => isBoundary_le h2) (fun _ => h3)

/-- the four facts below, for any well-formed byte array -/
theorem C06_parseBytes (isAlnum : Char → Bool) (hal : AlnumOK isAlnum) (re : Bytes) (hwf : WF re)
    (casei : Bool) :
    (∀ k p, parseBytes isAlnum re casei = .err k p → p ≤ re.size) ∧
    (∀ s, parseBytes isAlnum re casei ≠ .panic s) ∧
    (∀ t, parseBytes isAlnum re casei = .ok t → depth t.expr ≤ 5 * Generated.maxRecursion + 6) ∧
    parseBytes isAlnum re casei ≠ .outOfFuel :=
  let ⟨h1, h2, h3, h4⟩ := (good_parseBytes hwf hal casei).spec
  ⟨h2, h3, h1, h4⟩

/-- **C06_error_pos**: whatever the pattern, a reported parse-error position is at most the
    length of the pattern (in bytes) -/
theorem C06_error_pos (isAlnum : Char → Bool) (hal : AlnumOK isAlnum) (cs : List Char)
    (casei : Bool) (k : PErr) (p : Nat) (h : parseStr isAlnum cs casei = .err k p) :
    p ≤ (bytesOf cs).size :=
  (C06_parseBytes isAlnum hal _ (WF_bytesOf cs) casei).1 k p h

/-- **C06_parse_no_panic**: on every string (valid UTF-8 by construction) no panic site of the
    parser is reached: no slice off a character boundary or out of range, no index out of range,
    no failing `unwrap`/`expect`/`remove(0)`, no `next - 1` underflow, no failing `debug_assert` -/
theorem C06_parse_no_panic (isAlnum : Char → Bool) (hal : AlnumOK isAlnum) (cs : List Char)
    (casei : Bool) (site : String) : parseStr isAlnum cs casei ≠ .panic site :=
  (C06_parseBytes isAlnum hal _ (WF_bytesOf cs) casei).2.1 site

/-- **C06_depth**: the tree of a pattern that parses is at most `5·MAX_RECURSION + 6` deep, so
    the recursions of the analyzer, the compiler and `to_str` over it are bounded -/
theorem C06_depth (isAlnum : Char → Bool) (hal : AlnumOK isAlnum) (cs : List Char)
    (casei : Bool) (t : Tree) (h : parseStr isAlnum cs casei = .ok t) :
    depth t.expr ≤ 5 * Generated.maxRecursion + 6 :=
  (C06_parseBytes isAlnum hal _ (WF_bytesOf cs) casei).2.2.1 t h

/-- **C06_parse_total**: the fuel `parse` gives the descent (`4·len + 16·MAX_RECURSION + 64`) is
    never exhausted: with `C06_parse_no_panic`, parsing any string ends with `Ok` or `Err` -/
theorem C06_parse_total (isAlnum : Char → Bool) (hal : AlnumOK isAlnum) (cs : List Char)
    (casei : Bool) : parseStr isAlnum cs casei ≠ .outOfFuel :=
  (C06_parseBytes isAlnum hal _ (WF_bytesOf cs) casei).2.2.2

/-- an `is_alphanumeric` satisfying the assumption (the ASCII one; the table of the driver, which
    is compared with `char::is_alphanumeric` on every run, agrees with it on ASCII) -/
example : AlnumOK (fun c => c.isAlphanum) := ⟨by decide, by decide, by decide⟩

/-- (for the examples) the outcome is an error at position `p` -/
def isErrAt (r : Res Tree) (p : Nat) : Bool := match r with | .err _ q => q == p | _ => false
/-- (for the examples) the outcome is a tree of depth `d` -/
def isOkDepth (r : Res Tree) (d : Nat) : Bool := match r with | .ok t => depth t.expr == d | _ => false

-- `a(b`: the error position 3 is the length; `(?#\`: the position is the length, not beyond it;
-- `(é|b)*\1` parses to a tree of depth 5 (concat, repeat, group, alt, literal)
example : isErrAt (parseStr (fun c => c.isAlphanum) "a(b".toList false) 3 = true := by decide +kernel
example : isErrAt (parseStr (fun c => c.isAlphanum) "(?#\\".toList false) 4 = true := by decide +kernel
example : isOkDepth (parseStr (fun c => c.isAlphanum) "(é|b)*\\1".toList false) 5 = true := by
  decide +kernel

-- `\\x41` → the literal `A`; `(?i:` → the loop stops at the colon with the flag set
example : parseHex #[92, 120, 52, 49] {} 2 2 = .ok (4, .literal ['A'] false) := by rfl
example : flagsLoop 6 #[40, 63, 105, 58] {} 2 2 false = .ok (.colon 3, { casei := true }) := by rfl
example : WF (bytesOf "a{2,3}".toList) ∧ (bytesOf "a{2,3}".toList)[1]? = some (ch '{') :=
  ⟨WF_bytesOf _, by decide⟩

end Fancy.Parse
