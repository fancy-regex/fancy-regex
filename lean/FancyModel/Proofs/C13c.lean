import FancyModel.GeneratedAnalyze
import FancyModel.Proofs.C16
import FancyModel.Spec.Domain
import FancyModel.Lemmas.ExprInduct
/-!
# C13 (third part) — the analyzer model is the analyzer

`GeneratedAnalyze.lean` is `Analyzer::visit` (src/analyze.rs) translated statement by statement by
`tools/rs2lean_analyze.py` on every run of the check. This file proves that the translation and
the hand-written model of the analyzer (Model/Analyze.lean) are the same function:

* `C13_analyzer_translated_eq`: for every back-reference set, every expression in the analyzer's
  domain (`analyzable`: alternations are non-empty, which `wellShaped` implies) and every
  starting group counter `g`, `genVisit br e g` fails exactly when `checkRefs e g` fails, with the
  same error, and otherwise returns `checkRefs`' group counter and the `Info` tree `mkInfo br e g`,
  whose every node carries `minSize` / `constSize` / `isHard br` of the sub-expression (numbered by
  the analyzer's own counter: `renumber e g`) and the start / end group numbers;
* `C13_analyzer_translated_facts`: the nodes of that tree in pre-order are the rows
  `factsOf br (renumber e g).1 0 g` which the differential harness compares with the real analyzer;
* `C13_analyze_eq`: on the wrapped tree that `build` analyses, the translated `analyze` fails
  exactly when `build`'s check fails and otherwise its `end_group` is `nGroups` and
  `info.children[1].children[0].hard` — what `Regex::new` branches on — is `isHard br raw`.

A change of meaning in analyze.rs changes the generated definitions and breaks these proofs
(notes/translator-analyze.md lists the mutations that were tried).
The proofs unfold the generated definitions by name only.
-/
namespace Fancy
open GenAnalyze

/-! ## the domain -/

mutual
/-- what the analyzer relies on (and the parser guarantees, `wellShaped`): an alternation has at
    least one branch, so `&v[0]` does not panic. Nothing else is needed: subroutine calls, literals of
    any length, bounds and sizes beyond `usize` are all in the domain. -/
def analyzable : Expr → Bool
  | .concat es => analyzableAll es
  | .alt es => !es.isEmpty && analyzableAll es
  | .group _ e => analyzable e
  | .look e _ => analyzable e
  | .repeat e _ _ _ => analyzable e
  | .atomic e => analyzable e
  | .cond c y n => analyzable c && analyzable y && analyzable n
  | _ => true
def analyzableAll : List Expr → Bool
  | [] => true
  | e :: es => analyzable e && analyzableAll es
end

/-! ## the hand-written model as an `Info` tree -/

/-- `isHard` of `e` when the analyzer's counter stands at `g` on entry -/
def hardAt (br : Nat → Bool) (e : Expr) (g : Nat) : Bool := isHard br (renumber e g).1
def hardAnyAt (br : Nat → Bool) (es : List Expr) (g : Nat) : Bool := isHardAny br (renumberList es g).1

/-- the model's `Info` of node `e` entered with counter `g` -/
def node (br : Nat → Bool) (e : Expr) (g : Nat) (ch : List GInfo) : GInfo :=
  { startGroup := g, endGroup := g + groupCount e, minSize := minSize e, constSize := constSize e,
    hard := hardAt br e g, expr := e, children := ch }

mutual
def mkInfo (br : Nat → Bool) : Expr → Nat → GInfo
  | e@(.group _ c), g => node br e g [mkInfo br c (g + 1)]
  | e@(.concat es), g => node br e g (mkInfoList br es g)
  | e@(.alt es), g => node br e g (mkInfoList br es g)
  | e@(.look c _), g => node br e g [mkInfo br c g]
  | e@(.repeat c _ _ _), g => node br e g [mkInfo br c g]
  | e@(.atomic c), g => node br e g [mkInfo br c g]
  | e@(.cond c y f), g =>
    node br e g [mkInfo br c g, mkInfo br y (g + groupCount c), mkInfo br f (g + groupCount c + groupCount y)]
  | e, g => node br e g []
def mkInfoList (br : Nat → Bool) : List Expr → Nat → List GInfo
  | [], _ => []
  | e :: es, g => mkInfo br e g :: mkInfoList br es (g + groupCount e)
end

/-- the model's analyzer: `checkRefs` decides success and the counter, `mkInfo` is the result -/
def specVisit (br : Nat → Bool) (e : Expr) (g : Nat) : Except GErr (GInfo × Nat) :=
  match checkRefs e g with
  | .error err => .error (.compile err)
  | .ok g' => .ok (mkInfo br e g, g')

mutual
/-- the rows of an `Info` tree in pre-order (what the harness hook prints) -/
def GenAnalyze.GInfo.rows : GInfo → Nat → List Facts
  | ⟨sg, eg, ms, cs, h, e, ch⟩, d => ⟨d, e.kind, sg, eg, ms, cs, h⟩ :: rowsList ch (d + 1)
def rowsList : List GInfo → Nat → List Facts
  | [], _ => []
  | i :: is, d => i.rows d ++ rowsList is d
end

theorem mkInfo_node (br : Nat → Bool) (e : Expr) (g : Nat) :
    mkInfo br e g = node br e g (mkInfo br e g).children := by
  cases e <;> rfl

@[simp] theorem mkInfo_startGroup (br : Nat → Bool) (e : Expr) (g : Nat) : (mkInfo br e g).startGroup = g := by
  rw [mkInfo_node]; rfl
@[simp] theorem mkInfo_endGroup (br : Nat → Bool) (e : Expr) (g : Nat) :
    (mkInfo br e g).endGroup = g + groupCount e := by
  rw [mkInfo_node]; rfl
@[simp] theorem mkInfo_minSize (br : Nat → Bool) (e : Expr) (g : Nat) : (mkInfo br e g).minSize = minSize e := by
  rw [mkInfo_node]; rfl
@[simp] theorem mkInfo_constSize (br : Nat → Bool) (e : Expr) (g : Nat) :
    (mkInfo br e g).constSize = constSize e := by
  rw [mkInfo_node]; rfl
@[simp] theorem mkInfo_hard (br : Nat → Bool) (e : Expr) (g : Nat) : (mkInfo br e g).hard = hardAt br e g := by
  rw [mkInfo_node]; rfl
@[simp] theorem mkInfo_expr (br : Nat → Bool) (e : Expr) (g : Nat) : (mkInfo br e g).expr = e := by
  rw [mkInfo_node]; rfl

theorem hardAt_group (br : Nat → Bool) (n : Nat) (c : Expr) (g : Nat) :
    hardAt br (.group n c) g = (hardAt br c (g + 1) || br g) := by
  simp [hardAt, renumber, isHard]
theorem hardAt_concat (br : Nat → Bool) (es : List Expr) (g : Nat) :
    hardAt br (.concat es) g = hardAnyAt br es g := by
  simp [hardAt, hardAnyAt, renumber, isHard]
theorem hardAt_alt (br : Nat → Bool) (es : List Expr) (g : Nat) :
    hardAt br (.alt es) g = hardAnyAt br es g := by
  simp [hardAt, hardAnyAt, renumber, isHard]
theorem hardAt_repeat (br : Nat → Bool) (c : Expr) (lo : Nat) (hi : Option Nat) (gr : Bool) (g : Nat) :
    hardAt br (.repeat c lo hi gr) g = (hardAt br c g || (hi == some 0 && decide (groupCount c > 0))) := by
  simp [hardAt, renumber, isHard, groupCount_renumber]
theorem hardAnyAt_nil (br : Nat → Bool) (g : Nat) : hardAnyAt br [] g = false := by
  simp [hardAnyAt, renumberList, isHardAny]
theorem hardAnyAt_cons (br : Nat → Bool) (e : Expr) (es : List Expr) (g : Nat) :
    hardAnyAt br (e :: es) g = (hardAt br e g || hardAnyAt br es (g + groupCount e)) := by
  simp [hardAnyAt, hardAt, renumberList, isHardAny, renumber_snd]

/-- the running minimum of the `Alt` loop -/
def minWith (m : Nat) : List Expr → Nat
  | [] => m
  | e :: es => minWith (min m (minSize e)) es

theorem minWith_eq (m : Nat) (es : List Expr) :
    minWith m es = match es with | [] => m | _ :: _ => min m (minSizeMin es) := by
  induction es generalizing m with
  | nil => rfl
  | cons e es ih =>
    simp only [minWith]
    rw [ih]
    cases es with
    | nil => simp [minSizeMin]
    | cons e' es' => simp only [minSizeMin]; omega

theorem minSizeMin_cons (e : Expr) (es : List Expr) : minSizeMin (e :: es) = minWith (minSize e) es := by
  rw [minWith_eq]
  cases es <;> simp [minSizeMin]

/-- `lo == hi` / `min(lo, hi)` / `hi == 0` on the `usize` reading of the bound -/
theorem boundsEq_hiVal (lo : Nat) (hi : Option Nat) : (lo == hiVal hi) = boundsEq lo hi := by
  cases hi with
  | none => simp [hiVal, boundsEq]
  | some h =>
    simp only [hiVal, boundsEq, Option.isNone_some, Bool.false_and, Bool.or_false]
    rw [Bool.eq_iff_iff]
    simp only [beq_iff_eq, Option.some.injEq]
    constructor <;> intro x <;> exact x.symm
/-- `min(lo, usize::MAX)` under the saturating product is `lo`, even for a model `lo` beyond `usize` -/
theorem satMul_min_UNSET (m lo : Nat) : satMul m (min lo UNSET) = satMul m lo := by
  unfold satMul
  rcases Nat.le_total lo UNSET with h | h
  · rw [Nat.min_eq_left h]
  · rw [Nat.min_eq_right h]
    cases m with
    | zero => simp
    | succ k =>
      have h1 : UNSET ≤ (k + 1) * UNSET := Nat.le_mul_of_pos_left _ (Nat.succ_pos k)
      have h2 : lo ≤ (k + 1) * lo := Nat.le_mul_of_pos_left _ (Nat.succ_pos k)
      omega
theorem sureReps_hiVal (m lo : Nat) (hi : Option Nat) : satMul m (min lo (hiVal hi)) = satMul m (sureReps lo hi) := by
  cases hi with
  | none => simp only [hiVal, sureReps]; exact satMul_min_UNSET m lo
  | some h => rfl
theorem hiVal_eq_zero (hi : Option Nat) : (hiVal hi == 0) = (hi == some 0) := by
  cases hi with
  | none => simp [hiVal, UNSET]
  | some h => simp [hiVal]

/-! ## the translation is the model -/

/-- a node with one child `c`, visited from counter `g0`: the translated arm passes the child's error on and otherwise
    builds its `Info` from the child's by `k`; the model does the same when `k` of the child's `mkInfo` is the node's -/
theorem specVisit_child (br : Nat → Bool) {e c : Expr} {g g0 : Nat} (k : GInfo → Nat → GInfo)
    (ih : ∀ g, analyzable c = true → genVisit br c g = specVisit br c g) (hc : analyzable c = true)
    (hck : checkRefs e g = checkRefs c g0) (hk : k (mkInfo br c g0) (g0 + groupCount c) = mkInfo br e g) :
    (match genVisit br c g0 with
      | .error err => .error err
      | .ok (ci, g') => .ok (k ci g', g')) = specVisit br e g := by
  rw [ih g0 hc, specVisit, specVisit, hck]
  cases h : checkRefs c g0 with
  | error err => rfl
  | ok g' => cases checkRefs_count c g0 g' h; simp only [hk]

mutual
theorem genVisit_eq (br : Nat → Bool) : ∀ (e : Expr) (g : Nat), analyzable e = true →
    genVisit br e g = specVisit br e g
  | .assertion a, g, _ => by
    cases h : a.isHard <;>
      simp [genVisit, specVisit, checkRefs, mkInfo, node, minSize, constSize, groupCount, hardAt, renumber, isHard, h]
  | .backref n, g, _ => by
    by_cases h : n ≥ g <;>
      simp [genVisit, specVisit, checkRefs, mkInfo, node, minSize, constSize, groupCount, hardAt, renumber, isHard, h]
  | .backrefExists n, g, _ => by
    by_cases h : n ≥ g <;>
      simp [genVisit, specVisit, checkRefs, mkInfo, node, minSize, constSize, groupCount, hardAt, renumber, isHard, h]
  | .empty, g, _ | .any _, g, _ | .literal _ _, g, _ | .delegate _ _ _, g, _ | .keepOut, g, _ | .contPrev, g, _
  | .subroutine _, g, _ => by
    simp [genVisit, specVisit, checkRefs, mkInfo, node, minSize, constSize, groupCount, hardAt, renumber, isHard,
      literal_const_size]
  | .group n c, g, h => by
    rw [genVisit]
    exact specVisit_child br _ (genVisit_eq br c) h rfl
      (by simp [mkInfo, node, minSize, constSize, groupCount, hardAt_group, bitsetContains]; omega)
  | .look c la, g, h => by
    rw [genVisit]
    exact specVisit_child br _ (genVisit_eq br c) h rfl
      (by simp [mkInfo, node, minSize, constSize, groupCount, hardAt, renumber, isHard])
  | .atomic c, g, h => by
    rw [genVisit]
    exact specVisit_child br _ (genVisit_eq br c) h rfl
      (by simp [mkInfo, node, minSize, constSize, groupCount, hardAt, renumber, isHard])
  | .repeat c lo hi gr, g, h => by
    rw [genVisit]
    exact specVisit_child br _ (genVisit_eq br c) h rfl
      (by simp [mkInfo, node, minSize, constSize, groupCount, hardAt_repeat, boundsEq_hiVal, sureReps_hiVal,
        hiVal_eq_zero])
  | .cond c y f, g, h => by
    simp only [analyzable, Bool.and_eq_true] at h
    simp only [genVisit, genVisit_eq br c g h.1.1]
    simp only [specVisit, checkRefs]
    cases hc : checkRefs c g with
    | error err => rfl
    | ok g1 =>
      have e1 := checkRefs_count c g g1 hc
      simp only [genVisit_eq br y g1 h.1.2, specVisit]
      cases hy : checkRefs y g1 with
      | error err => rfl
      | ok g2 =>
        have e2 := checkRefs_count y g1 g2 hy
        simp only [genVisit_eq br f g2 h.2, specVisit]
        cases hf : checkRefs f g2 with
        | error err => rfl
        | ok g3 =>
          have e3 := checkRefs_count f g2 g3 hf
          subst e1 e2
          simp [mkInfo, node, minSize, constSize, groupCount, hardAt, renumber, isHard]
          omega
  | .concat es, g, h => by
    simp only [analyzable] at h
    simp only [genVisit]
    rw [loopConcat_eq br es _ h (Nat.zero_le _)]
    simp only [specVisit, checkRefs]
    cases hc : checkRefsList es g with
    | error err => rfl
    | ok g' =>
      have := checkRefsList_count es g g' hc
      simp [mkInfo, node, minSize, constSize, groupCount, hardAt_concat]
      exact ⟨by omega, satAdd_zero_left (minSizeSum_le es)⟩
  | .alt es, g, h => by
    cases es with
    | nil => simp [analyzable] at h
    | cons e0 rest =>
      simp only [analyzable, analyzableAll, List.isEmpty_cons, Bool.not_false, Bool.true_and, Bool.and_eq_true] at h
      simp only [genVisit, genVisit_eq br e0 g h.1]
      simp only [specVisit, checkRefs, checkRefsList]
      cases hc : checkRefs e0 g with
      | error err => rfl
      | ok g1 =>
        have e1 := checkRefs_count e0 g g1 hc
        simp only []
        rw [loopAlt_eq br rest _ (minSize e0) h.2]
        · simp only []
          cases hcs : checkRefsList rest g1 with
          | error err => rfl
          | ok g2 =>
            have e2 := checkRefsList_count rest g1 g2 hcs
            subst e1
            simp [mkInfo, node, mkInfoList, minSize, minSizeMin_cons, constSize, constSizeAll, allMinSize, groupCount,
              groupCountList, hardAt_alt, hardAnyAt_cons, Bool.and_assoc]
            omega
        · intro _
          simp
theorem loopConcat_eq (br : Nat → Bool) : ∀ (es : List Expr) (acc : Acc), analyzableAll es = true →
    acc.min_size ≤ UNSET →
    loopConcat br es acc = match checkRefsList es acc.group_ix with
      | .error err => .error (.compile err)
      | .ok g' => .ok { group_ix := g', children := acc.children ++ mkInfoList br es acc.group_ix,
                        min_size := satAdd acc.min_size (minSizeSum es),
                        const_size := acc.const_size && constSizeAll es,
                        hard := acc.hard || hardAnyAt br es acc.group_ix }
  | [], acc, _, hm => by
    cases acc
    simp_all [loopConcat, checkRefsList, mkInfoList, minSizeSum, constSizeAll, hardAnyAt_nil, satAdd_zero_right]
  | e :: es, acc, h, hm => by
    simp only [analyzableAll, Bool.and_eq_true] at h
    simp only [loopConcat, genVisit_eq br e acc.group_ix h.1]
    simp only [specVisit, checkRefsList]
    cases hc : checkRefs e acc.group_ix with
    | error err => rfl
    | ok g1 =>
      have e1 := checkRefs_count e acc.group_ix g1 hc
      simp only []
      rw [loopConcat_eq br es _ h.2 (satAdd_le_UNSET _ _)]
      simp only []
      cases hcs : checkRefsList es g1 with
      | error err => rfl
      | ok g2 =>
        subst e1
        simp [mkInfoList, minSizeSum, constSizeAll, hardAnyAt_cons, satAdd_assoc, Bool.and_assoc, Bool.or_assoc]
theorem loopAlt_eq (br : Nat → Bool) : ∀ (es : List Expr) (acc : Acc) (m0 : Nat), analyzableAll es = true →
    (acc.const_size = true → acc.min_size = m0) →
    loopAlt br es acc = match checkRefsList es acc.group_ix with
      | .error err => .error (.compile err)
      | .ok g' => .ok { group_ix := g', children := acc.children ++ mkInfoList br es acc.group_ix,
                        min_size := minWith acc.min_size es,
                        const_size := acc.const_size && constSizeAll es && allMinSize m0 es,
                        hard := acc.hard || hardAnyAt br es acc.group_ix }
  | [], acc, m0, _, hm => by
    cases acc
    simp [loopAlt, checkRefsList, mkInfoList, minWith, constSizeAll, allMinSize, hardAnyAt_nil]
  | e :: es, acc, m0, h, hm => by
    simp only [analyzableAll, Bool.and_eq_true] at h
    simp only [loopAlt, genVisit_eq br e acc.group_ix h.1]
    simp only [specVisit, checkRefsList]
    cases hc : checkRefs e acc.group_ix with
    | error err => rfl
    | ok g1 =>
      have e1 := checkRefs_count e acc.group_ix g1 hc
      simp only []
      rw [loopAlt_eq br es _ m0 h.2]
      · simp only []
        cases hcs : checkRefsList es g1 with
        | error err => rfl
        | ok g2 =>
          subst e1
          simp [mkInfoList, minWith, constSizeAll, allMinSize, hardAnyAt_cons, Bool.or_assoc]
          cases hcst : acc.const_size with
          | false => simp
          | true =>
            rw [hm hcst]
            have hsym : (m0 == minSize e) = (minSize e == m0) := by
              rw [Bool.eq_iff_iff]; simp only [beq_iff_eq]; constructor <;> intro x <;> exact x.symm
            rw [hsym]
            cases constSize e <;> cases constSizeAll es <;> cases (minSize e == m0) <;> simp
      · intro hh
        simp only [Bool.and_eq_true, beq_iff_eq, mkInfo_minSize] at hh ⊢
        have := hm hh.1
        omega
end

/-! ## the `Info` tree of the model, row by row: `factsOf` -/

/-- sizes and the analyzer's checks do not look at the group numbers stored in the tree -/
def NumFree (e : Expr) : Prop := ∀ n, minSize (renumber e n).1 = minSize e ∧ constSize (renumber e n).1 = constSize e ∧
  ∀ m, checkRefs (renumber e n).1 m = checkRefs e m

theorem NumFree.list : ∀ {es : List Expr}, (∀ e ∈ es, NumFree e) → ∀ n,
    minSizeSum (renumberList es n).1 = minSizeSum es ∧ minSizeMin (renumberList es n).1 = minSizeMin es ∧
    (∀ m, allMinSize m (renumberList es n).1 = allMinSize m es) ∧
    constSizeAll (renumberList es n).1 = constSizeAll es ∧
    ∀ m, checkRefsList (renumberList es n).1 m = checkRefsList es m
  | [], _, _ => by simp only [renumberList, and_self, implies_true]
  | e :: es, h, n => by
    obtain ⟨h1, h2, h3⟩ := h e List.mem_cons_self n
    obtain ⟨l1, l2, l3, l4, l5⟩ := NumFree.list (fun x hx => h x (List.mem_cons_of_mem _ hx)) (renumber e n).2
    refine ⟨?_, ?_, fun m => ?_, ?_, fun m => ?_⟩
    · simp only [renumberList, minSizeSum, h1, l1]
    · cases es with
      | nil => simp only [renumberList, minSizeMin, h1]
      | cons e' es =>
        simp only [renumberList, minSizeMin] at l2 ⊢
        rw [h1, l2]
    · simp only [renumberList, allMinSize, h1, l3]
    · simp only [renumberList, constSizeAll, h2, l4]
    · simp only [renumberList, checkRefsList, h3]
      cases checkRefs e m with
      | error err => rfl
      | ok m1 => exact l5 m1

theorem numFree (e : Expr) : NumFree e := by
  induction e using Expr.induct with
  | group g c ih =>
    intro n; obtain ⟨h1, h2, h3⟩ := ih (n + 1)
    simp only [renumber, minSize, constSize, checkRefs, h1, h2, h3, and_self, implies_true]
  | concat es ih =>
    intro n; obtain ⟨l1, _, _, l4, l5⟩ := NumFree.list ih n
    simp only [renumber, minSize, constSize, checkRefs, l1, l4, l5, and_self, implies_true]
  | alt es ih =>
    intro n; obtain ⟨_, l2, l3, l4, l5⟩ := NumFree.list ih n
    refine ⟨?_, ?_, fun m => ?_⟩
    · simp only [renumber, minSize, l2]
    · cases es with
      | nil => simp only [renumber, renumberList]
      | cons e es =>
        have h1 := (ih e List.mem_cons_self n).1
        have l3 := l3 (minSize e)
        simp only [renumberList] at l3 l4
        simp only [renumber, renumberList, constSize, h1, l3, l4]
    · simp only [renumber, checkRefs, l5]
  | look c la ih =>
    intro n
    simp only [renumber, minSize, constSize, checkRefs, (ih n).2.2, and_self, implies_true]
  | «repeat» c lo hi gr ih =>
    intro n; obtain ⟨h1, h2, h3⟩ := ih n
    simp only [renumber, minSize, constSize, checkRefs, h1, h2, h3, and_self, implies_true]
  | atomic c ih =>
    intro n; obtain ⟨h1, h2, h3⟩ := ih n
    simp only [renumber, minSize, constSize, checkRefs, h1, h2, h3, and_self, implies_true]
  | cond c y f ihc ihy ihf =>
    intro n
    obtain ⟨c1, c2, c3⟩ := ihc n
    obtain ⟨y1, y2, y3⟩ := ihy (renumber c n).2
    obtain ⟨f1, f2, f3⟩ := ihf (renumber y (renumber c n).2).2
    refine ⟨?_, ?_, fun m => ?_⟩
    · simp only [renumber, minSize, c1, y1, f1]
    · simp only [renumber, constSize, c1, c2, y1, y2, f1, f2]
    · simp only [renumber, checkRefs, c3]
      cases checkRefs c m with
      | error err => rfl
      | ok m1 =>
        simp only [y3]
        cases checkRefs y m1 with
        | error err => rfl
        | ok m2 => exact f3 m2
  | _ => intro n; simp only [renumber, and_self, implies_true]

theorem minSize_renumber (e : Expr) (n : Nat) : minSize (renumber e n).1 = minSize e := (numFree e n).1
theorem constSize_renumber (e : Expr) (n : Nat) : constSize (renumber e n).1 = constSize e := (numFree e n).2.1
theorem checkRefs_renumber (e : Expr) (n m : Nat) : checkRefs (renumber e n).1 m = checkRefs e m := (numFree e n).2.2 m

theorem minSizeSum_renumber : ∀ (es : List Expr) (n : Nat), minSizeSum (renumberList es n).1 = minSizeSum es :=
  fun _ n => (NumFree.list (fun e _ => numFree e) n).1
theorem minSizeMin_renumber : ∀ (es : List Expr) (n : Nat), minSizeMin (renumberList es n).1 = minSizeMin es :=
  fun _ n => (NumFree.list (fun e _ => numFree e) n).2.1
theorem allMinSize_renumber (m : Nat) : ∀ (es : List Expr) (n : Nat), allMinSize m (renumberList es n).1 = allMinSize m es :=
  fun _ n => (NumFree.list (fun e _ => numFree e) n).2.2.1 m
theorem constSizeAll_renumber : ∀ (es : List Expr) (n : Nat), constSizeAll (renumberList es n).1 = constSizeAll es :=
  fun _ n => (NumFree.list (fun e _ => numFree e) n).2.2.2.1
theorem checkRefsList_renumber : ∀ (es : List Expr) (n m : Nat),
    checkRefsList (renumberList es n).1 m = checkRefsList es m :=
  fun _ n => (NumFree.list (fun e _ => numFree e) n).2.2.2.2

theorem kind_renumber (e : Expr) (n : Nat) : (renumber e n).1.kind = e.kind := by
  cases e <;> rfl

theorem factsOf_root (br : Nat → Bool) (e : Expr) (d n : Nat) : factsOf br e d n =
    (⟨d, e.kind, n, (factsOf br e d n).2, minSize e, constSize e, isHard br e⟩ :: (factsOf br e d n).1.tail,
      (factsOf br e d n).2) := by
  cases e <;> rfl

/-- the root row of `factsOf`, whatever the node -/
theorem factsOf_shape (br : Nat → Bool) (e : Expr) (d n : Nat) :
    ∃ rest, (factsOf br e d n).1 =
      ⟨d, e.kind, n, (factsOf br e d n).2, minSize e, constSize e, isHard br e⟩ :: rest :=
  ⟨_, congrArg Prod.fst (factsOf_root br e d n)⟩

/-- the root rows agree because sizes ignore the numbering; what is left for each kind of node is the rows of the
    children and the counter -/
theorem factsOf_mkInfo_of (br : Nat → Bool) (e : Expr) (d g : Nat)
    (h : ((factsOf br (renumber e g).1 d g).1.tail, (factsOf br (renumber e g).1 d g).2) =
      (rowsList (mkInfo br e g).children (d + 1), g + groupCount e)) :
    factsOf br (renumber e g).1 d g = ((mkInfo br e g).rows d, g + groupCount e) := by
  rw [factsOf_root, (Prod.mk.inj h).1, (Prod.mk.inj h).2, mkInfo_node, kind_renumber, minSize_renumber,
    constSize_renumber]
  rfl

mutual
theorem factsOf_mkInfo (br : Nat → Bool) : ∀ (e : Expr) (d g : Nat),
    factsOf br (renumber e g).1 d g = ((mkInfo br e g).rows d, g + groupCount e)
  | .group n c, d, g => factsOf_mkInfo_of br _ d g (by
      simp only [renumber, factsOf, List.tail_cons, factsOf_mkInfo br c (d + 1) (g + 1), mkInfo, node, rowsList,
        groupCount, List.append_nil, Nat.add_assoc, Nat.add_comm 1])
  | .concat es, d, g => factsOf_mkInfo_of br _ d g (by
      simp only [renumber, factsOf, List.tail_cons, factsOfList_mkInfoList br es (d + 1) g, mkInfo, node, groupCount])
  | .alt es, d, g => factsOf_mkInfo_of br _ d g (by
      simp only [renumber, factsOf, List.tail_cons, factsOfList_mkInfoList br es (d + 1) g, mkInfo, node, groupCount])
  | .look c la, d, g => factsOf_mkInfo_of br _ d g (by
      simp only [renumber, factsOf, List.tail_cons, factsOf_mkInfo br c (d + 1) g, mkInfo, node, rowsList, groupCount,
        List.append_nil])
  | .repeat c lo hi gr, d, g => factsOf_mkInfo_of br _ d g (by
      simp only [renumber, factsOf, List.tail_cons, factsOf_mkInfo br c (d + 1) g, mkInfo, node, rowsList, groupCount,
        List.append_nil])
  | .atomic c, d, g => factsOf_mkInfo_of br _ d g (by
      simp only [renumber, factsOf, List.tail_cons, factsOf_mkInfo br c (d + 1) g, mkInfo, node, rowsList, groupCount,
        List.append_nil])
  | .cond c y f, d, g => factsOf_mkInfo_of br _ d g (by
      simp only [renumber, renumber_snd, factsOf, List.tail_cons, factsOf_mkInfo br c (d + 1) g,
        factsOf_mkInfo br y (d + 1) (g + groupCount c), factsOf_mkInfo br f (d + 1) (g + (groupCount c + groupCount y)),
        mkInfo, node, rowsList, groupCount, List.append_nil, List.append_assoc, Nat.add_assoc])
  | .empty, d, g | .any _, d, g | .assertion _, d, g | .literal _ _, d, g | .delegate _ _ _, d, g | .backref _, d, g
  | .keepOut, d, g | .contPrev, d, g | .backrefExists _, d, g | .subroutine _, d, g => factsOf_mkInfo_of br _ d g rfl
theorem factsOfList_mkInfoList (br : Nat → Bool) : ∀ (es : List Expr) (d g : Nat),
    factsOfList br (renumberList es g).1 d g = (rowsList (mkInfoList br es g) d, g + groupCountList es)
  | [], d, g => by simp [renumberList, factsOfList, mkInfoList, rowsList, groupCountList]
  | e :: es, d, g => by
    simp only [renumberList, factsOfList, factsOf_mkInfo br e d g, renumber_snd,
      factsOfList_mkInfoList br es d (g + groupCount e), mkInfoList, rowsList, groupCountList, Prod.mk.injEq, true_and]
    omega
end

/-! ## the theorems -/

/-- **The translated analyzer is the hand-written model**, on every expression of the domain and
    from every value of the group counter: the same outcome (the same `CompileError`, never the
    index panic), the same final counter, and the whole `Info` tree is the model's (`mkInfo`:
    every node carries `minSize`, `constSize`, `isHard br` under the analyzer's own numbering, and
    `start_group` / `end_group`). -/
theorem C13_analyzer_translated_eq (br : Nat → Bool) (e : Expr) (g : Nat) (h : analyzable e = true) :
    genVisit br e g =
      match checkRefs e g with
      | .error err => .error (.compile err)
      | .ok g' => .ok (mkInfo br e g, g') :=
  genVisit_eq br e g h

/-- the same, spelled out against the functions of Model/Analyze.lean only: the translated analyzer
    fails exactly when `checkRefs` does (same error); otherwise the final counter is `checkRefs`' and
    `renumber`'s, the rows of the `Info` tree in pre-order are exactly `factsOf` of the numbered
    tree (these rows are what the harness compares with the real analyzer), and the root carries
    `minSize`, `constSize`, `isHard br` and the group range. -/
theorem C13_analyzer_translated_facts (br : Nat → Bool) (e : Expr) (g : Nat) (h : analyzable e = true) :
    (∀ err, checkRefs e g = .error err → genVisit br e g = .error (.compile err)) ∧
    (∀ g', checkRefs e g = .ok g' → ∃ info, genVisit br e g = .ok (info, g') ∧
      g' = (renumber e g).2 ∧
      (∀ d, (info.rows d, g') = factsOf br (renumber e g).1 d g) ∧
      info.expr = e ∧ info.startGroup = g ∧ info.endGroup = g' ∧
      info.minSize = minSize (renumber e g).1 ∧ info.constSize = constSize (renumber e g).1 ∧
      info.hard = isHard br (renumber e g).1) := by
  rw [genVisit_eq br e g h, specVisit]
  constructor
  · intro err he; rw [he]
  · intro g' he
    have hcount := checkRefs_count e g g' he
    rw [he]
    refine ⟨mkInfo br e g, rfl, ?_, ?_, ?_⟩
    · rw [renumber_snd]; exact hcount
    · intro d; rw [factsOf_mkInfo, hcount]
    · simp [minSize_renumber, constSize_renumber, hardAt, hcount]

mutual
/-- the parser's shape guarantee puts a tree in the analyzer's domain -/
theorem analyzable_of_wellShaped : ∀ (e : Expr), wellShaped e = true → analyzable e = true
  | .group _ c, h => by simp only [wellShaped] at h; simp only [analyzable]; exact analyzable_of_wellShaped c h
  | .concat es, h => by simp only [wellShaped] at h; simp only [analyzable]; exact analyzableAll_of_wellShapedAll es h
  | .alt es, h => by
    simp only [wellShaped, Bool.and_eq_true] at h
    simp only [analyzable, Bool.and_eq_true]; exact ⟨h.1, analyzableAll_of_wellShapedAll es h.2⟩
  | .look c _, h => by simp only [wellShaped] at h; simp only [analyzable]; exact analyzable_of_wellShaped c h
  | .repeat c _ _ _, h => by simp only [wellShaped] at h; simp only [analyzable]; exact analyzable_of_wellShaped c h
  | .atomic c, h => by simp only [wellShaped] at h; simp only [analyzable]; exact analyzable_of_wellShaped c h
  | .cond c y f, h => by
    simp only [wellShaped, Bool.and_eq_true] at h
    simp only [analyzable, Bool.and_eq_true]
    exact ⟨⟨analyzable_of_wellShaped c h.1.1, analyzable_of_wellShaped y h.1.2⟩, analyzable_of_wellShaped f h.2⟩
  | .empty, _ | .any _, _ | .assertion _, _ | .literal _ _, _ | .delegate _ _ _, _ | .backref _, _ | .keepOut, _
  | .contPrev, _ | .backrefExists _, _ | .subroutine _, _ => by simp only [analyzable]
theorem analyzableAll_of_wellShapedAll : ∀ (es : List Expr), wellShapedAll es = true → analyzableAll es = true
  | [], _ => by simp only [analyzableAll]
  | e :: es, h => by
    simp only [wellShapedAll, Bool.and_eq_true] at h
    simp only [analyzableAll, Bool.and_eq_true]
    exact ⟨analyzable_of_wellShaped e h.1, analyzableAll_of_wellShapedAll es h.2⟩
end

theorem analyzable_wrapTree (tree : Expr) : analyzable (wrapTree tree) = analyzable tree := by
  simp [wrapTree, analyzable, analyzableAll]

/-- **What `Regex::new` reads off the analysis.** On the wrapped tree `(?s:.)*?(tree)` that `build`
    analyses, the translated `analyze` fails exactly when `build`'s check fails (and `build` returns
    that error); otherwise its result has the two children of `wrap_tree`, `info.children[1].children[0]`
    is the `Info` of the user's expression whose `hard` / `min_size` / `const_size` are the model's
    `isHard br raw` / `minSize raw` / `constSize raw`, `info.end_group` is `nGroups`, every row is
    `factsOf`'s (what `compile` reads), and `build` is the function of these that `Regex::new` is. -/
theorem C13_analyze_eq (tree : Expr) (backrefs : List Nat) (h : analyzable tree = true) :
    let br := fun g => backrefs.contains g
    let raw := (renumber tree 1).1
    let wrapped := (renumber (wrapTree tree) 0).1
    (∀ err, checkRefs wrapped 0 = .error err →
      genAnalyze br (wrapTree tree) = .error (.compile err) ∧ build tree backrefs = .error err) ∧
    (∀ n, checkRefs wrapped 0 = .ok n → ∃ info pre grp inner,
      genAnalyze br (wrapTree tree) = .ok info ∧ info.children = [pre, grp] ∧ grp.children = [inner] ∧
      info.endGroup = n ∧ info.rows 0 = (factsOf br wrapped 0 0).1 ∧
      inner.hard = isHard br raw ∧ inner.minSize = minSize raw ∧ inner.constSize = constSize raw ∧
      info.hard = isHard br wrapped ∧ info.minSize = minSize wrapped ∧ info.constSize = constSize wrapped ∧
      build tree backrefs =
        if !inner.hard then .ok ⟨raw, wrapped, info.endGroup, backrefs, .wrap⟩
        else match compile br wrapped with
          | .error e => .error e
          | .ok prog => .ok ⟨raw, wrapped, info.endGroup, backrefs, .fancy prog⟩) := by
  intro br raw wrapped
  have hw : analyzable (wrapTree tree) = true := by rw [analyzable_wrapTree]; exact h
  have hck : checkRefs wrapped 0 = checkRefs (wrapTree tree) 0 := checkRefs_renumber _ 0 0
  have hwr : wrapped = .concat [.repeat (.any true) 0 none false, .group 0 raw] := by
    simp [wrapped, raw, wrapTree, renumber, renumberList]
  constructor
  · intro err he
    constructor
    · simp only [genAnalyze, genVisit_eq br _ 0 hw, specVisit, ← hck, he]
    · have he' : checkRefs (renumber (wrapTree tree) 0).1 0 = .error err := he
      unfold build
      simp only [he']
  · intro n he
    have hcount := checkRefs_count _ 0 n (hck ▸ he)
    refine ⟨mkInfo br (wrapTree tree) 0, mkInfo br (.repeat (.any true) 0 none false) 0, mkInfo br (.group 0 tree) 0,
      mkInfo br tree 1, ?_, ?_, ?_, ?_, ?_, ?_, ?_, ?_, ?_, ?_, ?_, ?_⟩
    · simp only [genAnalyze, genVisit_eq br _ 0 hw, specVisit, ← hck, he]
    · simp [wrapTree, mkInfo, node, mkInfoList, groupCount]
    · simp [mkInfo, node]
    · simp [hcount]
    · have := factsOf_mkInfo br (wrapTree tree) 0 0
      rw [show (renumber (wrapTree tree) 0).1 = wrapped from rfl] at this
      rw [this]
    · simp [hardAt, raw]
    · simp [raw, minSize_renumber]
    · simp [raw, constSize_renumber]
    · simp [hardAt, wrapped]
    · simp [wrapped, minSize_renumber]
    · simp [wrapped, constSize_renumber]
    · have he' : checkRefs (renumber (wrapTree tree) 0).1 0 = .ok n := he
      have hwr' : (renumber (wrapTree tree) 0).1 = .concat [.repeat (.any true) 0 none false, .group 0 (renumber tree 1).1] := hwr
      unfold build
      simp only [he']
      simp only [hwr', mkInfo_endGroup, mkInfo_hard, hardAt, ← hcount]
      rw [hwr]
      rfl

/-! ### Non-vacuity: `(x|xy)\\1` wrapped — two groups, hard (the back-reference), at least one character,
not constant-size; and an empty alternation is the index panic, not a silent default -/
set_option linter.unusedSimpArgs false in
example : (match genAnalyze (fun g => g == 1)
      (wrapTree (.concat [.group 0 (.alt [.literal ['x'] false, .concat [.literal ['x'] false, .literal ['y'] false]]),
        .backref 1])) with
    | .ok i => some (i.endGroup, i.hard, i.minSize, i.constSize)
    | .error _ => none) = some (2, true, 1, false) := by
  simp [genAnalyze, genVisit, loopConcat, loopAlt, wrapTree, hiVal, bitsetContains, satAdd, satMul, UNSET,
    literal_const_size]

example : genVisit (fun _ => false) (.alt []) 0 = .error .indexPanic := by simp [genVisit]

end Fancy
