import FancyModel.Proofs.C16c
/-!
# C16 — the translated `Captures::get` beyond the groups, for EVERY `usize` (and every `Nat`) index  (F22)

The property says "indices >= len give None". `C16_captures_get_translated_eq` (C16c) relates the translated `get` to the
model's; here the clause is stated outright about the function translated from `src/lib.rs` on every run, with no model in the
statement: for a `Captures` of the VM path holding `2 * n` slots (`2 * n ≤ 2^64`: a `Vec<usize>`), and on the wrapped path a
slot vector of `2 * n` cells,

* `C16_get_translated_beyond`: `i ≥ n` → `get(i)` returns `None` — no panic, no group, whatever `i` is. With the body
  before the F22 repair (`let slot = i * 2;`, wrapping) this is FALSE for `i ≥ 2^63`: `C16_get_unrepaired_witness` below, a
  theorem about that body (`getUnrepaired`);
* `C16_get_translated_no_panic`: `get(i)` never panics for any `i`;
* `C16_get_translated_len`: `len()` is `n`.
-/
namespace Fancy
open Fancy.Parse Fancy.GenLib

theorem toCaps_slots_length_fancy (c : RCaptures) (saves : List Nat) (h : c.inner = .fancy saves) :
    (toCaps c).slots.length = saves.length := by
  simp [toCaps, h, viewSlots_length]

/-- the hypotheses of `C16_captures_get_translated_eq` from "the vector has `2 * n` cells, `2 * n ≤ 2^64`" -/
theorem caps_side_conditions (c : RCaptures) (n : Nat) (hlen : (toCaps c).slots.length = 2 * n) (hn : 2 * n ≤ 2 ^ 64) :
    (∀ slots, c.inner = .wrap (some slots) → slots.length % 2 = 0) ∧
    (∀ saves, c.inner = .fancy saves → saves.length ≤ 2 ^ 64) := by
  constructor
  · intro slots hs
    have : (toCaps c).slots = slots := by simp [toCaps, hs]
    rw [this] at hlen; omega
  · intro saves hs
    rw [toCaps_slots_length_fancy c saves hs] at hlen; omega

theorem C16_get_translated_beyond (c : RCaptures) (n i : Nat) (hlen : (toCaps c).slots.length = 2 * n)
    (hn : 2 * n ≤ 2 ^ 64) (hi : n ≤ i) : genCapturesGet c i = .ok none := by
  obtain ⟨hw, hl⟩ := caps_side_conditions c n hlen hn
  have hacc := C16_caps_accessors (toCaps c) n hlen
  have hg := C16_captures_get_translated_eq c i hw hl
  rw [hacc.2.2.2.1 i (by rw [hacc.1]; exact hi)] at hg
  cases hr : genCapturesGet c i with
  | ok r =>
    cases r with
    | none => rfl
    | some p => obtain ⟨a, b⟩ := p; rw [hr] at hg; simp [gotOf] at hg
  | panic s => rw [hr] at hg; simp [gotOf] at hg
  | err e => rw [hr] at hg; simp [gotOf] at hg

theorem C16_get_translated_no_panic (c : RCaptures) (n i : Nat) (hlen : (toCaps c).slots.length = 2 * n)
    (hn : 2 * n ≤ 2 ^ 64) : ∃ r, genCapturesGet c i = .ok r := by
  obtain ⟨hw, hl⟩ := caps_side_conditions c n hlen hn
  have hacc := C16_caps_accessors (toCaps c) n hlen
  have hg := C16_captures_get_translated_eq c i hw hl
  have hnp := hacc.2.2.2.2.1 i
  cases hr : genCapturesGet c i with
  | ok r => exact ⟨r, rfl⟩
  | panic s => rw [hr] at hg; exact absurd hg.symm hnp
  | err e => rw [hr] at hg; exact absurd hg.symm hnp

theorem C16_get_translated_len (c : RCaptures) (n : Nat) (hlen : (toCaps c).slots.length = 2 * n) :
    genCapturesLenOf c = n := by
  rw [C16_captures_len_of_translated_eq]; exact (C16_caps_accessors (toCaps c) n hlen).1

/-- the body before the repair, `let slot = i * 2;` with release arithmetic (the product taken modulo 2^64), on the VM path -/
def getUnrepaired (saves : List Nat) (i : Nat) : Option (Nat × Nat) :=
  let slot := (i * 2) % 2 ^ 64
  if slot ≥ saves.length then none
  else
    match saves[slot]?, saves[slot + 1]? with
    | some lo, some hi => if lo == UNSET then none else some (lo, hi)
    | _, _ => none

/-- **F22, as a theorem about the unrepaired body**: two groups, index `2^63 + 1 ≥ len`, and the answer is group 1 -/
theorem C16_get_unrepaired_witness : getUnrepaired [0, 2, 0, 1] (2 ^ 63 + 1) = some (0, 1) := by
  decide

/-- non-vacuity: the repaired, translated `get` on the same `Captures` and the same index -/
example : genCapturesGet ⟨.fancy [0, 2, 0, 1], []⟩ (2 ^ 63 + 1) = .ok none :=
  C16_get_translated_beyond ⟨.fancy [0, 2, 0, 1], []⟩ 2 _ (by simp [toCaps, viewSlots]) (by decide) (by decide)

end Fancy
