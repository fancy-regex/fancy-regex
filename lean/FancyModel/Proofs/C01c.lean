import FancyModel.Lemmas.SimCompile2
import FancyModel.Lemmas.AVM2
import FancyModel.Proofs.C01b
/-!
# C01 / C02 / C15 — compiler correctness for every construct the VM interprets itself (stage S2)

`C01_vm_correct_s2`: for every pattern whose tree satisfies `s2ok` — literals, `.`, assertions, `\K`,
`\G`, back-references, group tests, concatenation, alternation, capture groups, every quantifier
(counted ones included) whose body cannot match empty when unbounded, atomic groups, positive and
negative look-aheads, look-behinds over a non-alternation constant-size body, conditionals — with
conditional-free bodies where the code needs the auxiliary stack balanced (finding F8) — and whose
compiled program contains no `Delegate` instruction, for every text and start offset, the VM run of
the compiled wrapped tree returns exactly the reference search result (match / no match, span, every
capture group), unless it stops for a resource reason (fuel, backtrack limit, branch-stack cap).

    runLoop (undo-log State, auxiliary stack inside the slot vector)
      ──link2──▶ Big2 (structured whole-copy machine, every instruction)
      ──sim2_visit──▶ sem (reference semantics) ──▶ refSearch
-/
namespace Fancy

theorem C01_vm_correct_s2 (tree : Expr) (backrefs : List Nat) (b : Built) (prog : Prog) (c : Ctx)
    (hb : build tree backrefs = .ok b) (hk : b.kind = .fancy prog)
    (hok : s2ok b.raw = true) (hnd : noDeleg prog.body = true)
    (hlen : c.len < UNSET) (hpos : c.pos ≤ c.len) : VmCorrectR b c := by
  obtain ⟨mid, nsv, rfl, hm, hn0, hsb⟩ := build_fancy_prog tree backrefs b prog hb hk
  generalize (fun g => backrefs.contains g) = br at hm
  refine vmCorrectR_of_first b _ c nsv hk hlen hpos hn0 fun limit fuel => ?_
  have hokAll : s2okAll [.repeat (.any true) 0 none false, .group 0 b.raw] = true := by
    simp [s2okAll, s2ok, hok, minSize]
  have hndm : noDeleg mid = true := by
    simp only [noDeleg_append, Bool.and_eq_true] at hnd; exact hnd.1
  have hcode : CodeAt (mid ++ [Insn.end_]) 0 mid := ⟨[], [Insn.end_], by simp, rfl⟩
  obtain ⟨hle, hsim⟩ := sim2P_visitMiddle _ (fun e _ => sim2P_all c (2 * b.nGroups) nsv br hlen e) 2 0 (b.nGroups * 2) 0
    mid nsv (mid ++ [Insn.end_]) hokAll hsb hm hndm hcode (by omega)
  have hsim := hsim (Nat.le_refl _) true
  simp only [List.take, Nat.zero_add] at hsim
  -- run it from the initial configuration
  have hst0 : (⟨c.pos, initSlots b.nGroups⟩ : St).Good c (2 * b.nGroups) :=
    ⟨hpos, by simp [initSlots], by intro v hv; simp [initSlots] at hv⟩
  have hend : (mid ++ [Insn.end_])[mid.length]? = some Insn.end_ := by simp
  have hbig := hsim.apply_all ⟨c.pos, initSlots b.nGroups⟩ (List.replicate (nsv - 2 * b.nGroups) UNSET) [] []
    (fun r _ => .matched (capSaves (unview r.slots) c.pos)) .noMatch hst0 (by simp; omega)
    (by simpa [SuccOK] using Commit.const (fun r => Ans.matched (capSaves (unview r.slots) c.pos))) Big2.failEmpty
    (by
      intro r hr aux' junk S acc hag _ _ _
      have hrg := semConcat_good c _ _ _ r hst0 hr
      have hl' : (unview r.slots ++ aux').length = nsv := by
        simp only [List.length_append, unview_length, hrg.len, hag.1, List.length_replicate]; omega
      have := Big2.done (c := c) (prog := mid ++ [Insn.end_]) (nS := nsv) (0 + mid.length) r.ix (unview r.slots ++ aux')
        (junk ++ []) (S ++ []) (2 * b.nGroups) (by simpa using hend) (by omega) (by omega) hl'
      rw [capSaves_take _ _ _ (by omega) (by rw [hl']; omega)] at this
      have htk : (unview r.slots ++ aux').take (2 * b.nGroups) = unview r.slots := by
        rw [List.take_append_of_le_length (by simp [hrg.len])]
        exact List.take_of_length_le (by simp [hrg.len])
      rw [htk] at this
      simpa using this)
  have huv : unview (initSlots b.nGroups) ++ List.replicate (nsv - 2 * b.nGroups) UNSET = List.replicate nsv UNSET := by
    have : unview (initSlots b.nGroups) = List.replicate (2 * b.nGroups) UNSET := by simp [unview, initSlots]
    rw [this, List.replicate_append_replicate]; congr 1; omega
  simp only [huv] at hbig
  have hdok : DelegOK c (mid ++ [Insn.end_]) nsv := by
    intro pc' es' sg' eg' hp
    exfalso
    have hmem : Insn.delegate es' sg' eg' ∈ mid ++ [Insn.end_] := List.mem_of_getElem? hp
    have hall : noDeleg (mid ++ [Insn.end_]) = true := by simpa using hnd
    simp only [noDeleg, List.all_eq_true] at hall
    have := hall _ hmem
    simp [Insn.isDelegate] at this
  exact link2_initial c ⟨mid ++ [Insn.end_], nsv⟩ ⟨limit, maxStackDefault⟩ hdok _ hbig fuel

end Fancy

namespace Fancy

/-- no match is reported only if the reference has none (stage S2) -/
theorem C01_no_match_s2 (tree : Expr) (backrefs : List Nat) (b : Built) (prog : Prog) (c : Ctx)
    (hb : build tree backrefs = .ok b) (hk : b.kind = .fancy prog)
    (hok : s2ok b.raw = true) (hnd : noDeleg prog.body = true)
    (hlen : c.len < UNSET) (hpos : c.pos ≤ c.len) (limit fuel : Nat)
    (hnone : (b.captures c limit fuel).1 = .noMatch) :
    refSearch c b.raw b.nGroups = none := by
  have h := C01_vm_correct_s2 tree backrefs b prog c hb hk hok hnd hlen hpos limit fuel
  rw [hnone] at h
  rcases h with h | h | h | h
  · cases h
  · cases h
  · cases h
  · cases href : refSearch c b.raw b.nGroups with
    | none => rfl
    | some f => simp [href] at h

/-- decidable side conditions of the stage-S2 theorem, as the driver evaluates them per pattern -/
def s2AndNoDeleg (tree : Expr) (backrefs : List Nat) : Bool :=
  match build tree backrefs with
  | .ok b => (match b.kind with
    | .fancy prog => s2ok b.raw && noDeleg prog.body
    | .wrap => false)
  | .error _ => false

/-! ### Non-vacuity: `(a)(?>\1|b)(?=c)` — group, atomic group over a hard alternation, look-ahead -/
def exTree2 : Expr :=
  .concat [.group 0 (.literal ['a'] false), .atomic (.alt [.backref 1, .literal ['b'] false]),
    .look (.literal ['c'] false) .ahead]

set_option linter.unusedSimpArgs false in
example : s2AndNoDeleg exTree2 [1] = true := by
  simp [s2AndNoDeleg, build, exTree2, wrapTree, renumber, renumberList, checkRefs, checkRefsList, isHard, isHardAny,
    compile, visit, visitMiddle, visitAlt, concatSplit, groupCount, groupCountList, constSize, constSizeAll, minSize, minSizeMin,
    allMinSize, compileDelegates, compileDelegate, isLiteral, isLiteralAll, s2ok, s2okAll, condFree, condFreeAll, noDeleg,
    Insn.isDelegate, boundsEq, satMul, sureReps, UNSET, Assertion.isHard, wrapPosLook, posLookBodyPc, pushLiteral]

end Fancy
