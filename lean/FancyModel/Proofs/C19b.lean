import FancyModel.Proofs.C17b
/-!
# C19 (parser part) — equivalent spellings parse to the same tree (`Model/Parse.lean`)

Proofs/C19.lean proves the spellings whose trees differ but whose semantics coincide; here are
the spellings whose *trees* are the same, on the parser model, for all inputs:

* `C19_optWs_comment` / `C19_comment_skipped`: `optional_whitespace` skips a `(?#…)` comment under
   every flag state; `C19_optWs_space`, `C19_optWs_line_comment(_end)`: white space and `#…\n`
   comments are skipped under `x`; `C19_optWs_no_x`: and only under `x`.
   `C19_skipped_before_piece`: a skipped stretch in front of a piece adds nothing to the children
   collected by the loop of `parse_branch` (same array, two start indices).
* `C19_escape_h/H/e/A/z`, `C19_escape_hex_fixed` (`\xHH`, `\uHHHH`, `\UHHHHHHHH`),
   `C19_escape_hex_brace` (`\x{…}`, `\u{…}`, `\U{…}`): equations for `parse_escape`.
* `C19_scoped_flags_restore` (+ `C19_scoped_flags_outer`, `C19_inline_flags_stay`), and the
   negative theorem `C19_F19_flags_leak` / `C19_F19_trees_differ` (known finding F19).
* `C19_relative_backref` (and `C19_absolute_backref` for comparison).
* `parsePiece_suffix` / `C19_possessive_is_atomic` / `C19_not_possessive` (the quantifier-suffix
   handling of `parse_piece`: `Xq+` is `AtomicGroup` of the very node `Xq` is) and
   `C19_atomic_group` (`(?>Y)` is `AtomicGroup` of the tree of `Y`).

NOT proved: the two-pattern form "the pattern with a comment inserted parses to the same tree as
the pattern without it" for arbitrary surroundings.  It is not true as an unconditional statement
of the parser: every index after the insertion shifts, and the validity bound of a back-reference
is `group < re.len() / 2`, which the insertion changes (`\1` alone is a parse error, `(?#c)\1` is
not: see the last example of the section on comments).  The concrete instances are evaluated in the examples.

Concrete patterns are evaluated in the kernel (`isTree_sound (by decide +kernel)`).
-/
namespace Fancy.Parse
open Fancy.Utf8 (codepointLen isLead)
open Fancy

/-! ## comments and free-spacing white space -/

/-- `optional_whitespace` does not depend on its fuel once there is enough of it -/
theorem optionalWhitespace_fuel (re : Bytes) (fl : Flags) : ∀ (f f' ix : Nat), ix ≤ re.size →
    re.size < ix + f → re.size < ix + f' →
    optionalWhitespace f re fl ix = optionalWhitespace f' re fl ix := by
  intro f
  induction f with
  | zero => intro f' ix h1 h2 _; omega
  | succ f ih =>
    intro f' ix hix hf hf'
    obtain ⟨f', rfl⟩ : ∃ g, f' = g + 1 := ⟨f' - 1, by omega⟩
    simp only [optionalWhitespace]
    by_cases h0 : (ix == re.size) = true
    · simp only [h0, ↓reduceIte]
    · simp only [h0, Bool.false_eq_true, ↓reduceIte]
      have hlt : ix < re.size := by
        have : ix ≠ re.size := by simpa using h0
        omega
      cases hg : re[ix]? with
      | none => exact absurd (Array.getElem?_eq_none_iff.mp hg) (by omega)
      | some b =>
        simp only
        by_cases h1 : (b == ch '#' && fl.ignoreSpace) = true
        · simp only [h1, ↓reduceIte]
          cases hx : (re.toList.drop ix).findIdx? (· == 10) with
          | none => rfl
          | some x =>
            obtain ⟨hxl, _, _⟩ := List.findIdx?_eq_some_iff_getElem.mp hx
            simp only [List.length_drop, Array.length_toList] at hxl
            exact ih f' (ix + x + 1) (by omega) (by omega) (by omega)
        · simp only [h1, Bool.false_eq_true, ↓reduceIte]
          by_cases h2 : ((b == ch ' ' || b == ch '\r' || b == ch '\n' || b == ch '\t') && fl.ignoreSpace) = true
          · simp only [h2, ↓reduceIte]
            exact ih f' (ix + 1) (by omega) (by omega) (by omega)
          · simp only [h2, Bool.false_eq_true, ↓reduceIte]
            by_cases h3 : (b == ch '(' && startsWithAt re ix [ch '(', ch '?', ch '#']) = true
            · simp only [h3, ↓reduceIte]
              have hsc := goodS_skipComment re (re.size + 1) (ix + 3) (by omega) (by omega)
              cases hres : skipComment (re.size + 1) re (ix + 3) with
              | ok ix' =>
                rw [hres] at hsc
                simp only [GoodS_ok] at hsc
                exact ih f' ix' hsc.2.1 (by omega) (by omega)
              | _ => rfl
            · simp only [h3, Bool.false_eq_true, ↓reduceIte]

theorem optionalWhitespace_eq_optWs {re : Bytes} {fl : Flags} {f ix : Nat} (hix : ix ≤ re.size)
    (hf : re.size < ix + f) : optionalWhitespace f re fl ix = optWs re fl ix :=
  optionalWhitespace_fuel re fl f (re.size + 2) ix hix hf (by omega)

/-- one step of `optional_whitespace` at a byte -/
theorem optWs_step {re : Bytes} {fl : Flags} {ix b : Nat} (hg : re[ix]? = some b) :
    optWs re fl ix =
      if b == ch '#' && fl.ignoreSpace then
        match (re.toList.drop ix).findIdx? (· == 10) with
        | some x => optionalWhitespace (re.size + 1) re fl (ix + x + 1)
        | none => .ok re.size
      else if (b == ch ' ' || b == ch '\r' || b == ch '\n' || b == ch '\t') && fl.ignoreSpace then
        optionalWhitespace (re.size + 1) re fl (ix + 1)
      else if b == ch '(' && startsWithAt re ix [ch '(', ch '?', ch '#'] then
        match skipComment (re.size + 1) re (ix + 3) with
        | .ok ix' => optionalWhitespace (re.size + 1) re fl ix'
        | .err k p => .err k p
        | .cerr => .cerr
        | .panic s => .panic s
        | .outOfFuel => .outOfFuel
      else .ok ix := by
  have hlt := lt_size_of_get hg
  have hne : (ix == re.size) = false := by simpa using (by omega : ix ≠ re.size)
  unfold optWs
  rw [optionalWhitespace]
  simp only [hne, Bool.false_eq_true, ↓reduceIte, hg]
  rfl

/-- **a `(?#…)` comment is skipped, whatever the flags**: if `(?#` starts at `ix` and the comment
    loop ends at `j` (just after the closing parenthesis), `optional_whitespace` from `ix` is
    `optional_whitespace` from `j` -/
theorem C19_optWs_comment {re : Bytes} (fl : Flags) {ix j : Nat}
    (hs : startsWithAt re ix [ch '(', ch '?', ch '#'] = true)
    (hc : skipComment (re.size + 1) re (ix + 3) = .ok j) : optWs re fl ix = optWs re fl j := by
  have hg := (startsWithAt_head hs).1
  have hlt := lt_size_of_get hg
  have hsc := goodS_skipComment re (re.size + 1) (ix + 3) (by omega) (by omega)
  rw [hc] at hsc
  simp only [GoodS_ok] at hsc
  rw [optWs_step hg]
  have e1 : (ch '(' == ch '#') = false := by decide
  have e2 : (ch '(' == ch ' ' || ch '(' == ch '\r' || ch '(' == ch '\n' || ch '(' == ch '\t') = false := by
    decide
  simp only [e1, e2, Bool.false_and, Bool.false_eq_true, ↓reduceIte, beq_self_eq_true, hs, Bool.and_self, hc]
  exact optionalWhitespace_eq_optWs hsc.2.1 (by omega)

theorem get_mid {re : Bytes} {pre mid post : List Nat} (h : re.toList = pre ++ (mid ++ post)) {k : Nat}
    (hk : k < mid.length) : re[pre.length + k]? = mid[k]? := by
  rw [← Array.getElem?_toList, h, List.getElem?_append_right (by omega),
    show pre.length + k - pre.length = k by omega, List.getElem?_append_left hk]

/-- the comment loop over a body without `)` and `\` ends after the next `)` -/
theorem skipComment_body {re : Bytes} : ∀ (cm pre post : List Nat) (f : Nat),
    re.toList = pre ++ (cm ++ ch ')' :: post) → (∀ b ∈ cm, b ≠ ch ')' ∧ b ≠ ch '\\') →
    cm.length < f → skipComment f re pre.length = .ok (pre.length + cm.length + 1) := by
  intro cm
  induction cm with
  | nil =>
    intro pre post f h _ hf
    obtain ⟨f, rfl⟩ := Nat.exists_eq_add_one_of_ne_zero (Nat.ne_zero_of_lt hf)
    have hg : re[pre.length]? = some (ch ')') := get_of_split (by simpa using h)
    have hlt := lt_size_of_get hg
    have : ¬ (pre.length ≥ re.size) := by omega
    simp [skipComment, this, hg]
  | cons c cm ih =>
    intro pre post f h hb hf
    obtain ⟨f, rfl⟩ := Nat.exists_eq_add_one_of_ne_zero (Nat.ne_zero_of_lt hf)
    have hg : re[pre.length]? = some c := get_of_split (by simpa using h)
    have hlt := lt_size_of_get hg
    have hge : ¬ (pre.length ≥ re.size) := by omega
    have hc := hb c (by simp)
    have h1 : (c == ch ')') = false := by simpa using hc.1
    have h2 : (c == ch '\\') = false := by simpa using hc.2
    have := ih (pre ++ [c]) post f (by rw [h]; simp) (fun b hb' => hb b (by simp [hb']))
      (by simp only [List.length_cons] at hf; omega)
    simp only [List.length_append, List.length_cons, List.length_nil, Nat.zero_add] at this
    simp only [skipComment, hge, ↓reduceIte, hg, h1, h2, Bool.false_eq_true, this, List.length_cons]
    congr 1; omega

/-- **C19_comment_skipped** (`optional_whitespace` part): in a pattern `pre (?# cm ) post` whose
    comment text `cm` contains no `)` and no backslash, `optional_whitespace` from the `(` equals
    `optional_whitespace` from just after the `)` — for every flag state -/
theorem C19_comment_skipped {re : Bytes} (fl : Flags) (pre cm post : List Nat)
    (h : re.toList = pre ++ ([ch '(', ch '?', ch '#'] ++ cm ++ ch ')' :: post))
    (hcm : ∀ b ∈ cm, b ≠ ch ')' ∧ b ≠ ch '\\') :
    optWs re fl pre.length = optWs re fl (pre.length + cm.length + 4) := by
  have hsz := size_of_split h
  simp only [List.length_append, List.length_cons, List.length_nil] at hsz
  have hs : startsWithAt re pre.length [ch '(', ch '?', ch '#'] = true := by
    have g (k : Nat) (hk : k < 3) : re[pre.length + k]? = ([ch '(', ch '?', ch '#'] ++ cm)[k]? :=
      get_mid h (by simp only [List.length_append, List.length_cons, List.length_nil]; omega)
    have g0 : re[pre.length]? = some (ch '(') := g 0 (by decide)
    have g1 : re[pre.length + 1]? = some (ch '?') := g 1 (by decide)
    have g2 : re[pre.length + 1 + 1]? = some (ch '#') := g 2 (by decide)
    simp only [startsWithAt, g0, g1, g2, beq_self_eq_true, Bool.and_self]
  have hc := skipComment_body (re := re) cm (pre ++ [ch '(', ch '?', ch '#']) post (re.size + 1)
    (by rw [h]; simp) hcm (by omega)
  simp only [List.length_append, List.length_cons, List.length_nil, Nat.zero_add] at hc
  rw [C19_optWs_comment fl hs hc]
  congr 1; omega

/-- **white space is skipped under the `x` flag** -/
theorem C19_optWs_space {re : Bytes} {fl : Flags} {ix b : Nat} (hx : fl.ignoreSpace = true)
    (hg : re[ix]? = some b) (hb : b = ch ' ' ∨ b = ch '\r' ∨ b = ch '\n' ∨ b = ch '\t') :
    optWs re fl ix = optWs re fl (ix + 1) := by
  have hlt := lt_size_of_get hg
  rw [optWs_step hg]
  have e1 : (b == ch '#') = false := by rcases hb with h | h | h | h <;> (subst h; decide)
  have e2 : (b == ch ' ' || b == ch '\r' || b == ch '\n' || b == ch '\t') = true := by
    rcases hb with h | h | h | h <;> (subst h; decide)
  simp only [e1, e2, hx, Bool.false_and, Bool.false_eq_true, ↓reduceIte, Bool.and_self]
  exact optionalWhitespace_eq_optWs (by omega) (by omega)

/-- **a `#` comment is skipped to the end of the line under the `x` flag** (`x` = distance to the
    next newline) -/
theorem C19_optWs_line_comment {re : Bytes} {fl : Flags} {ix x : Nat} (hx : fl.ignoreSpace = true)
    (hg : re[ix]? = some (ch '#')) (hnl : (re.toList.drop ix).findIdx? (· == 10) = some x) :
    optWs re fl ix = optWs re fl (ix + x + 1) := by
  rw [optWs_step hg]
  obtain ⟨hxl, _, _⟩ := List.findIdx?_eq_some_iff_getElem.mp hnl
  simp only [List.length_drop, Array.length_toList] at hxl
  simp only [beq_self_eq_true, hx, Bool.and_self, ↓reduceIte, hnl]
  exact optionalWhitespace_eq_optWs (by omega) (by omega)

/-- … and to the end of the pattern if there is no newline -/
theorem C19_optWs_line_comment_end {re : Bytes} {fl : Flags} {ix : Nat} (hx : fl.ignoreSpace = true)
    (hg : re[ix]? = some (ch '#')) (hnl : (re.toList.drop ix).findIdx? (· == 10) = none) :
    optWs re fl ix = .ok re.size := by
  rw [optWs_step hg]
  simp only [beq_self_eq_true, hx, Bool.and_self, ↓reduceIte, hnl]

/-- **… and exactly under the `x` flag**: without it white space and `#` (every byte but a `(`)
    stop `optional_whitespace` -/
theorem C19_optWs_no_x {re : Bytes} {fl : Flags} {ix b : Nat} (hx : fl.ignoreSpace = false)
    (hg : re[ix]? = some b) (hb : b ≠ ch '(') : optWs re fl ix = .ok ix :=
  optWs_stay hx (Nat.le_of_lt (lt_size_of_get hg)) (by intro b' hb'; rw [hg] at hb'; cases hb'; exact hb)

/-! ### what skipping means for the descent -/

/-- `parse_atom` starts with `optional_whitespace`: two indices from which that gives the same
    answer give the same atom (same fuel, same state) -/
theorem parseAtom_skip (isAlnum : Char → Bool) {re : Bytes} (f : Nat) (st : PState) (d : Nat) {ix j : Nat}
    (h : optWs re st.flags ix = optWs re st.flags j) :
    parseAtom isAlnum f re st ix d = parseAtom isAlnum f re st j d := by
  cases f with
  | zero => simp [parseAtom]
  | succ f => simp only [parseAtom, h]

theorem parsePiece_skip (isAlnum : Char → Bool) {re : Bytes} (f : Nat) (st : PState) (d : Nat) {ix j : Nat}
    (h : optWs re st.flags ix = optWs re st.flags j) :
    parsePiece isAlnum f re st ix d = parsePiece isAlnum f re st j d := by
  cases f with
  | zero => simp [parsePiece]
  | succ f => simp only [parsePiece, parseAtom_skip isAlnum f st d h]

/-- **C19_comment_skipped** (`parse_branch` part): a stretch `[ix, j)` that `optional_whitespace`
    skips (a `(?#…)` comment — `C19_comment_skipped` —, or white space / a `#` comment under `x`)
    in front of a piece that consumes something adds nothing to the children of the branch: the
    loop of `parse_branch` from `ix` is the loop from `j` -/
theorem C19_skipped_before_piece (isAlnum : Char → Bool) {re : Bytes} (f : Nat) (st : PState) (d : Nat)
    {ix j : Nat} (h : optWs re st.flags ix = optWs re st.flags j) (hij : ix < j) (hj : j < re.size)
    (hp : ∀ next child st', parsePiece isAlnum f re st j d = .ok (next, child, st') → j < next) :
    branchLoop isAlnum (f + 1) re st ix d = branchLoop isAlnum (f + 1) re st j d := by
  have hi : ix < re.size := by omega
  rw [branchLoop, branchLoop]
  simp only [hi, hj, ↓reduceIte, parsePiece_skip isAlnum f st d h]
  cases hres : parsePiece isAlnum f re st j d with
  | ok r =>
    obtain ⟨next, child, st'⟩ := r
    have := hp next child st' hres
    have e1 : (next == ix) = false := by simpa using (by omega : next ≠ ix)
    have e2 : (next == j) = false := by simpa using (by omega : next ≠ j)
    simp only [Res.ok_bind, e1, e2, Bool.false_eq_true, ↓reduceIte]
  | _ => rfl

-- the hypotheses are satisfiable: in `a(?#c)b` the comment at 1..6 is skipped, the piece `b` follows
example : startsWithAt (bytesOf "a(?#c)b".toList) 1 [ch '(', ch '?', ch '#'] = true ∧
    skipComment ((bytesOf "a(?#c)b".toList).size + 1) (bytesOf "a(?#c)b".toList) 4 = .ok 6 :=
  ⟨by decide +kernel, by rfl⟩

-- whole patterns, by evaluation of the model: comments, and white space / `#` comments under `x`,
-- leave no trace in the tree; without `x` they are literals
example : parseStr (fun c => c.isAlphanum) "a(?#c)b".toList false =
    parseStr (fun c => c.isAlphanum) "ab".toList false :=
  (isTree_sound (e := .concat [.literal ['a'] false, .literal ['b'] false]) (br := []) (ng := [])
    (by decide +kernel)).trans (isTree_sound (by decide +kernel)).symm
example : parseStr (fun c => c.isAlphanum) "(?x) a b # c\n c".toList false =
    parseStr (fun c => c.isAlphanum) "(?x)abc".toList false :=
  (isTree_sound (e := .concat [.literal ['a'] false, .literal ['b'] false, .literal ['c'] false])
    (br := []) (ng := []) (by decide +kernel)).trans (isTree_sound (by decide +kernel)).symm
example : parseStr (fun c => c.isAlphanum) "a #".toList false =
    .ok ⟨.concat [.literal ['a'] false, .literal [' '] false, .literal ['#'] false], [], []⟩ :=
  isTree_sound (by decide +kernel)
-- why "inserting a comment never changes the outcome" is false without side conditions: the
-- back-reference bound `group < re.len() / 2` depends on the length of the pattern
example : parseStr (fun c => c.isAlphanum) "\\1".toList false = .err .invalidBackref 1 ∧
    parseStr (fun c => c.isAlphanum) "(?#c)\\1".toList false = .ok ⟨.backref 1, [1], []⟩ :=
  ⟨isErr_sound (by decide +kernel), isTree_sound (by decide +kernel)⟩

/-! ## the escape table -/

/-- `\h` is the class of hex digits (a delegate, never case-insensitive), in or out of a class,
    whatever the flags -/
theorem C19_escape_h (isAlnum : Char → Bool) {re : Bytes} (st : PState) {ix : Nat} (inClass : Bool)
    (h1 : re[ix + 1]? = some (ch 'h')) :
    parseEscape isAlnum re st ix inClass =
      .ok (ix + 2, .delegate "[0-9A-Fa-f]".toList 1 false, st) := by
  simp [parseEscape, h1, isDigit, ch, codepointLen]

/-- `\H` is its complement -/
theorem C19_escape_H (isAlnum : Char → Bool) {re : Bytes} (st : PState) {ix : Nat} (inClass : Bool)
    (h1 : re[ix + 1]? = some (ch 'H')) :
    parseEscape isAlnum re st ix inClass =
      .ok (ix + 2, .delegate "[^0-9A-Fa-f]".toList 1 false, st) := by
  simp [parseEscape, h1, isDigit, ch, codepointLen]

/-- `\e` is the literal U+001B (`make_literal`: `casei = false`) -/
theorem C19_escape_e (isAlnum : Char → Bool) {re : Bytes} (st : PState) {ix : Nat} (inClass : Bool)
    (h1 : re[ix + 1]? = some (ch 'e')) :
    parseEscape isAlnum re st ix inClass = .ok (ix + 2, .literal ['\x1b'] false, st) := by
  simp [parseEscape, h1, isDigit, ch, codepointLen, makeLiteral]

/-- `\A` is the start-of-text assertion (what `^` is without the `m` flag) -/
theorem C19_escape_A (isAlnum : Char → Bool) {re : Bytes} (st : PState) {ix : Nat}
    (h1 : re[ix + 1]? = some (ch 'A')) :
    parseEscape isAlnum re st ix false = .ok (ix + 2, .assertion .startText, st) := by
  simp [parseEscape, h1, isDigit, ch, codepointLen]

/-- `\z` is the end-of-text assertion (what `$` is without the `m` flag) -/
theorem C19_escape_z (isAlnum : Char → Bool) {re : Bytes} (st : PState) {ix : Nat}
    (h1 : re[ix + 1]? = some (ch 'z')) :
    parseEscape isAlnum re st ix false = .ok (ix + 2, .assertion .endText, st) := by
  simp [parseEscape, h1, isDigit, ch, codepointLen]

/-! ### hex and unicode escapes -/

def hexValue (ds : List Nat) : Nat := ds.foldl (fun a d => a * 16 + hexVal d) 0

theorem parseHexU32_hex {ds : List Nat} (hne : ds ≠ []) (hall : ∀ d ∈ ds, isHexDigit d = true)
    (hlen : ds.length ≤ 8) : parseHexU32 ds = some (hexValue ds) := by
  unfold parseHexU32 hexValue
  have hb := foldl_hex_bound ds 0 hall
  have hp : 16 ^ ds.length ≤ 16 ^ 8 := Nat.pow_le_pow_right (by omega) hlen
  have : ds.isEmpty = false := by cases ds <;> simp_all
  simp only [this, Bool.false_eq_true, ↓reduceIte]
  simp only [Nat.zero_add, Nat.one_mul] at hb
  have h8 : (16:Nat) ^ 8 = 4294967296 := by decide
  rw [if_pos (by omega)]

/-- what `parse_hex` makes of the digits `ds` ending at `e`: the literal of the scalar value, or
    `InvalidCodepointValue` (a surrogate, or beyond U+10FFFF) -/
def hexResult (fl : Flags) (ix e : Nat) (ds : List Nat) : Res (Nat × Expr) :=
  if (hexValue ds).isValidChar then .ok (e, .literal [mkChar (hexValue ds)] fl.casei)
  else .err .invalidCodepointValue ix

/-- `parse_hex(ix, digits)` on exactly `digits` hex digits (`\xHH`, `\uHHHH`, `\UHHHHHHHH`) -/
theorem parseHex_fixed {re : Bytes} (hwf : WF re) (fl : Flags) {pre ds post : List Nat}
    (h : re.toList = pre ++ (ds ++ post)) (hne : ds ≠ []) (hall : ∀ d ∈ ds, isHexDigit d = true)
    (hlen : ds.length ≤ 8) :
    parseHex re fl pre.length ds.length = hexResult fl pre.length (pre.length + ds.length) ds := by
  have hpos : 0 < ds.length := List.length_pos_iff.mpr hne
  have hsz := size_of_split h
  simp only [List.length_append] at hsz
  have hg0 : re[pre.length]? = ds[0]? := by simpa using get_mid h hpos
  obtain ⟨b, hb⟩ : ∃ b, ds[0]? = some b := ⟨ds[0], by simp⟩
  have hbh : isHexDigit b = true := hall b (List.mem_of_getElem? hb)
  rw [hb] at hg0
  have hb0 : isBoundary re pre.length = true := isBoundary_of_ascii hg0 (isHexDigit_ascii hbh)
  have hb1 : isBoundary re (pre.length + ds.length) = true := by
    have hk : ds.length - 1 < ds.length := by omega
    have hl := get_mid h hk
    rw [List.getElem?_eq_getElem hk] at hl
    have := hwf.step_ascii hl (isHexDigit_ascii (hall _ (List.getElem_mem hk)))
    rwa [show pre.length + (ds.length - 1) + 1 = pre.length + ds.length by omega] at this
  have hex := extract_of_split h
  have hge : ¬ (pre.length ≥ re.size) := by omega
  have hle : pre.length + ds.length ≤ re.size := by omega
  have hallb : ds.all isHexDigit = true := List.all_eq_true.mpr hall
  unfold parseHex
  simp only [hge, ↓reduceIte, byteAt, hg0, Res.ok_bind, hle, decide_true, hex, hallb, Bool.and_self,
    slice, sliceOk, Nat.le_add_right, hb0, hb1, Res.pure_bind', parseHexU32_hex hne hall hlen, hexResult]

/-- the `{…}` loop of `parse_hex` over the digits `ds` followed by `}` -/
theorem hexBraceLoop_digits {re : Bytes} (ix0 : Nat) {pre ds post : List Nat}
    (h : re.toList = pre ++ (ds ++ ch '}' :: post)) (hne : ds ≠ [])
    (hall : ∀ d ∈ ds, isHexDigit d = true) (hlen : ds.length ≤ 8) :
    ∀ (n k f : Nat), k + n = ds.length → n < f →
    hexBraceLoop f re ix0 pre.length (pre.length + k) = .ok (pre.length + ds.length) := by
  have hpos : 0 < ds.length := List.length_pos_iff.mpr hne
  have hsz := size_of_split h
  simp only [List.length_append, List.length_cons] at hsz
  intro n
  induction n with
  | zero =>
    intro k f hk hf
    obtain ⟨f, rfl⟩ := Nat.exists_eq_add_one_of_ne_zero (Nat.ne_zero_of_lt hf)
    have hk' : k = ds.length := by omega
    subst hk'
    have hg : re[pre.length + ds.length]? = some (ch '}') := by
      have := get_of_split (re := re) (pre := pre ++ ds) (b := ch '}') (post := post) (by rw [h]; simp)
      simpa using this
    have hne' : (pre.length + ds.length == re.size) = false := by
      simpa using (by omega : pre.length + ds.length ≠ re.size)
    have hgt : pre.length + ds.length > pre.length := by omega
    simp only [hexBraceLoop, hne', Bool.false_eq_true, ↓reduceIte, hg, hgt, decide_true, beq_self_eq_true,
      Bool.and_self]
  | succ n ih =>
    intro k f hk hf
    obtain ⟨f, rfl⟩ := Nat.exists_eq_add_one_of_ne_zero (Nat.ne_zero_of_lt hf)
    have hkl : k < ds.length := by omega
    have hg : re[pre.length + k]? = ds[k]? := get_mid (post := ch '}' :: post) h hkl
    obtain ⟨b, hb⟩ : ∃ b, ds[k]? = some b := ⟨ds[k], by simp [hkl]⟩
    rw [hb] at hg
    have hbh : isHexDigit b = true := hall b (List.mem_of_getElem? hb)
    have hnb : (b == ch '}') = false := by
      cases hc : b == ch '}' with
      | false => rfl
      | true =>
        have : b = ch '}' := by simpa using hc
        subst this; exact absurd hbh (by decide)
    have hne' : (pre.length + k == re.size) = false := by
      simpa using (by omega : pre.length + k ≠ re.size)
    have hlt8 : pre.length + k < pre.length + 8 := by omega
    have := ih (k + 1) f (by omega) (by omega)
    rw [show pre.length + (k + 1) = pre.length + k + 1 by omega] at this
    simp only [hexBraceLoop, hne', Bool.false_eq_true, ↓reduceIte, hg, hnb, Bool.and_false, hbh, hlt8,
      decide_true, Bool.and_self, this]

/-- `parse_hex(ix, digits)` on `{H…}` (1 to 8 hex digits): `\x{…}`, `\u{…}`, `\U{…}` -/
theorem parseHex_brace {re : Bytes} (hwf : WF re) (fl : Flags) {pre ds post : List Nat} {digits : Nat}
    (h : re.toList = pre ++ (ch '{' :: ds ++ ch '}' :: post)) (hne : ds ≠ [])
    (hall : ∀ d ∈ ds, isHexDigit d = true) (hlen : ds.length ≤ 8) (hd : 0 < digits) :
    parseHex re fl pre.length digits =
      hexResult fl pre.length (pre.length + ds.length + 2) ds := by
  have hpos : 0 < ds.length := List.length_pos_iff.mpr hne
  have hsz := size_of_split h
  simp only [List.length_append, List.length_cons] at hsz
  have hg0 : re[pre.length]? = some (ch '{') := get_of_split (post := ds ++ ch '}' :: post) (by rw [h]; simp)
  have h' : re.toList = (pre ++ [ch '{']) ++ (ds ++ ch '}' :: post) := by rw [h]; simp
  have hlen' : (pre ++ [ch '{']).length = pre.length + 1 := by simp
  have hloop := hexBraceLoop_digits pre.length h' hne hall hlen ds.length 0 16 (by omega) (by omega)
  rw [hlen'] at hloop
  have hb1 : isBoundary re (pre.length + 1) = true := hwf.step_ascii hg0 (by decide)
  have hgc : re[pre.length + 1 + ds.length]? = some (ch '}') := by
    have := get_of_split (re := re) (pre := pre ++ [ch '{'] ++ ds) (b := ch '}') (post := post)
      (by rw [h]; simp)
    simp only [List.length_append, List.length_cons, List.length_nil, Nat.zero_add] at this
    exact this
  have hb2 : isBoundary re (pre.length + 1 + ds.length) = true := isBoundary_of_ascii hgc (by decide)
  have hex := extract_of_split h'
  rw [hlen'] at hex
  have hge : ¬ (pre.length ≥ re.size) := by omega
  have hfirst : (decide (pre.length + digits ≤ re.size) &&
      (re.extract pre.length (pre.length + digits)).toList.all isHexDigit) = false := by
    rw [Array.toList_extract, List.extract_eq_take_drop, h]
    obtain ⟨dg, rfl⟩ := Nat.exists_eq_add_one_of_ne_zero (Nat.ne_zero_of_lt hd)
    have : isHexDigit (ch '{') = false := by decide
    simp [this]
  have hle : pre.length + 1 ≤ pre.length + 1 + ds.length := Nat.le_add_right _ _
  have hle2 : pre.length + 1 + ds.length ≤ re.size := by omega
  unfold parseHex
  simp only [hge, ↓reduceIte, byteAt, hg0, Res.ok_bind, hfirst, Bool.false_eq_true, beq_self_eq_true,
    hloop, slice, sliceOk, hle, hle2, decide_true, hb1, hb2, Bool.and_self, hex,
    Res.pure_bind', parseHexU32_hex hne hall hlen, hexResult]
  rw [show pre.length + 1 + ds.length + 1 = pre.length + ds.length + 2 by omega]

/-- the three hex escapes hand over to `parse_hex` with 2, 4, 8 digits -/
theorem parseEscape_hex (isAlnum : Char → Bool) {re : Bytes} (st : PState) {ix : Nat} (inClass : Bool)
    {l digits : Nat} (h1 : re[ix + 1]? = some l)
    (hl : (l = ch 'x' ∧ digits = 2) ∨ (l = ch 'u' ∧ digits = 4) ∨ (l = ch 'U' ∧ digits = 8)) :
    parseEscape isAlnum re st ix inClass =
      (parseHex re st.flags (ix + 2) digits >>= fun r => .ok (r.1, r.2, st)) := by
  rcases hl with ⟨rfl, rfl⟩ | ⟨rfl, rfl⟩ | ⟨rfl, rfl⟩ <;>
    simp [parseEscape, h1, isDigit, ch, codepointLen] <;> rfl

/-- the result of a hex escape: `hexResult` with the parser state attached -/
def hexEscResult (st : PState) (ix e : Nat) (ds : List Nat) : Res (Nat × Expr × PState) :=
  if (hexValue ds).isValidChar then .ok (e, .literal [mkChar (hexValue ds)] st.flags.casei, st)
  else .err .invalidCodepointValue ix

theorem hexResult_bind (st : PState) (ix e : Nat) (ds : List Nat) :
    (hexResult st.flags ix e ds >>= fun r => Res.ok (r.1, r.2, st)) = hexEscResult st ix e ds := by
  unfold hexResult hexEscResult
  split <;> rfl

/-- **`\xHH`, `\uHHHH`, `\UHHHHHHHH`**: the escape letter followed by exactly 2 / 4 / 8 hex digits
    `ds` is the literal of the scalar value `hexValue ds` with the current `i` flag — the tree of
    that character written directly (`parseAtom_plain` in C17b) — or `InvalidCodepointValue` if the
    value is not a scalar value; in or out of a class, whatever the flags -/
theorem C19_escape_hex_fixed (isAlnum : Char → Bool) {re : Bytes} (hwf : WF re) (st : PState)
    (inClass : Bool) {pre ds post : List Nat} {l : Nat}
    (h : re.toList = pre ++ (ch '\\' :: l :: ds ++ post))
    (hl : (l = ch 'x' ∧ ds.length = 2) ∨ (l = ch 'u' ∧ ds.length = 4) ∨ (l = ch 'U' ∧ ds.length = 8))
    (hall : ∀ d ∈ ds, isHexDigit d = true) :
    parseEscape isAlnum re st pre.length inClass =
      hexEscResult st (pre.length + 2) (pre.length + 2 + ds.length) ds := by
  have hne : ds ≠ [] := by
    intro e; subst e; simp at hl
  have hlen : ds.length ≤ 8 := by omega
  have h1 : re[pre.length + 1]? = some l := by
    have := get_of_split (re := re) (pre := pre ++ [ch '\\']) (b := l) (post := ds ++ post)
      (by rw [h]; simp)
    simpa using this
  have h' : re.toList = (pre ++ [ch '\\', l]) ++ (ds ++ post) := by rw [h]; simp
  have hlen' : (pre ++ [ch '\\', l]).length = pre.length + 2 := by simp
  have hx := parseHex_fixed hwf st.flags h' hne hall hlen
  rw [hlen'] at hx
  rw [parseEscape_hex isAlnum st inClass h1 hl, hx, hexResult_bind]

/-- **`\x{H…}`, `\u{H…}`, `\U{H…}`** (1 to 8 hex digits in braces): the same literal -/
theorem C19_escape_hex_brace (isAlnum : Char → Bool) {re : Bytes} (hwf : WF re) (st : PState)
    (inClass : Bool) {pre ds post : List Nat} {l : Nat}
    (h : re.toList = pre ++ (ch '\\' :: l :: ch '{' :: ds ++ ch '}' :: post))
    (hl : l = ch 'x' ∨ l = ch 'u' ∨ l = ch 'U') (hne : ds ≠ [])
    (hall : ∀ d ∈ ds, isHexDigit d = true) (hlen : ds.length ≤ 8) :
    parseEscape isAlnum re st pre.length inClass =
      hexEscResult st (pre.length + 2) (pre.length + ds.length + 4) ds := by
  have h1 : re[pre.length + 1]? = some l := by
    have := get_of_split (re := re) (pre := pre ++ [ch '\\']) (b := l)
      (post := ch '{' :: ds ++ ch '}' :: post) (by rw [h]; simp)
    simpa using this
  have h' : re.toList = (pre ++ [ch '\\', l]) ++ (ch '{' :: ds ++ ch '}' :: post) := by rw [h]; simp
  have hlen' : (pre ++ [ch '\\', l]).length = pre.length + 2 := by simp
  obtain ⟨digits, hd, hl'⟩ : ∃ digits, 0 < digits ∧
      ((l = ch 'x' ∧ digits = 2) ∨ (l = ch 'u' ∧ digits = 4) ∨ (l = ch 'U' ∧ digits = 8)) := by
    rcases hl with rfl | rfl | rfl
    · exact ⟨2, by omega, Or.inl ⟨rfl, rfl⟩⟩
    · exact ⟨4, by omega, Or.inr (Or.inl ⟨rfl, rfl⟩)⟩
    · exact ⟨8, by omega, Or.inr (Or.inr ⟨rfl, rfl⟩)⟩
  have hx := parseHex_brace hwf st.flags (digits := digits) h' hne hall hlen hd
  rw [hlen'] at hx
  rw [parseEscape_hex isAlnum st inClass h1 hl', hx, hexResult_bind]
  rw [show pre.length + 2 + ds.length + 2 = pre.length + ds.length + 4 by omega]

-- `\x41`, `A`, `\x{41}` and `A` are the same tree; `\e` is `\x1B`; `\A`/`\z` are `^`/`$`
example : hexValue [52, 49] = 65 ∧ mkChar 65 = 'A' := by decide
example : parseStr (fun c => c.isAlphanum) "\\x41\\u0041\\x{41}\\U00000041".toList false =
    parseStr (fun c => c.isAlphanum) "AAAA".toList false :=
  (isTree_sound (e := .concat [.literal ['A'] false, .literal ['A'] false, .literal ['A'] false,
    .literal ['A'] false]) (br := []) (ng := []) (by decide +kernel)).trans
    (isTree_sound (by decide +kernel)).symm
example : parseStr (fun c => c.isAlphanum) "\\e\\A\\z\\h".toList false =
    parseStr (fun c => c.isAlphanum) "\\x1B^$[0-9A-Fa-f]".toList false :=
  (isTree_sound (e := .concat [.literal ['\x1b'] false, .assertion .startText, .assertion .endText,
    .delegate "[0-9A-Fa-f]".toList 1 false]) (br := []) (ng := []) (by decide +kernel)).trans
    (isTree_sound (by decide +kernel)).symm
-- a surrogate is rejected
example : parseStr (fun c => c.isAlphanum) "\\uD800".toList false = .err .invalidCodepointValue 2 :=
  isErr_sound (by decide +kernel)

/-! ## scoped flag groups restore the flags; inline flags do not (F19) -/

/-- **C19_scoped_flags_restore**: what `parse_flags` returns, in terms of where its letter loop
    stops.  At `)` (an inline flag group `(?i)`) the result is an `Empty` piece and the **new** flags
    stay in force; at `:` (a scoped group `(?i:X)`) the body `X` is parsed by `parse_re` under the
    new flags, must be followed by `)`, and the flags the parser had **before the group** are put
    back — whatever `X` did to them. -/
theorem C19_scoped_flags_restore (isAlnum : Char → Bool) {re : Bytes} {f : Nat} {st st' : PState}
    {ix d ix' : Nat} {e : Expr} (h : parseFlags isAlnum (f + 1) re st ix d = .ok (ix', e, st')) :
    ∃ fe fl, flagsLoop (re.size + 2) re st.flags (ix + 1) (ix + 1) false = .ok (fe, fl) ∧
      match fe with
      | .close i => ix' = i + 1 ∧ e = .empty ∧ st' = { st with flags := fl }
      | .colon i => ∃ ix2 st2, parseRe isAlnum f re { st with flags := fl } (i + 1) d = .ok (ix2, e, st2) ∧
          re[ix2]? = some (ch ')') ∧ ix' = ix2 + 1 ∧ st' = { st2 with flags := st.flags } := by
  simp only [parseFlags] at h
  cases hl : flagsLoop (re.size + 2) re st.flags (ix + 1) (ix + 1) false with
  | ok r =>
    obtain ⟨fe, fl⟩ := r
    rw [hl] at h
    simp only [Res.ok_bind] at h
    refine ⟨fe, fl, rfl, ?_⟩
    cases fe with
    | close i =>
      simp only [Res.ok.injEq, Prod.mk.injEq] at h
      exact ⟨h.1.symm, h.2.1.symm, h.2.2.symm⟩
    | colon i =>
      simp only at h
      cases hr : parseRe isAlnum f re { st with flags := fl } (i + 1) d with
      | ok r =>
        obtain ⟨ix2, child, st2⟩ := r
        rw [hr] at h
        simp only [Res.ok_bind] at h
        split at h
        · cases h
        · rename_i hne
          unfold byteAt at h
          cases hg : re[ix2]? with
          | none => rw [hg] at h; cases h
          | some b =>
            rw [hg] at h
            simp only [Res.ok_bind] at h
            split at h
            · cases h
            · rename_i hb
              have hb' : b = ch ')' := by simpa using hb
              simp only [Res.ok.injEq, Prod.mk.injEq] at h
              refine ⟨ix2, st2, ?_, by rw [hg, hb'], h.1.symm, h.2.2.symm⟩
              rw [← h.2.1]; exact hr
      | err k p => rw [hr] at h; cases h
      | cerr => rw [hr] at h; cases h
      | panic s => rw [hr] at h; cases h
      | outOfFuel => rw [hr] at h; cases h
  | err k p => rw [hl] at h; cases h
  | cerr => rw [hl] at h; cases h
  | panic s => rw [hl] at h; cases h
  | outOfFuel => rw [hl] at h; cases h

/-- after a scoped flag group the parser's flags are the ones before the group: in `(?i:X)Y` the
    piece `Y` is parsed under the outer flags -/
theorem C19_scoped_flags_outer (isAlnum : Char → Bool) {re : Bytes} {f : Nat} {st st' : PState}
    {ix d ix' i : Nat} {e : Expr} {fl : Flags}
    (h : parseFlags isAlnum (f + 1) re st ix d = .ok (ix', e, st'))
    (hl : flagsLoop (re.size + 2) re st.flags (ix + 1) (ix + 1) false = .ok (.colon i, fl)) :
    st'.flags = st.flags := by
  obtain ⟨fe, fl', h1, h2⟩ := C19_scoped_flags_restore isAlnum h
  rw [hl] at h1
  cases h1
  obtain ⟨ix2, st2, _, _, _, rfl⟩ := h2
  rfl

/-- after an inline flag group the new flags stay -/
theorem C19_inline_flags_stay (isAlnum : Char → Bool) {re : Bytes} {f : Nat} {st st' : PState}
    {ix d ix' i : Nat} {e : Expr} {fl : Flags}
    (h : parseFlags isAlnum (f + 1) re st ix d = .ok (ix', e, st'))
    (hl : flagsLoop (re.size + 2) re st.flags (ix + 1) (ix + 1) false = .ok (.close i, fl)) :
    st'.flags = fl ∧ e = .empty := by
  obtain ⟨fe, fl', h1, h2⟩ := C19_scoped_flags_restore isAlnum h
  rw [hl] at h1
  cases h1
  obtain ⟨_, rfl, rfl⟩ := h2
  exact ⟨rfl, rfl⟩

-- `(?i:a)b`: `b` is parsed under the outer flags; `(?i)ab`: both under `i`; `(?i:(?-i)a)b`: the
-- body switched `i` off again, `b` still gets the outer flags
example : parseStr (fun c => c.isAlphanum) "(?i:a)b".toList false =
    .ok ⟨.concat [.literal ['a'] true, .literal ['b'] false], [], []⟩ := isTree_sound (by decide +kernel)
example : parseStr (fun c => c.isAlphanum) "(?i)ab".toList false =
    .ok ⟨.concat [.literal ['a'] true, .literal ['b'] true], [], []⟩ := isTree_sound (by decide +kernel)
example : parseStr (fun c => c.isAlphanum) "(?i:(?-i)a)b".toList true =
    .ok ⟨.concat [.literal ['a'] false, .literal ['b'] true], [], []⟩ := isTree_sound (by decide +kernel)

/-- **C19_F19_flags_leak** (the model mirrors the known defect F19, negative theorem): an inline
    flag group inside a *capturing* group leaks out of it — `((?i)a)b` parses with a
    case-insensitive `b`, whereas the scoped spelling `((?i:a))b` does not; `parse_group` does not
    restore the flags after the group body, only `(?flags:…)` does.  The same for an atomic group
    and a look-ahead. -/
theorem C19_F19_flags_leak :
    parseStr (fun c => c.isAlphanum) "((?i)a)b".toList false =
      .ok ⟨.concat [.group 0 (.literal ['a'] true), .literal ['b'] true], [], []⟩ ∧
    parseStr (fun c => c.isAlphanum) "((?i:a))b".toList false =
      .ok ⟨.concat [.group 0 (.literal ['a'] true), .literal ['b'] false], [], []⟩ ∧
    parseStr (fun c => c.isAlphanum) "(?>(?i)a)b".toList false =
      .ok ⟨.concat [.atomic (.literal ['a'] true), .literal ['b'] true], [], []⟩ ∧
    parseStr (fun c => c.isAlphanum) "(?=(?i)a)ab".toList false =
      .ok ⟨.concat [.look (.literal ['a'] true) .ahead, .literal ['a'] true, .literal ['b'] true], [], []⟩ :=
  ⟨isTree_sound (by decide +kernel), isTree_sound (by decide +kernel),
   isTree_sound (by decide +kernel), isTree_sound (by decide +kernel)⟩

/-- the two spellings are not the same tree -/
theorem C19_F19_trees_differ :
    parseStr (fun c => c.isAlphanum) "((?i)a)b".toList false ≠
      parseStr (fun c => c.isAlphanum) "((?i:a))b".toList false := by
  rw [C19_F19_flags_leak.1, C19_F19_flags_leak.2.1]
  intro h
  simp at h

/-! ## relative back-references -/

/-- `"-n".parse::<isize>()` -/
theorem parseIsize_neg {ds : List Nat} (hne : ds ≠ []) (hall : ds.all isDigit = true)
    (hv : digitsVal ds ≤ isizeMax + 1) : parseIsize (ch '-' :: ds) = some (-(digitsVal ds : Int)) := by
  have he : ds.isEmpty = false := by cases ds <;> simp_all
  simp [parseIsize, ch, he, hall, hv]

/-- **C19_relative_backref**: when the identifier between the delimiters is `-n` (not a group
    name, `n ≥ 1`), `parse_named_backref` names group `curr_group + 1 − n` — the `n`-th group
    opened before this point, counting backwards — exactly as the absolute spelling of that number
    would (same expression, same entry in the back-reference set); it is an
    `InvalidGroupNameBackref` error if that is negative or not below `len / 2`. -/
theorem C19_relative_backref (isAlnum : Char → Bool) {re : Bytes} (st : PState) {ix : Nat}
    {open_ close : List Nat} {allowRel : Bool} (k : RefKind) {a b skip n : Nat}
    (hs : sliceFromOk re ix = true)
    (hid : parseId isAlnum re ix open_ close allowRel = .ok (some (a, b, skip)))
    (hname : namedGet st.namedGroups (re.extract a b).toList = none)
    (hrel : parseIsize (re.extract a b).toList = some (-(n : Int))) (hn : 0 < n) :
    parseNamedBackref isAlnum re st ix open_ close allowRel k =
      if n ≤ st.currGroup + 1 ∧ st.currGroup + 1 - n < re.size / 2 then
        .ok (ix + skip, k.mk (st.currGroup + 1 - n),
          { st with backrefs := bitsetInsert st.backrefs (st.currGroup + 1 - n) })
      else .err (.invalidGroupNameBackref (re.extract a b).toList) ix := by
  unfold parseNamedBackref
  simp only [sliceFrom, hs, ↓reduceIte, Res.ok_bind, hid, hname, hrel]
  have hneg : ¬ (-(n : Int) ≥ 0) := by omega
  simp only [hneg, ↓reduceIte]
  by_cases h1 : n ≤ st.currGroup + 1
  · have hr : ((st.currGroup : Int) + (-(n : Int) + 1) ≥ 0) := by omega
    have ht : ((st.currGroup : Int) + (-(n : Int) + 1)).toNat = st.currGroup + 1 - n := by omega
    simp only [hr, ↓reduceIte, ht, Option.filter, h1, true_and]
    by_cases h2 : st.currGroup + 1 - n < re.size / 2
    · simp [h2]
    · simp [h2]
  · have hr : ¬ ((st.currGroup : Int) + (-(n : Int) + 1) ≥ 0) := by omega
    simp [hr, h1, Option.filter]

/-- the absolute spelling, for comparison: a non-negative number `g` that is not a group name -/
theorem C19_absolute_backref (isAlnum : Char → Bool) {re : Bytes} (st : PState) {ix : Nat}
    {open_ close : List Nat} {allowRel : Bool} (k : RefKind) {a b skip g : Nat}
    (hs : sliceFromOk re ix = true)
    (hid : parseId isAlnum re ix open_ close allowRel = .ok (some (a, b, skip)))
    (hname : namedGet st.namedGroups (re.extract a b).toList = none)
    (habs : parseIsize (re.extract a b).toList = some (g : Int)) :
    parseNamedBackref isAlnum re st ix open_ close allowRel k =
      if g < re.size / 2 then
        .ok (ix + skip, k.mk g, { st with backrefs := bitsetInsert st.backrefs g })
      else .err (.invalidGroupNameBackref (re.extract a b).toList) ix := by
  unfold parseNamedBackref
  simp only [sliceFrom, hs, ↓reduceIte, Res.ok_bind, hid, hname, habs]
  have hpos : ((g : Int) ≥ 0) := by omega
  simp only [hpos, ↓reduceIte, Int.toNat_natCast, Option.filter]
  by_cases h2 : g < re.size / 2
  · simp [h2]
  · simp [h2]

-- the hypotheses are satisfiable: in `(a)(b)\k<-1>` the identifier at 9..11 is `-1`
example : parseId (fun c => c.isAlphanum) (bytesOf "(a)(b)\\k<-1>".toList) 8 [ch '<'] [ch '>'] true =
    .ok (some (9, 11, 4)) ∧
    parseIsize ((bytesOf "(a)(b)\\k<-1>".toList).extract 9 11).toList = some (-(1 : Nat) : Int) :=
  ⟨by rfl, by decide +kernel⟩

-- whole patterns: `\k<-1>` after two groups is `\2`, `\k<-2>` is `\1`; a name and its number;
-- `(?P=n)` and `\k<n>`; (`\2` also sets `numeric_backrefs`, which is not part of the tree)
example : parseStr (fun c => c.isAlphanum) "(a)(b)\\k<-1>\\k<-2>".toList false =
    parseStr (fun c => c.isAlphanum) "(a)(b)\\2\\1".toList false :=
  (isTree_sound (e := .concat [.group 0 (.literal ['a'] false), .group 0 (.literal ['b'] false),
    .backref 2, .backref 1]) (br := [1, 2]) (ng := []) (by decide +kernel)).trans
    (isTree_sound (by decide +kernel)).symm
example : parseStr (fun c => c.isAlphanum) "(?<n>a)\\k<n>(?P=n)\\k'n'".toList false =
    .ok ⟨.concat [.group 0 (.literal ['a'] false), .backref 1, .backref 1, .backref 1], [1],
      [([110], 1)]⟩ := isTree_sound (by decide +kernel)
example : parseStr (fun c => c.isAlphanum) "(?<n>a)\\k<n>".toList false =
    .ok ⟨.concat [.group 0 (.literal ['a'] false), .backref 1], [1], [([110], 1)]⟩ ∧
    parseStr (fun c => c.isAlphanum) "(a)\\1".toList false =
    .ok ⟨.concat [.group 0 (.literal ['a'] false), .backref 1], [1], []⟩ :=
  ⟨isTree_sound (by decide +kernel), isTree_sound (by decide +kernel)⟩
/-! ## possessive quantifiers are atomic groups -/

/-- the quantifier `parse_piece` reads at the byte `b` at `ix`: `(lo, hi, index of its last byte)`,
    or none -/
def quantAt (re : Bytes) (fl : Flags) (ix b : Nat) : Res (Option (Nat × Nat × Nat)) :=
  if b == ch '?' then pure (some (0, 1, ix))
  else if b == ch '*' then pure (some (0, usizeMax, ix))
  else if b == ch '+' then pure (some (1, usizeMax, ix))
  else if b == ch '{' then
    match parseRepeat re fl ix with
    | .ok (next, lo, hi) =>
      if next == 0 then .panic "parse_piece: next - 1" else pure (some (lo, hi, next - 1))
    | .err _ _ => pure none
    | .cerr => pure none
    | .panic s => .panic s
    | .outOfFuel => .outOfFuel
  else pure none

/-- is the quantifier that ends before `ix3` followed by the lazy mark `?` -/
def lazyAt (re : Bytes) (ix3 : Nat) : Bool := decide (ix3 < re.size) && re[ix3]? == some (ch '?')

/-- the index after the optional lazy mark -/
def afterLazy (re : Bytes) (ix3 : Nat) : Nat := if lazyAt re ix3 then ix3 + 1 else ix3

/-- the node of a quantified atom -/
def repNode (re : Bytes) (st1 : PState) (child : Expr) (lo hi ix3 : Nat) : Expr :=
  .repeat child lo (hiOf hi) ((!lazyAt re ix3) ^^ st1.flags.swapGreed)

theorem Res.bind_congr {α β : Type} {x : Res α} {f g : α → Res β} (h : ∀ a, f a = g a) :
    (x >>= f) = (x >>= g) := by rw [funext h]

/-- the Rust test `ix < len && bytes[ix] == c` is the test `bytes.get(ix) == Some(c)` -/
theorem and_lt_size (re : Bytes) (i c : Nat) :
    (decide (i < re.size) && re[i]? == some c) = decide (re[i]? = some c) := by
  by_cases h : re[i]? = some c
  · have := lt_size_of_get h
    rw [h]; simp [this]
  · have : (re[i]? == some c) = false := by simpa using h
    simp [h, this]

/-- `parse_piece` with the quantifier reading named -/
theorem parsePiece_eq (isAlnum : Char → Bool) (re : Bytes) (f : Nat) (st : PState) (ix d : Nat) :
    parsePiece isAlnum (f + 1) re st ix d = (do
      let (ix, child, st) ← parseAtom isAlnum f re st ix d
      let ix ← optWs re st.flags ix
      if ix < re.size then
        let b ← byteAt re ix "parse_piece: bytes[ix]"
        let q ← quantAt re st.flags ix b
        match q with
        | none => .ok (ix, child, st)
        | some (lo, hi, ix) =>
          if !isRepeatable child then .err .targetNotRepeatable ix
          else
            let ix ← optWs re st.flags (ix + 1)
            if re[afterLazy re ix]? = some (ch '+') then
              .ok (afterLazy re ix + 1, .atomic (repNode re st child lo hi ix), st)
            else .ok (afterLazy re ix, repNode re st child lo hi ix, st)
      else .ok (ix, child, st)) := by
  rw [parsePiece]
  refine Res.bind_congr fun ⟨ix1, child, st1⟩ => Res.bind_congr fun ix2 => ?_
  refine ite_congr rfl (fun _ => Res.bind_congr fun b => Res.bind_congr fun q => ?_) (fun _ => rfl)
  match q with
  | none => rfl
  | some (lo, hi, qe) =>
    refine ite_congr rfl (fun _ => rfl) (fun _ => Res.bind_congr fun ix3 => ?_)
    refine ite_congr ?_ (fun _ => rfl) (fun _ => rfl)
    show ((decide (afterLazy re ix3 < re.size) && re[afterLazy re ix3]? == some (ch '+')) = true) = _
    rw [and_lt_size, decide_eq_true_eq]

/-- **the quantifier-suffix handling of `parse_piece`**: after the atom `child` and a quantifier
    `(lo, hi)` whose last byte is at `qe`, an optional `?` makes it lazy (`afterLazy`), and then an
    optional `+` wraps **the very node the piece would otherwise be** (`repNode`) into
    `AtomicGroup` and consumes one more byte -/
theorem parsePiece_suffix (isAlnum : Char → Bool) {re : Bytes} {f : Nat} {st st1 : PState}
    {ix d ix1 ix2 b lo hi qe ix3 : Nat} {child : Expr}
    (ha : parseAtom isAlnum f re st ix d = .ok (ix1, child, st1))
    (hw : optWs re st1.flags ix1 = .ok ix2) (hb : re[ix2]? = some b)
    (hq : quantAt re st1.flags ix2 b = .ok (some (lo, hi, qe)))
    (hr : isRepeatable child = true)
    (hw3 : optWs re st1.flags (qe + 1) = .ok ix3) :
    parsePiece isAlnum (f + 1) re st ix d =
      if re[afterLazy re ix3]? = some (ch '+') then
        .ok (afterLazy re ix3 + 1, .atomic (repNode re st1 child lo hi ix3), st1)
      else .ok (afterLazy re ix3, repNode re st1 child lo hi ix3, st1) := by
  have hlt := lt_size_of_get hb
  rw [parsePiece_eq]
  simp only [ha, Res.ok_bind, hw, hlt, ↓reduceIte, byteAt, hb, hq, hr, Bool.not_true, Bool.false_eq_true,
    hw3]

/-- **C19_possessive_is_atomic**: with the atom `X` (`child`), a quantifier `q` (`*`, `+`, `?`,
    `{n,m}`; optionally lazy), then `+`: the piece `Xq+` is `AtomicGroup(node)`, where `node` is
    exactly the piece that `Xq` is when no `+` follows (`C19_not_possessive`), i.e. the body of
    `(?>Xq)` (`C19_atomic_group`) -/
theorem C19_possessive_is_atomic (isAlnum : Char → Bool) {re : Bytes} {f : Nat} {st st1 : PState}
    {ix d ix1 ix2 b lo hi qe ix3 : Nat} {child : Expr}
    (ha : parseAtom isAlnum f re st ix d = .ok (ix1, child, st1))
    (hw : optWs re st1.flags ix1 = .ok ix2) (hb : re[ix2]? = some b)
    (hq : quantAt re st1.flags ix2 b = .ok (some (lo, hi, qe)))
    (hr : isRepeatable child = true)
    (hw3 : optWs re st1.flags (qe + 1) = .ok ix3)
    (hplus : re[afterLazy re ix3]? = some (ch '+')) :
    parsePiece isAlnum (f + 1) re st ix d =
      .ok (afterLazy re ix3 + 1, .atomic (repNode re st1 child lo hi ix3), st1) := by
  rw [parsePiece_suffix isAlnum ha hw hb hq hr hw3, if_pos hplus]

theorem C19_not_possessive (isAlnum : Char → Bool) {re : Bytes} {f : Nat} {st st1 : PState}
    {ix d ix1 ix2 b lo hi qe ix3 : Nat} {child : Expr}
    (ha : parseAtom isAlnum f re st ix d = .ok (ix1, child, st1))
    (hw : optWs re st1.flags ix1 = .ok ix2) (hb : re[ix2]? = some b)
    (hq : quantAt re st1.flags ix2 b = .ok (some (lo, hi, qe)))
    (hr : isRepeatable child = true)
    (hw3 : optWs re st1.flags (qe + 1) = .ok ix3)
    (hplus : re[afterLazy re ix3]? ≠ some (ch '+')) :
    parsePiece isAlnum (f + 1) re st ix d =
      .ok (afterLazy re ix3, repNode re st1 child lo hi ix3, st1) := by
  rw [parsePiece_suffix isAlnum ha hw hb hq hr hw3, if_neg hplus]

theorem quantAt_star (re : Bytes) (fl : Flags) (ix : Nat) :
    quantAt re fl ix (ch '*') = .ok (some (0, usizeMax, ix)) := by simp [quantAt, ch]; rfl
theorem quantAt_plus (re : Bytes) (fl : Flags) (ix : Nat) :
    quantAt re fl ix (ch '+') = .ok (some (1, usizeMax, ix)) := by simp [quantAt, ch]; rfl
theorem quantAt_opt (re : Bytes) (fl : Flags) (ix : Nat) :
    quantAt re fl ix (ch '?') = .ok (some (0, 1, ix)) := by simp [quantAt, ch]; rfl
theorem quantAt_brace {re : Bytes} {fl : Flags} {ix next lo hi : Nat}
    (h : parseRepeat re fl ix = .ok (next, lo, hi)) (hn : next ≠ 0) :
    quantAt re fl ix (ch '{') = .ok (some (lo, hi, next - 1)) := by
  have : (next == 0) = false := by simpa using hn
  simp [quantAt, ch, h, this]; rfl

/-- `?` is no white space and starts no comment, whatever the flags -/
theorem optWs_query {re : Bytes} (fl : Flags) {ix : Nat} (h : re[ix]? = some (ch '?')) :
    optWs re fl ix = .ok ix := by
  rw [optWs_step h]; rfl

/-- `parse_group` at `(?x` for a byte `x` that starts neither a look-around (`=`, `!`, `<`) nor a
    `P` form: an atomic group for `>`, a conditional for `(`, and `parse_flags` for every other byte
    — the `starts_with` chain of `parse_group`, for every flag state -/
theorem parseGroup_query (isAlnum : Char → Bool) {re : Bytes} (f : Nat) (st : PState) {ix x : Nat} (d : Nat)
    (h1 : re[ix + 1]? = some (ch '?')) (h2 : re[ix + 2]? = some x)
    (hx : x ≠ ch '=' ∧ x ≠ ch '!' ∧ x ≠ ch '<' ∧ x ≠ ch 'P') (hd : d + 1 < Generated.maxRecursion) :
    parseGroup isAlnum (f + 1) re st ix d =
      if x = ch '>' then (do
        let (ix2, child, st2) ← parseRe isAlnum f re st (ix + 3) (d + 1)
        let ix3 ← checkForCloseParen re st2.flags ix2
        .ok (ix3, .atomic child, st2))
      else if x = ch '(' then parseConditional isAlnum f re st (ix + 3) (d + 1)
      else parseFlags isAlnum f re st (ix + 1) (d + 1) := by
  have hdd : ¬ (d + 1 ≥ Generated.maxRecursion) := by omega
  have hb : isBoundary re (ix + 1) = true := isBoundary_of_ascii h1 (by decide)
  have h2' : re[ix + 1 + 1]? = some x := h2
  have ne (c : Nat) (h : x ≠ c) : (some x == some c) = false := by simpa using h
  rw [parseGroup]
  simp only [hdd, ↓reduceIte, optWs_query _ h1, Res.ok_bind, sliceFrom, sliceFromOk, hb, lookOf,
    startsWithAt, h1, h2', beq_self_eq_true, Bool.true_and, Bool.and_true, Option.some.injEq, beq_iff_eq,
    ne _ hx.1, ne _ hx.2.1, ne _ hx.2.2.1, ne _ hx.2.2.2, Bool.false_and, Bool.false_eq_true]

/-- `parse_group` at a `(` that no `?` follows: a capturing group -/
theorem parseGroup_plain (isAlnum : Char → Bool) {re : Bytes} (hwf : WF re) (f : Nat) (st : PState)
    {ix : Nat} (d : Nat) (h0 : re[ix]? = some (ch '(')) (h1 : re[ix + 1]? ≠ some (ch '?'))
    (hws : optWs re st.flags (ix + 1) = .ok (ix + 1)) (hd : d + 1 < Generated.maxRecursion) :
    parseGroup isAlnum (f + 1) re st ix d = (do
      let (ix2, child, st2) ←
        parseRe isAlnum f re { st with currGroup := st.currGroup + 1 } (ix + 1) (d + 1)
      let ix3 ← checkForCloseParen re st2.flags ix2
      .ok (ix3, .group 0 child, st2)) := by
  have hdd : ¬ (d + 1 ≥ Generated.maxRecursion) := by omega
  have hb : isBoundary re (ix + 1) = true := hwf.step_ascii h0 (by decide)
  have hq : (re[ix + 1]? == some (ch '?')) = false := by simpa using h1
  rw [parseGroup]
  simp only [hdd, ↓reduceIte, hws, Res.ok_bind, sliceFrom, sliceFromOk, hb, lookOf, startsWithAt, hq,
    Bool.false_and, Bool.false_eq_true, Nat.add_zero]
  rfl

/-- `(?>Y)`: `parse_group` at the `(` parses `Y` with `parse_re` one level deeper, expects the `)`,
    and wraps the tree of `Y` into `AtomicGroup` — for every flag state -/
theorem C19_atomic_group (isAlnum : Char → Bool) {re : Bytes} (f : Nat) (st : PState) {ix : Nat} (d : Nat)
    (h1 : re[ix + 1]? = some (ch '?')) (h2 : re[ix + 2]? = some (ch '>')) :
    parseGroup isAlnum (f + 1) re st ix d =
      if d + 1 ≥ Generated.maxRecursion then .err .recursionExceeded ix
      else (do
        let (ix2, child, st2) ← parseRe isAlnum f re st (ix + 3) (d + 1)
        let ix3 ← checkForCloseParen re st2.flags ix2
        .ok (ix3, .atomic child, st2)) := by
  by_cases hd : d + 1 ≥ Generated.maxRecursion
  · rw [parseGroup]; simp only [hd, ↓reduceIte]
  · rw [if_neg hd, parseGroup_query isAlnum f st d h1 h2 (by decide) (by omega), if_pos rfl]

-- the hypotheses are satisfiable: `a*+` (atom `a` ends at 1, `*` at 1, `+` at 2)
example : parsePiece (fun c => c.isAlphanum) 3 (bytesOf "a*+".toList) {} 0 0 =
    .ok (3, .atomic (.repeat (.literal ['a'] false) 0 none true), {}) :=
  isOk3_sound (by decide +kernel)

-- whole patterns: `X*+`, `X++`, `X?+`, `X{n,m}+`, and a lazy possessive, against `(?>…)`
example : parseStr (fun c => c.isAlphanum) "a*+b++c?+d{1,2}+e*?+".toList false =
    parseStr (fun c => c.isAlphanum) "(?>a*)(?>b+)(?>c?)(?>d{1,2})(?>e*?)".toList false :=
  (isTree_sound (e := .concat [.atomic (.repeat (.literal ['a'] false) 0 none true),
    .atomic (.repeat (.literal ['b'] false) 1 none true),
    .atomic (.repeat (.literal ['c'] false) 0 (some 1) true),
    .atomic (.repeat (.literal ['d'] false) 1 (some 2) true),
    .atomic (.repeat (.literal ['e'] false) 0 none false)]) (br := []) (ng := [])
    (by decide +kernel)).trans (isTree_sound (by decide +kernel)).symm
end Fancy.Parse
