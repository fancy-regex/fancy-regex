import FancyModel.Proofs.C08d
import FancyModel.Proofs.C09b
import FancyModel.Proofs.C11b
import FancyModel.Proofs.C01h
import FancyModel.Proofs.C06d
import FancyModel.Lemmas.ParseHiOK
import FancyModel.Lemmas.ParseCodeBound
/-!
# C08e — C08 – C11 composed: from the pattern string, through the TRANSLATED lib.rs, to the reference search

The layers that exist:

* Proofs/C08d.lean: the translated `Matches::next`, `CaptureMatches::next`, `Split::next`, `try_replacen` are the
  model's API layer, for EVERY oracle (`Oracle α = byte position → skipped-empty-match bit → Except SearchErr (Option α)`);
* Proofs/C09b.lean: the translated `new_options` is `build`; the translated entry points
  `find_from_pos_with_option_flags` / `captures_from_pos_with_option_flags` of a `Regex` that corresponds to `b`
  (`Corr`) are the projections of `Built.captures`. **These entry points are stated over the model's code-point
  context `Ctx`** (the text as characters, positions as character indices, the flag word as a `Nat`), not over bytes;
* Proofs/C08c.lean, C11b.lean: over the model engine seen as a byte-position oracle (`modelOracleF`: byte position →
  character index by `charIndexOf (offsets chars)`, reported slots → byte offsets by `slotsToBytes (offsets chars)`),
  `find_iter` / `captures_iter` / `split` / `replacen` are the statement-level functions of the REFERENCE search;
* Proofs/C01h.lean: `VmCorrectR` for every pattern string of stage S5 (`C01_pipeline_s5`).

The bridge here: `genFindOracle` / `genCapsOracle` — the TRANSLATED entry point of C09b applied to `rx`, wrapped in the
SAME position conversion `modelOracleF` uses (this conversion is the model's, it is not translated code: C09b has no
byte-level entry point). `genCapsOracle_eq`: it IS `modelOracleF b …` (from `Corr` alone); `genFindOracle_eq`: it IS
`spanOracle (modelOracleF b …)` (from `Corr` and the engine hypothesis, which supplies slots 0 and 1 of a match).
On the wrapped path the translated entry point does not touch the `skipped` field of the context it is given, and the
reference oracle `refSpanOracle` reads the flag from that field: the wrapper passes the flag in the base context
(`mkCtx chars 0 flag`); on the VM path the entry point overwrites the field from `option_flags` (`genFindOracle_vm_base`).

Results (`Source`: the pattern string parsed by the translated parser, handed to the translated `new_options`, which
returned `rx`; `b` is what `build` returns): `C08_source_to_reference_s5` / `_wrap` (translated `find_iter`),
`C09_source_to_reference` (translated `captures_iter` spans = translated `find_iter` items), `C10_source_to_reference_s5`
/ `_wrap` (translated `split`), `C11_source_to_model`, `C11_source_to_reference_s5` (translated `try_replacen`, both paths); `C10_source_split_pieces`,
`C10_source_splitn_pieces` (errors included), `C10_source_splitn_s5` / `_wrap` (with the model-level collected theorems
`C10_splitn_pieces`, `C10_splitn_spec`), `C02_source_to_reference_s5` / `_wrap` (every group of every item),
`C16_source_captures_len`.
-/
set_option linter.unusedSimpArgs false
namespace Fancy
open Fancy.Api Fancy.Utf8 Fancy.GenApi Fancy.GenLib Fancy.Drv Fancy.ApiSpec

/-! ## the translated entry points as byte-position oracles -/

/-- the error of an entry point as the API layer's `SearchErr` (a compile error cannot come out of a search) -/
def errOf : RErr → SearchErr
  | .backtrackLimit => .limit
  | .stackOverflow => .stack
  | .outOfFuel => .outOfFuel
  | .compile _ => .panicked

/-- the flag word `Matches::next` passes for the bit the oracle is told -/
def flagsOf (flag : Bool) : Nat := if flag then OPTION_SKIPPED_EMPTY_MATCH else 0

def slotsOfCaps (cp : RCaptures) : List (Option Nat) :=
  match cp.inner with
  | .wrap (some s) => s
  | .wrap none => []
  | .fancy saves => viewSlots saves

/-- the TRANSLATED `find_from_pos_with_option_flags` of `rx` as a byte-position oracle (conversion as `modelOracleF`) -/
def genFindOracle (sem : RaSem) (fuel : Nat) (rx : RRegex) (chars : List Char) : Oracle (Nat × Nat) := fun pos flag =>
  match charIndexOf (offsets chars) pos with
  | none => .ok none
  | some cpos =>
    match genFindFromPosWithOptionFlags sem fuel rx (mkCtx chars 0 flag) cpos (flagsOf flag) with
    | .ok none => .ok none
    | .ok (some m) => .ok (some ((offsets chars).getD m.1 0, (offsets chars).getD m.2 0))
    | .err e => .error (errOf e)
    | .panic _ => .error .panicked

/-- the TRANSLATED `captures_from_pos_with_option_flags` of `rx` as a byte-position oracle -/
def genCapsOracle (sem : RaSem) (fuel : Nat) (rx : RRegex) (chars : List Char) : Oracle (List (Option Nat)) :=
  fun pos flag =>
    match charIndexOf (offsets chars) pos with
    | none => .ok none
    | some cpos =>
      match genCapturesFromPosWithOptionFlags sem fuel rx (mkCtx chars 0 flag) cpos (flagsOf flag) with
      | .ok none => .ok none
      | .ok (some cp) => .ok (some (slotsToBytes (offsets chars) (slotsOfCaps cp)))
      | .err e => .error (errOf e)
      | .panic _ => .error .panicked

theorem ctxOf_mkCtx (b : Built) (chars : List Char) (cpos : Nat) (flag : Bool) :
    ctxOf b (mkCtx chars 0 flag) cpos (flagsOf flag) = mkCtx chars cpos flag := by
  unfold ctxOf flagsOf mkCtx
  cases b.kind <;> simp [flag_bit]

/-- on the VM path the `skipped` field of the base context is irrelevant: the entry point overwrites it -/
theorem genFindOracle_vm_base (sem : RaSem) (fuel : Nat) (rx : RRegex) (prog : Prog) (n : Nat) (o : ROptions)
    (hi : rx.inner = .fancy prog n o) (chars : List Char) (cpos flags : Nat) (sk : Bool) :
    genFindFromPosWithOptionFlags sem fuel rx (mkCtx chars 0 sk) cpos flags =
      genFindFromPosWithOptionFlags sem fuel rx (mkCtx chars 0 false) cpos flags := by
  unfold genFindFromPosWithOptionFlags
  simp only [hi, vmRun, mkCtx]

theorem viewSlots_rawOf_take (saves : List Nat) (k : Nat) :
    viewSlots (((viewSlots saves).map rawOf).take k) = (viewSlots saves).take k := by
  rw [rawOf_view]
  simp [viewSlots, List.map_take]

/-- **the translated `captures` entry point, as a byte-position oracle, is the model engine's oracle** -/
theorem genCapsOracle_eq (sem : RaSem) (fuel : Nat) (rx : RRegex) (b : Built) (h : Corr sem rx b) (chars : List Char) :
    genCapsOracle sem fuel rx chars = modelOracleF b chars (offsets chars) (optionsOf rx).backtrackLimit fuel := by
  funext pos flag
  unfold genCapsOracle modelOracleF
  cases charIndexOf (offsets chars) pos with
  | none => rfl
  | some cpos =>
    simp only
    rw [C09_captures_translated_eq sem fuel rx b h, ctxOf_mkCtx]
    unfold Corr at h
    cases hi : rx.inner with
    | wrap inner o =>
      rw [hi] at h
      unfold Built.captures
      simp only [h.1]
      cases refSearchK (mkCtx chars cpos flag) b.raw b.nGroups with
      | none => rfl
      | some f => simp [expectCaptures, capsOf, h.1, slotsOfCaps]
    | fancy prog n o =>
      rw [hi] at h
      unfold Built.captures
      simp only [h.1]
      rcases run (mkCtx chars cpos flag) prog ⟨(optionsOf rx).backtrackLimit, maxStackDefault⟩ fuel with ⟨out, st⟩
      cases out with
      | matched saves => simp [expectCaptures, capsOf, h.1, slotsOfCaps, List.map_take, viewSlots_rawOf_take]
      | noMatch => rfl
      | errLimit => rfl
      | errStack => rfl
      | panic s => rfl
      | outOfFuel => rfl

/-- under the engine hypothesis a match of the VM has at least the two slots of group 0 -/
theorem twoSlots_of_engineOK (b : Built) (chars : List Char) (hE : EngineOK b chars) (hns : noSelfNest b.raw = true)
    (hg : 1 ≤ b.nGroups) (cpos : Nat) (flag : Bool) (hc : cpos ≤ chars.length) (limit fuel : Nat) :
    TwoSlots b (mkCtx chars cpos flag) limit fuel := by
  refine ⟨hg, fun prog saves hk hrun => ?_⟩
  have hv := hE cpos flag hc limit fuel
  have hcap : (b.captures (mkCtx chars cpos flag) limit fuel).1 = .found ((viewSlots saves).take (b.nGroups * 2)) := by
    unfold Built.captures
    simp only [hk]
    rcases hr : run (mkCtx chars cpos flag) prog ⟨limit, maxStackDefault⟩ fuel with ⟨out, st⟩
    rw [hr] at hrun
    simp only at hrun
    subst hrun
    rfl
  rw [hcap] at hv
  rcases hv with hv | hv | hv | hv
  · cases hv
  · cases hv
  · cases hv
  · cases href : refSearch (mkCtx chars cpos flag) b.raw b.nGroups with
    | none => rw [href] at hv; cases hv
    | some f =>
      rw [href] at hv
      simp only [SearchResult.found.injEq] at hv
      have hlen := (refSearch_valid _ _ _ hns f href).len
      rw [← hv] at hlen
      simp only [List.length_take, viewSlots_length] at hlen
      omega

/-- **the translated `find` entry point, as a byte-position oracle, is the span oracle of the model engine** -/
theorem genFindOracle_eq (sem : RaSem) (fuel : Nat) (rx : RRegex) (b : Built) (h : Corr sem rx b) (chars : List Char)
    (hE : EngineOK b chars) (hns : noSelfNest b.raw = true) (hg : 1 ≤ b.nGroups) :
    genFindOracle sem fuel rx chars =
      spanOracle (modelOracleF b chars (offsets chars) (optionsOf rx).backtrackLimit fuel) := by
  funext pos flag
  unfold genFindOracle spanOracle modelOracleF
  cases hci : charIndexOf (offsets chars) pos with
  | none => rfl
  | some cpos =>
    have hc := (charIndexOf_some chars pos cpos hci).1
    simp only
    rw [C09_find_translated_eq sem fuel rx b h _ cpos _
      (by rw [ctxOf_mkCtx]; exact twoSlots_of_engineOK b chars hE hns hg cpos flag hc _ fuel), ctxOf_mkCtx]
    unfold Built.find
    have hv := hE cpos flag hc (optionsOf rx).backtrackLimit fuel
    cases hcap : (b.captures (mkCtx chars cpos flag) (optionsOf rx).backtrackLimit fuel).1 with
    | found slots =>
      rw [hcap] at hv
      rcases hv with hv | hv | hv | hv
      · cases hv
      · cases hv
      · cases hv
      · cases href : refSearch (mkCtx chars cpos flag) b.raw b.nGroups with
        | none => rw [href] at hv; cases hv
        | some f =>
          rw [href] at hv
          simp only [SearchResult.found.injEq] at hv
          obtain ⟨s, e, h0, h1, _⟩ := (refSearch_valid _ _ _ hns f href).span (by omega)
          rw [← hv] at h0 h1
          match slots, h0, h1 with
          | a0 :: a1 :: rest, h0, h1 =>
            simp only [List.getElem?_cons_zero, List.getElem?_cons_succ, Option.some.injEq] at h0 h1
            subst h0; subst h1
            simp [expectFind, rawOf, slotsToBytes, spanOfSlots]
    | noMatch => rfl
    | errLimit => rfl
    | errStack => rfl
    | panic s => rfl
    | outOfFuel => rfl

/-! ## the engine hypothesis for stage S5 -/

/-- (E) for stage S5, from the pattern string (hypotheses of `C01_pipeline_s5`) -/
theorem engineOK_s5 (isAlnum : Char → Bool) (cs : List Char) (casei : Bool) (t : Parse.Tree) (b : Built)
    (prog : Prog) (hp : Parse.parseStr isAlnum cs casei = .ok t) (hb : build t.expr t.backrefs = .ok b)
    (hk : b.kind = .fancy prog) (hst : s5Pattern t b = true)
    (chars : List Char) (hlen : chars.length < UNSET) : EngineOK b chars :=
  fun cpos flag hc =>
    C01_pipeline_s5 isAlnum cs casei t b prog (mkCtx chars cpos flag) hp hb hk hst hlen hc

/-! ## from the source: the translated parser and the translated `new_options` -/

/-- the pattern string `options.pattern` is parsed by the translated parse.rs into `t`; the translated
    `Regex::new_options` (whose parser parameter returns that tree) returns `rx`; `b` is what `build` returns for `t`;
    on the wrapped path regex-automata understood the printed pattern as `b.raw` with `b.nGroups` groups (A-RA) -/
structure Source (isAlnum : Char → Bool) (parse : List Char → Bool → LRes Parse.Tree) (options : ROptions) (sem : RaSem)
    (t : Parse.Tree) (b : Built) (rx : RRegex) : Prop where
  hp : GenParse.parse_with_case_insensitive isAlnum (Parse.bytesOf options.pattern) options.syntaxc = .ok t
  hparse : parse options.pattern options.syntaxc = .ok t
  hsize : (Parse.bytesOf options.pattern).size < 2 ^ 58
  hrx : genNewOptions parse options = .ok rx
  hb : build t.expr t.backrefs = .ok b
  hra : b.kind = .wrap → ∀ cooked, GenToStr.genToStr t.expr [] 0 = some cooked → sem cooked = some (b.raw, b.nGroups)

theorem Source.parseStr {isAlnum : Char → Bool} {parse : List Char → Bool → LRes Parse.Tree} {options : ROptions} {sem : RaSem}
    {t : Parse.Tree} {b : Built} {rx : RRegex} (s : Source isAlnum parse options sem t b rx) :
    Parse.parseStr isAlnum options.pattern options.syntaxc = .ok t := by
  rw [← GenParse.Descent.C06_parse_translated_str]; exact s.hp

/-- the regex the translated `new_options` returned corresponds to `b` and carries the options -/
theorem Source.corr {isAlnum : Char → Bool} {parse : List Char → Bool → LRes Parse.Tree} {options : ROptions} {sem : RaSem}
    {t : Parse.Tree} {b : Built} {rx : RRegex} (s : Source isAlnum parse options sem t b rx) :
    Corr sem rx b ∧ optionsOf rx = options := by
  have hp' := s.parseStr
  have h := C09_new_options_translated_eq parse options t s.hparse
    (Parse.parse_analyzable isAlnum _ _ t hp') (Parse.parse_hiOK isAlnum _ _ t hp')
    (Parse.parse_codeBound_fits isAlnum _ _ t hp' s.hsize)
  rw [s.hb] at h
  have hrx := s.hrx
  rw [h] at hrx
  simp only [regexOf] at hrx
  cases hk : b.kind with
  | fancy prog =>
    rw [hk] at hrx
    simp only [LRes.ok.injEq] at hrx
    subst hrx
    exact ⟨by simp [Corr, hk], rfl⟩
  | wrap =>
    rw [hk] at hrx
    cases hs : GenToStr.genToStr t.expr [] 0 with
    | none => rw [hs] at hrx; cases hrx
    | some cooked =>
      rw [hs] at hrx
      simp only [LRes.ok.injEq] at hrx
      subst hrx
      exact ⟨by simp [Corr, hk, s.hra hk cooked hs], rfl⟩

/-! ## C08: `find_iter` -/

/-- **C08, from the source text to the reference search, stage S5.** The pattern string is parsed by the translated
    parser and built by the translated `new_options` into `rx`; its parse lies in stage S5. Then the TRANSLATED
    `find_iter` (the translated `Matches::next` drained from the translated constructor) over the TRANSLATED
    `find_from_pos_with_option_flags` of `rx` yields exactly the property's iteration of the REFERENCE search, every
    item `Ok`, or a prefix of it followed by exactly one resource stop. -/
theorem C08_source_to_reference_s5 {isAlnum : Char → Bool} {parse : List Char → Bool → LRes Parse.Tree} {options : ROptions}
    {sem : RaSem} {t : Parse.Tree} {b : Built} {rx : RRegex} (s : Source isAlnum parse options sem t b rx)
    (prog : Prog) (hk : b.kind = .fancy prog) (hst : s5Pattern t b = true)
    (chars : List Char) (hlen : chars.length < UNSET) (fuel : Nat) (text : Bytes) (htext : text.length = byteLen chars) :
    iterItems (genMatchesNext (genFindOracle sem fuel rx chars) text) text (text.length + 3) genFindIter =
        (ApiSpec.iter (refSpanOracle b chars) text).map .ok ∨
    ∃ ms e, iterItems (genMatchesNext (genFindOracle sem fuel rx chars) text) text (text.length + 3) genFindIter =
          ms.map .ok ++ [.error e] ∧
        ms <+: ApiSpec.iter (refSpanOracle b chars) text ∧
        (e = .limit ∨ e = .stack ∨ e = .outOfFuel) := by
  have hE := engineOK_s5 isAlnum _ _ t b prog s.parseStr s.hb hk hst chars hlen
  have hns := build_noSelfNest _ _ b s.hb
  have hg := build_nGroups_pos _ _ b s.hb
  rw [C08_find_iter_translated_eq, genFindOracle_eq sem fuel rx b s.corr.1 chars hE hns hg]
  exact C08_find_iter_is_reference b chars _ fuel hE hns hg text htext

/-- **the wrapped path**: exactly the reference iteration, no error item -/
theorem C08_source_to_reference_wrap {isAlnum : Char → Bool} {parse : List Char → Bool → LRes Parse.Tree} {options : ROptions}
    {sem : RaSem} {t : Parse.Tree} {b : Built} {rx : RRegex} (s : Source isAlnum parse options sem t b rx)
    (hk : b.kind = .wrap) (chars : List Char) (fuel : Nat) (text : Bytes) (htext : text.length = byteLen chars) :
    iterItems (genMatchesNext (genFindOracle sem fuel rx chars) text) text (text.length + 3) genFindIter =
      (ApiSpec.iter (refSpanOracle b chars) text).map .ok := by
  have hE := engineOK_wrap b chars hk
  have hns := build_noSelfNest _ _ b s.hb
  have hg := build_nGroups_pos _ _ b s.hb
  rw [C08_find_iter_translated_eq, genFindOracle_eq sem fuel rx b s.corr.1 chars hE hns hg]
  exact C08_find_iter_is_reference_wrap _ _ b s.hb hk chars _ fuel text htext

/-! ## C09: `captures_iter` -/

/-- **C09**: the translated `captures_iter` over the translated `captures` entry point yields values whose overall
    spans are exactly the items of the translated `find_iter` over the translated `find` entry point (errors included) -/
theorem C09_source_to_reference (sem : RaSem) (fuel : Nat) (rx : RRegex) (b : Built) (h : Corr sem rx b)
    (chars : List Char) (hE : EngineOK b chars) (hns : noSelfNest b.raw = true) (hg : 1 ≤ b.nGroups) (text : Bytes) :
    iterItems (genMatchesNext (genFindOracle sem fuel rx chars) text) text (text.length + 3) genFindIter =
      (iterItems (genCaptureMatchesNext (genCapsOracle sem fuel rx chars) spanOfSlots text) text (text.length + 3)
        genCapturesIter).map (mapItem spanOfSlots) := by
  rw [C08_find_iter_translated_eq, C09_captures_iter_translated_eq, genFindOracle_eq sem fuel rx b h chars hE hns hg,
    genCapsOracle_eq sem fuel rx b h chars, spanOracle_eq_spans]
  exact C09_iters_equal _ _ _

/-- … in particular for a stage-S5 pattern from the source -/
theorem C09_source_to_reference_s5 {isAlnum : Char → Bool} {parse : List Char → Bool → LRes Parse.Tree} {options : ROptions}
    {sem : RaSem} {t : Parse.Tree} {b : Built} {rx : RRegex} (s : Source isAlnum parse options sem t b rx)
    (prog : Prog) (hk : b.kind = .fancy prog) (hst : s5Pattern t b = true)
    (chars : List Char) (hlen : chars.length < UNSET) (fuel : Nat) (text : Bytes) :
    iterItems (genMatchesNext (genFindOracle sem fuel rx chars) text) text (text.length + 3) genFindIter =
      (iterItems (genCaptureMatchesNext (genCapsOracle sem fuel rx chars) spanOfSlots text) text (text.length + 3)
        genCapturesIter).map (mapItem spanOfSlots) :=
  C09_source_to_reference sem fuel rx b s.corr.1 chars
    (engineOK_s5 isAlnum _ _ t b prog s.parseStr s.hb hk hst chars hlen)
    (build_noSelfNest _ _ b s.hb) (build_nGroups_pos _ _ b s.hb) text

/-! ## C10: `split` -/

/-- **C10, stage S5**: when the translated `find_iter` yields no `Err` item, the translated `split` yields exactly the
    substrings between consecutive matches of the reference iteration and then the rest of the text -/
theorem C10_source_to_reference_s5 {isAlnum : Char → Bool} {parse : List Char → Bool → LRes Parse.Tree} {options : ROptions}
    {sem : RaSem} {t : Parse.Tree} {b : Built} {rx : RRegex} (s : Source isAlnum parse options sem t b rx)
    (prog : Prog) (hk : b.kind = .fancy prog) (hst : s5Pattern t b = true)
    (chars : List Char) (hlen : chars.length < UNSET) (fuel : Nat) (text : Bytes) (htext : text.length = byteLen chars)
    (hnoerr : ∀ e, .error e ∉
      iterItems (genMatchesNext (genFindOracle sem fuel rx chars) text) text (text.length + 3) genFindIter) :
    drain (genSplitNext (genFindOracle sem fuel rx chars) text) (text.length + 4) genSplit =
        (ApiSpec.pieces text.length (ApiSpec.iter (refSpanOracle b chars) text)).map (fun p => Item.piece p.1 p.2) ∧
      (drain (genSplitNext (genFindOracle sem fuel rx chars) text) (text.length + 4) genSplit).length =
        (ApiSpec.iter (refSpanOracle b chars) text).length + 1 := by
  have hE := engineOK_s5 isAlnum _ _ t b prog s.parseStr s.hb hk hst chars hlen
  have hns := build_noSelfNest _ _ b s.hb
  have hg := build_nGroups_pos _ _ b s.hb
  rw [C08_find_iter_translated_eq, genFindOracle_eq sem fuel rx b s.corr.1 chars hE hns hg] at hnoerr
  rw [C10_split_translated_eq, genFindOracle_eq sem fuel rx b s.corr.1 chars hE hns hg]
  exact C10_split_is_reference b chars _ fuel hE hns hg text htext hnoerr

/-- **C10, the wrapped path**: unconditionally -/
theorem C10_source_to_reference_wrap {isAlnum : Char → Bool} {parse : List Char → Bool → LRes Parse.Tree} {options : ROptions}
    {sem : RaSem} {t : Parse.Tree} {b : Built} {rx : RRegex} (s : Source isAlnum parse options sem t b rx)
    (hk : b.kind = .wrap) (chars : List Char) (fuel : Nat) (text : Bytes) (htext : text.length = byteLen chars) :
    drain (genSplitNext (genFindOracle sem fuel rx chars) text) (text.length + 4) genSplit =
        (ApiSpec.pieces text.length (ApiSpec.iter (refSpanOracle b chars) text)).map (fun p => Item.piece p.1 p.2) ∧
      (drain (genSplitNext (genFindOracle sem fuel rx chars) text) (text.length + 4) genSplit).length =
        (ApiSpec.iter (refSpanOracle b chars) text).length + 1 := by
  have hE := engineOK_wrap b chars hk
  have hns := build_noSelfNest _ _ b s.hb
  have hg := build_nGroups_pos _ _ b s.hb
  rw [C10_split_translated_eq, genFindOracle_eq sem fuel rx b s.corr.1 chars hE hns hg]
  refine C10_split_is_reference b chars _ fuel hE hns hg text htext (fun e he => ?_)
  rw [C08_find_iter_is_reference_wrap _ _ b s.hb hk chars _ fuel text htext] at he
  simp at he

/-! ## C11: `try_replacen` -/

/-- the replacement `try_replacen` uses: the constant text on the `no_expansion()` path, `replace_append` otherwise -/
def repOf {α : Type} (ne : Option Bytes) (ra : α → Bytes) : α → Bytes :=
  match ne with
  | some rep => fun _ => rep
  | none => ra

/-- **C11, down to the model**: the translated `try_replacen` over the two translated entry points of `rx`, on either
    path, is the model's `replacen` over `captures_iter` of the model engine -/
theorem C11_source_to_model (sem : RaSem) (fuel : Nat) (rx : RRegex) (b : Built) (h : Corr sem rx b)
    (chars : List Char) (hE : EngineOK b chars) (hns : noSelfNest b.raw = true) (hg : 1 ≤ b.nGroups) (text : Bytes)
    (n : Nat) (ne : Option Bytes) (ra : List (Option Nat) → Bytes) :
    genTryReplacen (genFindOracle sem fuel rx chars) (genCapsOracle sem fuel rx chars) spanOfSlots text n ne ra =
      replacen (capturesIter (modelOracleF b chars (offsets chars) (optionsOf rx).backtrackLimit fuel) spanOfSlots text)
        spanOfSlots (repOf ne ra) text n := by
  rw [C11_replacen_translated_eq, genFindOracle_eq sem fuel rx b h chars hE hns hg,
    genCapsOracle_eq sem fuel rx b h chars]
  cases ne with
  | none => rfl
  | some rep =>
    simp only [repOf]
    rw [spanOracle_eq_spans]
    exact C11_paths_agree _ _ _ _ _

/-- **C11, from the source text to the reference search, stage S5**: the result of the translated `try_replacen` (both
    paths) on the UTF-8 bytes of `chars`, in terms of the reference iteration: `Borrowed` iff the reference search finds
    nothing; otherwise the text rewritten at the first `n` (all, for `n = 0`) reference matches; or, after a resource
    stop, the rewrite of the matches before it when the limit cuts the loop first, the error otherwise. Never a panic. -/
theorem C11_source_to_reference_s5 {isAlnum : Char → Bool} {parse : List Char → Bool → LRes Parse.Tree} {options : ROptions}
    {sem : RaSem} {t : Parse.Tree} {b : Built} {rx : RRegex} (s : Source isAlnum parse options sem t b rx)
    (prog : Prog) (hk : b.kind = .fancy prog) (hst : s5Pattern t b = true)
    (chars : List Char) (hlen : chars.length < UNSET) (fuel : Nat)
    (n : Nat) (ne : Option Bytes) (ra : List (Option Nat) → Bytes) :
    ∃ as : List (List (Option Nat)),
      (∀ a ∈ as, ∃ p fl, refCapsOracle b chars p fl = some a) ∧
      WFMatches (utf8Of chars) (as.map spanOfSlots) 0 ∧
      ((as.map spanOfSlots = ApiSpec.iter (refSpanOracle b chars) (utf8Of chars) ∧
        (genTryReplacen (genFindOracle sem fuel rx chars) (genCapsOracle sem fuel rx chars) spanOfSlots (utf8Of chars)
            n ne ra = .borrowed ↔ ApiSpec.iter (refSpanOracle b chars) (utf8Of chars) = []) ∧
        (ApiSpec.iter (refSpanOracle b chars) (utf8Of chars) ≠ [] →
          genTryReplacen (genFindOracle sem fuel rx chars) (genCapsOracle sem fuel rx chars) spanOfSlots (utf8Of chars)
            n ne ra =
          .owned (rewrite (utf8Of chars) ((chosen n 0 as).map fun a => (spanOfSlots a, repOf ne ra a)) 0))) ∨
       (∃ e, as.map spanOfSlots <+: ApiSpec.iter (refSpanOracle b chars) (utf8Of chars) ∧
          (e = .limit ∨ e = .stack ∨ e = .outOfFuel) ∧
          genTryReplacen (genFindOracle sem fuel rx chars) (genCapsOracle sem fuel rx chars) spanOfSlots (utf8Of chars)
            n ne ra =
          if 0 < n ∧ n < as.length then
            .owned (rewrite (utf8Of chars) ((as.take n).map fun a => (spanOfSlots a, repOf ne ra a)) 0)
          else .err e)) := by
  have hE := engineOK_s5 isAlnum _ _ t b prog s.parseStr s.hb hk hst chars hlen
  have hns := build_noSelfNest _ _ b s.hb
  have hg := build_nGroups_pos _ _ b s.hb
  rw [C11_source_to_model sem fuel rx b s.corr.1 chars hE hns hg]
  obtain ⟨as, h1, h2, h3⟩ := C11_replacen_is_reference b chars (optionsOf rx).backtrackLimit fuel hE hns hg (repOf ne ra) n
  refine ⟨as, h1, h2, ?_⟩
  rcases h3 with ⟨_, ha, hb', hc⟩ | ⟨e, _, ha, hb', hc⟩
  · exact Or.inl ⟨ha, hb', hc⟩
  · exact Or.inr ⟨e, ha, hb', hc⟩

/-! ## Non-vacuity -/

/-- the translated parser as the parser parameter of the translated `new_options` (only its successes matter here) -/
def srcParse (isAlnum : Char → Bool) : List Char → Bool → LRes Parse.Tree := fun cs casei =>
  match GenParse.parse_with_case_insensitive isAlnum (Parse.bytesOf cs) casei with
  | .ok t => .ok t
  | _ => .panic "parse error"

/-- `Source` holds whenever the translated parser and `build` succeed on the VM path: the translated `new_options`
    then returns the regex with the compiled program -/
theorem source_of_build_vm (isAlnum : Char → Bool) (options : ROptions) (sem : RaSem) (t : Parse.Tree) (b : Built)
    (prog : Prog)
    (hp : GenParse.parse_with_case_insensitive isAlnum (Parse.bytesOf options.pattern) options.syntaxc = .ok t)
    (hsize : (Parse.bytesOf options.pattern).size < 2 ^ 58)
    (hb : build t.expr t.backrefs = .ok b) (hk : b.kind = .fancy prog) :
    Source isAlnum (srcParse isAlnum) options sem t b ⟨.fancy prog b.nGroups options, t.namedGroups⟩ := by
  have hparse : srcParse isAlnum options.pattern options.syntaxc = .ok t := by simp [srcParse, hp]
  refine ⟨hp, hparse, hsize, ?_, hb, fun hw => by rw [hk] at hw; cases hw⟩
  have hp' : Parse.parseStr isAlnum options.pattern options.syntaxc = .ok t := by
    rw [← GenParse.Descent.C06_parse_translated_str]; exact hp
  have h := C09_new_options_translated_eq (srcParse isAlnum) options t hparse
    (Parse.parse_analyzable isAlnum _ _ t hp') (Parse.parse_hiOK isAlnum _ _ t hp')
    (Parse.parse_codeBound_fits isAlnum _ _ t hp' hsize)
  rw [hb] at h
  rw [h]
  simp [regexOf, hk]

/-- the pattern string `a(?=b)` (VM path, stage S3 ⊆ S5), every backtrack limit, text and fuel: all hypotheses of
    `C08_source_to_reference_s5` hold -/
example (limit : Nat) (sem : RaSem) (chars : List Char) (hlen : chars.length < UNSET) (fuel : Nat) (text : Bytes)
    (htext : text.length = byteLen chars) :
    ∃ b rx, genNewOptions (srcParse (fun c => c.isAlphanum)) ⟨"a(?=b)".toList, false, limit, none, none⟩ = .ok rx ∧
      (iterItems (genMatchesNext (genFindOracle sem fuel rx chars) text) text (text.length + 3) genFindIter =
          (ApiSpec.iter (refSpanOracle b chars) text).map .ok ∨
       ∃ ms e, iterItems (genMatchesNext (genFindOracle sem fuel rx chars) text) text (text.length + 3) genFindIter =
            ms.map .ok ++ [.error e] ∧
          ms <+: ApiSpec.iter (refSpanOracle b chars) text ∧
          (e = .limit ∨ e = .stack ∨ e = .outOfFuel)) := by
  obtain ⟨b, prog, hb, hk, hst, _, _⟩ := exLook_built
  have hp : GenParse.parse_with_case_insensitive (fun c => c.isAlphanum) (Parse.bytesOf "a(?=b)".toList) false =
      .ok ⟨exLook, [], []⟩ := by
    rw [GenParse.Descent.C06_parse_translated_str]; exact exLook_parse
  have src := source_of_build_vm (fun c => c.isAlphanum) ⟨"a(?=b)".toList, false, limit, none, none⟩ sem
    ⟨exLook, [], []⟩ b prog hp (show (Parse.bytesOf "a(?=b)".toList).size < 2 ^ 58 by decide) hb hk
  have hst5 : s5Pattern ⟨exLook, [], []⟩ b = true := by
    simp only [s3Pattern, Bool.and_eq_true] at hst
    have h4 := s4ok_of_s3ok _ _ hst.1
    simp only [s5Pattern, s4Pattern, h4, hst.2, Bool.and_self, Bool.true_or]
  exact ⟨b, _, src.hrx, C08_source_to_reference_s5 src prog hk hst5 chars hlen fuel text htext⟩

/-! ## `splitn`, collected (model level, every well-formed oracle) -/

namespace Api
open Fancy.Utf8

/-- the pieces `splitn (k + 1)` yields for a drained `find_iter` sequence, starting from `ns`: as `toPieces` for `k`
    items, then the untouched remainder -/
def toPiecesN (len : Nat) : Nat → List (Except SearchErr (Nat × Nat)) → Nat → List Item
  | 0, _, ns => if ns > len then [] else [.piece ns len]
  | _ + 1, [], ns => if ns > len then [] else [.piece ns len]
  | k + 1, .ok (s, e) :: rest, ns => .piece ns s :: toPiecesN len k rest e
  | k + 1, .error e :: rest, ns => .err e :: toPiecesN len k rest ns

theorem splitN_done_collect (f : Oracle (Nat × Nat)) (text : Bytes) (n : Nat) (sp : Split) :
    SplitN.collect f text n ⟨sp, 0⟩ = [] := by
  cases n with
  | zero => rfl
  | succ n => simp [SplitN.collect, C10_splitn_done]

/-- with one item left `splitn` yields the untouched remainder, whatever the iterator would do -/
theorem splitN_last_collect (f : Oracle (Nat × Nat)) (text : Bytes) (sp : Split) (hns : sp.nextStart ≤ text.length)
    (n : Nat) : SplitN.collect f text (n + 1) ⟨sp, 1⟩ = [.piece sp.nextStart text.length] := by
  rw [SplitN.collect, C10_splitn_last]
  simp [Nat.not_lt.mpr hns, splitN_done_collect]

/-- once `next()` has returned `None`, `splitn` yields the rest of the text and then nothing -/
theorem splitN_tail (f : Oracle (Nat × Nat)) (text : Bytes) {it it' : Iter}
    (hn : Iter.next f id text (text.length + 2) it = (none, it', false)) {ns : Nat} (hns : ns ≤ text.length)
    (n k : Nat) : SplitN.collect f text (n + 2) ⟨⟨it, ns⟩, k + 1⟩ = [.piece ns text.length] := by
  cases k with
  | zero => exact splitN_last_collect f text ⟨it, ns⟩ hns _
  | succ k =>
    have hf := C08_fused f id text _ (text.length + 1) it it' hn
    generalize hn2 : Iter.next f id text (text.length + 2) it' = r2 at hf
    obtain ⟨i2, it2, o2⟩ := r2
    cases hf
    rw [SplitN.collect, C10_splitn_step]
    simp only [Split.next, hn, if_neg (Nat.not_lt.mpr hns)]
    cases k with
    | zero => simp [SplitN.collect, C10_splitn_last]
    | succ k => simp [SplitN.collect, C10_splitn_step, Split.next, hn2]

theorem splitN_collect_eq (f : Oracle (Nat × Nat)) (text : Bytes) (hwf : WFOracle f id text.length)
    (n : Nat) (it : Iter) (hj : it.J) (ns : Nat) (hns : ns ≤ text.length)
    (hshort : (Iter.collect f id text n it).length < n) (k : Nat) :
    SplitN.collect f text (n + 1) ⟨⟨it, ns⟩, k + 1⟩ = toPiecesN text.length k (Iter.collect f id text n it) ns := by
  refine Iter.collect_cases f id text
    (P := fun n it l => it.J → ∀ ns, ns ≤ text.length → l.length < n → ∀ k,
      SplitN.collect f text (n + 1) ⟨⟨it, ns⟩, k + 1⟩ = toPiecesN text.length k l ns)
    ?_ ?_ ?_ ?_ n it hj ns hns hshort k
  · intro _ _ _ _ h; cases h
  · intro n it it' oof hn _ ns hns _ k
    have hoof := C08_terminates f id text hwf it
    rw [hn] at hoof; cases hoof
    rw [splitN_tail f text hn hns]
    cases k <;> simp [toPiecesN, Nat.not_lt.mpr hns]
  · intro n it e it' oof hn _ ns hns hlt k
    obtain ⟨n, rfl⟩ : ∃ m, n = m + 1 := ⟨n - 1, by simp at hlt; omega⟩
    cases k with
    | zero => rw [splitN_last_collect f text ⟨it, ns⟩ hns, toPiecesN, if_neg (Nat.not_lt.mpr hns)]
    | succ k =>
      have hl := next_err_spec f id text _ it it' e oof hn
      rw [SplitN.collect, C10_splitn_step]
      simp only [Split.next, hn, toPiecesN]
      rw [splitN_tail f text (Iter.next_past f id text _ it' (by omega)) hns]
      cases k <;> simp [toPiecesN, Nat.not_lt.mpr hns]
  · intro n it p it' oof rest hn ih hj ns hns hlt k
    cases k with
    | zero => rw [splitN_last_collect f text ⟨it, ns⟩ hns, toPiecesN, if_neg (Nat.not_lt.mpr hns)]
    | succ k =>
      obtain ⟨_, _, r3, _, _, _, _, r8⟩ := next_ok_spec f id text hwf _ it it' p oof hj hn
      rw [SplitN.collect, C10_splitn_step]
      simp only [Split.next, hn, toPiecesN]
      rw [ih r8 p.2 r3 (by simpa using hlt) k]

/-- **`splitn (k + 1)` in terms of `find_iter`** (errors included): `k` items as `split`, then the untouched remainder -/
theorem C10_splitn_pieces (f : Oracle (Nat × Nat)) (text : Bytes) (hwf : WFOracle f id text.length) (k : Nat) :
    splitn f text (k + 1) = toPiecesN text.length k (findIter f text) 0 := by
  unfold splitn findIter
  exact splitN_collect_eq f text hwf (text.length + 3) Iter.start Iter.J_start 0 (Nat.zero_le _)
    (by have := C08_length_bound f text hwf; unfold findIter at this; omega) k

theorem toPiecesN_ok (len : Nat) (ms : List (Nat × Nat)) (ns k : Nat) (hns : ns ≤ len) (hms : ∀ m ∈ ms, m.2 ≤ len) :
    toPiecesN len k (ms.map .ok) ns =
      (if (ApiSpec.piecesFrom len ms ns).length ≤ k then ApiSpec.piecesFrom len ms ns
        else (ApiSpec.piecesFrom len ms ns).take k ++ [(((ApiSpec.piecesFrom len ms ns).getD k (0, 0)).1, len)]).map
        fun p => Item.piece p.1 p.2 := by
  induction ms generalizing ns k with
  | nil => cases k <;> simp [toPiecesN, ApiSpec.piecesFrom, Nat.not_lt.mpr hns]
  | cons m ms ih =>
    obtain ⟨s, e⟩ := m
    cases k with
    | zero => simp [toPiecesN, ApiSpec.piecesFrom, Nat.not_lt.mpr hns]
    | succ k =>
      simp only [List.map_cons, toPiecesN, ApiSpec.piecesFrom]
      rw [ih e k (hms (s, e) (by simp)) (fun m hm => hms m (by simp [hm]))]
      by_cases hle : (ApiSpec.piecesFrom len ms e).length ≤ k
      · simp [hle]
      · simp [hle]

/-- **the statement of `splitn`, for an error-free run**: if `find_iter` yields the matches `ms`, `splitn n` yields
    the property's `piecesN`: nothing for `n = 0`, the first `n - 1` pieces of `split` and then the untouched remainder -/
theorem C10_splitn_spec (f : Oracle (Nat × Nat)) (text : Bytes) (hwf : WFOracle f id text.length)
    (ms : List (Nat × Nat)) (hms : findIter f text = ms.map .ok) (n : Nat) :
    splitn f text n = (ApiSpec.piecesN text.length ms n).map (fun p => Item.piece p.1 p.2) := by
  cases n with
  | zero => simp [C10_splitn_zero, ApiSpec.piecesN]
  | succ k =>
    have hends := findIter_ok_ends f text hwf ms hms
    rw [C10_splitn_pieces f text hwf, hms, toPiecesN_ok _ _ _ _ (Nat.zero_le _) hends]
    rfl

example : toPiecesN 3 1 (findIter demoOracle [97, 97, 98]) 0 = splitn demoOracle [97, 97, 98] 2 := by rfl
example : splitn demoOracle [97, 97, 98] 2 = [.piece 0 0, .piece 2 3] := by rfl

end Api

/-! ## C10 completed: `split` with errors, `splitn` -/

/-- **the translated `split`, errors or not**: the pieces induced by the items of the translated `find_iter` -/
theorem C10_source_split_pieces (sem : RaSem) (fuel : Nat) (rx : RRegex) (b : Built) (h : Corr sem rx b)
    (chars : List Char) (hE : EngineOK b chars) (hns : noSelfNest b.raw = true) (hg : 1 ≤ b.nGroups) (text : Bytes)
    (htext : text.length = byteLen chars) :
    drain (genSplitNext (genFindOracle sem fuel rx chars) text) (text.length + 4) genSplit =
      toPieces text.length
        (iterItems (genMatchesNext (genFindOracle sem fuel rx chars) text) text (text.length + 3) genFindIter) 0 := by
  rw [C10_split_translated_eq, C08_find_iter_translated_eq, genFindOracle_eq sem fuel rx b h chars hE hns hg]
  exact C10_split_pieces_engine b chars _ fuel hE hns hg text htext

/-- **the translated `splitn`, errors or not**: nothing for `n = 0`; for `n = k + 1`, `k` items as `split`, then the
    untouched remainder -/
theorem C10_source_splitn_pieces (sem : RaSem) (fuel : Nat) (rx : RRegex) (b : Built) (h : Corr sem rx b)
    (chars : List Char) (hE : EngineOK b chars) (hns : noSelfNest b.raw = true) (hg : 1 ≤ b.nGroups) (text : Bytes)
    (htext : text.length = byteLen chars) :
    drain (genSplitNNext (genFindOracle sem fuel rx chars) text) (text.length + 4) (genSplitn 0) = [] ∧
    ∀ k, drain (genSplitNNext (genFindOracle sem fuel rx chars) text) (text.length + 4) (genSplitn (k + 1)) =
      toPiecesN text.length k
        (iterItems (genMatchesNext (genFindOracle sem fuel rx chars) text) text (text.length + 3) genFindIter) 0 := by
  have hwf := C08_engine_wf b chars (optionsOf rx).backtrackLimit fuel hE hns hg
  rw [← htext] at hwf
  refine ⟨by rw [C10_splitn_translated_eq]; exact C10_splitn_zero _ _, fun k => ?_⟩
  rw [C10_splitn_translated_eq, C08_find_iter_translated_eq, genFindOracle_eq sem fuel rx b h chars hE hns hg]
  exact C10_splitn_pieces _ text hwf k

/-- **C10 `splitn`, stage S5**: when the translated `find_iter` yields no `Err` item, the translated `splitn n` yields the
    property's pieces of the REFERENCE iteration: nothing for `n = 0`, otherwise the first `n - 1` pieces of the reference
    split and then the untouched remainder of the text -/
theorem C10_source_splitn_s5 {isAlnum : Char → Bool} {parse : List Char → Bool → LRes Parse.Tree} {options : ROptions}
    {sem : RaSem} {t : Parse.Tree} {b : Built} {rx : RRegex} (s : Source isAlnum parse options sem t b rx)
    (prog : Prog) (hk : b.kind = .fancy prog) (hst : s5Pattern t b = true)
    (chars : List Char) (hlen : chars.length < UNSET) (fuel : Nat) (text : Bytes) (htext : text.length = byteLen chars)
    (hnoerr : ∀ e, .error e ∉
      iterItems (genMatchesNext (genFindOracle sem fuel rx chars) text) text (text.length + 3) genFindIter) (n : Nat) :
    drain (genSplitNNext (genFindOracle sem fuel rx chars) text) (text.length + 4) (genSplitn n) =
      (ApiSpec.piecesN text.length (ApiSpec.iter (refSpanOracle b chars) text) n).map (fun p => Item.piece p.1 p.2) := by
  have hE := engineOK_s5 isAlnum _ _ t b prog s.parseStr s.hb hk hst chars hlen
  have hns := build_noSelfNest _ _ b s.hb
  have hg := build_nGroups_pos _ _ b s.hb
  have hwf := C08_engine_wf b chars (optionsOf rx).backtrackLimit fuel hE hns hg
  rw [← htext] at hwf
  rw [C08_find_iter_translated_eq, genFindOracle_eq sem fuel rx b s.corr.1 chars hE hns hg] at hnoerr
  rw [C10_splitn_translated_eq, genFindOracle_eq sem fuel rx b s.corr.1 chars hE hns hg]
  rcases C08_find_iter_is_reference b chars _ fuel hE hns hg text htext with hfi | ⟨ms, e, hfi, _⟩
  · exact C10_splitn_spec _ text hwf _ hfi n
  · exact absurd (by rw [hfi]; simp) (hnoerr e)

/-- **C10 `splitn`, the wrapped path**: unconditionally -/
theorem C10_source_splitn_wrap {isAlnum : Char → Bool} {parse : List Char → Bool → LRes Parse.Tree} {options : ROptions}
    {sem : RaSem} {t : Parse.Tree} {b : Built} {rx : RRegex} (s : Source isAlnum parse options sem t b rx)
    (hk : b.kind = .wrap) (chars : List Char) (fuel : Nat) (text : Bytes) (htext : text.length = byteLen chars) (n : Nat) :
    drain (genSplitNNext (genFindOracle sem fuel rx chars) text) (text.length + 4) (genSplitn n) =
      (ApiSpec.piecesN text.length (ApiSpec.iter (refSpanOracle b chars) text) n).map (fun p => Item.piece p.1 p.2) := by
  have hE := engineOK_wrap b chars hk
  have hns := build_noSelfNest _ _ b s.hb
  have hg := build_nGroups_pos _ _ b s.hb
  have hwf := C08_engine_wf b chars (optionsOf rx).backtrackLimit fuel hE hns hg
  rw [← htext] at hwf
  rw [C10_splitn_translated_eq, genFindOracle_eq sem fuel rx b s.corr.1 chars hE hns hg]
  exact C10_splitn_spec _ text hwf _ (C08_find_iter_is_reference_wrap _ _ b s.hb hk chars _ fuel text htext) n

/-! ## C02: every capture group of every item; C16: `captures_len` -/

/-- **C02, from the source text to the reference search, stage S5**: the translated `captures_iter` over the translated
    `captures` entry point yields values `as` each of which is — group for group, all `2 * n_groups` slots, in byte
    offsets — the reference search's answer at some search position; their overall spans are the reference iteration
    (or a prefix of it, followed by one resource stop) -/
theorem C02_source_to_reference_s5 {isAlnum : Char → Bool} {parse : List Char → Bool → LRes Parse.Tree} {options : ROptions}
    {sem : RaSem} {t : Parse.Tree} {b : Built} {rx : RRegex} (s : Source isAlnum parse options sem t b rx)
    (prog : Prog) (hk : b.kind = .fancy prog) (hst : s5Pattern t b = true)
    (chars : List Char) (hlen : chars.length < UNSET) (fuel : Nat) (text : Bytes) (htext : text.length = byteLen chars) :
    ∃ as : List (List (Option Nat)),
      (∀ a ∈ as, ∃ p fl, refCapsOracle b chars p fl = some a) ∧
      ((iterItems (genCaptureMatchesNext (genCapsOracle sem fuel rx chars) spanOfSlots text) text (text.length + 3)
            genCapturesIter = as.map .ok ∧
          as.map spanOfSlots = ApiSpec.iter (refSpanOracle b chars) text) ∨
       (∃ e, iterItems (genCaptureMatchesNext (genCapsOracle sem fuel rx chars) spanOfSlots text) text (text.length + 3)
            genCapturesIter = as.map .ok ++ [.error e] ∧
          as.map spanOfSlots <+: ApiSpec.iter (refSpanOracle b chars) text ∧
          (e = .limit ∨ e = .stack ∨ e = .outOfFuel))) := by
  have hE := engineOK_s5 isAlnum _ _ t b prog s.parseStr s.hb hk hst chars hlen
  rw [C09_captures_iter_translated_eq, genCapsOracle_eq sem fuel rx b s.corr.1 chars]
  exact C09_captures_iter_is_reference b chars _ fuel hE (build_noSelfNest _ _ b s.hb) (build_nGroups_pos _ _ b s.hb)
    text htext

/-- the same on the wrapped path: all items, no error -/
theorem C02_source_to_reference_wrap {isAlnum : Char → Bool} {parse : List Char → Bool → LRes Parse.Tree}
    {options : ROptions} {sem : RaSem} {t : Parse.Tree} {b : Built} {rx : RRegex}
    (s : Source isAlnum parse options sem t b rx) (hk : b.kind = .wrap)
    (chars : List Char) (fuel : Nat) (text : Bytes) (htext : text.length = byteLen chars) :
    ∃ as : List (List (Option Nat)),
      (∀ a ∈ as, ∃ p fl, refCapsOracle b chars p fl = some a) ∧
      iterItems (genCaptureMatchesNext (genCapsOracle sem fuel rx chars) spanOfSlots text) text (text.length + 3)
            genCapturesIter = as.map .ok ∧
      as.map spanOfSlots = ApiSpec.iter (refSpanOracle b chars) text := by
  have hE := engineOK_wrap b chars hk
  have hns := build_noSelfNest _ _ b s.hb
  have hg := build_nGroups_pos _ _ b s.hb
  rw [C09_captures_iter_translated_eq, genCapsOracle_eq sem fuel rx b s.corr.1 chars]
  obtain ⟨as, h1, h2 | ⟨e, h2, _, _⟩⟩ := C09_captures_iter_is_reference b chars (optionsOf rx).backtrackLimit fuel hE hns hg
    text htext
  · exact ⟨as, h1, h2.1, h2.2⟩
  · exfalso
    have h3 := C09_iters_equal (modelOracleF b chars (offsets chars) (optionsOf rx).backtrackLimit fuel) spanOfSlots text
    rw [← spanOracle_eq_spans, C08_find_iter_is_reference_wrap _ _ b s.hb hk chars _ fuel text htext, h2] at h3
    have : (Except.error e : Except SearchErr (Nat × Nat)) ∈
        List.map (Except.ok) (ApiSpec.iter (refSpanOracle b chars) text) := by
      rw [h3]; simp [mapItem]
    simp at this

/-- **C16, from the source**: the translated `captures_len` of the built regex is `1 + ` the number of groups of the
    parsed pattern, and every `Captures` value the translated `captures` entry point returns (in a context of the
    oracle: a character index inside the text) has exactly that `len()` -/
theorem C16_source_captures_len {isAlnum : Char → Bool} {parse : List Char → Bool → LRes Parse.Tree} {options : ROptions}
    {sem : RaSem} {t : Parse.Tree} {b : Built} {rx : RRegex} (s : Source isAlnum parse options sem t b rx)
    (chars : List Char) (hE : EngineOK b chars) (fuel : Nat) :
    genCapturesLen sem rx = 1 + groupCount t.expr ∧
    ∀ cpos flag cp, cpos ≤ chars.length →
      genCapturesFromPosWithOptionFlags sem fuel rx (mkCtx chars 0 flag) cpos (flagsOf flag) = .ok (some cp) →
      genCapturesLenOf cp = genCapturesLen sem rx := by
  have hcorr := s.corr.1
  have hlenb := C16_len _ _ b s.hb
  have h1 : genCapturesLen sem rx = b.nGroups := C16_captures_len_translated_eq sem rx b hcorr
  refine ⟨by rw [h1, hlenb], fun cpos flag cp hc hcp => ?_⟩
  rw [h1, C16_captures_len_of_translated_eq]
  rw [C09_captures_translated_eq sem fuel rx b hcorr, ctxOf_mkCtx] at hcp
  have hv := hE cpos flag hc (optionsOf rx).backtrackLimit fuel
  cases hcap : (b.captures (mkCtx chars cpos flag) (optionsOf rx).backtrackLimit fuel).1 with
  | found slots =>
    rw [hcap] at hcp hv
    simp only [expectCaptures, LRes.ok.injEq, Option.some.injEq] at hcp
    subst hcp
    have hsl : slots.length = 2 * b.nGroups := by
      rcases hv with hv | hv | hv | hv
      · cases hv
      · cases hv
      · cases hv
      · cases href : refSearch (mkCtx chars cpos flag) b.raw b.nGroups with
        | none => rw [href] at hv; cases hv
        | some f =>
          rw [href] at hv
          simp only [SearchResult.found.injEq] at hv
          rw [hv]
          exact (refSearch_valid _ _ _ (build_noSelfNest _ _ b s.hb) f href).len
    unfold toCaps capsOf Caps.len
    cases b.kind <;> simp [viewSlots_length, hsl]
  | noMatch => rw [hcap] at hcp; simp [expectCaptures] at hcp
  | errLimit => rw [hcap] at hcp; simp [expectCaptures] at hcp
  | errStack => rw [hcap] at hcp; simp [expectCaptures] at hcp
  | panic site => rw [hcap] at hcp; simp [expectCaptures] at hcp
  | outOfFuel => rw [hcap] at hcp; simp [expectCaptures] at hcp

end Fancy
