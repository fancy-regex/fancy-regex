import FancyModel.Lemmas.ProgDelegAll
import FancyModel.Lemmas.ParseShape
import FancyModel.Proofs.C06b
/-!
# C06 (compile step) — `Regex::new` never reaches "attempting to format hard expr"

`Expr::to_str` (src/lib.rs) ends with `_ => panic!("attempting to format hard expr")`: it can only print
what the regex crate can express.  It is called

* by `DelegateBuilder::push` (src/compile.rs: `info.expr.to_str(&mut self.re, 1)`) for every piece that
  `compile_delegate` / `compile_delegates` hand to regex-automata, and
* by `Regex::new_options` (src/lib.rs) for the whole user tree (`raw_e.to_str(&mut re_cooked, 0)`) when
  the analysis says the tree is not hard (the hand-off, "Wrap", path).

In the model `toStr sp e prec = none` is the panic.  Proved here:

* `toStr_isSome_of_easy` (with `toStrConcat_isSome_of_easy`, `toStrAlt_isSome_of_easy`): a tree the
  analyzer calls not hard, without subroutine calls, is printed at every precedence.  The side condition
  is needed: `isHard br (.subroutine g) = false` and `toStr sp (.subroutine g) p = none`
  (`toStr_subroutine_none`); it is the analyzer's *error check* (`checkRefs`, `FeatureNotSupported`), not
  the `hard` attribute, that keeps subroutine calls away from `to_str`.  Every assertion the analyzer
  calls not hard (`^ $ (?m:^) (?m:$)` and the CRLF variants) is one `to_str` prints
  (`toStr_assertion_isSome_iff`): no gap there.
* `visit_dAll` (+ companions): the induction over the compiler of `Lemmas/ProgDelegAll.lean` again, for the
  invariant "every `Delegate es sg eg` emitted has `es ≠ []`, `isHardAny br es = false`,
  `noSubAll es = true`".
* `C06_delegate_text_total`, `C06_wrap_text_total`, `C06_compile_no_panic`.

The `.lit` path (`isLiteral e` / `isLiteralAll es` ⇒ `Insn.lit (pushLiteral …)`) never calls `to_str`
(`compile_delegate(s)` return before building a `DelegateBuilder`), so there is nothing to prove for it;
`DelegateBuilder::build`'s `expect("Expected at least one expression")` is the `es ≠ []` part below.
-/
namespace Fancy

/-! ## 1. `to_str` of an easy tree -/

theorem toStr_subroutine_none (sp : Char → Bool) (br : Nat → Bool) (g p : Nat) :
    isHard br (.subroutine g) = false ∧ toStr sp (.subroutine g) p = none := by
  constructor
  · simp [isHard]
  · rw [toStr]
    all_goals (intros; simp_all)

/-- the assertions `to_str` prints are exactly those the analyzer calls not hard -/
theorem toStr_assertion_isSome_iff (sp : Char → Bool) (a : Assertion) (p : Nat) :
    (toStr sp (.assertion a) p).isSome = !a.isHard := by
  cases a with
  | startLine b => cases b <;> simp [toStr, Assertion.isHard]
  | endLine b => cases b <;> simp [toStr, Assertion.isHard]
  | _ => simp [toStr, Assertion.isHard]

theorem toStrConcat_isSome_iff (sp : Char → Bool) : ∀ (es : List Expr),
    (toStrConcat sp es).isSome = true ↔ ∀ e ∈ es, (toStr sp e 2).isSome = true
  | [] => by simp [toStrConcat]
  | e :: es => by
    have ih := toStrConcat_isSome_iff sp es
    simp only [toStrConcat, List.mem_cons, forall_eq_or_imp, ← ih]
    cases toStr sp e 2 <;> cases toStrConcat sp es <;> simp

mutual
/-- **a tree the analyzer calls easy, without subroutine calls, is printed** (`to_str` does not panic),
    at every precedence -/
theorem toStr_isSome_of_easy (sp : Char → Bool) (br : Nat → Bool) :
    ∀ (e : Expr), isHard br e = false → noSub e = true → ∀ p, (toStr sp e p).isSome = true
  | .empty, _, _, p => by rw [toStr]; rfl
  | .any _, _, _, p => by rw [toStr]; rfl
  | .literal _ _, _, _, p => by rw [toStr]; rfl
  | .delegate _ _ _, _, _, p => by rw [toStr]; rfl
  | .assertion a, hh, _, p => by
    rw [toStr_assertion_isSome_iff]; simpa [isHard] using hh
  | .concat es, hh, hs, p => by
    simp only [isHard] at hh; simp only [noSub] at hs
    have := toStrConcat_isSome_of_easy sp br es hh hs
    simp only [toStr, Option.isSome_map]; exact this
  | .alt es, hh, hs, p => by
    simp only [isHard] at hh; simp only [noSub] at hs
    have := toStrAlt_isSome_of_easy sp br es hh hs true
    simp only [toStr, Option.isSome_map]; exact this
  | .group g e, hh, hs, p => by
    simp only [isHard, Bool.or_eq_false_iff] at hh; simp only [noSub] at hs
    have := toStr_isSome_of_easy sp br e hh.1 hs 0
    simp only [toStr, Option.isSome_map]; exact this
  | .repeat e lo hi gr, hh, hs, p => by
    simp only [isHard, Bool.or_eq_false_iff] at hh; simp only [noSub] at hs
    have := toStr_isSome_of_easy sp br e hh.1 hs 3
    simp only [toStr, Option.isSome_map]; exact this
  | .subroutine _, _, hs, _ => by simp [noSub] at hs
  | .look _ _, hh, _, _ => by simp [isHard] at hh
  | .backref _, hh, _, _ => by simp [isHard] at hh
  | .atomic _, hh, _, _ => by simp [isHard] at hh
  | .keepOut, hh, _, _ => by simp [isHard] at hh
  | .contPrev, hh, _, _ => by simp [isHard] at hh
  | .backrefExists _, hh, _, _ => by simp [isHard] at hh
  | .cond _ _ _, hh, _, _ => by simp [isHard] at hh
theorem toStrConcat_isSome_of_easy (sp : Char → Bool) (br : Nat → Bool) :
    ∀ (es : List Expr), isHardAny br es = false → noSubAll es = true → (toStrConcat sp es).isSome = true
  | [], _, _ => by simp [toStrConcat]
  | e :: es, hh, hs => by
    simp only [isHardAny, Bool.or_eq_false_iff] at hh
    simp only [noSubAll, Bool.and_eq_true] at hs
    have h1 := toStr_isSome_of_easy sp br e hh.1 hs.1 2
    have h2 := toStrConcat_isSome_of_easy sp br es hh.2 hs.2
    simp only [toStrConcat]
    cases ha : toStr sp e 2 with
    | none => simp [ha] at h1
    | some a =>
      cases hb : toStrConcat sp es with
      | none => simp [hb] at h2
      | some b => simp
theorem toStrAlt_isSome_of_easy (sp : Char → Bool) (br : Nat → Bool) :
    ∀ (es : List Expr), isHardAny br es = false → noSubAll es = true →
      ∀ first, (toStrAlt sp es first).isSome = true
  | [], _, _, _ => by simp [toStrAlt]
  | e :: es, hh, hs, first => by
    simp only [isHardAny, Bool.or_eq_false_iff] at hh
    simp only [noSubAll, Bool.and_eq_true] at hs
    have h1 := toStr_isSome_of_easy sp br e hh.1 hs.1 1
    have h2 := toStrAlt_isSome_of_easy sp br es hh.2 hs.2 false
    simp only [toStrAlt]
    cases ha : toStr sp e 1 with
    | none => simp [ha] at h1
    | some a =>
      cases hb : toStrAlt sp es false with
      | none => simp [hb] at h2
      | some b => simp
end

/-! ## 2. The invariant of the compiler: every delegated piece is a non-empty run of easy expressions -/

/-- a `Delegate` instruction is built from at least one expression (`DelegateBuilder::build`'s `expect`),
    all of them easy for the analyzer and free of subroutine calls -/
def dOK (br : Nat → Bool) : Insn → Bool
  | .delegate es _ _ => !es.isEmpty && !isHardAny br es && noSubAll es
  | _ => true

def dAll (br : Nat → Bool) (code : List Insn) : Bool := code.all (dOK br)

theorem dAll_nil (br : Nat → Bool) : dAll br [] = true := rfl

theorem dAll_cons (br : Nat → Bool) (i : Insn) (code : List Insn) :
    dAll br (i :: code) = (dOK br i && dAll br code) := by
  simp only [dAll, List.all_cons]

theorem dAll_append (br : Nat → Bool) (a b : List Insn) :
    dAll br (a ++ b) = (dAll br a && dAll br b) := by
  simp only [dAll, List.all_append]

theorem dAll_iff (br : Nat → Bool) (code : List Insn) :
    dAll br code = true ↔
      ∀ es sg eg, Insn.delegate es sg eg ∈ code →
        es ≠ [] ∧ isHardAny br es = false ∧ noSubAll es = true := by
  simp only [dAll, List.all_eq_true]
  constructor
  · intro h es sg eg hm
    have := h _ hm
    simp only [dOK, Bool.and_eq_true, Bool.not_eq_true', List.isEmpty_eq_false_iff] at this
    exact ⟨this.1.1, this.1.2, this.2⟩
  · intro h i hm
    cases i with
    | delegate es sg eg =>
      have := h es sg eg hm
      simp only [dOK, Bool.and_eq_true, Bool.not_eq_true', List.isEmpty_eq_false_iff]
      exact ⟨⟨this.1, this.2.1⟩, this.2.2⟩
    | _ => rfl

theorem dAll_wrapPosLook (br : Nat → Bool) (atomic behind : Bool) (slot k : Nat) (body : Code) :
    dAll br (wrapPosLook atomic behind slot k body) = dAll br body := by
  cases atomic <;> cases behind <;>
    simp [wrapPosLook, dAll_append, dAll_cons, dAll_nil, dOK]

theorem dAll_wrapNegLook (br : Nat → Bool) (behind : Bool) (pc k : Nat) (body : Code) :
    dAll br (wrapNegLook behind pc k body) = dAll br body := by
  cases behind <;> simp [wrapNegLook, dAll_append, dAll_cons, dAll_nil, dOK]

theorem noSubAll_take : ∀ (es : List Expr) (k : Nat), noSubAll es = true → noSubAll (es.take k) = true
  | [], _, _ => by simp [noSubAll]
  | _ :: _, 0, _ => by simp [noSubAll]
  | e :: es, k + 1, h => by
    simp only [noSubAll, Bool.and_eq_true] at h
    simp only [List.take_succ_cons, noSubAll, Bool.and_eq_true]
    exact ⟨h.1, noSubAll_take es k h.2⟩

theorem noSubAll_drop : ∀ (es : List Expr) (k : Nat), noSubAll es = true → noSubAll (es.drop k) = true
  | [], _, _ => by simp [noSubAll]
  | _ :: _, 0, h => by simpa using h
  | e :: es, k + 1, h => by
    simp only [noSubAll, Bool.and_eq_true] at h
    simp only [List.drop_succ_cons]
    exact noSubAll_drop es k h.2

theorem dAll_compileDelegate (br : Nat → Bool) (e : Expr) (gix : Nat)
    (hh : isHard br e = false) (hs : noSub e = true) : dAll br (compileDelegate e gix) = true := by
  unfold compileDelegate
  split
  · simp [dAll_cons, dAll_nil, dOK]
  · simp [dAll_cons, dAll_nil, dOK, isHardAny, noSubAll, hh, hs]

theorem dAll_compileDelegates (br : Nat → Bool) (es : List Expr) (gix : Nat)
    (hh : isHardAny br es = false) (hs : noSubAll es = true) :
    dAll br (compileDelegates es gix) = true := by
  unfold compileDelegates
  split
  · rfl
  · rename_i hne
    split
    · simp [dAll_cons, dAll_nil, dOK]
    · simp [dAll_cons, dAll_nil, dOK, hh, hs, hne]

/-! ### Induction over the compiler (the structure of `delegInP_all`, Lemmas/ProgDelegAll.lean) -/

def DAllP (br : Nat → Bool) (e : Expr) : Prop :=
  ∀ (hard : Bool) (pc nsv gix : Nat) (code : Code) (nsv' : Nat),
    noSub e = true → visit br e hard pc nsv gix = .ok (code, nsv') → dAll br code = true

section Arms
variable {br : Nat → Bool}

theorem dAll_leaf {nsv nsv' : Nat} {c code : Code} (hc : dAll br c = true)
    (hv : (.ok (c, nsv) : CRes) = .ok (code, nsv')) : dAll br code = true := by
  cases hv; exact hc

/-- the whole expression handed over (non-hard context, easy expression): every arm needs to look only at
    the case where the node is compiled for the VM -/
theorem dAllP_of_hard {e : Expr}
    (h : ∀ (hard : Bool) (pc nsv gix : Nat) (code : Code) (nsv' : Nat), ¬(!hard && !isHard br e) = true →
      noSub e = true → visit br e hard pc nsv gix = .ok (code, nsv') → dAll br code = true) : DAllP br e := by
  intro hard pc nsv gix code nsv' hs hv
  by_cases hdel : (!hard && !isHard br e) = true
  · rw [visit_easy_eq br e hard pc nsv gix hdel] at hv
    simp only [Bool.and_eq_true, Bool.not_eq_true'] at hdel
    exact dAll_leaf (dAll_compileDelegate br e gix hdel.2 hs) hv
  · exact h hard pc nsv gix code nsv' hdel hs hv

theorem dAll_leafCode (e : Expr) : dAll br (leafCode e) = true := by
  unfold leafCode
  split <;> rfl

theorem dAllP_leaf {e : Expr} (hl : e.isLeaf = true) : DAllP br e := by
  intro hard pc nsv gix code nsv' hs hv
  obtain ⟨-, ⟨rfl, hh⟩ | rfl⟩ := visit_leaf_ok hl hv
  · exact dAll_compileDelegate br e gix hh hs
  · exact dAll_leafCode e

theorem dAllP_group {g : Nat} {c : Expr} (ih : DAllP br c) : DAllP br (.group g c) :=
  dAllP_of_hard fun hard pc nsv gix code nsv' hdel hs hv => by
    obtain ⟨body, hb, rfl⟩ := visit_group_ok hdel hv
    have ihb := ih _ _ _ _ _ _ hs hb
    simp only [dAll_append, dAll_cons, dAll_nil, dOK, ihb, Bool.and_true]

theorem dAllP_atomic {c : Expr} (ih : DAllP br c) : DAllP br (.atomic c) := by
  intro hard pc nsv gix code nsv' hs hv
  obtain ⟨body, hb, rfl⟩ := visit_atomic_ok hv
  have ihb := ih _ _ _ _ _ _ hs hb
  simp only [dAll_append, dAll_cons, dAll_nil, dOK, ihb, Bool.and_true]

theorem dAllP_cond {c y n : Expr} (ihc : DAllP br c) (ihy : DAllP br y) (ihn : DAllP br n) :
    DAllP br (.cond c y n) := by
  intro hard pc nsv gix code nsv' hs hv
  simp only [noSub, Bool.and_eq_true] at hs
  obtain ⟨cc, nsv1, yc, nsv2, nc, hb1, hb2, hb3, rfl⟩ := visit_cond_ok hv
  have k1 := ihc _ _ _ _ _ _ hs.1.1 hb1
  have k2 := ihy _ _ _ _ _ _ hs.1.2 hb2
  have k3 := ihn _ _ _ _ _ _ hs.2 hb3
  simp only [dAll_append, dAll_cons, dAll_nil, dOK, k1, k2, k3, Bool.and_true]

theorem dAllP_repeat {c : Expr} {lo : Nat} {hi : Option Nat} {greedy : Bool} (ih : DAllP br c) :
    DAllP br (.repeat c lo hi greedy) :=
  dAllP_of_hard fun hard pc nsv gix code nsv' hdel hs hv => by
    by_cases hopt : (lo == 0 && hi == some 1) = true
    · obtain ⟨body, hb, rfl⟩ := visit_opt_ok hdel hopt hv
      have ihb := ih _ _ _ _ _ _ hs hb
      cases greedy <;> simp [dAll_cons, dOK, ihb]
    by_cases heps : (hi == none && minSize c == 0) = true
    · obtain ⟨body, hb, rfl⟩ := visit_repeatEps_ok hdel hopt heps hv
      have ihb := ih _ _ _ _ _ _ hs hb
      cases greedy <;> simp [dAll_append, dAll_cons, dAll_nil, dOK, ihb]
    by_cases hstar : (lo == 0 && hi == none) = true
    · obtain ⟨body, hb, rfl⟩ := visit_star_ok hdel hopt heps hstar hv
      have ihb := ih _ _ _ _ _ _ hs hb
      cases greedy <;> simp [dAll_append, dAll_cons, dAll_nil, dOK, ihb]
    by_cases hplus : (lo == 1 && hi == none) = true
    · obtain ⟨body, hb, rfl⟩ := visit_plus_ok hdel hopt heps hstar hplus hv
      have ihb := ih _ _ _ _ _ _ hs hb
      cases greedy <;> simp [dAll_append, dAll_cons, dAll_nil, dOK, ihb]
    · obtain ⟨body, hb, rfl⟩ := visit_counted_ok hdel hopt heps hstar hplus hv
      have ihb := ih _ _ _ _ _ _ hs hb
      cases greedy <;> simp [dAll_append, dAll_cons, dAll_nil, dOK, ihb]

/-! the companions over lists, given the invariant for the members -/

theorem dAll_visitMiddle : ∀ (es : List Expr), (∀ e ∈ es, DAllP br e) →
    ∀ (take pc nsv gix : Nat) (code : Code) (nsv' : Nat),
      noSubAll es = true → visitMiddle br es 0 take pc nsv gix = .ok (code, nsv') → dAll br code = true
  | [], _, take, pc, nsv, gix, code, nsv', _, hv => by
    simp only [visitMiddle] at hv; exact dAll_leaf rfl hv
  | e :: es, _, 0, pc, nsv, gix, code, nsv', _, hv => by
    simp only [visitMiddle] at hv; exact dAll_leaf rfl hv
  | e :: es, ih, take + 1, pc, nsv, gix, code, nsv', hs, hv => by
    obtain ⟨c1, nsv1, c2, hb1, hb2, rfl⟩ := visitMiddle_cons_ok hv
    simp only [noSubAll, Bool.and_eq_true] at hs
    simp only [dAll_append, Bool.and_eq_true]
    exact ⟨ih e (List.mem_cons_self ..) _ _ _ _ _ _ hs.1 hb1,
      dAll_visitMiddle es (fun x hx => ih x (List.mem_cons_of_mem _ hx)) _ _ _ _ _ _ hs.2 hb2⟩

theorem dAll_visitAlt : ∀ (es : List Expr), (∀ e ∈ es, DAllP br e) →
    ∀ (hard : Bool) (pc nsv gix : Nat) (f : Nat → Code) (endPc nsv' : Nat),
      noSubAll es = true → visitAlt br es hard pc nsv gix = .ok (f, endPc, nsv') → ∀ t, dAll br (f t) = true
  | [], _, hard, pc, nsv, gix, f, endPc, nsv', _, hv => by
    simp only [visitAlt] at hv; cases hv
    exact fun _ => rfl
  | [e], ih, hard, pc, nsv, gix, f, endPc, nsv', hs, hv => by
    obtain ⟨c, hb, rfl, rfl⟩ := visitAlt_single_ok hv
    simp only [noSubAll, Bool.and_eq_true] at hs
    exact fun _ => ih e (List.mem_cons_self ..) _ _ _ _ _ _ hs.1 hb
  | e :: e2 :: es, ih, hard, pc, nsv, gix, f, endPc, nsv', hs, hv => by
    obtain ⟨c, nsv1, f2, hb1, hb2, rfl⟩ := visitAlt_cons_ok hv
    rw [noSubAll, Bool.and_eq_true] at hs
    have k1 := ih e (List.mem_cons_self ..) _ _ _ _ _ _ hs.1 hb1
    intro t
    have k2 := dAll_visitAlt (e2 :: es) (fun x hx => ih x (List.mem_cons_of_mem _ hx)) _ _ _ _ _ _ _ hs.2 hb2 t
    simp only [dAll_append, dAll_cons, dAll_nil, dOK, k1, k2, Bool.and_true]

theorem dAll_lookBehindAlts : ∀ (es : List Expr), (∀ e ∈ es, DAllP br e) →
    ∀ (pc nsv gix : Nat) (f : Nat → Code) (endPc nsv' : Nat),
      noSubAll es = true → lookBehindAlts br es pc nsv gix = .ok (f, endPc, nsv') → ∀ t, dAll br (f t) = true
  | [], _, pc, nsv, gix, f, endPc, nsv', _, hv => by
    simp only [lookBehindAlts] at hv; cases hv
    exact fun _ => rfl
  | [e], ih, pc, nsv, gix, f, endPc, nsv', hs, hv => by
    obtain ⟨_, body, hb, rfl, rfl⟩ := lookBehindAlts_single_ok hv
    simp only [noSubAll, Bool.and_eq_true] at hs
    intro _
    simp only [dAll_wrapPosLook]
    exact ih e (List.mem_cons_self ..) _ _ _ _ _ _ hs.1 hb
  | e :: e2 :: es, ih, pc, nsv, gix, f, endPc, nsv', hs, hv => by
    obtain ⟨_, body, nsv1, f2, hb1, hb2, rfl⟩ := lookBehindAlts_cons_ok hv
    rw [noSubAll, Bool.and_eq_true] at hs
    have k1 := ih e (List.mem_cons_self ..) _ _ _ _ _ _ hs.1 hb1
    intro t
    have k2 := dAll_lookBehindAlts (e2 :: es) (fun x hx => ih x (List.mem_cons_of_mem _ hx)) _ _ _ _ _ _ hs.2 hb2 t
    simp only [dAll_append, dAll_cons, dAll_nil, dOK, dAll_wrapPosLook, k1, k2, Bool.and_true]

theorem dAll_lookBehindNegAlts : ∀ (es : List Expr), (∀ e ∈ es, DAllP br e) →
    ∀ (pc nsv gix : Nat) (code : Code) (nsv' : Nat),
      noSubAll es = true → lookBehindNegAlts br es pc nsv gix = .ok (code, nsv') → dAll br code = true
  | [], _, pc, nsv, gix, code, nsv', _, hv => by
    simp only [lookBehindNegAlts] at hv; exact dAll_leaf rfl hv
  | e :: es, ih, pc, nsv, gix, code, nsv', hs, hv => by
    obtain ⟨_, body, nsv1, c2, hb1, hb2, rfl⟩ := lookBehindNegAlts_cons_ok hv
    simp only [noSubAll, Bool.and_eq_true] at hs
    simp only [dAll_append, dAll_wrapNegLook, Bool.and_eq_true]
    exact ⟨ih e (List.mem_cons_self ..) _ _ _ _ _ _ hs.1 hb1,
      dAll_lookBehindNegAlts es (fun x hx => ih x (List.mem_cons_of_mem _ hx)) _ _ _ _ _ hs.2 hb2⟩

theorem dAllP_concat {es : List Expr} (ih : ∀ e ∈ es, DAllP br e) : DAllP br (.concat es) :=
  dAllP_of_hard fun hard pc nsv gix code nsv' hdel hs hv => by
    obtain ⟨mid, hb, rfl⟩ := visit_concat_ok hdel hv
    simp only [noSub] at hs
    simp only [dAll_append, Bool.and_eq_true]
    exact ⟨⟨dAll_compileDelegates br _ gix (concatSplit_prefix_isHardAny br es hard) (noSubAll_take es _ hs),
      dAll_visitMiddle _ (fun e he => ih e (List.mem_of_mem_drop he)) _ _ _ _ _ _ (noSubAll_drop es _ hs) hb⟩,
      dAll_compileDelegates br _ _ (concatSplit_suffix_isHardAny br es hard) (noSubAll_drop es _ hs)⟩

theorem dAllP_alt {es : List Expr} (ih : ∀ e ∈ es, DAllP br e) : DAllP br (.alt es) :=
  dAllP_of_hard fun hard pc nsv gix code nsv' hdel hs hv => by
    obtain ⟨f, endPc, hb, rfl⟩ := visit_alt_ok hdel hv
    exact dAll_visitAlt es ih _ _ _ _ _ _ _ hs hb endPc

/-- `ihl`: the invariant for the alternatives when the body is an alternation -/
theorem dAllP_look {c : Expr} {la : Look} (ih : DAllP br c)
    (ihl : ∀ es, c = .alt es → ∀ e ∈ es, DAllP br e) : DAllP br (.look c la) := by
  intro hard pc nsv gix code nsv' hs hv
  have hsc : noSub c = true := hs
  have pos : ∀ {a b pc' nsv1 k body}, visit br c false pc' nsv1 gix = .ok (body, nsv') →
      dAll br (wrapPosLook a b nsv k body) = true := fun hb => by
    simpa only [dAll_wrapPosLook] using ih _ _ _ _ _ _ hsc hb
  have neg : ∀ {b pc' k body}, visit br c false pc' nsv gix = .ok (body, nsv') →
      dAll br (wrapNegLook b pc k body) = true := fun hb => by
    simpa only [dAll_wrapNegLook] using ih _ _ _ _ _ _ hsc hb
  cases la with
  | ahead => obtain ⟨body, hb, rfl⟩ := visit_ahead_ok hv; exact pos hb
  | aheadNeg => obtain ⟨body, hb, rfl⟩ := visit_aheadNeg_ok hv; exact neg hb
  | behind =>
    cases hcs : constSize c
    · obtain ⟨es, f, endPc, rfl, hb, rfl⟩ := visit_behind_var_ok hcs hv
      have ihf := dAll_lookBehindAlts es (ihl es rfl) _ _ _ _ _ _ hsc hb endPc
      simp only [dAll_append, dAll_cons, dAll_nil, dOK, ihf, Bool.and_true]
    · obtain ⟨body, hb, rfl⟩ := visit_behind_const_ok hcs hv
      exact pos hb
  | behindNeg =>
    cases hcs : constSize c
    · obtain ⟨es, rfl, hb⟩ := visit_behindNeg_var_ok hcs hv
      exact dAll_lookBehindNegAlts es (ihl es rfl) _ _ _ _ _ hsc hb
    · obtain ⟨body, hb, rfl⟩ := visit_behindNeg_const_ok hcs hv
      exact neg hb

end Arms

theorem dAllP_all (br : Nat → Bool) (e : Expr) : DAllP br e := by
  induction e using Expr.induct_look with
  | group g c ih => exact dAllP_group ih
  | atomic c ih => exact dAllP_atomic ih
  | cond c y n ihc ihy ihn => exact dAllP_cond ihc ihy ihn
  | «repeat» c lo hi greedy ih => exact dAllP_repeat ih
  | concat es ih => exact dAllP_concat ih
  | alt es ih => exact dAllP_alt ih
  | look c la ih ihl => exact dAllP_look ih ihl
  | _ => exact dAllP_leaf rfl

theorem visit_dAll (br : Nat → Bool) (e : Expr) (hard : Bool) (pc nsv gix : Nat) (code : Code) (nsv' : Nat) :
    noSub e = true → visit br e hard pc nsv gix = .ok (code, nsv') → dAll br code = true :=
  dAllP_all br e hard pc nsv gix code nsv'

theorem visitMiddle_dAll (br : Nat → Bool) :
    ∀ (es : List Expr) (take pc nsv gix : Nat) (code : Code) (nsv' : Nat),
      noSubAll es = true → visitMiddle br es 0 take pc nsv gix = .ok (code, nsv') → dAll br code = true :=
  fun es => dAll_visitMiddle es fun e _ => dAllP_all br e

theorem visitAlt_dAll (br : Nat → Bool) :
    ∀ (es : List Expr) (hard : Bool) (pc nsv gix : Nat) (f : Nat → Code) (endPc nsv' : Nat),
      noSubAll es = true → visitAlt br es hard pc nsv gix = .ok (f, endPc, nsv') →
      ∀ t, dAll br (f t) = true :=
  fun es => dAll_visitAlt es fun e _ => dAllP_all br e

theorem lookBehindAlts_dAll (br : Nat → Bool) :
    ∀ (es : List Expr) (pc nsv gix : Nat) (f : Nat → Code) (endPc nsv' : Nat),
      noSubAll es = true → lookBehindAlts br es pc nsv gix = .ok (f, endPc, nsv') →
      ∀ t, dAll br (f t) = true :=
  fun es => dAll_lookBehindAlts es fun e _ => dAllP_all br e

theorem lookBehindNegAlts_dAll (br : Nat → Bool) :
    ∀ (es : List Expr) (pc nsv gix : Nat) (code : Code) (nsv' : Nat),
      noSubAll es = true → lookBehindNegAlts br es pc nsv gix = .ok (code, nsv') → dAll br code = true :=
  fun es => dAll_lookBehindNegAlts es fun e _ => dAllP_all br e

/-- the general lemma over the compiler, in `∀ … ∈ code` form -/
theorem visit_delegates_easy (br : Nat → Bool) (e : Expr) (hard : Bool) (pc nsv gix : Nat) (code : Code) (nsv' : Nat)
    (hs : noSub e = true) (hv : visit br e hard pc nsv gix = .ok (code, nsv')) :
    ∀ es sg eg, Insn.delegate es sg eg ∈ code →
      es ≠ [] ∧ isHardAny br es = false ∧ noSubAll es = true :=
  (dAll_iff br code).mp (visit_dAll br e hard pc nsv gix code nsv' hs hv)

theorem compile_dAll (br : Nat → Bool) (e : Expr) (prog : Prog) (hs : noSub e = true)
    (hc : compile br e = .ok prog) : dAll br prog.body = true := by
  unfold compile at hc
  simp only at hc
  cases hv : visit br e false 0 (groupCount e * 2) 0 with
  | error err => simp [hv] at hc
  | ok p =>
    obtain ⟨code, nsv⟩ := p
    simp only [hv, Except.ok.injEq] at hc
    subst hc
    have h := visit_dAll br e false 0 (groupCount e * 2) 0 code nsv hs hv
    simp only [dAll_append, dAll_cons, dAll_nil, dOK, h, Bool.and_true]

/-- the wrapped tree of a tree that builds holds no subroutine call (the analyzer's check) -/
theorem build_wrapped_noSub (tree : Expr) (backrefs : List Nat) (b : Built)
    (hb : build tree backrefs = .ok b) : noSub b.wrapped = true ∧ noSub b.raw = true := by
  obtain ⟨hr, hw, _, _, _⟩ := build_raw_eq tree backrefs b hb
  have hs := build_noSub tree backrefs b hb
  rw [hw, hr]
  simp [noSub, noSubAll, noSub_renumber, hs]

/-- every `Delegate` of every program `build` returns: a non-empty run of easy expressions without
    subroutine calls -/
theorem build_delegates_easy (tree : Expr) (backrefs : List Nat) (b : Built) (prog : Prog)
    (hb : build tree backrefs = .ok b) (hk : b.kind = .fancy prog) :
    ∀ es sg eg, Insn.delegate es sg eg ∈ prog.body →
      es ≠ [] ∧ isHardAny (fun g => backrefs.contains g) es = false ∧ noSubAll es = true := by
  obtain ⟨_, _, _, _, hcomp⟩ := build_fancy tree backrefs b prog hb hk
  exact (dAll_iff _ _).mp (compile_dAll _ b.wrapped prog (build_wrapped_noSub tree backrefs b hb).1 hcomp)

/-- on the hand-off path the user's tree is easy -/
theorem build_wrap_easy (tree : Expr) (backrefs : List Nat) (b : Built)
    (hb : build tree backrefs = .ok b) (hk : b.kind = .wrap) :
    isHard (fun g => backrefs.contains g) b.raw = false := by
  unfold build at hb
  simp only [renumber_wrapTree] at hb
  split at hb
  · cases hb
  · split at hb
    · rename_i hh
      cases hb
      simpa using hh
    · split at hb
      · cases hb
      · cases hb; simp at hk

/-! `to_str` does not look at group numbers: the text of the numbered tree is the text of the parser's -/
mutual
theorem toStr_renumber (sp : Char → Bool) : ∀ (e : Expr) (n p : Nat),
    toStr sp (renumber e n).1 p = toStr sp e p
  | .group g e, n, p => by simp only [renumber, toStr, toStr_renumber sp e (n + 1) 0]
  | .concat es, n, p => by simp only [renumber, toStr, toStrConcat_renumber sp es n]
  | .alt es, n, p => by simp only [renumber, toStr, toStrAlt_renumber sp es n true]
  | .repeat e lo hi gr, n, p => by simp only [renumber, toStr, toStr_renumber sp e n 3]
  | .look e la, n, p => by
    simp only [renumber]
    rw [toStr, toStr]
    all_goals (intros; simp_all)
  | .atomic e, n, p => by
    simp only [renumber]
    rw [toStr, toStr]
    all_goals (intros; simp_all)
  | .cond c y f, n, p => by
    simp only [renumber]
    rw [toStr, toStr]
    all_goals (intros; simp_all)
  | .empty, _, _ | .any _, _, _ | .assertion _, _, _ | .literal _ _, _, _ | .delegate _ _ _, _, _
  | .backref _, _, _ | .keepOut, _, _ | .contPrev, _, _ | .backrefExists _, _, _ | .subroutine _, _, _ => by
    simp only [renumber]
theorem toStrConcat_renumber (sp : Char → Bool) : ∀ (es : List Expr) (n : Nat),
    toStrConcat sp (renumberList es n).1 = toStrConcat sp es
  | [], _ => by simp only [renumberList]
  | e :: es, n => by
    simp only [renumberList, toStrConcat, toStr_renumber sp e n 2, toStrConcat_renumber sp es _]
theorem toStrAlt_renumber (sp : Char → Bool) : ∀ (es : List Expr) (n : Nat) (first : Bool),
    toStrAlt sp (renumberList es n).1 first = toStrAlt sp es first
  | [], _, _ => by simp only [renumberList]
  | e :: es, n, first => by
    simp only [renumberList, toStrAlt, toStr_renumber sp e n 1, toStrAlt_renumber sp es _ false]
end

/-! ## 3. The theorems -/

/-- **every delegated piece can be printed**: in every program `build` returns, every `Delegate es sg eg`
    is built from at least one expression (`DelegateBuilder::build`'s `expect` holds), each of them is
    printed by `to_str` at every precedence — in particular at precedence 1, the call
    `info.expr.to_str(&mut self.re, 1)` of `DelegateBuilder::push` — and so is the concatenation the model
    keeps.  The compile step never reaches `panic!("attempting to format hard expr")`. -/
theorem C06_delegate_text_total (sp : Char → Bool) (tree : Expr) (backrefs : List Nat) (b : Built) (prog : Prog)
    (hb : build tree backrefs = .ok b) (hk : b.kind = .fancy prog) :
    ∀ es sg eg, Insn.delegate es sg eg ∈ prog.body →
      (toStrConcat sp es).isSome = true ∧ es ≠ [] ∧ ∀ e ∈ es, ∀ p, (toStr sp e p).isSome = true := by
  intro es sg eg hm
  obtain ⟨hne, hh, hs⟩ := build_delegates_easy tree backrefs b prog hb hk es sg eg hm
  refine ⟨toStrConcat_isSome_of_easy sp _ es hh hs, hne, fun e he p => ?_⟩
  exact toStr_isSome_of_easy sp _ e ((isHardAny_false_iff _ es).mp hh e he)
    (by
      clear hm hh hne
      induction es with
      | nil => cases he
      | cons x xs ih =>
        simp only [noSubAll, Bool.and_eq_true] at hs
        rcases List.mem_cons.mp he with rfl | h
        · exact hs.1
        · exact ih hs.2 h) p

/-- **the hand-off path prints the user's tree**: `new_options` calls `raw_e.to_str(&mut re_cooked, 0)` on
    the user's expression inside the wrapper (`tree.expr = Concat[_, Group(raw_e)]`): `b.raw`, which is
    the parser's tree with its groups numbered — and `to_str` ignores the numbers, so this is also the
    text of `tree` itself -/
theorem C06_wrap_text_total (sp : Char → Bool) (tree : Expr) (backrefs : List Nat) (b : Built)
    (hb : build tree backrefs = .ok b) (hk : b.kind = .wrap) :
    (toStr sp b.raw 0).isSome = true ∧ toStr sp b.raw 0 = toStr sp tree 0 := by
  have hr := (build_raw_eq tree backrefs b hb).1
  refine ⟨toStr_isSome_of_easy sp _ b.raw (build_wrap_easy tree backrefs b hb hk)
    (build_wrapped_noSub tree backrefs b hb).2 0, ?_⟩
  rw [hr, toStr_renumber]

/-- **C06, compile step, from the pattern string**: whatever the parser returns, if `build` accepts it then
    neither `to_str` call site panics -/
theorem C06_compile_no_panic (sp : Char → Bool) (isAlnum : Char → Bool) (cs : List Char) (casei : Bool)
    (t : Parse.Tree) (b : Built) (_h : Parse.parseStr isAlnum cs casei = .ok t)
    (hb : build t.expr t.backrefs = .ok b) :
    (∀ prog, b.kind = .fancy prog → ∀ es sg eg, Insn.delegate es sg eg ∈ prog.body →
      (toStrConcat sp es).isSome = true ∧ es ≠ [] ∧ ∀ e ∈ es, ∀ p, (toStr sp e p).isSome = true) ∧
    (b.kind = .wrap → (toStr sp b.raw 0).isSome = true ∧ toStr sp b.raw 0 = toStr sp t.expr 0) :=
  ⟨fun prog hk => C06_delegate_text_total sp t.expr t.backrefs b prog hb hk,
   fun hk => C06_wrap_text_total sp t.expr t.backrefs b hb hk⟩

/-- the hypothesis `build … = .ok b` matters: the compiler model *without* the analyzer's check hands a
    subroutine call over (easy for `Info::hard`), and its text is the panic.  No pattern string reaches
    this: `analyze` (here `checkRefs`) answers `FeatureNotSupported` first. -/
theorem C06_subroutine_needs_check (sp : Char → Bool) (br : Nat → Bool) :
    visit br (.subroutine 1) false 0 0 0 = .ok ([.delegate [.subroutine 1] 0 0], 0) ∧
    toStrConcat sp [.subroutine 1] = none ∧
    (∀ backrefs, build (.subroutine 1) backrefs = .error .featureNotSupported) := by
  refine ⟨?_, ?_, fun backrefs => ?_⟩
  · rw [visit_easy_eq br _ false 0 0 0 (by simp [isHard])]
    simp [compileDelegate, isLiteral, groupCount]
  · simp [toStrConcat, (toStr_subroutine_none sp br 1 2).2]
  · simp [build, wrapTree, renumber, renumberList, checkRefs, checkRefsList]

/-! ## Non-vacuity -/

section Examples
open Parse

private def spGen : Char → Bool := Generated.isSpecial

/-- the piece `(a|b)c` of `(?=(a|b)c)x` -/
private def exPiece : Expr :=
  .concat [.group 1 (.alt [.literal ['a'] false, .literal ['b'] false]), .literal ['c'] false]

set_option linter.unusedSimpArgs false in
private theorem exDeleg_build : build exDelegGroupTree [] = .ok
    ⟨.concat [.look exPiece .ahead, .literal ['x'] false],
      .concat [.repeat (.any true) 0 none false, .group 0 (.concat [.look exPiece .ahead, .literal ['x'] false])],
      2, [], .fancy ⟨[.split 3 1, .any, .jmp 0, .save 0, .save 4, .delegate [exPiece] 1 2,
        .restore 4, .lit ['x'], .save 1, .end_], 5⟩⟩ := by
  simp [build, exDelegGroupTree, exPiece, wrapTree, renumber, renumberList, checkRefs, checkRefsList, isHard, isHardAny,
    compile, visit, visitMiddle, visitAlt, concatSplit, groupCount, groupCountList, constSize, constSizeAll, minSize,
    minSizeMin, minSizeSum, allMinSize, compileDelegates, compileDelegate, isLiteral, isLiteralAll, boundsEq, satMul,
    satAdd, sureReps, UNSET, wrapPosLook, posLookBodyPc, pushLiteral, pushLiteralAll]

/-- `(?=(a|b)c)x` from the pattern string: parsed, built for the VM, the body of the look-ahead is the
    `Delegate [(a|b)c] 1 2`; the text `DelegateBuilder::push` writes (precedence 1) is `(a|b)c`, the model's
    concatenation (precedence 2) is `(?:(a|b)c)`; `.lit ['x']` is the literal path (no `to_str`) -/
example : ∃ t b prog, parseStr (fun c => c.isAlphanum) "(?=(a|b)c)x".toList false = .ok t ∧
    build t.expr t.backrefs = .ok b ∧ b.kind = .fancy prog ∧
    Insn.delegate [exPiece] 1 2 ∈ prog.body ∧ Insn.lit ['x'] ∈ prog.body ∧
    toStr spGen exPiece 1 = some "(a|b)c".toList ∧
    toStrConcat spGen [exPiece] = some "(?:(a|b)c)".toList ∧
    (toStrConcat spGen [exPiece]).isSome = true := by
  have hp : parseStr (fun c => c.isAlphanum) "(?=(a|b)c)x".toList false = .ok ⟨exDelegGroupTree, [], []⟩ :=
    isTree_sound (by decide +kernel)
  refine ⟨_, _, _, hp, exDeleg_build, rfl, by simp, by simp, by decide, by decide, ?_⟩
  exact (C06_compile_no_panic spGen _ _ _ _ _ hp exDeleg_build).1 _ rfl [exPiece] 1 2 (by simp) |>.1

/-- `(a|b)*\.c` : not hard, handed over whole; the text `new_options` prints -/
private def exWrapTree : Expr :=
  .concat [.repeat (.group 0 (.alt [.literal ['a'] false, .literal ['b'] false])) 0 none true,
    .literal ['.'] false, .literal ['c'] false]

set_option linter.unusedSimpArgs false in
private theorem exWrap_build : build exWrapTree [] = .ok
    ⟨.concat [.repeat (.group 1 (.alt [.literal ['a'] false, .literal ['b'] false])) 0 none true,
        .literal ['.'] false, .literal ['c'] false],
      .concat [.repeat (.any true) 0 none false, .group 0 (.concat [.repeat (.group 1 (.alt [.literal ['a'] false,
        .literal ['b'] false])) 0 none true, .literal ['.'] false, .literal ['c'] false])],
      2, [], .wrap⟩ := by
  simp [build, exWrapTree, wrapTree, renumber, renumberList, checkRefs, checkRefsList, isHard, isHardAny, groupCount,
    groupCountList]

example : ∃ t b, parseStr (fun c => c.isAlphanum) "(a|b)*\\.c".toList false = .ok t ∧
    build t.expr t.backrefs = .ok b ∧ b.kind = .wrap ∧
    toStr spGen b.raw 0 = some "(a|b)*\\.c".toList ∧ (toStr spGen b.raw 0).isSome = true := by
  have hp : parseStr (fun c => c.isAlphanum) "(a|b)*\\.c".toList false = .ok ⟨exWrapTree, [], []⟩ :=
    isTree_sound (by decide +kernel)
  exact ⟨_, _, hp, exWrap_build, rfl, by decide,
    ((C06_compile_no_panic spGen _ _ _ _ _ hp exWrap_build).2 rfl).1⟩

/-- the side condition of `toStr_isSome_of_easy` at work: `(a)\g1` parses to a tree with a subroutine
    call, easy for `Info::hard`, which `to_str` cannot print — and which never builds -/
example : isHard (fun _ => false) (.concat [.group 0 (.literal ['a'] false), .subroutine 1]) = false ∧
    toStr spGen (.concat [.group 0 (.literal ['a'] false), .subroutine 1]) 0 = none ∧
    build (.concat [.group 0 (.literal ['a'] false), .subroutine 1]) [1] = .error .featureNotSupported :=
  ⟨by simp [isHard, isHardAny], by decide, parse_wellShaped_counterexample.2.2⟩

end Examples

end Fancy
