import FancyModel.Proofs.C01d
import FancyModel.Proofs.C02d
import FancyModel.Lemmas.ParseShape
import FancyModel.Lemmas.ProgDelegAll
/-!
# From the pattern *string* to the search result (stage S3, no shape hypotheses left)

`C01_vm_correct_s3` takes the tree and three decidable side conditions that are not about the pattern's
meaning but about its shape: `wellShaped b.raw`, `progDelegOK …`, and `noBareEndZ b.raw`. The first holds
of every tree the parser returns and `build` accepts (`Lemmas/ParseShape`: induction over the whole
recursive descent, every byte string); the second of every program `build` emits
(`Lemmas/ProgDelegAll`: induction over the compiler). What remains is the stage predicate itself
(`s3ok`) and `noBareEndZ`, both stated on the parser's own output.

So, for every pattern string `cs` (any characters), both values of the `case_insensitive` option, every
text, every offset: parse → analyze → compile → run computes the reference search.
-/
namespace Fancy
open Fancy.Parse

/-- the stage predicate on what the parser returned (the driver evaluates the same thing on `b.raw`,
    which is the renumbered tree: `build_raw_eq`) -/
def s3Pattern (t : Tree) (b : Built) : Bool :=
  s3ok (fun g => t.backrefs.contains g) b.raw true && noBareEndZ t.expr

/-- what the stage theorems ask of the built tree, from the parser's output and the stage predicate -/
theorem s3Pattern_spec (isAlnum : Char → Bool) (cs : List Char) (casei : Bool) (t : Tree) (b : Built)
    (hp : parseStr isAlnum cs casei = .ok t) (hb : build t.expr t.backrefs = .ok b) (hst : s3Pattern t b = true) :
    s3ok (fun g => t.backrefs.contains g) b.raw true = true ∧ wellShaped b.raw = true ∧ noBareEndZ b.raw = true := by
  simp only [s3Pattern, Bool.and_eq_true] at hst
  exact ⟨hst.1, (parse_build_wellShaped isAlnum cs casei t b hp hb).2,
    build_raw_noBareEndZ t.expr t.backrefs b hb hst.2⟩

theorem C01_pipeline_s3 (isAlnum : Char → Bool) (cs : List Char) (casei : Bool) (t : Tree) (b : Built)
    (prog : Prog) (c : Ctx)
    (hp : parseStr isAlnum cs casei = .ok t) (hb : build t.expr t.backrefs = .ok b)
    (hk : b.kind = .fancy prog) (hst : s3Pattern t b = true)
    (hlen : c.len < UNSET) (hpos : c.pos ≤ c.len) : VmCorrectR b c := by
  obtain ⟨hs3, hws, hz⟩ := s3Pattern_spec isAlnum cs casei t b hp hb hst
  exact C01_vm_correct_s3 t.expr t.backrefs b prog c hb hk hs3 hws hz
    (build_progDelegOK t.expr t.backrefs b prog hb hk) hlen hpos

/-- every capture group, from the pattern string -/
theorem C02_pipeline_s3 (isAlnum : Char → Bool) (cs : List Char) (casei : Bool) (t : Tree) (b : Built)
    (prog : Prog) (c : Ctx)
    (hp : parseStr isAlnum cs casei = .ok t) (hb : build t.expr t.backrefs = .ok b)
    (hk : b.kind = .fancy prog) (hst : s3Pattern t b = true)
    (hlen : c.len < UNSET) (hpos : c.pos ≤ c.len) (limit fuel : Nat) (slots : List (Option Nat))
    (hfound : (b.captures c limit fuel).1 = .found slots) :
    ∃ f, refSearch c b.raw b.nGroups = some f ∧ ∀ i : Nat, slots[i]? = f.slots[i]? := by
  obtain ⟨hs3, hws, hz⟩ := s3Pattern_spec isAlnum cs casei t b hp hb hst
  exact C02_groups_s3 t.expr t.backrefs b prog c hb hk hs3 hws hz
    (build_progDelegOK t.expr t.backrefs b prog hb hk) hlen hpos limit fuel slots hfound

/-- the search terminates, from the pattern string -/
theorem C07_pipeline_terminates (isAlnum : Char → Bool) (cs : List Char) (casei : Bool) (t : Tree) (b : Built)
    (prog : Prog) (c : Ctx)
    (hp : parseStr isAlnum cs casei = .ok t) (hb : build t.expr t.backrefs = .ok b)
    (hk : b.kind = .fancy prog) (hst : s3Pattern t b = true)
    (hlen : c.len < UNSET) (hpos : c.pos ≤ c.len) (limit : Nat) :
    ∃ N, ∀ fuel, N ≤ fuel → (b.captures c limit fuel).1 ≠ .outOfFuel := by
  obtain ⟨hs3, hws, hz⟩ := s3Pattern_spec isAlnum cs casei t b hp hb hst
  exact C07_terminates_s3 t.expr t.backrefs b prog c hb hk hs3 hws hz
    (build_progDelegOK t.expr t.backrefs b prog hb hk) hlen hpos limit

/-- and never panics, from the pattern string -/
theorem C05_pipeline_no_panic (isAlnum : Char → Bool) (cs : List Char) (casei : Bool) (t : Tree) (b : Built)
    (prog : Prog) (c : Ctx)
    (hp : parseStr isAlnum cs casei = .ok t) (hb : build t.expr t.backrefs = .ok b)
    (hk : b.kind = .fancy prog) (hst : s3Pattern t b = true)
    (hlen : c.len < UNSET) (hpos : c.pos ≤ c.len) (limit fuel : Nat) (site : String) :
    (b.captures c limit fuel).1 ≠ .panic site := by
  obtain ⟨hs3, hws, hz⟩ := s3Pattern_spec isAlnum cs casei t b hp hb hst
  exact C05_no_panic_s3 t.expr t.backrefs b prog c hb hk hs3 hws hz
    (build_progDelegOK t.expr t.backrefs b prog hb hk) hlen hpos limit fuel site

/-- the plain path (no fancy feature): for every pattern string the parser accepts and `build` hands to
    the automata engine as a whole, the search is the reference search (under A-RA, which is what
    `Built.captures` on a `.wrap` *is*) -/
theorem C01_pipeline_wrap (isAlnum : Char → Bool) (cs : List Char) (casei : Bool) (t : Tree) (b : Built)
    (c : Ctx) (_hp : parseStr isAlnum cs casei = .ok t)
    (_hb : build t.expr t.backrefs = .ok b) (hk : b.kind = .wrap) : VmCorrectR b c :=
  fun limit fuel => Or.inr (Or.inr (Or.inr (C01_wrap_path b c limit fuel hk)))

/-! ### Non-vacuity: the string `\w+(?=\d)(?i:x)` meets every hypothesis of the pipeline theorems -/
theorem ex3_parse : parseStr (fun c => c.isAlphanum) "\\w+(?=\\d)(?i:x)".toList false = .ok ⟨exTree3, [], []⟩ :=
  isTree_sound (by decide +kernel)

set_option linter.unusedSimpArgs false in
theorem ex3_built : ∃ b prog, build exTree3 [] = .ok b ∧ b.kind = .fancy prog ∧ s3Pattern ⟨exTree3, [], []⟩ b = true := by
  simp [s3Pattern, build, exTree3, wrapTree, renumber, renumberList, checkRefs, checkRefsList, isHard, isHardAny,
    compile, visit, visitMiddle, visitAlt, concatSplit, groupCount, groupCountList, constSize, constSizeAll, minSize, minSizeMin,
    minSizeSum, allMinSize, compileDelegates, compileDelegate, isLiteral, isLiteralAll, s3ok, s3okAll, s3okAlts, condFree, condFreeAll,
    boundsEq, satMul, satAdd, sureReps, UNSET, Assertion.isHard, wrapPosLook, posLookBodyPc, pushLiteral, wellShaped, wellShapedAll,
    noBareEndZ, noBareEndZAll, progDelegOK, slotsBelow, slotsBelowAll]

/-- … hence, for every text and offset, the search of that pattern is the reference search -/
example (c : Ctx) (hlen : c.len < UNSET) (hpos : c.pos ≤ c.len) : ∃ b, build exTree3 [] = .ok b ∧ VmCorrectR b c := by
  obtain ⟨b, prog, hb, hk, hst⟩ := ex3_built
  exact ⟨b, hb, C01_pipeline_s3 _ _ _ ⟨exTree3, [], []⟩ b prog c ex3_parse hb hk hst hlen hpos⟩

end Fancy
