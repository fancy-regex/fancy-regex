import FancyModel.Lemmas.Atomize
import FancyModel.Proofs.C01e
/-!
# C01g — stage S4: the delegated runs of the top-level concatenation may own capture groups

Stage S3 (`s3ok`) keeps a pattern outside the proved stage when an easy constant-size prefix / suffix run
of a concatenation — compiled to ONE `Delegate`, which yields only the first result of the run — owns
capture groups and is not linear: `(?:\w(a)|\d(b))(?=c)`, `((a)|a)\b`. Stage S4 accepts such runs in the
concatenation at the TOP of the pattern:

* machine half (`Lemmas/SimCompile4.lean`, `sim4_wrapped`): the compiled code simulates the semantics of
  the tree with those runs wrapped in atomic groups (`wrapA`), since `Delegate es` simulates
  `firstOnly (semConcat c es ·)` under every continuation;
* semantic half (`Lemmas/Atomize.lean`, `concatA_head`): the atomized tree has the same first result as
  the original one when the rest of the pattern does not touch the own groups of the atomized prefix run
  (`unrefOK`; the suffix run is last, nothing is asked of it) — by obliviousness of `sem` for ARBITRARY
  expressions (`sem_agr`) and the fact that all results of a constant-size run are at one position and
  differ only in the run's own groups;
* here: `big2_s4` (the structured machine reaches the reference answer), `C01_vm_correct_s4`
  (= the statement of `C01_vm_correct_s3` with `s4ok`), `s4ok_of_s3ok` (S4 ⊇ S3), the consequences
  (`C05_no_panic_s4`, `C07_terminates_s4`), and examples.

Not covered by this stage: such runs below the top-level concatenation (inside groups, alternations,
loops, look-arounds). Stage S5 (Proofs/C01h.lean, `C01_vm_correct_s5`) covers them; there the semantic half
is the domination argument over result lists (Lemmas/Atomize2.lean).
-/
namespace Fancy

theorem s4ok_of_s3ok (br : Nat → Bool) (raw : Expr) (h : s3ok br raw true = true) : s4ok br raw = true := by
  simp [s4ok, h]

/-- the atomized wrapped pattern and the wrapped pattern have the same first result -/
theorem wrapA_head (c : Ctx) (br : Nat → Bool) (es : List Expr) (nG : Nat) (hlen : c.len < UNSET)
    (hpos : c.pos ≤ c.len) (hw : wellShapedAll es = true) (hz : noBareEndZAll es = true)
    (hu : unrefOK br es = true) :
    (sem c (wrapA br es) ⟨c.pos, initSlots nG⟩).head? =
      (sem c (.concat [.repeat (.any true) 0 none false, .group 0 (.concat es)]) ⟨c.pos, initSlots nG⟩).head? := by
  unfold wrapA
  rw [sem_wrapped_head c (concatA br es) nG hpos, sem_wrapped_head c (.concat es) nG hpos]
  have hks : ∀ k ∈ List.range (c.len - c.pos + 1), c.pos + k ≤ c.len := by
    intro k hk'; have := List.mem_range.mp hk'; omega
  generalize (List.range (c.len - c.pos + 1)) = ks at hks
  induction ks with
  | nil => rfl
  | cons k ks ih =>
    have hk' := hks k (by simp)
    have h0 : (⟨c.pos + k, initSlots nG⟩ : St).Good c (2 * nG) :=
      ⟨hk', by simp [initSlots], by intro v hv; simp [initSlots] at hv⟩
    have hgood : (⟨c.pos + k, (initSlots nG).set 0 (some (c.pos + k))⟩ : St).Good c (2 * nG) :=
      h0.setSlot 0 (c.pos + k) hk'
    simp only [List.findSome?_cons]
    rw [concatA_head c (2 * nG) br es hlen hw hz hu _ hgood]
    rw [ih (fun k' hk'' => hks k' (List.mem_cons_of_mem _ hk''))]

/-- **the structured machine reaches the reference answer, stage S4** (the new case: a top-level
    concatenation) -/
theorem big2_s4_concat (tree : Expr) (backrefs : List Nat) (b : Built) (prog : Prog) (c : Ctx)
    (hb : build tree backrefs = .ok b) (hk : b.kind = .fancy prog) (es : List Expr) (hraw : b.raw = .concat es)
    (hokAll : s3okAll (fun g => backrefs.contains g) es = true) (hzAll : noBareEndZAll es = true)
    (hu : unrefOK (fun g => backrefs.contains g) es = true)
    (hws : wellShaped b.raw = true) (hlen : c.len < UNSET) (hpos : c.pos ≤ c.len) :
    Big2 c prog.body prog.nSaves (.run 0 c.pos (List.replicate prog.nSaves UNSET) [] []) (refAns c b) := by
  obtain ⟨code, nsv, rfl, hv, hn0, h3⟩ := build_fancy_visit tree backrefs b prog hb hk hws
  obtain ⟨hw, _, _, hhard, _⟩ := build_fancy tree backrefs b _ hb hk
  generalize (fun g => backrefs.contains g) = br at hhard hv hokAll hu
  rw [hraw] at hw hhard hws
  rw [hw] at h3 hv
  have hcode : CodeAt (code ++ [Insn.end_]) 0 code := ⟨[], [Insn.end_], by simp, rfl⟩
  obtain ⟨hle, hsim⟩ := sim4_wrapped c (2 * b.nGroups) nsv br hlen es 0 (b.nGroups * 2) code nsv
    (code ++ [Insn.end_]) hhard hokAll hzAll h3 hv hcode (by omega)
  have hbig := big2_of_sim2_top c b.nGroups nsv code (wrapA br es) (hsim (Nat.le_refl _)) hn0 (by omega) hpos
  have hwsAll : wellShapedAll es = true := by simpa [wellShaped] using hws
  rw [wrapA_head c br es b.nGroups hlen hpos hwsAll hzAll hu] at hbig
  unfold refAns
  rw [hw]
  exact hbig

/-- **the structured machine reaches the reference answer, stage S4** -/
theorem big2_s4 (tree : Expr) (backrefs : List Nat) (b : Built) (prog : Prog) (c : Ctx)
    (hb : build tree backrefs = .ok b) (hk : b.kind = .fancy prog)
    (hok : s4ok (fun g => backrefs.contains g) b.raw = true) (hws : wellShaped b.raw = true)
    (hz : noBareEndZ b.raw = true) (hlen : c.len < UNSET) (hpos : c.pos ≤ c.len) :
    Big2 c prog.body prog.nSaves (.run 0 c.pos (List.replicate prog.nSaves UNSET) [] []) (refAns c b) := by
  unfold s4ok at hok
  rcases (Bool.or_eq_true _ _).mp hok with h | h
  · exact big2_s3 tree backrefs b prog c hb hk h hws hz hlen hpos
  · cases hraw : b.raw with
    | concat es =>
      rw [hraw] at h
      simp only [Bool.and_eq_true] at h
      exact big2_s4_concat tree backrefs b prog c hb hk es hraw h.1.1 h.1.2 h.2 hws hlen hpos
    | _ => rw [hraw] at h; simp at h

/-- **C01 (and C02, C15), stage S4**: the statement of `C01_vm_correct_s3` for the larger stage -/
theorem C01_vm_correct_s4 (tree : Expr) (backrefs : List Nat) (b : Built) (prog : Prog) (c : Ctx)
    (hb : build tree backrefs = .ok b) (hk : b.kind = .fancy prog)
    (hok : s4ok (fun g => backrefs.contains g) b.raw = true) (hws : wellShaped b.raw = true)
    (hz : noBareEndZ b.raw = true) (hlen : c.len < UNSET) (hpos : c.pos ≤ c.len) : VmCorrectR b c := by
  exact VmCorrectR_of_big2 tree backrefs b prog c hb hk (big2_s4 tree backrefs b prog c hb hk hok hws hz hlen hpos)
    hlen hpos

/-- **C05, stage S4: the search never panics** -/
theorem C05_no_panic_s4 (tree : Expr) (backrefs : List Nat) (b : Built) (prog : Prog) (c : Ctx)
    (hb : build tree backrefs = .ok b) (hk : b.kind = .fancy prog)
    (hok : s4ok (fun g => backrefs.contains g) b.raw = true) (hws : wellShaped b.raw = true)
    (hz : noBareEndZ b.raw = true) (hlen : c.len < UNSET) (hpos : c.pos ≤ c.len) (limit fuel : Nat) (site : String) :
    (b.captures c limit fuel).1 ≠ .panic site :=
  VmCorrectR_not_panic (C01_vm_correct_s4 tree backrefs b prog c hb hk hok hws hz hlen hpos) limit fuel site

/-- **C07, stage S4: the search terminates** -/
theorem C07_terminates_s4 (tree : Expr) (backrefs : List Nat) (b : Built) (prog : Prog) (c : Ctx)
    (hb : build tree backrefs = .ok b) (hk : b.kind = .fancy prog)
    (hok : s4ok (fun g => backrefs.contains g) b.raw = true) (hws : wellShaped b.raw = true)
    (hz : noBareEndZ b.raw = true) (hlen : c.len < UNSET) (hpos : c.pos ≤ c.len) (limit : Nat) :
    ∃ N, ∀ fuel, N ≤ fuel → (b.captures c limit fuel).1 ≠ .outOfFuel := by
  exact captures_terminates_of_big2 tree backrefs b prog c hb hk
    (big2_s4 tree backrefs b prog c hb hk hok hws hz hlen hpos) limit

/-! ### the decidable stage, the from-the-string form -/

/-- the decidable side conditions of `C01_vm_correct_s4` (what the driver prints as `s4=`) -/
def s4Stage (tree : Expr) (backrefs : List Nat) : Bool :=
  match build tree backrefs with
  | .ok b => (match b.kind with
    | .fancy _ => s4ok (fun g => backrefs.contains g) b.raw && wellShaped b.raw && noBareEndZ b.raw
    | .wrap => false)
  | .error _ => false

theorem s4Stage_spec (tree : Expr) (backrefs : List Nat) (h : s4Stage tree backrefs = true) :
    ∃ b prog, build tree backrefs = .ok b ∧ b.kind = .fancy prog ∧
      s4ok (fun g => backrefs.contains g) b.raw = true ∧ wellShaped b.raw = true ∧ noBareEndZ b.raw = true := by
  unfold s4Stage at h
  cases hb : build tree backrefs with
  | error e => simp [hb] at h
  | ok b =>
    simp only [hb] at h
    cases hk : b.kind with
    | wrap => simp [hk] at h
    | fancy prog =>
      simp only [hk, Bool.and_eq_true] at h
      exact ⟨b, prog, rfl, hk, h.1.1, h.1.2, h.2⟩

/-- S4 ⊇ S3 at the level of the decidable stages -/
theorem s4Stage_of_s3Stage (tree : Expr) (backrefs : List Nat) (h : s3Stage tree backrefs = true) :
    s4Stage tree backrefs = true := by
  obtain ⟨b, prog, hb, hk, hok, hws, hz, _⟩ := s3Stage_spec tree backrefs h
  have h4 := s4ok_of_s3ok _ _ hok
  simp only [s4Stage, hb, hk, h4, hws, hz, Bool.and_self]

/-- the form the driver checks per pattern -/
theorem C01_checked_s4 (tree : Expr) (backrefs : List Nat) (h : s4Stage tree backrefs = true) (c : Ctx)
    (hlen : c.len < UNSET) (hpos : c.pos ≤ c.len) :
    ∃ b, build tree backrefs = .ok b ∧ VmCorrectR b c := by
  obtain ⟨b, prog, hb, hk, hok, hws, hz⟩ := s4Stage_spec tree backrefs h
  exact ⟨b, hb, C01_vm_correct_s4 tree backrefs b prog c hb hk hok hws hz hlen hpos⟩

def s4Pattern (t : Parse.Tree) (b : Built) : Bool :=
  s4ok (fun g => t.backrefs.contains g) b.raw && noBareEndZ t.expr

/-- **from the pattern string** (the form of `C01_pipeline_s3`) -/
theorem C01_pipeline_s4 (isAlnum : Char → Bool) (cs : List Char) (casei : Bool) (t : Parse.Tree) (b : Built)
    (prog : Prog) (c : Ctx)
    (hp : Parse.parseStr isAlnum cs casei = .ok t) (hb : build t.expr t.backrefs = .ok b)
    (hk : b.kind = .fancy prog) (hst : s4Pattern t b = true)
    (hlen : c.len < UNSET) (hpos : c.pos ≤ c.len) : VmCorrectR b c := by
  simp only [s4Pattern, Bool.and_eq_true] at hst
  exact C01_vm_correct_s4 t.expr t.backrefs b prog c hb hk hst.1
    (Parse.parse_build_wellShaped isAlnum cs casei t b hp hb).2
    (build_raw_noBareEndZ t.expr t.backrefs b hb hst.2) hlen hpos

/-! ### Examples -/

/-- `(?:x(a)|y(b))(?=c)`: the easy prefix `(?:x(a)|y(b))` owns two groups and is not linear -/
def ex4a : Expr := .concat [.alt [.concat [.literal ['x'] false, .group 0 (.literal ['a'] false)],
  .concat [.literal ['y'] false, .group 0 (.literal ['b'] false)]], .look (.literal ['c'] false) .ahead]

/-- `((a)|a)\b`: the easy prefix `((a)|a)` owns two groups, its alternatives write different ones -/
def ex4b : Expr :=
  .concat [.group 0 (.alt [.group 0 (.literal ['a'] false), .literal ['a'] false]), .assertion .wordB]

/-- `(?:x(a)|y(b))\2` -/
def ex4c : Expr := .concat [.alt [.concat [.literal ['x'] false, .group 0 (.literal ['a'] false)],
  .concat [.literal ['y'] false, .group 0 (.literal ['b'] false)]], .backref 2]

set_option linter.unusedSimpArgs false in
/-- in stage S4, not in stage S3 -/
theorem ex4a_stage : s4Stage ex4a [] = true ∧ s3Stage ex4a [] = false := by
  simp [s4Stage, s3Stage, s4ok, unrefOK, untouched, untouchedAll, ownSlotsS, ownSlotsListS, linearE, linearAll, build, ex4a,
    wrapTree, renumber, renumberList, checkRefs, checkRefsList, isHard, isHardAny,
    compile, visit, visitMiddle, visitAlt, concatSplit, groupCount, groupCountList, constSize, constSizeAll, minSize, minSizeMin,
    minSizeSum, allMinSize, compileDelegates, compileDelegate, isLiteral, isLiteralAll, s3ok, s3okAll, s3okAlts, condFree, condFreeAll,
    boundsEq, satMul, satAdd, sureReps, UNSET, Assertion.isHard, wrapPosLook, posLookBodyPc, pushLiteral, wellShaped, wellShapedAll,
    noBareEndZ, noBareEndZAll, slotsBelow, slotsBelowAll, progDelegOK]

set_option linter.unusedSimpArgs false in
theorem ex4b_stage : s4Stage ex4b [] = true ∧ s3Stage ex4b [] = false := by
  simp [s4Stage, s3Stage, s4ok, unrefOK, untouched, untouchedAll, ownSlotsS, ownSlotsListS, linearE, linearAll, build, ex4b,
    wrapTree, renumber, renumberList, checkRefs, checkRefsList, isHard, isHardAny,
    compile, visit, visitMiddle, visitAlt, concatSplit, groupCount, groupCountList, constSize, constSizeAll, minSize, minSizeMin,
    minSizeSum, allMinSize, compileDelegates, compileDelegate, isLiteral, isLiteralAll, s3ok, s3okAll, s3okAlts, condFree, condFreeAll,
    boundsEq, satMul, satAdd, sureReps, UNSET, Assertion.isHard, wrapPosLook, posLookBodyPc, pushLiteral, wellShaped, wellShapedAll,
    noBareEndZ, noBareEndZAll, slotsBelow, slotsBelowAll, progDelegOK]

/-- the engine theorem for the two patterns, every text, start position, limit and fuel -/
example (c : Ctx) (hlen : c.len < UNSET) (hpos : c.pos ≤ c.len) : ∃ b, build ex4a [] = .ok b ∧ VmCorrectR b c :=
  C01_checked_s4 ex4a [] ex4a_stage.1 c hlen hpos

example (c : Ctx) (hlen : c.len < UNSET) (hpos : c.pos ≤ c.len) : ∃ b, build ex4b [] = .ok b ∧ VmCorrectR b c :=
  C01_checked_s4 ex4b [] ex4b_stage.1 c hlen hpos

set_option linter.unusedSimpArgs false in
/-- how the predicates classify `(?:x(a)|y(b))\2`: with an (inconsistent) empty back-reference set the
    prefix would be delegated although group 2 is read afterwards — `unrefOK` fails, the pattern is outside
    S4 (and S3); with the real set `[2]` group 2 makes the prefix hard, it is compiled for the VM, and the
    pattern is in stage S3 already -/
theorem ex4c_stage : s4Stage ex4c [] = false ∧ s3Stage ex4c [2] = true ∧ s4Stage ex4c [2] = true := by
  refine ⟨?_, ?h3, s4Stage_of_s3Stage _ _ ?h3⟩ <;>
  simp [s4Stage, s3Stage, s4ok, unrefOK, untouched, untouchedAll, ownSlotsS, ownSlotsListS, linearE, linearAll, build, ex4c,
    wrapTree, renumber, renumberList, checkRefs, checkRefsList, isHard, isHardAny,
    compile, visit, visitMiddle, visitAlt, concatSplit, groupCount, groupCountList, constSize, constSizeAll, minSize, minSizeMin,
    minSizeSum, allMinSize, compileDelegates, compileDelegate, isLiteral, isLiteralAll, s3ok, s3okAll, s3okAlts, condFree, condFreeAll,
    boundsEq, satMul, satAdd, sureReps, UNSET, Assertion.isHard, wrapPosLook, posLookBodyPc, pushLiteral, wellShaped, wellShapedAll,
    noBareEndZ, noBareEndZAll, slotsBelow, slotsBelowAll, progDelegOK]

end Fancy
