import FancyModel.Model.Regex
/-!
# C16 — group metadata is consistent

* `C16_renumber_count`: the analyzer's numbering (`renumber`) hands out consecutive numbers in
  opening-parenthesis (pre-)order: starting from `n` it ends at `n + groupCount e`;
* `C16_checkRefs_count`: the analyzer's `end_group` is `start + groupCount`;
* `C16_len`: the model's `captures_len` is `1 +` the number of capturing groups of the pattern, on
  both paths (Wrap and Fancy), for every pattern that builds;
* `C16_renumber_idempotent`: renumbering a numbered tree changes nothing (numbers are a function of
  the tree shape only — the same for delegated and VM-compiled patterns).

That the parser's group counter and name table agree with this numbering, and the `Captures`
accessors (`len`, `iter`, `get`, `name`; model `Caps`), are in Proofs/C16b.lean; that the model of
the accessors is the code of lib.rs is Proofs/C16c.lean and C16d.lean.
-/
namespace Fancy

theorem satAdd_le_UNSET (a b : Nat) : satAdd a b ≤ UNSET := by unfold satAdd; omega

/-- saturating once at the end is enough -/
theorem satAdd_min_left (x c : Nat) : satAdd (min x UNSET) c = satAdd x c := by
  unfold satAdd
  rw [← Nat.add_min_add_right, Nat.min_assoc, Nat.min_eq_right (Nat.le_add_right UNSET c)]
theorem satAdd_comm (a b : Nat) : satAdd a b = satAdd b a := by unfold satAdd; rw [Nat.add_comm]
theorem satAdd_assoc (a b c : Nat) : satAdd (satAdd a b) c = satAdd a (satAdd b c) := by
  rw [satAdd_comm a (satAdd b c)]
  show satAdd (min (a + b) UNSET) c = satAdd (min (b + c) UNSET) a
  rw [satAdd_min_left, satAdd_min_left, satAdd, satAdd, Nat.add_assoc, Nat.add_comm a]
theorem satAdd_zero_right {a : Nat} (h : a ≤ UNSET) : satAdd a 0 = a := by unfold satAdd; omega
theorem satAdd_zero_left {a : Nat} (h : a ≤ UNSET) : satAdd 0 a = a := by unfold satAdd; omega

theorem minSizeSum_le (es : List Expr) : minSizeSum es ≤ UNSET := by
  cases es with
  | nil => simp [minSizeSum]
  | cons e es => simp only [minSizeSum]; exact satAdd_le_UNSET _ _

mutual
theorem renumber_snd (e : Expr) (n : Nat) : (renumber e n).2 = n + groupCount e := by
  cases e with
  | group g c => simp only [renumber, groupCount]; rw [renumber_snd c (n + 1)]; omega
  | concat es => simp only [renumber, groupCount]; exact renumberList_snd es n
  | alt es => simp only [renumber, groupCount]; exact renumberList_snd es n
  | look c la => simp only [renumber, groupCount]; exact renumber_snd c n
  | «repeat» c lo hi g => simp only [renumber, groupCount]; exact renumber_snd c n
  | atomic c => simp only [renumber, groupCount]; exact renumber_snd c n
  | cond c y f =>
    simp only [renumber, groupCount]
    rw [renumber_snd f, renumber_snd y, renumber_snd c]; omega
  | empty | any _ | assertion _ | literal _ _ | delegate _ _ _ | backref _ | keepOut | contPrev
  | backrefExists _ | subroutine _ => simp [renumber, groupCount]
theorem renumberList_snd (es : List Expr) (n : Nat) : (renumberList es n).2 = n + groupCountList es := by
  cases es with
  | nil => simp [renumberList, groupCountList]
  | cons e es =>
    simp only [renumberList, groupCountList]
    rw [renumberList_snd es, renumber_snd e]; omega
end

theorem groupCountList_append (a b : List Expr) :
    groupCountList (a ++ b) = groupCountList a + groupCountList b := by
  induction a with
  | nil => simp [groupCountList]
  | cons e a ih => simp only [List.cons_append, groupCountList, ih]; omega

/-- **numbering follows opening-parenthesis order**: consecutive numbers from `n` -/
theorem C16_renumber_count (e : Expr) (n : Nat) : (renumber e n).2 = n + groupCount e :=
  renumber_snd e n

mutual
theorem groupCount_renumber (e : Expr) (n : Nat) : groupCount (renumber e n).1 = groupCount e := by
  cases e with
  | group g c => simp only [renumber, groupCount]; rw [groupCount_renumber c]
  | concat es => simp only [renumber, groupCount]; exact groupCountList_renumber es n
  | alt es => simp only [renumber, groupCount]; exact groupCountList_renumber es n
  | look c la => simp only [renumber, groupCount]; exact groupCount_renumber c n
  | «repeat» c lo hi g => simp only [renumber, groupCount]; exact groupCount_renumber c n
  | atomic c => simp only [renumber, groupCount]; exact groupCount_renumber c n
  | cond c y f =>
    simp only [renumber, groupCount]
    rw [groupCount_renumber c, groupCount_renumber y, groupCount_renumber f]
  | empty | any _ | assertion _ | literal _ _ | delegate _ _ _ | backref _ | keepOut | contPrev
  | backrefExists _ | subroutine _ => simp [renumber]
theorem groupCountList_renumber (es : List Expr) (n : Nat) :
    groupCountList (renumberList es n).1 = groupCountList es := by
  cases es with
  | nil => simp [renumberList]
  | cons e es =>
    simp only [renumberList, groupCountList]
    rw [groupCount_renumber e, groupCountList_renumber es]
end

mutual
theorem renumber_idem (e : Expr) (n : Nat) : renumber (renumber e n).1 n = renumber e n := by
  cases e with
  | group g c =>
    simp only [renumber]
    rw [renumber_idem c (n + 1)]
  | concat es => simp only [renumber]; rw [renumberList_idem es n]
  | alt es => simp only [renumber]; rw [renumberList_idem es n]
  | look c la => simp only [renumber]; rw [renumber_idem c n]
  | «repeat» c lo hi g => simp only [renumber]; rw [renumber_idem c n]
  | atomic c => simp only [renumber]; rw [renumber_idem c n]
  | cond c y f =>
    simp only [renumber]
    rw [renumber_idem c n]
    rw [renumber_idem y (renumber c n).2]
    rw [renumber_idem f (renumber y (renumber c n).2).2]
  | empty | any _ | assertion _ | literal _ _ | delegate _ _ _ | backref _ | keepOut | contPrev
  | backrefExists _ | subroutine _ => simp [renumber]
theorem renumberList_idem (es : List Expr) (n : Nat) :
    renumberList (renumberList es n).1 n = renumberList es n := by
  cases es with
  | nil => simp [renumberList]
  | cons e es =>
    simp only [renumberList]
    rw [renumber_idem e n, renumberList_idem es (renumber e n).2]
end

/-- the numbers depend on the tree shape only -/
theorem C16_renumber_idempotent (e : Expr) (n : Nat) : renumber (renumber e n).1 n = renumber e n :=
  renumber_idem e n

mutual
theorem checkRefs_count (e : Expr) (n m : Nat) (h : checkRefs e n = .ok m) : m = n + groupCount e := by
  cases e with
  | group g c =>
    simp only [checkRefs] at h
    have := checkRefs_count c (n + 1) m h
    simp only [groupCount]; omega
  | concat es => simp only [checkRefs] at h; simpa [groupCount] using checkRefsList_count es n m h
  | alt es => simp only [checkRefs] at h; simpa [groupCount] using checkRefsList_count es n m h
  | look c la => simp only [checkRefs] at h; simpa [groupCount] using checkRefs_count c n m h
  | «repeat» c lo hi g => simp only [checkRefs] at h; simpa [groupCount] using checkRefs_count c n m h
  | atomic c => simp only [checkRefs] at h; simpa [groupCount] using checkRefs_count c n m h
  | backref g =>
    simp only [checkRefs] at h
    split at h
    · cases h
    · cases h; simp [groupCount]
  | backrefExists g =>
    simp only [checkRefs] at h
    split at h
    · cases h
    · cases h; simp [groupCount]
  | cond c y f =>
    simp only [checkRefs] at h
    cases h1 : checkRefs c n with
    | error e => simp [h1] at h
    | ok n1 =>
      simp only [h1] at h
      cases h2 : checkRefs y n1 with
      | error e => simp [h2] at h
      | ok n2 =>
        simp only [h2] at h
        have a := checkRefs_count c n n1 h1
        have b := checkRefs_count y n1 n2 h2
        have d := checkRefs_count f n2 m h
        simp only [groupCount]; omega
  | subroutine g => simp [checkRefs] at h
  | empty | any _ | assertion _ | literal _ _ | delegate _ _ _ | keepOut | contPrev =>
    simp only [checkRefs] at h; cases h; simp [groupCount]
theorem checkRefsList_count (es : List Expr) (n m : Nat) (h : checkRefsList es n = .ok m) :
    m = n + groupCountList es := by
  cases es with
  | nil => simp only [checkRefsList] at h; cases h; simp [groupCountList]
  | cons e es =>
    simp only [checkRefsList] at h
    cases h1 : checkRefs e n with
    | error err => simp [h1] at h
    | ok n1 =>
      simp only [h1] at h
      have a := checkRefs_count e n n1 h1
      have b := checkRefsList_count es n1 m h
      simp only [groupCountList]; omega
end

/-- the analyzer's `end_group` -/
theorem C16_checkRefs_count (e : Expr) (n m : Nat) (h : checkRefs e n = .ok m) : m = n + groupCount e :=
  checkRefs_count e n m h

/-- **captures_len = 1 + number of capturing groups**, whichever engine path is taken -/
theorem C16_len (tree : Expr) (backrefs : List Nat) (b : Built) (h : build tree backrefs = .ok b) :
    b.nGroups = 1 + groupCount tree := by
  unfold build at h
  simp only at h
  cases hc : checkRefs (renumber (wrapTree tree) 0).1 0 with
  | error e => simp [hc] at h
  | ok n =>
    have hn := checkRefs_count _ 0 n hc
    rw [groupCount_renumber] at hn
    have hw : groupCount (wrapTree tree) = 1 + groupCount tree := by
      simp [wrapTree, groupCount, groupCountList]; omega
    simp only [hc] at h
    split at h
    · split at h
      · cases h; simp only; omega
      · split at h
        · cases h
        · cases h; simp only; omega
    · cases h

/-! ### Non-vacuity: `(a)(?:(b)|c)` has 3 groups including group 0, numbered in pre-order -/
example : (renumber (wrapTree (.concat [.group 0 (.literal ['a'] false),
      .alt [.group 0 (.literal ['b'] false), .literal ['c'] false]])) 0).2 = 3 := by decide

end Fancy
