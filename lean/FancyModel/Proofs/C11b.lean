import FancyModel.Proofs.C08c
import FancyModel.Proofs.C11
import FancyModel.Proofs.C05b
/-!
# C11b — `replacen` from the engine down; entry-point coherence of the engine oracle

`Proofs/C11.lean` proves `try_replacen` (`replacen`, `replaceLoop`) correct over an abstract drained
iterator whose matches satisfy `WFMatches` (ordered, in range, on character boundaries);
`Proofs/C08c.lean` shows the drained `captures_iter` over the model engine is the reference
iteration. Here they are composed, with `WFMatches` DERIVED (ordering: `C08_ordered` over the
engine oracle, well-formed by `C09_ref_wf`; boundaries: every reference span is `(boff s, boff e)`
for character indices, and those are exactly the boundaries of the encoded text by C05b's
`C05_boundary_iff`). The text is `utf8Of chars` (the model's encoder on the characters), and
`bytesOf s = utf8Of s.toList` (`bytesOf_eq_utf8Of`) ties it to the driver's `mkText`.

* `C11_replacen_is_reference` (+ `_wrap`, `_s3`), `C11_replacen_no_panic` (+ `_s3`, `_driver`)
* `replaceLoop_ok_err` / `replacen_ok_err`: what the loop does on `Ok … Ok, Err`
* `C09_entry_points_engine`: `find` / `captures` coherence of the engine oracle
-/
namespace Fancy.Api
open Fancy Fancy.Drv Fancy.Utf8 Fancy.ApiSpec

/-! ### The text as bytes: the model's UTF-8 encoder on the characters -/

/-- the UTF-8 encoding of `chars` (the model's encoder of `Model/Utf8.lean`, the one C05b is about) -/
def utf8Of (chars : List Char) : Bytes := encode (chars.map Char.toNat)

theorem toNat_ofNat_mod_add (x m k : Nat) (hm : 0 < m) (h : m + k ≤ 256) :
    (UInt8.ofNat (x % m + k)).toNat = k + x % m := by
  have := Nat.mod_lt x hm
  rw [UInt8.toNat_ofNat', Nat.mod_eq_of_lt (by omega), Nat.add_comm]

/-- Lean's own encoder differs from the model's only in masking the lead byte (`% 32`, `% 16`, `% 8`),
    which is vacuous within each length class. -/
theorem utf8EncodeChar_toNat (c : Char) :
    (String.utf8EncodeChar c).map (·.toNat) = encodeChar c.toNat := by
  have hlt : c.toNat < 0x110000 := by
    rcases c.valid with h | h
    · exact Nat.lt_trans h (by decide)
    · exact h.2
  unfold String.utf8EncodeChar encodeChar Char.toNat
  unfold Char.toNat at hlt
  generalize c.val.toNat = v at hlt
  show List.map _ (if v ≤ 0x7f then _ else if v ≤ 0x7ff then _ else if v ≤ 0xffff then _ else _) = _
  by_cases h1 : v < 0x80
  · rw [if_pos (by omega), if_pos h1]
    simp only [List.map, UInt8.toNat_ofNat', Nat.mod_eq_of_lt (Nat.lt_trans h1 (by decide : 0x80 < 2 ^ 8))]
  · rw [if_neg (by omega), if_neg h1]
    by_cases h2 : v < 0x800
    · rw [if_pos (by omega), if_pos h2]
      simp only [List.map, toNat_ofNat_mod_add, Nat.reduceAdd, Nat.reduceLeDiff, Nat.zero_lt_succ]
      rw [Nat.mod_eq_of_lt (Nat.div_lt_of_lt_mul (show v < 64 * 32 from h2))]
    · rw [if_neg (by omega), if_neg h2]
      by_cases h3 : v < 0x10000
      · rw [if_pos (by omega), if_pos h3]
        simp only [List.map, toNat_ofNat_mod_add, Nat.reduceAdd, Nat.reduceLeDiff, Nat.zero_lt_succ]
        rw [Nat.mod_eq_of_lt (Nat.div_lt_of_lt_mul (show v < 4096 * 16 from h3))]
      · rw [if_neg (by omega), if_neg h3]
        simp only [List.map, toNat_ofNat_mod_add, Nat.reduceAdd, Nat.reduceLeDiff, Nat.zero_lt_succ]
        rw [Nat.mod_eq_of_lt (Nat.div_lt_of_lt_mul (show v < 262144 * 8 from Nat.lt_trans hlt (by decide)))]

theorem encodeChar_length_utf8Size (c : Char) : (encodeChar c.toNat).length = c.utf8Size := by
  rw [← utf8EncodeChar_toNat, List.length_map, String.length_utf8EncodeChar]

theorem encode_map_length (cs : List Char) :
    (encode (cs.map Char.toNat)).length = (cs.map Char.utf8Size).sum := by
  induction cs with
  | nil => rfl
  | cons c cs ih =>
    rw [List.map_cons, encode_cons, List.length_append, ih, encodeChar_length_utf8Size]; simp

/-- the byte offset of C05b (`off`) is the driver's offset table entry (`boff`) -/
theorem off_eq_boff (chars : List Char) (k : Nat) : off (chars.map Char.toNat) k = boff chars k := by
  unfold off boff
  rw [← List.map_take, encode_map_length]

theorem utf8Of_length (chars : List Char) : (utf8Of chars).length = byteLen chars := by
  unfold utf8Of byteLen; exact encode_map_length chars

/-- every character offset is a character boundary of the encoded text -/
theorem boff_isBoundary (chars : List Char) (k : Nat) (hk : k ≤ chars.length) :
    isBoundary (utf8Of chars) (boff chars k) = true := by
  unfold utf8Of
  rw [C05_boundary_iff]
  exact ⟨k, by simpa using hk, (off_eq_boff chars k).symm⟩

/-! ### What the reference captures report: spans are byte offsets of character positions -/

theorem refCaps_span (b : Built) (chars : List Char) (hns : noSelfNest b.raw = true) (hg : 1 ≤ b.nGroups)
    (pos : Nat) (flag : Bool) (a : List (Option Nat)) (h : refCapsOracle b chars pos flag = some a) :
    ∃ s e, s ≤ e ∧ e ≤ chars.length ∧ spanOfSlots a = (boff chars s, boff chars e) := by
  obtain ⟨_, s, e, _, _, _, hse, hel, _, _, _, hsp⟩ := refCaps_inv b chars hns hg pos flag a h
  exact ⟨s, e, hse, hel, hsp⟩

/-- both ends of a reference span are character boundaries of the encoded text -/
theorem refCaps_boundary (b : Built) (chars : List Char) (hns : noSelfNest b.raw = true) (hg : 1 ≤ b.nGroups)
    (pos : Nat) (flag : Bool) (a : List (Option Nat)) (h : refCapsOracle b chars pos flag = some a) :
    isBoundary (utf8Of chars) (spanOfSlots a).1 = true ∧ isBoundary (utf8Of chars) (spanOfSlots a).2 = true := by
  obtain ⟨s, e, hse, hel, hsp⟩ := refCaps_span b chars hns hg pos flag a h
  rw [hsp]
  exact ⟨boff_isBoundary chars s (by omega), boff_isBoundary chars e hel⟩

/-- the engine's captures oracle is well-formed under (E) -/
theorem C09_engine_wf (b : Built) (chars : List Char) (limit fuel : Nat) (hE : EngineOK b chars)
    (hns : noSelfNest b.raw = true) (hg : 1 ≤ b.nGroups) :
    WFOracle (modelOracleF b chars (offsets chars) limit fuel) spanOfSlots (byteLen chars) := by
  intro pos flag a h
  exact C09_ref_wf b chars hns hg pos flag a
    (by show Except.ok _ = _; rw [C09_engine_agrees b chars limit fuel hE pos flag _ h])

/-! ### `WFMatches` from the iterator's ordering and the boundary facts (not assumed) -/

theorem wfMatches_of_ordered {α : Type} (span : α → Nat × Nat) (text : Bytes) (as : List α)
    (lo last : Nat) (lm : Option Nat)
    (hord : Ordered span text.length lo lm (as.map .ok)) (hll : last ≤ lo)
    (hlast : last ≤ text.length) (hlb : isBoundary text last = true)
    (hb : ∀ a ∈ as, isBoundary text (span a).1 = true ∧ isBoundary text (span a).2 = true) :
    WFMatches text (as.map span) last := by
  induction as generalizing lo last lm with
  | nil => exact ⟨hlast, hlb⟩
  | cons a as ih =>
    simp only [List.map_cons, Ordered] at hord
    obtain ⟨o1, o2, o3, _, o5⟩ := hord
    obtain ⟨b1, b2⟩ := hb a (by simp)
    simp only [List.map_cons]
    generalize hsp : span a = se at o1 o2 o3 o5 b1 b2
    obtain ⟨s, e⟩ := se
    simp only at o1 o2 o3 o5 b1 b2
    refine ⟨by omega, o2, o3, hlb, b1, ?_⟩
    exact ih _ e _ o5 (by omega) o3 b2 (fun x hx => hb x (by simp [hx]))

/-- an ordered prefix: drop the trailing error item -/
theorem Ordered_prefix {α : Type} (span : α → Nat × Nat) (len lo : Nat) (lm : Option Nat) (as : List α)
    (tail : List (Except SearchErr α)) (h : Ordered span len lo lm (as.map .ok ++ tail)) :
    Ordered span len lo lm (as.map .ok) := by
  induction as generalizing lo lm with
  | nil => trivial
  | cons a as ih =>
    simp only [List.map_cons, List.cons_append, Ordered] at h ⊢
    exact ⟨h.1, h.2.1, h.2.2.1, h.2.2.2.1, ih _ _ h.2.2.2.2⟩

/-! ### the replace loop over `Ok` items followed by one `Err` item -/

/-- what `replaceLoop` does on a well-formed run of matches followed by an error item: if the limit
    cuts the loop at one of the `Ok` items the result is the rewritten text (the error is never
    looked at); otherwise the error item is reached and returned -/
theorem replaceLoop_ok_err {α : Type} (span : α → Nat × Nat) (rep : α → Bytes) (text : Bytes) (limit : Nat)
    (as : List α) (e : SearchErr) (i last : Nat) (acc : Bytes)
    (hwf : WFMatches text (as.map span) last) :
    replaceLoop span rep text limit (as.map .ok ++ [.error e]) i last acc =
      if 0 < limit ∧ limit - i < as.length then
        .owned (acc ++ rewrite text ((as.take (limit - i)).map fun a => (span a, rep a)) last)
      else .err e := by
  induction as generalizing i last acc with
  | nil => simp [replaceLoop]
  | cons a as ih =>
    rw [List.map_cons, List.cons_append, replaceLoop_cons_ok span rep text limit a _ i last acc hwf]
    by_cases hc : 0 < limit ∧ limit ≤ i
    · have h0 : limit - i = 0 := by omega
      rw [if_pos hc, if_pos ⟨hc.1, by simp [h0]⟩, h0]
      simp [rewrite]
    · rw [if_neg hc, ih (i + 1) _ _ hwf.2.2.2.2.2]
      by_cases hl0 : limit = 0
      · simp [hl0]
      · have hsub : limit - i = (limit - (i + 1)) + 1 := by omega
        by_cases hlt : limit - (i + 1) < as.length
        · rw [if_pos ⟨by omega, hlt⟩, if_pos ⟨by omega, by simp only [List.length_cons]; omega⟩, hsub]
          simp [rewrite, List.append_assoc]
        · rw [if_neg (fun h => hlt h.2),
            if_neg (fun h => hlt (by have := h.2; simp only [List.length_cons] at this; omega))]

theorem replacen_ok_err {α : Type} (span : α → Nat × Nat) (rep : α → Bytes) (text : Bytes) (n : Nat)
    (as : List α) (e : SearchErr) (hwf : WFMatches text (as.map span) 0) :
    replacen (as.map .ok ++ [.error e]) span rep text n =
      if 0 < n ∧ n < as.length then .owned (rewrite text ((as.take n).map fun a => (span a, rep a)) 0)
      else .err e := by
  have h := replaceLoop_ok_err span rep text n as e 0 0 [] hwf
  simp only [Nat.sub_zero, List.nil_append] at h
  rw [← h]
  cases as <;> rfl

/-! ### 1. `replacen` over the engine's `captures_iter` is the rewriting by the reference matches -/

/-- **C11, from the engine down.** `text` is the UTF-8 encoding of `chars`; `items` the drained
    `captures_iter` over the model engine; `R` the property's iteration of the REFERENCE search.
    There is a list `as` of capture vectors, each of them the reference search's answer (all groups,
    byte offsets) at some search position, such that
    * either no item is an error: `items = as.map Ok`, the spans of `as` are exactly `R`;
      the result is `Borrowed` iff `R` is empty, and otherwise `Owned` of the text in which the first
      `n` (all, for `n = 0`) matches of `R` are replaced by the replacer's output for the
      corresponding reference captures and every other byte is unchanged (`rewrite`, `chosen`);
    * or `items = as.map Ok ++ [Err e]` with the spans of `as` a prefix of `R` and `e` a resource
      stop; then, precisely as `replaceLoop` does: if `0 < n < as.length` the limit cuts the loop
      before the error is looked at and the result is `Owned` of the text with the first `n` matches
      replaced; otherwise (`n = 0` or `n ≥ as.length`) the result is `Err e`.
    In no case `Panic` (`C11_replacen_no_panic`): the `WFMatches` side conditions (order, range,
    character boundaries) are derived from `C09_ref_wf`, `C08_ordered` and the UTF-8 layer C05b. -/
theorem C11_replacen_is_reference (b : Built) (chars : List Char) (limit fuel : Nat)
    (hE : EngineOK b chars) (hns : noSelfNest b.raw = true) (hg : 1 ≤ b.nGroups)
    (rep : List (Option Nat) → Bytes) (n : Nat) :
    ∃ as : List (List (Option Nat)),
      (∀ a ∈ as, ∃ p fl, refCapsOracle b chars p fl = some a) ∧
      WFMatches (utf8Of chars) (as.map spanOfSlots) 0 ∧
      ((capturesIter (modelOracleF b chars (offsets chars) limit fuel) spanOfSlots (utf8Of chars) = as.map .ok ∧
        as.map spanOfSlots = ApiSpec.iter (refSpanOracle b chars) (utf8Of chars) ∧
        (replacen (capturesIter (modelOracleF b chars (offsets chars) limit fuel) spanOfSlots (utf8Of chars))
            spanOfSlots rep (utf8Of chars) n = .borrowed ↔
          ApiSpec.iter (refSpanOracle b chars) (utf8Of chars) = []) ∧
        (ApiSpec.iter (refSpanOracle b chars) (utf8Of chars) ≠ [] →
          replacen (capturesIter (modelOracleF b chars (offsets chars) limit fuel) spanOfSlots (utf8Of chars))
            spanOfSlots rep (utf8Of chars) n =
          .owned (rewrite (utf8Of chars) ((chosen n 0 as).map fun a => (spanOfSlots a, rep a)) 0))) ∨
       (∃ e, capturesIter (modelOracleF b chars (offsets chars) limit fuel) spanOfSlots (utf8Of chars) =
            as.map .ok ++ [.error e] ∧
          as.map spanOfSlots <+: ApiSpec.iter (refSpanOracle b chars) (utf8Of chars) ∧
          (e = .limit ∨ e = .stack ∨ e = .outOfFuel) ∧
          replacen (capturesIter (modelOracleF b chars (offsets chars) limit fuel) spanOfSlots (utf8Of chars))
            spanOfSlots rep (utf8Of chars) n =
          if 0 < n ∧ n < as.length then
            .owned (rewrite (utf8Of chars) ((as.take n).map fun a => (spanOfSlots a, rep a)) 0)
          else .err e)) := by
  obtain ⟨as, hrefs, hcase⟩ :=
    C09_captures_iter_is_reference b chars limit fuel hE hns hg (utf8Of chars) (utf8Of_length chars)
  have hwfo := C09_engine_wf b chars limit fuel hE hns hg
  rw [← utf8Of_length chars] at hwfo
  have hord : Ordered spanOfSlots (utf8Of chars).length 0 none
      (capturesIter (modelOracleF b chars (offsets chars) limit fuel) spanOfSlots (utf8Of chars)) :=
    C08_ordered _ spanOfSlots (utf8Of chars) hwfo _ Iter.start Iter.J_start
  have hbd : ∀ a ∈ as, isBoundary (utf8Of chars) (spanOfSlots a).1 = true ∧
      isBoundary (utf8Of chars) (spanOfSlots a).2 = true := by
    intro a ha
    obtain ⟨p, fl, hp⟩ := hrefs a ha
    exact refCaps_boundary b chars hns hg p fl a hp
  have hwfm : WFMatches (utf8Of chars) (as.map spanOfSlots) 0 := by
    have hpre : Ordered spanOfSlots (utf8Of chars).length 0 none (as.map .ok) := by
      rcases hcase with ⟨h1, _⟩ | ⟨e, h1, _⟩
      · rw [h1] at hord; exact hord
      · rw [h1] at hord; exact Ordered_prefix _ _ _ _ _ _ hord
    exact wfMatches_of_ordered spanOfSlots (utf8Of chars) as 0 0 none hpre (Nat.le_refl _) (Nat.zero_le _)
      (by simp [isBoundary]) hbd
  refine ⟨as, hrefs, hwfm, ?_⟩
  rcases hcase with ⟨h1, h2⟩ | ⟨e, h1, h2, h3⟩
  · left
    refine ⟨h1, h2, ?_, ?_⟩
    · rw [C11_borrow, h1, ← h2]
      cases as <;> simp
    · intro hne
      rw [h1]
      cases as with
      | nil => rw [← h2] at hne; simp at hne
      | cons a as' => exact C11_replacen spanOfSlots rep (utf8Of chars) n a as' hwfm
  · right
    refine ⟨e, h1, h2, h3, ?_⟩
    rw [h1]
    exact replacen_ok_err spanOfSlots rep (utf8Of chars) n as e hwfm

/-- **no panic**: under (E) `try_replacen` over the model engine never slices off a boundary or out
    of range -/
theorem C11_replacen_no_panic (b : Built) (chars : List Char) (limit fuel : Nat)
    (hE : EngineOK b chars) (hns : noSelfNest b.raw = true) (hg : 1 ≤ b.nGroups)
    (rep : List (Option Nat) → Bytes) (n : Nat) :
    replacen (capturesIter (modelOracleF b chars (offsets chars) limit fuel) spanOfSlots (utf8Of chars))
      spanOfSlots rep (utf8Of chars) n ≠ .panic := by
  obtain ⟨as, _, _, ⟨_, h2, h3, h4⟩ | ⟨e, _, _, _, h4⟩⟩ :=
    C11_replacen_is_reference b chars limit fuel hE hns hg rep n
  · by_cases hR : ApiSpec.iter (refSpanOracle b chars) (utf8Of chars) = []
    · rw [h3.mpr hR]; simp
    · rw [h4 hR]; simp
  · rw [h4]; split <;> simp

/-! ### 2. instances: hand-off path, stage S3 -/

/-- **hand-off path** (every pattern `build` hands to the automata engine as a whole; A-RA): no error
    branch — `Borrowed` iff the reference iteration is empty, else the text with the first `n` (all
    for `n = 0`) reference matches replaced by the replacer's output on the reference captures -/
theorem C11_replacen_is_reference_wrap (tree : Expr) (backrefs : List Nat) (b : Built)
    (hb : build tree backrefs = .ok b) (hk : b.kind = .wrap) (chars : List Char) (limit fuel : Nat)
    (rep : List (Option Nat) → Bytes) (n : Nat) :
    ∃ as : List (List (Option Nat)),
      (∀ a ∈ as, ∃ p fl, refCapsOracle b chars p fl = some a) ∧
      WFMatches (utf8Of chars) (as.map spanOfSlots) 0 ∧
      capturesIter (modelOracleF b chars (offsets chars) limit fuel) spanOfSlots (utf8Of chars) = as.map .ok ∧
      as.map spanOfSlots = ApiSpec.iter (refSpanOracle b chars) (utf8Of chars) ∧
      (replacen (capturesIter (modelOracleF b chars (offsets chars) limit fuel) spanOfSlots (utf8Of chars))
          spanOfSlots rep (utf8Of chars) n = .borrowed ↔
        ApiSpec.iter (refSpanOracle b chars) (utf8Of chars) = []) ∧
      (ApiSpec.iter (refSpanOracle b chars) (utf8Of chars) ≠ [] →
        replacen (capturesIter (modelOracleF b chars (offsets chars) limit fuel) spanOfSlots (utf8Of chars))
          spanOfSlots rep (utf8Of chars) n =
        .owned (rewrite (utf8Of chars) ((chosen n 0 as).map fun a => (spanOfSlots a, rep a)) 0)) := by
  have hns := build_noSelfNest tree backrefs b hb
  have hg := build_nGroups_pos tree backrefs b hb
  have hE := engineOK_wrap b chars hk
  obtain ⟨as, hrefs, hwfm, ⟨h1, h2, h3, h4⟩ | ⟨e, h1, _⟩⟩ :=
    C11_replacen_is_reference b chars limit fuel hE hns hg rep n
  · exact ⟨as, hrefs, hwfm, h1, h2, h3, h4⟩
  · exfalso
    -- the error item would be an answer of the oracle; on the hand-off path there is none
    obtain ⟨as', ⟨g1, _⟩ | ⟨e', g1, _, p, fl, g3⟩⟩ :=
      C08_eq_spec_until_error (modelOracleF b chars (offsets chars) limit fuel)
        (refCapsOracle b chars) spanOfSlots (utf8Of chars)
        (C09_engine_agrees b chars limit fuel hE) (utf8Of_length chars ▸ C09_ref_wf b chars hns hg)
    · have hmem : Except.error e ∈ as'.map Except.ok := by rw [← g1, h1]; simp
      simp at hmem
    · exact modelOracleF_wrap_no_error b chars limit fuel hk p fl e' g3

/-- **stage S3, from the pattern string** (hypotheses of `C01_pipeline_s3` and a text shorter than
    `usize::MAX` characters): the statement of `C11_replacen_is_reference` -/
theorem C11_replacen_is_reference_s3 (isAlnum : Char → Bool) (cs : List Char) (casei : Bool)
    (t : Parse.Tree) (b : Built) (prog : Prog)
    (hp : Parse.parseStr isAlnum cs casei = .ok t) (hb : build t.expr t.backrefs = .ok b)
    (hk : b.kind = .fancy prog) (hst : s3Pattern t b = true)
    (chars : List Char) (hlen : chars.length < UNSET) (limit fuel : Nat)
    (rep : List (Option Nat) → Bytes) (n : Nat) :
    ∃ as : List (List (Option Nat)),
      (∀ a ∈ as, ∃ p fl, refCapsOracle b chars p fl = some a) ∧
      WFMatches (utf8Of chars) (as.map spanOfSlots) 0 ∧
      ((capturesIter (modelOracleF b chars (offsets chars) limit fuel) spanOfSlots (utf8Of chars) = as.map .ok ∧
        as.map spanOfSlots = ApiSpec.iter (refSpanOracle b chars) (utf8Of chars) ∧
        (replacen (capturesIter (modelOracleF b chars (offsets chars) limit fuel) spanOfSlots (utf8Of chars))
            spanOfSlots rep (utf8Of chars) n = .borrowed ↔
          ApiSpec.iter (refSpanOracle b chars) (utf8Of chars) = []) ∧
        (ApiSpec.iter (refSpanOracle b chars) (utf8Of chars) ≠ [] →
          replacen (capturesIter (modelOracleF b chars (offsets chars) limit fuel) spanOfSlots (utf8Of chars))
            spanOfSlots rep (utf8Of chars) n =
          .owned (rewrite (utf8Of chars) ((chosen n 0 as).map fun a => (spanOfSlots a, rep a)) 0))) ∨
       (∃ e, capturesIter (modelOracleF b chars (offsets chars) limit fuel) spanOfSlots (utf8Of chars) =
            as.map .ok ++ [.error e] ∧
          as.map spanOfSlots <+: ApiSpec.iter (refSpanOracle b chars) (utf8Of chars) ∧
          (e = .limit ∨ e = .stack ∨ e = .outOfFuel) ∧
          replacen (capturesIter (modelOracleF b chars (offsets chars) limit fuel) spanOfSlots (utf8Of chars))
            spanOfSlots rep (utf8Of chars) n =
          if 0 < n ∧ n < as.length then
            .owned (rewrite (utf8Of chars) ((as.take n).map fun a => (spanOfSlots a, rep a)) 0)
          else .err e)) :=
  C11_replacen_is_reference b chars limit fuel
    (engineOK_s3 isAlnum cs casei t b prog hp hb hk hst chars hlen)
    (build_noSelfNest _ _ b hb) (build_nGroups_pos _ _ b hb) rep n

/-- and never panics, from the pattern string -/
theorem C11_replacen_no_panic_s3 (isAlnum : Char → Bool) (cs : List Char) (casei : Bool)
    (t : Parse.Tree) (b : Built) (prog : Prog)
    (hp : Parse.parseStr isAlnum cs casei = .ok t) (hb : build t.expr t.backrefs = .ok b)
    (hk : b.kind = .fancy prog) (hst : s3Pattern t b = true)
    (chars : List Char) (hlen : chars.length < UNSET) (limit fuel : Nat)
    (rep : List (Option Nat) → Bytes) (n : Nat) :
    replacen (capturesIter (modelOracleF b chars (offsets chars) limit fuel) spanOfSlots (utf8Of chars))
      spanOfSlots rep (utf8Of chars) n ≠ .panic :=
  C11_replacen_no_panic b chars limit fuel
    (engineOK_s3 isAlnum cs casei t b prog hp hb hk hst chars hlen)
    (build_noSelfNest _ _ b hb) (build_nGroups_pos _ _ b hb) rep n

/-! ### 3. entry-point coherence of the engine oracle (`find` vs `captures`; there is no separate
model of `is_match`: in the crate it is `find(..).is_some()` on the VM path) -/

/-- the driver's span oracle is the `find`-from-`captures` projection of `Proofs/C09.lean` -/
theorem spanOracle_eq_spans (f : Oracle (List (Option Nat))) : spanOracle f = f.spans spanOfSlots := by
  funext pos flag
  unfold spanOracle Oracle.spans
  cases f pos flag with
  | error e => rfl
  | ok r => cases r <;> rfl

theorem refCaps_slots01 (b : Built) (chars : List Char) (hns : noSelfNest b.raw = true) (hg : 1 ≤ b.nGroups)
    (pos : Nat) (flag : Bool) (a : List (Option Nat)) (h : refCapsOracle b chars pos flag = some a) :
    ∃ x y, a[0]? = some (some x) ∧ a[1]? = some (some y) ∧ spanOfSlots a = (x, y) := by
  obtain ⟨_, s, e, f, _, _, hse, hel, rfl, h0, h1, hsp⟩ := refCaps_inv b chars hns hg pos flag a h
  refine ⟨_, _, ?_, ?_, hsp⟩
  · simp [slotsToBytes, h0, offsets_getElem?, Nat.le_trans hse hel]
  · simp [slotsToBytes, h1, offsets_getElem?, hel]

/-- **C09, engine oracle**: at every byte position and flag, `find` (the span oracle) and `captures`
    (the captures oracle) over the model engine have the same outcome class — a match iff captures,
    whose overall span it is; no match iff no match; the same error iff an error. Under (E) the
    span found is slots 0 and 1 of the REFERENCE captures at that position. -/
theorem C09_entry_points_engine (b : Built) (chars : List Char) (limit fuel : Nat) (pos : Nat) (flag : Bool) :
    (∀ sp, spanOracle (modelOracleF b chars (offsets chars) limit fuel) pos flag = .ok (some sp) ↔
      ∃ slots, modelOracleF b chars (offsets chars) limit fuel pos flag = .ok (some slots) ∧
        spanOfSlots slots = sp) ∧
    (spanOracle (modelOracleF b chars (offsets chars) limit fuel) pos flag = .ok none ↔
      modelOracleF b chars (offsets chars) limit fuel pos flag = .ok none) ∧
    (∀ e, spanOracle (modelOracleF b chars (offsets chars) limit fuel) pos flag = .error e ↔
      modelOracleF b chars (offsets chars) limit fuel pos flag = .error e) ∧
    (EngineOK b chars → noSelfNest b.raw = true → 1 ≤ b.nGroups →
      ∀ sp, spanOracle (modelOracleF b chars (offsets chars) limit fuel) pos flag = .ok (some sp) →
        ∃ slots, refCapsOracle b chars pos flag = some slots ∧
          slots[0]? = some (some sp.1) ∧ slots[1]? = some (some sp.2)) := by
  have hag := C09_engine_agrees b chars limit fuel
  unfold spanOracle
  rcases hf : modelOracleF b chars (offsets chars) limit fuel pos flag with e | _ | slots
  · simp
  · simp
  · refine ⟨by simp, by simp, by simp, ?_⟩
    intro hE hns hg sp hsp
    cases hsp
    have href := hag hE pos flag _ hf
    obtain ⟨x, y, h0, h1, hxy⟩ := refCaps_slots01 b chars hns hg pos flag slots href
    exact ⟨slots, href, by rw [hxy]; exact h0, by rw [hxy]; exact h1⟩

/-! ### the driver's own text: `bytesOf s` IS the model encoder's output on `s.toList` -/

theorem bytesOf_eq_utf8Of (s : String) : bytesOf s = utf8Of s.toList := by
  unfold bytesOf utf8Of
  rw [String.toUTF8, ← String.utf8Encode_toList, ba_toList_eq, List.utf8Encode, List.data_toByteArray]
  unfold encode
  induction s.toList with
  | nil => rfl
  | cons c cs ih => simp [List.flatMap_cons, List.map_append, ih, utf8EncodeChar_toNat]

theorem mkText_bytes (s : String) : (mkText s).bytes = utf8Of s.toList := bytesOf_eq_utf8Of s

/-- what the driver's `replace` computes on the slow path (`Drv.doReplace`: `mkText`, `modelOracle`,
    `driverFuel`), stage S3 from the pattern string: never a panic, for every replacer -/
theorem C11_replacen_no_panic_driver (isAlnum : Char → Bool) (cs : List Char) (casei : Bool)
    (t : Parse.Tree) (b : Built) (prog : Prog)
    (hp : Parse.parseStr isAlnum cs casei = .ok t) (hb : build t.expr t.backrefs = .ok b)
    (hk : b.kind = .fancy prog) (hst : s3Pattern t b = true)
    (s : String) (hlen : s.toList.length < UNSET) (limit : Nat)
    (rep : List (Option Nat) → Bytes) (n : Nat) :
    replacen (capturesIter (modelOracle b (mkText s).chars (mkText s).off limit) spanOfSlots (mkText s).bytes)
      spanOfSlots rep (mkText s).bytes n ≠ .panic := by
  rw [mkText_bytes]
  exact C11_replacen_no_panic_s3 isAlnum cs casei t b prog hp hb hk hst s.toList hlen limit driverFuel rep n

/-! ### 4. Non-vacuity: `a*` on "aab", constant replacer `x`, hand-off path — `replace_all` gives
"xbx" (the empty match at 2 is dropped by the iterator, the one at 3 is replaced), `replacen 1`
gives "xb" -/

theorem exStar_utf8 : utf8Of ['a', 'a', 'b'] = [97, 97, 98] := by decide

theorem exStar_replace (limit fuel n : Nat) :
    replacen (capturesIter (modelOracleF exStarB ['a','a','b'] (offsets ['a','a','b']) limit fuel) spanOfSlots
        [97, 97, 98]) spanOfSlots (fun _ => [120]) [97, 97, 98] n =
      .owned (rewrite [97, 97, 98] ((chosen n 0 [(0, 2), (3, 3)]).map fun sp => (sp, [120])) 0) := by
  obtain ⟨as, _, _, _, h2, _, h4⟩ :=
    C11_replacen_is_reference_wrap exStar [] exStarB exStar_build rfl ['a','a','b'] limit fuel (fun _ => [120]) n
  rw [exStar_utf8, exStar_iter] at h2 h4
  rw [h4 (by simp)]
  have : (chosen n 0 as).map (fun a => (spanOfSlots a, ([120] : Bytes))) =
      (chosen n 0 (as.map spanOfSlots)).map fun sp => (sp, [120]) := by
    unfold chosen; split <;> simp [List.map_take, Function.comp_def]
  rw [this, h2]

example (limit fuel : Nat) :
    replacen (capturesIter (modelOracleF exStarB ['a','a','b'] (offsets ['a','a','b']) limit fuel) spanOfSlots
        [97, 97, 98]) spanOfSlots (fun _ => [120]) [97, 97, 98] 0 = .owned [120, 98, 120] := by
  rw [exStar_replace]; rfl

example (limit fuel : Nat) :
    replacen (capturesIter (modelOracleF exStarB ['a','a','b'] (offsets ['a','a','b']) limit fuel) spanOfSlots
        [97, 97, 98]) spanOfSlots (fun _ => [120]) [97, 97, 98] 1 = .owned [120, 98] := by
  rw [exStar_replace]; rfl

/-- the hypotheses of `C11_replacen_is_reference_s3` hold of the string `a(?=b)` (VM path), every text -/
example (chars : List Char) (hlen : chars.length < UNSET) (limit fuel : Nat) (rep : List (Option Nat) → Bytes)
    (n : Nat) : ∃ b, build exLook [] = .ok b ∧
      replacen (capturesIter (modelOracleF b chars (offsets chars) limit fuel) spanOfSlots (utf8Of chars))
        spanOfSlots rep (utf8Of chars) n ≠ .panic := by
  obtain ⟨b, prog, hb, hk, hst, _, _⟩ := exLook_built
  exact ⟨b, hb, C11_replacen_no_panic_s3 _ _ _ ⟨exLook, [], []⟩ b prog exLook_parse hb hk hst chars hlen limit fuel rep n⟩

end Fancy.Api
