import FancyModel.Proofs.C01b
/-!
# C03 — injecting `(?=)` at any depth changes no search result

`Inj e e'`: `e'` is `e` with ONE empty positive look-ahead `(?=)` inserted before or after one
sub-expression, at any depth (`InjStar`: any number of insertions).

* `C03_inject_sem` / `C03_injectStar_sem`: the reference semantics of the two trees is the same
  function (all results, in priority order, from every state);
* `C03_inject_numbering` / `C03_injectStar_numbering`: the insertion does not disturb the analyzer's
  group numbering (`groupCount` unchanged, the renumbered trees are again related by `Inj`);
* `C03_inject_refSearch`: the reference search gives the same answer;
* `C03_wrap_vmcorrect`: a pattern handed to the automata engine as a whole satisfies `VmCorrectR`;
* `C03_inject_engine`: if both patterns build and both satisfy the engine-refinement statement
  `VmCorrectR`, every search on the two built regexes gives the same result — same match / no match,
  same span, same value of every group — unless one of them stops for a resource reason.

## The one excluded position

Directly under a look-behind the *shape* of the body matters: the reference semantics (like the
compiler) tries the top-level alternatives of a look-behind body one after the other
(`semBehind`/`semBehindAlts`: alternative 1 from every start, then alternative 2, …), while a
non-alternation body is tried start by start. Wrapping the alternation body itself —
`(?<=a|bb)` ↦ `(?<=(?=)(?:a|bb))` or `(?<=(?:a|bb)(?=))` — turns it into a non-alternation body, and
the order of the results (hence the first one, hence the captures) can change. The modified pattern
then compiles only if the whole body is constant-size (`visit`, case `.look c .behind`:
`lookBehindNotConst` otherwise), so for `(?<=a|bb)` it does not compile at all ("whenever the modified
pattern still compiles" in the property text). `Inj.look` excludes exactly this single position by
its side condition: under a look-behind, an alternation body must stay an alternation. Every other
position inside a look-behind body — inside one of the alternatives, or anywhere in / around a
non-alternation body — is included, and proved.
-/
namespace Fancy

def Look.isBehind : Look → Bool
  | .behind | .behindNeg => true
  | _ => false

/-- `e'` is `e` with one `(?=)` inserted before or after one sub-expression, at any depth -/
inductive Inj : Expr → Expr → Prop
  /-- `x ↦ (?=)x` -/
  | before (x : Expr) : Inj x (.concat [.look .empty .ahead, x])
  /-- `x ↦ x(?=)` -/
  | after (x : Expr) : Inj x (.concat [x, .look .empty .ahead])
  /-- in place, `x` already a member of a concatenation: `…x… ↦ …(?=)x…` -/
  | beforeIn (pre : List Expr) (x : Expr) (post : List Expr) :
      Inj (.concat (pre ++ x :: post)) (.concat (pre ++ .look .empty .ahead :: x :: post))
  /-- in place: `…x… ↦ …x(?=)…` -/
  | afterIn (pre : List Expr) (x : Expr) (post : List Expr) :
      Inj (.concat (pre ++ x :: post)) (.concat (pre ++ x :: .look .empty .ahead :: post))
  | group (g : Nat) {x y : Expr} : Inj x y → Inj (.group g x) (.group g y)
  | concat (pre post : List Expr) {x y : Expr} : Inj x y →
      Inj (.concat (pre ++ x :: post)) (.concat (pre ++ y :: post))
  | alt (pre post : List Expr) {x y : Expr} : Inj x y →
      Inj (.alt (pre ++ x :: post)) (.alt (pre ++ y :: post))
  /-- any of the four look-arounds; under a look-behind an alternation body stays an alternation
      (the single excluded position, see the header) -/
  | look (k : Look) {x y : Expr} : Inj x y →
      (k.isBehind = true → isAlt x = true → isAlt y = true) → Inj (.look x k) (.look y k)
  | «repeat» (lo : Nat) (hi : Option Nat) (gr : Bool) {x y : Expr} : Inj x y →
      Inj (.repeat x lo hi gr) (.repeat y lo hi gr)
  | atomic {x y : Expr} : Inj x y → Inj (.atomic x) (.atomic y)
  | condC (a b : Expr) {x y : Expr} : Inj x y → Inj (.cond x a b) (.cond y a b)
  | condY (a b : Expr) {x y : Expr} : Inj x y → Inj (.cond a x b) (.cond a y b)
  | condN (a b : Expr) {x y : Expr} : Inj x y → Inj (.cond a b x) (.cond a b y)

/-- any number of insertions -/
inductive InjStar : Expr → Expr → Prop
  | refl (e : Expr) : InjStar e e
  | tail {a b c : Expr} : InjStar a b → Inj b c → InjStar a c

theorem InjStar.single {a b : Expr} (h : Inj a b) : InjStar a b := .tail (.refl a) h

theorem InjStar.trans {a b c : Expr} (h1 : InjStar a b) (h2 : InjStar b c) : InjStar a c := by
  induction h2 with
  | refl => exact h1
  | tail _ hi ih => exact .tail ih hi

/-! ## 1. Shape facts -/

/-- an insertion never turns a non-alternation into an alternation -/
theorem c03_inj_isAlt {e e' : Expr} (h : Inj e e') : isAlt e' = true → isAlt e = true := by
  cases h <;> simp [isAlt]

theorem c03_semBehindAlts_append (c : Ctx) (a b : List Expr) (st : St) :
    semBehindAlts c (a ++ b) st = semBehindAlts c a st ++ semBehindAlts c b st := by
  induction a with
  | nil => simp [semBehindAlts]
  | cons e es ih => simp [semBehindAlts, ih]

/-- `(?=)` anywhere in a concatenation is invisible -/
theorem c03_semConcat_insert (c : Ctx) (a b : List Expr) (st : St) :
    semConcat c (a ++ .look .empty .ahead :: b) st = semConcat c (a ++ b) st := by
  rw [semConcat_append, semConcat_append]
  congr 1
  funext r
  exact C03_inject_before_in_concat c b r

/-! ## 2. The reference semantics is unchanged -/

/-- the induction: `sem` is unchanged, and so is the look-behind reading of the body unless the
    insertion wrapped an alternation body itself -/
theorem c03_inject_sem_aux {e e' : Expr} (h : Inj e e') :
    (∀ (c : Ctx) (st : St), sem c e' st = sem c e st) ∧
    ((isAlt e = true → isAlt e' = true) → ∀ (c : Ctx) (st : St), semBehind c e' st = semBehind c e st) := by
  -- the second part follows from the first whenever neither side is an alternation
  have key : ∀ {a a' : Expr}, (∀ (c : Ctx) (st : St), sem c a' st = sem c a st) → isAlt a = false →
      isAlt a' = false → ∀ (c : Ctx) (st : St), semBehind c a' st = semBehind c a st := by
    intro a a' hs h1 h2 c st
    have hf : sem c a' = sem c a := funext (hs c)
    have ne : ∀ {x : Expr}, isAlt x = false → ∀ es, x ≠ .alt es := fun h es he => by subst he; cases h
    rw [semBehind_of_not_alt c (ne h2), semBehind_of_not_alt c (ne h1), hf]
  induction h with
  | before x =>
    have hs : ∀ (c : Ctx) (st : St), sem c (.concat [.look .empty .ahead, x]) st = sem c x st :=
      fun c st => C03_inject_before c x st
    refine ⟨hs, fun hal => ?_⟩
    have hx : isAlt x = false := by
      cases hh : isAlt x with
      | false => rfl
      | true => have := hal hh; simp [isAlt] at this
    exact key hs hx (by simp [isAlt])
  | after x =>
    have hs : ∀ (c : Ctx) (st : St), sem c (.concat [x, .look .empty .ahead]) st = sem c x st :=
      fun c st => C03_inject_after c x st
    refine ⟨hs, fun hal => ?_⟩
    have hx : isAlt x = false := by
      cases hh : isAlt x with
      | false => rfl
      | true => have := hal hh; simp [isAlt] at this
    exact key hs hx (by simp [isAlt])
  | beforeIn pre x post =>
    have hs : ∀ (c : Ctx) (st : St), sem c (.concat (pre ++ .look .empty .ahead :: x :: post)) st =
        sem c (.concat (pre ++ x :: post)) st := by
      intro c st; simp only [sem]; exact c03_semConcat_insert c pre (x :: post) st
    exact ⟨hs, fun _ => key hs (by simp [isAlt]) (by simp [isAlt])⟩
  | afterIn pre x post =>
    have hs : ∀ (c : Ctx) (st : St), sem c (.concat (pre ++ x :: .look .empty .ahead :: post)) st =
        sem c (.concat (pre ++ x :: post)) st := by
      intro c st
      simp only [sem]
      have e1 : pre ++ x :: .look .empty .ahead :: post = (pre ++ [x]) ++ .look .empty .ahead :: post := by simp
      have e2 : pre ++ x :: post = (pre ++ [x]) ++ post := by simp
      rw [e1, e2]
      exact c03_semConcat_insert c (pre ++ [x]) post st
    exact ⟨hs, fun _ => key hs (by simp [isAlt]) (by simp [isAlt])⟩
  | group g _ ih =>
    have hs := fun (c : Ctx) (st : St) => C03_congr_group c (fun s => ih.1 c s) g st
    exact ⟨hs, fun _ => key hs (by simp [isAlt]) (by simp [isAlt])⟩
  | concat pre post _ ih =>
    have hs := fun (c : Ctx) (st : St) => C03_congr_concat c pre post (fun s => ih.1 c s) st
    exact ⟨hs, fun _ => key hs (by simp [isAlt]) (by simp [isAlt])⟩
  | alt pre post _ ih =>
    have hs := fun (c : Ctx) (st : St) => C03_congr_alt c pre post (fun s => ih.1 c s) st
    refine ⟨hs, fun _ c st => ?_⟩
    have hf := funext (ih.1 c)
    simp only [semBehind, c03_semBehindAlts_append, semBehindAlts, hf]
  | look k _ hside ih =>
    rename_i x y hxy
    have hs : ∀ (c : Ctx) (st : St), sem c (.look y k) st = sem c (.look x k) st := by
      intro c st
      cases k with
      | ahead => exact (C03_congr_lookahead c (fun s => ih.1 c s) st).1
      | aheadNeg => exact (C03_congr_lookahead c (fun s => ih.1 c s) st).2
      | behind => simp only [sem, ih.2 (hside rfl) c st]
      | behindNeg => simp only [sem, ih.2 (hside rfl) c st]
    exact ⟨hs, fun _ => key hs (by simp [isAlt]) (by simp [isAlt])⟩
  | «repeat» lo hi gr _ ih =>
    have hs := fun (c : Ctx) (st : St) => C03_congr_repeat c (fun s => ih.1 c s) lo hi gr st
    exact ⟨hs, fun _ => key hs (by simp [isAlt]) (by simp [isAlt])⟩
  | atomic _ ih =>
    have hs := fun (c : Ctx) (st : St) => C03_congr_atomic c (fun s => ih.1 c s) st
    exact ⟨hs, fun _ => key hs (by simp [isAlt]) (by simp [isAlt])⟩
  | condC a b _ ih =>
    have hs := fun (c : Ctx) (st : St) => (C03_congr_cond c (fun s => ih.1 c s) a b st).1
    exact ⟨hs, fun _ => key hs (by simp [isAlt]) (by simp [isAlt])⟩
  | condY a b _ ih =>
    have hs := fun (c : Ctx) (st : St) => (C03_congr_cond c (fun s => ih.1 c s) a b st).2.1
    exact ⟨hs, fun _ => key hs (by simp [isAlt]) (by simp [isAlt])⟩
  | condN a b _ ih =>
    have hs := fun (c : Ctx) (st : St) => (C03_congr_cond c (fun s => ih.1 c s) a b st).2.2
    exact ⟨hs, fun _ => key hs (by simp [isAlt]) (by simp [isAlt])⟩

/-- **C03, specification side**: one `(?=)` inserted anywhere (but see the header for the single
    position under a look-behind) leaves the reference semantics unchanged — every result, in
    priority order, from every state -/
theorem C03_inject_sem {e e' : Expr} (h : Inj e e') : ∀ (c : Ctx) (st : St), sem c e' st = sem c e st :=
  (c03_inject_sem_aux h).1

/-- … and so does any number of insertions -/
theorem C03_injectStar_sem {e e' : Expr} (h : InjStar e e') :
    ∀ (c : Ctx) (st : St), sem c e' st = sem c e st := by
  induction h with
  | refl => intro c st; rfl
  | tail _ hi ih => intro c st; rw [C03_inject_sem hi c st, ih c st]

/-- `(?<=(?=)x|y)`-style positions: the insertion inside an alternative of a look-behind body, or
    in / around a non-alternation body, also leaves the look-behind reading unchanged -/
theorem C03_inject_semBehind {e e' : Expr} (h : Inj e e') (hal : isAlt e = true → isAlt e' = true) :
    ∀ (c : Ctx) (st : St), semBehind c e' st = semBehind c e st :=
  (c03_inject_sem_aux h).2 hal

example (c : Ctx) (st : St) :
    sem c (.look (.alt [.literal ['a'] false, .concat [.look .empty .ahead, .literal ['b', 'b'] false]]) .behind) st =
      sem c (.look (.alt [.literal ['a'] false, .literal ['b', 'b'] false]) .behind) st :=
  C03_inject_sem (.look .behind (.alt [.literal ['a'] false] [] (.before (.literal ['b', 'b'] false)))
    (by simp [isAlt])) c st

/-! ## 3. The numbering is undisturbed -/

theorem c03_inject_groupCount {e e' : Expr} (h : Inj e e') : groupCount e' = groupCount e := by
  induction h with
  | before x => simp only [groupCount, groupCountList, Nat.add_zero, Nat.zero_add]
  | after x => simp only [groupCount, groupCountList, Nat.add_zero]
  | beforeIn pre x post => simp only [groupCount, groupCountList, groupCountList_append, Nat.zero_add]
  | afterIn pre x post => simp only [groupCount, groupCountList, groupCountList_append, Nat.zero_add]
  | group g _ ih => simp only [groupCount, ih]
  | concat pre post _ ih => simp only [groupCount, groupCountList, groupCountList_append, ih]
  | alt pre post _ ih => simp only [groupCount, groupCountList, groupCountList_append, ih]
  | look k _ _ ih => simp only [groupCount, ih]
  | «repeat» lo hi gr _ ih => simp only [groupCount, ih]
  | atomic _ ih => simp only [groupCount, ih]
  | condC a b _ ih => simp only [groupCount, ih]
  | condY a b _ ih => simp only [groupCount, ih]
  | condN a b _ ih => simp only [groupCount, ih]

theorem c03_renumberList_append (a b : List Expr) (n : Nat) :
    renumberList (a ++ b) n =
      ((renumberList a n).1 ++ (renumberList b (renumberList a n).2).1, (renumberList b (renumberList a n).2).2) := by
  induction a generalizing n with
  | nil => simp [renumberList]
  | cons e es ih => simp only [List.cons_append, renumberList, ih]

theorem c03_isAlt_renumber (e : Expr) (n : Nat) : isAlt (renumber e n).1 = isAlt e := by
  cases e <;> simp only [renumber, isAlt]

theorem c03_inject_renumber {e e' : Expr} (h : Inj e e') :
    ∀ n, Inj (renumber e n).1 (renumber e' n).1 := by
  have snd : ∀ {x y : Expr}, Inj x y → ∀ m, (renumber y m).2 = (renumber x m).2 := by
    intro x y hxy m; rw [renumber_snd, renumber_snd, c03_inject_groupCount hxy]
  induction h with
  | before x =>
    intro n; simp only [renumber, renumberList]; exact .before _
  | after x =>
    intro n; simp only [renumber, renumberList]; exact .after _
  | beforeIn pre x post =>
    intro n; simp only [renumber, c03_renumberList_append, renumberList]; exact .beforeIn _ _ _
  | afterIn pre x post =>
    intro n; simp only [renumber, c03_renumberList_append, renumberList]; exact .afterIn _ _ _
  | group g _ ih => intro n; simp only [renumber]; exact .group n (ih (n + 1))
  | concat pre post hxy ih =>
    intro n
    simp only [renumber, c03_renumberList_append, renumberList, snd hxy]
    exact .concat _ _ (ih _)
  | alt pre post hxy ih =>
    intro n
    simp only [renumber, c03_renumberList_append, renumberList, snd hxy]
    exact .alt _ _ (ih _)
  | look k _ hside ih =>
    intro n; simp only [renumber]
    exact .look k (ih n) (by simpa only [c03_isAlt_renumber] using hside)
  | «repeat» lo hi gr _ ih => intro n; simp only [renumber]; exact .repeat lo hi gr (ih n)
  | atomic _ ih => intro n; simp only [renumber]; exact .atomic (ih n)
  | condC a b hxy ih => intro n; simp only [renumber, snd hxy]; exact .condC _ _ (ih n)
  | condY a b hxy ih => intro n; simp only [renumber, snd hxy]; exact .condY _ _ (ih _)
  | condN a b _ ih => intro n; simp only [renumber]; exact .condN _ _ (ih _)

/-- **the insertion does not disturb the numbering**: same number of groups, and the numbered trees
    are related by the same insertion (so every group keeps its number) -/
theorem C03_inject_numbering {e e' : Expr} (h : Inj e e') :
    groupCount e' = groupCount e ∧ ∀ n, Inj (renumber e n).1 (renumber e' n).1 :=
  ⟨c03_inject_groupCount h, c03_inject_renumber h⟩

theorem C03_injectStar_numbering {e e' : Expr} (h : InjStar e e') :
    groupCount e' = groupCount e ∧ ∀ n, InjStar (renumber e n).1 (renumber e' n).1 := by
  induction h with
  | refl => exact ⟨rfl, fun n => .refl _⟩
  | tail _ hi ih =>
    exact ⟨by rw [c03_inject_groupCount hi, ih.1], fun n => .tail (ih.2 n) (c03_inject_renumber hi n)⟩

example : Inj (renumber (.concat [.group 0 (.literal ['a'] false), .group 0 .empty]) 1).1
    (renumber (.concat [.group 0 (.literal ['a'] false), .look .empty .ahead, .group 0 .empty]) 1).1 :=
  (C03_inject_numbering (.afterIn [] (.group 0 (.literal ['a'] false)) [.group 0 .empty])).2 1

/-! ## 4. The reference search -/

/-- the reference search depends on the expression only through its semantics -/
theorem c03_refSearch_congr (c : Ctx) {e e' : Expr} (nG : Nat) (h : ∀ st, sem c e' st = sem c e st) :
    refSearch c e' nG = refSearch c e nG := by
  unfold refSearch
  split
  · generalize c.len - c.pos + 1 = n
    generalize c.pos = start
    induction n generalizing start with
    | zero => rfl
    | succ n ih => simp only [scanFrom, h, ih]
  · rfl

/-- **same answer of the reference search** — match / no match, span, every group -/
theorem C03_inject_refSearch {e e' : Expr} (h : InjStar e e') (c : Ctx) (nG : Nat) :
    refSearch c e' nG = refSearch c e nG :=
  c03_refSearch_congr c nG (C03_injectStar_sem h c)

example (c : Ctx) (nG : Nat) :
    refSearch c (.concat [.literal ['a'] false, .look .empty .ahead, .literal ['b'] false]) nG =
      refSearch c (.concat [.literal ['a'] false, .literal ['b'] false]) nG :=
  C03_inject_refSearch (.single (.afterIn [] (.literal ['a'] false) [.literal ['b'] false])) c nG

/-! ## 5. The engine -/

/-- a pattern handed to the automata engine as a whole satisfies the engine-refinement statement
    (assumption A-RA: `C01_wrap_path`) -/
theorem C03_wrap_vmcorrect (b : Built) (c : Ctx) (hk : b.kind = .wrap) : VmCorrectR b c := by
  intro limit fuel
  exact .inr (.inr (.inr (C01_wrap_path b c limit fuel hk)))

/-- a search stopped for a resource reason: model fuel, branch-stack cap, backtrack limit -/
def ResourceStop (r : SearchResult) : Prop := r = .outOfFuel ∨ r = .errStack ∨ r = .errLimit

/-- what the two built regexes are compared against is the same reference answer -/
theorem c03_inject_reference (tree tree' : Expr) (brs brs' : List Nat) (b b' : Built)
    (hb : build tree brs = .ok b) (hb' : build tree' brs' = .ok b') (hinj : InjStar tree tree') (c : Ctx) :
    b'.nGroups = b.nGroups ∧ InjStar b.raw b'.raw ∧
      refSearch c b'.raw b'.nGroups = refSearch c b.raw b.nGroups := by
  have hn : b'.nGroups = b.nGroups := by
    rw [C16_len tree brs b hb, C16_len tree' brs' b' hb', (C03_injectStar_numbering hinj).1]
  have hr : InjStar b.raw b'.raw := by
    rw [build_raw tree brs b hb, build_raw tree' brs' b' hb']
    exact (C03_injectStar_numbering hinj).2 1
  exact ⟨hn, hr, by rw [hn]; exact C03_inject_refSearch hr c b.nGroups⟩

/-- **C03, engine side**: `tree'` is `tree` with any number of `(?=)` inserted, both build (with any
    back-reference tables), and both built regexes satisfy the engine-refinement statement
    `VmCorrectR` (proved for the hand-off path: `C03_wrap_vmcorrect`; for the VM path in the proved
    stage: `C01_vm_correct_s2`). Then every search on the one and every search on the other — whatever
    the backtrack limits and the model fuel — give the same result: same match / no match, same
    span, same value of every capture group; unless one of the two stops for a resource reason. -/
theorem C03_inject_engine (tree tree' : Expr) (brs brs' : List Nat) (b b' : Built) (c : Ctx)
    (hb : build tree brs = .ok b) (hb' : build tree' brs' = .ok b') (hinj : InjStar tree tree')
    (hvm : VmCorrectR b c) (hvm' : VmCorrectR b' c) (limit fuel limit' fuel' : Nat) :
    ResourceStop (b.captures c limit fuel).1 ∨ ResourceStop (b'.captures c limit' fuel').1 ∨
      (b.captures c limit fuel).1 = (b'.captures c limit' fuel').1 := by
  obtain ⟨_, _, href⟩ := c03_inject_reference tree tree' brs brs' b b' hb hb' hinj c
  rcases hvm limit fuel with h | h | h | h
  · exact .inl (.inl h)
  · exact .inl (.inr (.inl h))
  · exact .inl (.inr (.inr h))
  · rcases hvm' limit' fuel' with h' | h' | h' | h'
    · exact .inr (.inl (.inl h'))
    · exact .inr (.inl (.inr (.inl h')))
    · exact .inr (.inl (.inr (.inr h')))
    · exact .inr (.inr (by rw [h, h', href]))

/-- the same, when the original is an ordinary regex handed to the automata engine as a whole: its
    side of the hypothesis is then a theorem, and it never stops for a resource reason -/
theorem C03_inject_engine_wrap (tree tree' : Expr) (brs brs' : List Nat) (b b' : Built) (c : Ctx)
    (hb : build tree brs = .ok b) (hb' : build tree' brs' = .ok b') (hinj : InjStar tree tree')
    (hk : b.kind = .wrap) (hvm' : VmCorrectR b' c) (limit fuel limit' fuel' : Nat) :
    ResourceStop (b'.captures c limit' fuel').1 ∨
      (b.captures c limit fuel).1 = (b'.captures c limit' fuel').1 := by
  obtain ⟨_, _, href⟩ := c03_inject_reference tree tree' brs brs' b b' hb hb' hinj c
  have h := C01_wrap_path b c limit fuel hk
  rcases hvm' limit' fuel' with h' | h' | h' | h'
  · exact .inl (.inl h')
  · exact .inl (.inr (.inl h'))
  · exact .inl (.inr (.inr h'))
  · refine .inr ?_
    rw [h, h', href]
    cases refSearch c b.raw b.nGroups <;> rfl

/-! ## 6. Non-vacuity: `ab` (handed to the automata engine whole) and `a(?=)b` (compiled for the VM)

`VmCorrectR` for `a(?=)b` cannot come from the stage-S2 theorem `C01_vm_correct_s2`, and the same holds
of *every* injected pattern: the body of `(?=)` is the easy expression `Expr.empty`, met in a non-hard context, so the compiler emits
`Delegate [empty]` for it (`visit`, first line: `compile_delegate`) — the program of every pattern
containing `(?=)` has a `Delegate` instruction, and stage S2 is exactly "no `Delegate`"
(`c03_ex_fancy` below proves `noDeleg prog.body = false` for `a(?=)b`). The hypothesis `VmCorrectR b'`
for the injected pattern therefore needs the stage-S3 theorem (delegation included; `s3ok` holds of
`a(?=)b`). That theorem lies downstream of this file: `C03_inject_stage` (Proofs/C03c.lean) puts it in and
repeats the example without hypothesis; in the example here it stays a hypothesis. Everything else is
discharged: both patterns build, the first on the hand-off path (where `VmCorrectR` is
`C03_wrap_vmcorrect`), the second on the VM path. -/

def c03_exAB : Expr := .concat [.literal ['a'] false, .literal ['b'] false]
def c03_exAB' : Expr := .concat [.literal ['a'] false, .look .empty .ahead, .literal ['b'] false]

theorem c03_ex_inj : InjStar c03_exAB c03_exAB' :=
  .single (.afterIn [] (.literal ['a'] false) [.literal ['b'] false])

/-- `ab` builds, and is handed to the automata engine as a whole -/
theorem c03_ex_wrap : ∃ b, build c03_exAB [] = .ok b ∧ b.kind = .wrap := by
  simp [build, c03_exAB, wrapTree, renumber, renumberList, checkRefs, checkRefsList, isHard, isHardAny]

set_option linter.unusedSimpArgs false in
/-- `a(?=)b` builds, is compiled for the VM, and its program contains a `Delegate` (the body of `(?=)`) -/
theorem c03_ex_fancy : ∃ b prog, build c03_exAB' [] = .ok b ∧ b.kind = .fancy prog ∧ noDeleg prog.body = false := by
  simp [build, c03_exAB', wrapTree, renumber, renumberList, checkRefs, checkRefsList, isHard, isHardAny,
    compile, visit, visitMiddle, visitAlt, concatSplit, groupCount, groupCountList, constSize, constSizeAll, minSize,
    minSizeMin, allMinSize, compileDelegates, compileDelegate, isLiteral, isLiteralAll, noDeleg,
    Insn.isDelegate, boundsEq, satMul, sureReps, UNSET, Assertion.isHard, wrapPosLook, posLookBodyPc, pushLiteral]

/-- `C03_inject_engine` on `ab` / `a(?=)b`: the only hypothesis left is the engine-refinement statement
    of the VM-compiled `a(?=)b` (stage S3, see above) -/
example (c : Ctx) (b b' : Built) (hb : build c03_exAB [] = .ok b) (hb' : build c03_exAB' [] = .ok b')
    (hvm' : VmCorrectR b' c) (limit fuel limit' fuel' : Nat) :
    ResourceStop (b.captures c limit fuel).1 ∨ ResourceStop (b'.captures c limit' fuel').1 ∨
      (b.captures c limit fuel).1 = (b'.captures c limit' fuel').1 := by
  have hk : b.kind = .wrap := by
    obtain ⟨b0, h0, hk0⟩ := c03_ex_wrap
    rw [hb] at h0; cases h0; exact hk0
  exact C03_inject_engine c03_exAB c03_exAB' [] [] b b' c hb hb' c03_ex_inj (C03_wrap_vmcorrect b c hk) hvm'
    limit fuel limit' fuel'

/-! ## 7. The excluded position is really different

`(?<=(ba)|(a))` against `(?<=(?=)(?:(ba)|(a)))` at the end of `ba`: as a look-behind over an
alternation the first alternative wins (group 1 = (0,2)); as a look-behind over a concatenation the
nearest start wins (group 2 = (1,2)). So `Inj.look` cannot include the position "around the
alternation body of a look-behind"; and the compiler rejects the modified pattern (the body is not
constant-size), which is the property's "whenever the modified pattern still compiles". -/

def c03_wCtx : Ctx := ⟨['b', 'a'], 0, false, fun _ => false, fun _ _ _ => false, fun _ a b => a == b⟩
def c03_wAlt : Expr :=
  .alt [.group 1 (.concat [.literal ['b'] false, .literal ['a'] false]), .group 2 (.literal ['a'] false)]
def c03_wSt : St := ⟨2, [none, none, none, none, none, none]⟩

theorem c03_w_orig : sem c03_wCtx (.look c03_wAlt .behind) c03_wSt =
    [⟨2, [none, none, some 0, some 2, none, none]⟩] := by
  simp [sem, semConcat, semBehind, semBehindAlts, behindOne, firstOnly, Ctx.litAt, Ctx.at?, St.setSlot, c03_wCtx,
    c03_wAlt, c03_wSt, List.range_succ, List.range_zero]

theorem c03_w_wrapped : sem c03_wCtx (.look (.concat [.look .empty .ahead, c03_wAlt]) .behind) c03_wSt =
    [⟨2, [none, none, none, none, some 1, some 2]⟩] := by
  simp [sem, semConcat, semAlt, semBehind, behindOne, firstOnly, Ctx.litAt, Ctx.at?, St.setSlot, c03_wCtx, c03_wAlt,
    c03_wSt, List.range_succ, List.range_zero]

/-- wrapping the alternation body of a look-behind changes the reference semantics -/
theorem C03_lookbehind_alt_body_excluded :
    ∃ (c : Ctx) (x : Expr) (st : St),
      sem c (.look (.concat [.look .empty .ahead, x]) .behind) st ≠ sem c (.look x .behind) st := by
  refine ⟨c03_wCtx, c03_wAlt, c03_wSt, ?_⟩
  rw [c03_w_orig, c03_w_wrapped]
  simp

set_option linter.unusedSimpArgs false in
/-- the original pattern compiles (each alternative is constant-size) … -/
example : ∃ b, build (.look c03_wAlt .behind) [] = .ok b := by
  simp [build, c03_wAlt, wrapTree, renumber, renumberList, checkRefs, checkRefsList, isHard, isHardAny,
    compile, visit, visitMiddle, visitAlt, visitAltBody, lookBehindAlts, concatSplit, groupCount, groupCountList,
    constSize, constSizeAll, minSize, minSizeMin, minSizeSum, allMinSize, compileDelegates, compileDelegate,
    isLiteral, isLiteralAll, boundsEq, satMul, satAdd, sureReps, UNSET, Assertion.isHard, wrapPosLook,
    posLookBodyPc, pushLiteral]

set_option linter.unusedSimpArgs false in
/-- … and the modified pattern does not compile -/
example : build (.look (.concat [.look .empty .ahead, c03_wAlt]) .behind) [] = .error .lookBehindNotConst := by
  simp [build, c03_wAlt, wrapTree, renumber, renumberList, checkRefs, checkRefsList, isHard, isHardAny,
    compile, visit, visitMiddle, visitAlt, concatSplit, groupCount, groupCountList, constSize, constSizeAll, minSize,
    minSizeMin, minSizeSum, allMinSize, compileDelegates, compileDelegate, isLiteral, isLiteralAll,
    boundsEq, satMul, satAdd, sureReps, UNSET, Assertion.isHard, wrapPosLook, posLookBodyPc, pushLiteral]

end Fancy
