import FancyModel.Proofs.C01b
/-!
# C02 — capture groups of compiled programs (engine refinement, stage S1)

`C01_vm_correct_core` relates the *whole slot vector* reported by the VM run of a compiled core
program to the reference search result; here it is spelled out per group.
-/
namespace Fancy

/-- the engine-refinement statement speaks about the whole slot vector, so it already says that every capture
    group has exactly the reference value; spelled out per group -/
theorem groups_of_vmCorrectR {b : Built} {c : Ctx} (h : VmCorrectR b c) (limit fuel : Nat) (slots : List (Option Nat))
    (hfound : (b.captures c limit fuel).1 = .found slots) :
    ∃ f, refSearch c b.raw b.nGroups = some f ∧ ∀ i : Nat, slots[i]? = f.slots[i]? := by
  have h := h limit fuel
  rw [hfound] at h
  rcases h with h | h | h | h
  · cases h
  · cases h
  · cases h
  · cases href : refSearch c b.raw b.nGroups with
    | none => simp [href] at h
    | some f =>
      simp only [href, SearchResult.found.injEq] at h
      exact ⟨f, rfl, fun i => by rw [h]⟩

/-- **C02 for the core**: `C01_vm_correct_core` speaks about the whole slot vector, so it already says
    that every capture group has exactly the reference value; spelled out per group. -/
theorem C02_groups_core (tree : Expr) (backrefs : List Nat) (b : Built) (prog : Prog) (c : Ctx)
    (hb : build tree backrefs = .ok b) (hk : b.kind = .fancy prog)
    (hcore : isCore b.raw = true) (hnd : noDeleg prog.body = true)
    (hlen : c.len < UNSET) (hpos : c.pos ≤ c.len) (limit fuel : Nat) (slots : List (Option Nat))
    (hfound : (b.captures c limit fuel).1 = .found slots) :
    ∃ f, refSearch c b.raw b.nGroups = some f ∧ ∀ i : Nat, slots[i]? = f.slots[i]? := by
  exact groups_of_vmCorrectR (C01_vm_correct_core tree backrefs b prog c hb hk hcore hnd hlen hpos) limit fuel slots
    hfound

end Fancy
