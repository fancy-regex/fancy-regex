import FancyModel.Lemmas.SimTop
import FancyModel.Lemmas.AVM2Defs
/-!
# C01 / C02 — compiler correctness for the interpreted core (engine refinement, stage S1)

`C01_vm_correct_core`: for every pattern whose tree lies in the interpreted core (`isCore`:
literals, `.`, assertions, `\K`, `\G`, back-references, concatenation, alternation, capture groups,
`?`, and `*`/`+` over bodies that cannot match empty — greedy or lazy) and whose compiled program
contains no `Delegate` instruction, for every text and every start offset, the VM run of the
compiled wrapped tree returns **exactly** the reference search result — same match / no match, same
span, same value for every capture group — unless it stops for one of the three resource reasons
(model fuel, backtrack limit, branch-stack cap).

The chain, all machine-checked, no bound on pattern, text or offset:

    runLoop (undo-log State)  ──link──▶  Big (whole-copy machine)  ──sim_visit──▶  sem (reference, ordered list of results)
                                                                              ──sem_wrapped_head / scanFrom_findSome──▶  refSearch

`VmCorrectR` is the statement: `VmCorrect` of `Proofs/C01.lean` with the third resource stop
(`StackOverflow`, the model's `.errStack`) excepted as well; `VmCorrect` excepts only the other two.
-/
namespace Fancy

/-- the model's search equals the reference search, up to the three resource stops -/
def VmCorrectR (b : Built) (c : Ctx) : Prop :=
  ∀ limit fuel,
    (b.captures c limit fuel).1 = .outOfFuel ∨ (b.captures c limit fuel).1 = .errStack ∨
    (b.captures c limit fuel).1 = .errLimit ∨
    (b.captures c limit fuel).1 =
      match refSearch c b.raw b.nGroups with
      | some f => .found f.slots
      | none => .noMatch

theorem concatSplit_wrapped (br : Nat → Bool) (raw : Expr) (g : Nat) (h : isHard br (.group g raw) = true) :
    concatSplit br [.repeat (.any true) 0 none false, .group g raw] false = (0, 2) := by
  have h' : (isHard br raw || br g) = true := by simpa [isHard] using h
  simp [concatSplit, constSize, boundsEq, UNSET, isHard, h']

/-- the user's expression of a built regex is the tree numbered from 1 (either engine path) -/
theorem build_raw (tree : Expr) (backrefs : List Nat) (b : Built) (h : build tree backrefs = .ok b) :
    b.raw = (renumber tree 1).1 := by
  unfold build at h
  simp only at h
  cases hc : checkRefs (renumber (wrapTree tree) 0).1 0 with
  | error e => simp [hc] at h
  | ok n =>
    simp only [hc] at h
    have hshape : (renumber (wrapTree tree) 0).1 =
        .concat [.repeat (.any true) 0 none false, .group 0 (renumber tree 1).1] := by
      simp [wrapTree, renumber, renumberList]
    rw [hshape] at h
    simp only at h
    split at h
    · cases h; rfl
    · split at h
      · cases h
      · cases h; rfl

/-- shape of `build`: what a successful build on the VM path consists of -/
theorem build_fancy (tree : Expr) (backrefs : List Nat) (b : Built) (prog : Prog)
    (h : build tree backrefs = .ok b) (hk : b.kind = .fancy prog) :
    b.wrapped = .concat [.repeat (.any true) 0 none false, .group 0 b.raw] ∧
    b.wrapped = (renumber (wrapTree tree) 0).1 ∧
    checkRefs b.wrapped 0 = .ok b.nGroups ∧ isHard (fun g => backrefs.contains g) b.raw = true ∧
    compile (fun g => backrefs.contains g) b.wrapped = .ok prog := by
  unfold build at h
  simp only at h
  generalize (fun g => backrefs.contains g) = br at h ⊢
  cases hc : checkRefs (renumber (wrapTree tree) 0).1 0 with
  | error e => simp [hc] at h
  | ok n =>
    simp only [hc] at h
    have hshape : (renumber (wrapTree tree) 0).1 =
        .concat [.repeat (.any true) 0 none false, .group 0 (renumber tree 1).1] := by
      simp [wrapTree, renumber, renumberList]
    rw [hshape] at h hc
    simp only at h
    split at h
    · cases h; simp at hk
    · rename_i hh
      cases hcomp : compile br
          (.concat [.repeat (.any true) 0 none false, .group 0 (renumber tree 1).1]) with
      | error e => simp [hcomp] at h
      | ok p =>
        simp only [hcomp, Except.ok.injEq] at h
        subst h
        simp only [Kind.fancy.injEq] at hk
        subst hk
        refine ⟨rfl, hshape.symm, hc, ?_, hcomp⟩
        simpa using hh

/-- the program of a successful VM-path build is the code of the two children of the wrapped tree followed by
    `End`; the tree touches capture slots below `2 * n_groups` only -/
theorem build_fancy_prog (tree : Expr) (backrefs : List Nat) (b : Built) (prog : Prog)
    (hb : build tree backrefs = .ok b) (hk : b.kind = .fancy prog) :
    ∃ mid nsv, prog = ⟨mid ++ [Insn.end_], nsv⟩ ∧
      visitMiddle (fun g => backrefs.contains g) [.repeat (.any true) 0 none false, .group 0 b.raw] 0 2 0
        (b.nGroups * 2) 0 = .ok (mid, nsv) ∧
      0 < b.nGroups ∧ slotsBelowAll (2 * b.nGroups) [.repeat (.any true) 0 none false, .group 0 b.raw] = true := by
  obtain ⟨hw, hwr, hchk, hhard, hcomp⟩ := build_fancy tree backrefs b prog hb hk
  generalize (fun g => backrefs.contains g) = br at hhard hcomp ⊢
  unfold compile at hcomp
  rw [hw] at hcomp hchk
  have hgc : groupCount (Expr.concat [.repeat (.any true) 0 none false, .group 0 b.raw]) = b.nGroups := by
    have := checkRefs_count _ _ _ hchk; omega
  simp only [hgc] at hcomp
  cases hv : visit br (Expr.concat [.repeat (.any true) 0 none false, .group 0 b.raw]) false 0 (b.nGroups * 2) 0 with
  | error e => simp [hv] at hcomp
  | ok p =>
    obtain ⟨code, nsv⟩ := p
    simp only [hv, Except.ok.injEq] at hcomp
    subst hcomp
    -- non-hard context, hard expression: the concat case, with nothing to hand over before or after
    have hgh : isHard br (.group 0 b.raw) = true := by simp [isHard, hhard]
    have hwh : isHard br (Expr.concat [.repeat (.any true) 0 none false, .group 0 b.raw]) = true := by
      simp [isHard, isHardAny, hhard]
    obtain ⟨mid, hm, hcode⟩ := visit_concat_ok (by simp [hwh]) hv
    have hdrop : List.drop 2 [Expr.repeat (.any true) 0 none false, .group 0 b.raw] = [] := rfl
    simp only [concatSplit_wrapped br b.raw 0 hgh, List.take_zero, List.drop_zero, hdrop, compileDelegates,
      List.isEmpty_nil, ↓reduceIte, List.length_nil, Nat.add_zero, groupCountList, Nat.sub_zero, List.nil_append,
      List.append_nil] at hm hcode
    subst code
    have hn0 : 0 < b.nGroups := by
      simp only [groupCount, groupCountList] at hgc; omega
    refine ⟨mid, nsv, rfl, hm, hn0, ?_⟩
    have := slotsBelow_renumber b.nGroups hn0 (wrapTree tree) 0 b.nGroups (by rw [← hwr, hw]; exact hchk)
      (Nat.le_refl _)
    rw [← hwr, hw] at this
    simpa [slotsBelow] using this

theorem Good.good2 {out : Outcome} {a : Ans} (nS : Nat) (h : Good out a) : Good2 nS out a := by
  rcases h with h | h | h | h
  · exact .inl h
  · exact .inr (.inl h)
  · exact .inr (.inr (.inl h))
  · refine .inr (.inr (.inr ?_))
    cases a with
    | noMatch => exact h
    | matched sl => exact ⟨sl, h, List.take_length⟩

/-- the machine tries the results of the wrapped tree in their order and reports the first, up to the resource
    stops and to whatever it keeps beyond the capture slots: that is the reference search -/
theorem vmCorrectR_of_first (b : Built) (prog : Prog) (c : Ctx) (nS : Nat) (hk : b.kind = .fancy prog)
    (hlen : c.len < UNSET) (hpos : c.pos ≤ c.len) (hn0 : 0 < b.nGroups)
    (hgood : ∀ limit fuel, Good2 nS (run c prog ⟨limit, maxStackDefault⟩ fuel).1
      ((semConcat c [.repeat (.any true) 0 none false, .group 0 b.raw] ⟨c.pos, initSlots b.nGroups⟩).foldr
        (fun r (_ : Ans) => Ans.matched (capSaves (unview r.slots) c.pos)) .noMatch)) : VmCorrectR b c := by
  intro limit fuel
  have hgood := hgood limit fuel
  -- the reference side
  have hsemc : semConcat c [.repeat (.any true) 0 none false, .group 0 b.raw] ⟨c.pos, initSlots b.nGroups⟩ =
      sem c (.concat [.repeat (.any true) 0 none false, .group 0 b.raw]) ⟨c.pos, initSlots b.nGroups⟩ := by
    simp only [sem]
  have hhead := sem_wrapped_head c b.raw b.nGroups hpos
  rw [← hsemc] at hhead
  have href : refSearch c b.raw b.nGroups =
      (List.range (c.len - c.pos + 1)).findSome? fun k =>
        ((sem c b.raw ⟨c.pos + k, (initSlots b.nGroups).set 0 (some (c.pos + k))⟩).head?).map (finish c) := by
    unfold refSearch
    simp only [hpos, ↓reduceIte]
    exact scanFrom_findSome c b.raw b.nGroups _ _
  -- fold over the ordered results = look at the first one
  have hfold : ∀ (l : List St), l.foldr (fun r (_ : Ans) => Ans.matched (capSaves (unview r.slots) c.pos)) .noMatch =
      match l.head? with
      | some r => .matched (capSaves (unview r.slots) c.pos)
      | none => .noMatch := by
    intro l; cases l <;> rfl
  rw [hfold, hhead] at hgood
  unfold Built.captures
  simp only [hk]
  unfold Good2 at hgood
  generalize run c prog ⟨limit, maxStackDefault⟩ fuel = res at hgood ⊢
  obtain ⟨out, stats⟩ := res
  simp only at hgood
  rcases hgood with h | h | h | h
  · left; subst h; rfl
  · right; left; subst h; rfl
  · right; right; left; subst h; rfl
  · right; right; right
    rw [href]
    -- both sides scan the same start positions
    have hks : ∀ k ∈ List.range (c.len - c.pos + 1), c.pos + k ≤ c.len := by
      intro k hk'; have := List.mem_range.mp hk'; omega
    generalize (List.range (c.len - c.pos + 1)) = ks at hks h
    induction ks with
    | nil => simp only [List.findSome?_nil] at h ⊢; subst h; rfl
    | cons k ks ih =>
      simp only [List.findSome?_cons] at h ⊢
      cases hh : (sem c b.raw ⟨c.pos + k, (initSlots b.nGroups).set 0 (some (c.pos + k))⟩).head? with
      | none =>
        simp only [hh, Option.map_none] at h ⊢
        exact ih (fun k' hk' => hks k' (List.mem_cons_of_mem _ hk')) h
      | some r =>
        simp only [hh, Option.map_some] at h ⊢
        obtain ⟨saves, rfl, hsv⟩ := h
        have hrg : r.Good c (b.nGroups * 2) := by
          have hmem : r ∈ sem c b.raw ⟨c.pos + k, (initSlots b.nGroups).set 0 (some (c.pos + k))⟩ :=
            List.mem_of_mem_head? hh
          have hk' := hks k (by simp)
          refine sem_good c _ b.raw _ r ?_ hmem
          have h0 : (⟨c.pos + k, initSlots b.nGroups⟩ : St).Good c (b.nGroups * 2) :=
            ⟨hk', by simp [initSlots, Nat.mul_comm], by intro v hv; simp [initSlots] at hv⟩
          exact h0.setSlot 0 (c.pos + k) hk'
        have hfin := finish_eq c r (b.nGroups * 2) hrg (by omega) hlen hpos
        have hlen' : (capSaves (unview (r.setSlot 1 (some r.ix)).slots) c.pos).length = b.nGroups * 2 := by
          have : (unview (r.setSlot 1 (some r.ix)).slots).length = b.nGroups * 2 := by
            simp [St.setSlot, hrg.len]
          rw [← this]; unfold capSaves; split <;> simp
        rw [hlen'] at hsv
        simp only
        rw [← hfin, ← hsv]
        simp [viewSlots, List.map_take, List.take_take]

theorem C01_vm_correct_core (tree : Expr) (backrefs : List Nat) (b : Built) (prog : Prog) (c : Ctx)
    (hb : build tree backrefs = .ok b) (hk : b.kind = .fancy prog)
    (hcore : isCore b.raw = true) (hnd : noDeleg prog.body = true)
    (hlen : c.len < UNSET) (hpos : c.pos ≤ c.len) : VmCorrectR b c := by
  obtain ⟨mid, nsv, rfl, hm, hn0, hsb⟩ := build_fancy_prog tree backrefs b prog hb hk
  generalize (fun g => backrefs.contains g) = br at hm
  refine vmCorrectR_of_first b _ c nsv hk hlen hpos hn0 fun limit fuel => Good.good2 _ ?_
  have hcoreAll : isCoreAll [.repeat (.any true) 0 none false, .group 0 b.raw] = true := by
    simp [isCoreAll, isCore, hcore, minSize]
  have hndm : noDeleg mid = true := by
    simp only [noDeleg_append, Bool.and_eq_true] at hnd; exact hnd.1
  have hcode : CodeAt (mid ++ [Insn.end_]) 0 mid := ⟨[], [Insn.end_], by simp, rfl⟩
  have hsim := simP_visitMiddle _ (fun e _ => simP_all c (2 * b.nGroups) br hlen e) 2 0 (b.nGroups * 2) 0 mid nsv
    (mid ++ [Insn.end_]) hcoreAll hsb hm hndm hcode
  simp only [List.take, Nat.zero_add] at hsim
  -- run it from the initial configuration
  have hst0 : (⟨c.pos, initSlots b.nGroups⟩ : St).Good c (2 * b.nGroups) :=
    ⟨hpos, by simp [initSlots], by intro v hv; simp [initSlots] at hv⟩
  have hend : (mid ++ [Insn.end_])[mid.length]? = some Insn.end_ := by simp
  have hbig := hsim ⟨c.pos, initSlots b.nGroups⟩ []
    (fun r _ => .matched (capSaves (unview r.slots) c.pos)) .noMatch hst0 Big.failEmpty
    (by
      intro r hr S acc _
      have hrg := semConcat_good c _ _ _ r hst0 hr
      exact Big.done _ _ _ _ hend (by simp [hrg.len]; omega))
  have huv : unview (initSlots b.nGroups) = List.replicate (b.nGroups * 2) UNSET := by
    simp [unview, initSlots, Nat.mul_comm]
  simp only [huv] at hbig
  -- no auxiliary slots in a core program: `nsv = 2 * n_groups`
  obtain rfl : nsv = b.nGroups * 2 :=
    visitMiddle_core_nsv br _ (fun e _ => coreNsv_all br e) 2 0 (b.nGroups * 2) 0 mid nsv hcoreAll hm
  exact link_initial c ⟨mid ++ [Insn.end_], b.nGroups * 2⟩ ⟨limit, maxStackDefault⟩ _ hbig fuel

end Fancy

namespace Fancy

/-- and conversely: no match is reported only if the reference has none -/
theorem C01_no_match_core (tree : Expr) (backrefs : List Nat) (b : Built) (prog : Prog) (c : Ctx)
    (hb : build tree backrefs = .ok b) (hk : b.kind = .fancy prog)
    (hcore : isCore b.raw = true) (hnd : noDeleg prog.body = true)
    (hlen : c.len < UNSET) (hpos : c.pos ≤ c.len) (limit fuel : Nat)
    (hnone : (b.captures c limit fuel).1 = .noMatch) :
    refSearch c b.raw b.nGroups = none := by
  have h := C01_vm_correct_core tree backrefs b prog c hb hk hcore hnd hlen hpos limit fuel
  rw [hnone] at h
  rcases h with h | h | h | h
  · cases h
  · cases h
  · cases h
  · cases href : refSearch c b.raw b.nGroups with
    | none => rfl
    | some f => simp [href] at h

/-! ### Non-vacuity: `(a|b)+\1` is built for the VM, lies in the core, and compiles without `Delegate` -/
def exTree : Expr :=
  .concat [.repeat (.group 0 (.alt [.literal ['a'] false, .literal ['b'] false])) 1 none true, .backref 1]

def coreAndNoDeleg (tree : Expr) (backrefs : List Nat) : Bool :=
  match build tree backrefs with
  | .ok b => (match b.kind with
    | .fancy prog => isCore b.raw && noDeleg prog.body
    | .wrap => false)
  | .error _ => false


set_option linter.unusedSimpArgs false in
example : coreAndNoDeleg exTree [1] = true := by
  simp [coreAndNoDeleg, build, exTree, wrapTree, renumber, renumberList, checkRefs, checkRefsList, isHard, isHardAny,
    compile, visit, visitMiddle, visitAlt, concatSplit, groupCount, groupCountList, constSize, constSizeAll, minSize, minSizeMin,
    allMinSize, compileDelegates, compileDelegate, isLiteral, isLiteralAll, isCore, isCoreAll, noDeleg, Insn.isDelegate,
    boundsEq, satMul, sureReps, UNSET, Assertion.isHard]

end Fancy
