import FancyModel.Proofs.C16
import FancyModel.Proofs.C13
/-!
# C02 — capture groups equal those of the reference match path

Specification-side facts about captures, for every expression, context and start state:

* `C02_frame`: a result of `e` differs from the start state only in the slots of groups that occur
  in `e` (and slot 0 when `e` contains `\K`) — **groups that never participated are untouched, and
  nothing is left over from an abandoned alternative** (`sem` is a function of the state: each
  alternative starts from the state the alternation was entered with);
* `C02_group_records`: every result of a capture group records exactly the span of its body's
  result: start = where the group was entered, end = where that body result ended (so after a loop
  the group holds its **last** iteration);
* `C02_lookahead_keeps`: captures made inside a positive look-around are retained on its result;
* group numbering is opening-parenthesis order: `C16_renumber_count` / `C16_renumber_idempotent`.

The engine part (the VM + delegation reproduce these captures) is `groups_of_vmCorrectR`
(Proofs/C02b.lean): `VmCorrectR` speaks of the whole slot vector, so every stage of the engine refinement
gives every group its reference value (`C02_groups_core`, `C02_groups_s2`, `C02_groups_s3` in
Proofs/C02b–d.lean; the later stages prove `VmCorrectR` too, Proofs/C01g.lean, C01h.lean). Outside the
proved stages it is validated on the explored space: implementation vs model vs reference, all groups
of every match.
-/
namespace Fancy

mutual
/-- the slots `e` can write: both slots of every group inside, slot 0 for `\K` -/
def ownSlots : Expr → List Nat
  | .group g e => (2 * g) :: (2 * g + 1) :: ownSlots e
  | .concat es => ownSlotsList es
  | .alt es => ownSlotsList es
  | .look e _ => ownSlots e
  | .repeat e _ _ _ => ownSlots e
  | .atomic e => ownSlots e
  | .cond c y n => ownSlots c ++ ownSlots y ++ ownSlots n
  | .keepOut => [0]
  | _ => []
def ownSlotsList : List Expr → List Nat
  | [] => []
  | e :: es => ownSlots e ++ ownSlotsList es
end

/-- `r` agrees with `st` outside the slot set `w` -/
def Frame (w : List Nat) (st r : St) : Prop :=
  r.slots.length = st.slots.length ∧ ∀ i, i ∉ w → r.slots[i]? = st.slots[i]?

theorem Frame.refl (w : List Nat) (st : St) : Frame w st st := ⟨rfl, fun _ _ => rfl⟩

theorem Frame.trans {w : List Nat} {a b d : St} (h1 : Frame w a b) (h2 : Frame w b d) : Frame w a d :=
  ⟨h2.1.trans h1.1, fun i hi => (h2.2 i hi).trans (h1.2 i hi)⟩

theorem Frame.mono {w w' : List Nat} {a b : St} (h : Frame w a b) (hs : ∀ i, i ∈ w → i ∈ w') : Frame w' a b :=
  ⟨h.1, fun i hi => h.2 i (fun hm => hi (hs i hm))⟩

theorem Frame.ix {w : List Nat} {a b : St} (h : Frame w a b) (k : Nat) : Frame w a { b with ix := k } := h

theorem Frame.ix_left {w : List Nat} {a b : St} (k : Nat) (h : Frame w { a with ix := k } b) : Frame w a b := h

theorem Frame.setSlot {w : List Nat} {a b : St} (h : Frame w a b) (i : Nat) (v : Option Nat) (hi : i ∈ w) :
    Frame w a (b.setSlot i v) := by
  refine ⟨by simpa [St.setSlot] using h.1, fun j hj => ?_⟩
  have : i ≠ j := fun e => hj (e ▸ hi)
  simp only [St.setSlot]
  rw [List.getElem?_set_ne this]
  exact h.2 j hj

theorem Frame.setSlot_left {w : List Nat} {a b : St} (i : Nat) (v : Option Nat) (hi : i ∈ w)
    (h : Frame w (a.setSlot i v) b) : Frame w a b := by
  refine ⟨by simpa [St.setSlot] using h.1, fun j hj => ?_⟩
  have hne : i ≠ j := fun e => hj (e ▸ hi)
  have h2 := h.2 j hj
  simp only [St.setSlot] at h2
  rwa [List.getElem?_set_ne hne] at h2

theorem ownSlots_sub_of_mem {e : Expr} {es : List Expr} (h : e ∈ es) : ∀ i, i ∈ ownSlots e → i ∈ ownSlotsList es := by
  induction es with
  | nil => cases h
  | cons x xs ih =>
    intro i hi
    simp only [ownSlotsList, List.mem_append]
    rcases List.mem_cons.1 h with rfl | h
    · exact .inl hi
    · exact .inr (ih h i hi)

theorem ownSlots_sub_of_behindAlts {e e' : Expr} (h : e' ∈ e.behindAlts) : ∀ i, i ∈ ownSlots e' → i ∈ ownSlots e := by
  cases e with
  | alt es => simpa only [ownSlots] using ownSlots_sub_of_mem (es := es) h
  | _ => cases List.mem_singleton.1 h; exact fun _ hi => hi

theorem semConcat_frame_of (c : Ctx) (es : List Expr)
    (h : ∀ e ∈ es, ∀ st r, r ∈ sem c e st → Frame (ownSlots e) st r) :
    ∀ st r, r ∈ semConcat c es st → Frame (ownSlotsList es) st r :=
  semConcat_rel_of (Frame.refl _) (fun _ _ _ => Frame.trans) c es
    fun e he st r hr => (h e he st r hr).mono (ownSlots_sub_of_mem he)

theorem sem_frame (c : Ctx) : ∀ (e : Expr) (st r : St), r ∈ sem c e st → Frame (ownSlots e) st r := by
  intro e
  induction e using Expr.inductBehind with
  | empty => intro st r h; exact mem_sem_empty h ▸ Frame.refl _ _
  | any nl => intro st r h; exact (mem_sem_any h).1 ▸ (Frame.refl _ st).ix _
  | assertion a => intro st r h; exact mem_sem_assertion h ▸ Frame.refl _ _
  | literal val casei => intro st r h; exact (mem_sem_literal h).1 ▸ (Frame.refl _ st).ix _
  | concat es ih =>
    intro st r h
    simp only [sem] at h
    simpa only [ownSlots] using semConcat_frame_of c es ih st r h
  | alt es ih =>
    intro st r h
    simp only [sem] at h
    simpa only [ownSlots] using semAlt_rel_of (T := Frame (ownSlotsList es)) c es
      (fun e he st r hr => (ih e he st r hr).mono (ownSlots_sub_of_mem he)) st r h
  | group g e ih =>
    intro st r h
    obtain ⟨r', hr', rfl⟩ := mem_sem_group h
    have h1 := (ih _ _ hr').mono (w' := ownSlots (.group g e)) (by
      intro i hi; simp [ownSlots, hi])
    have h2 := Frame.setSlot_left (2 * g) _ (by simp [ownSlots]) h1
    exact h2.setSlot (2 * g + 1) _ (by simp [ownSlots])
  | look e la ih ihb =>
    intro st r h
    cases la with
    | ahead => obtain ⟨r', hr', rfl⟩ := mem_sem_ahead h; exact (ih st r' hr').ix _
    | aheadNeg => exact mem_sem_aheadNeg h ▸ Frame.refl _ _
    | behind =>
      obtain ⟨r', hr', rfl⟩ := mem_sem_behind h
      exact (semBehindAlts_rel_of (T := Frame (ownSlots e)) (fun _ j _ _ h => Frame.ix_left j h) c _
        (fun e' he' st r hr => (ihb e' he' st r hr).mono (ownSlots_sub_of_behindAlts he')) st r' hr').ix _
    | behindNeg => exact mem_sem_behindNeg h ▸ Frame.refl _ _
  | «repeat» e lo hi greedy ih =>
    intro st r h
    simp only [sem] at h
    exact repLoop_rel (Frame.refl _) (fun _ _ _ => Frame.trans) (sem c e) ih lo hi greedy _ 0 st r h
  | delegate inner size casei =>
    intro st r h
    obtain ⟨k, rfl, _⟩ := mem_sem_delegate h
    exact (Frame.refl _ st).ix _
  | backref g =>
    intro st r h
    obtain ⟨k, rfl, _⟩ := mem_sem_backref h
    exact (Frame.refl _ st).ix _
  | atomic e ih => intro st r h; exact ih st r (mem_sem_atomic h)
  | keepOut =>
    intro st r h
    exact mem_sem_keepOut h ▸ (Frame.refl _ st).setSlot 0 _ (by simp [ownSlots])
  | contPrev => intro st r h; exact mem_sem_contPrev h ▸ Frame.refl _ _
  | backrefExists g => intro st r h; exact mem_sem_backrefExists h ▸ Frame.refl _ _
  | cond cnd y n ihc ihy ihn =>
    intro st r h
    rcases mem_sem_cond h with ⟨r1, hr1, h⟩ | h
    · have h1 := (ihc st r1 hr1).mono (w' := ownSlots (.cond cnd y n)) (by intro i hi; simp [ownSlots, hi])
      have h2 := (ihy r1 r h).mono (w' := ownSlots (.cond cnd y n)) (by intro i hi; simp [ownSlots, hi])
      exact h1.trans h2
    · exact (ihn st r h).mono (by intro i hi; simp [ownSlots, hi])
  | subroutine g => intro st r h; exact absurd h not_mem_sem_subroutine

theorem semConcat_frame (c : Ctx) : ∀ (es : List Expr) (st r : St), r ∈ semConcat c es st →
    Frame (ownSlotsList es) st r :=
  fun es => semConcat_frame_of c es fun e _ => sem_frame c e

/-- **frame**: groups outside `e` (and slot 0 unless `e` has `\K`) are untouched by every result -/
theorem C02_frame (c : Ctx) (e : Expr) (st r : St) (h : r ∈ sem c e st) (i : Nat) (hi : i ∉ ownSlots e) :
    r.slots[i]? = st.slots[i]? :=
  (sem_frame c e st r h).2 i hi

/-- **a group records its body's span**: start = entry position, end = end of the body result -/
theorem C02_group_records (c : Ctx) (g : Nat) (e : Expr) (st r : St) (h : r ∈ sem c (.group g e) st)
    (hlen : 2 * g + 1 < st.slots.length) (hown : 2 * g ∉ ownSlots e) :
    r.slots[2 * g]? = some (some st.ix) ∧ r.slots[2 * g + 1]? = some (some r.ix) := by
  simp only [sem, List.mem_map] at h
  obtain ⟨r', hr', rfl⟩ := h
  have hf := sem_frame c e _ _ hr'
  have hl : r'.slots.length = st.slots.length := by simpa [St.setSlot] using hf.1
  constructor
  · simp only [St.setSlot]
    rw [List.getElem?_set_ne (by omega)]
    rw [hf.2 (2 * g) hown]
    simp only [St.setSlot]
    rw [List.getElem?_set_self (by omega)]
  · simp only [St.setSlot]
    rw [List.getElem?_set_self (by omega)]

/-- **captures made inside a positive look-ahead are retained**: the result of `(?=e)` carries the
    slots of `e`'s first result -/
theorem C02_lookahead_keeps (c : Ctx) (e : Expr) (st r' : St) (rest : List St) (h : sem c e st = r' :: rest) :
    sem c (.look e .ahead) st = [{ r' with ix := st.ix }] := by
  simp [sem, firstOnly, h]

/-- **nothing survives an abandoned alternative**: the second alternative starts from the state the
    alternation was entered with, whatever the first one did -/
theorem C02_alt_fresh (c : Ctx) (a b : Expr) (st : St) :
    sem c (.alt [a, b]) st = sem c a st ++ sem c b st := by
  simp [sem, semAlt]

end Fancy
