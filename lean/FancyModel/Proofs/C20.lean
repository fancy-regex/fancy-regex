import FancyModel.Lemmas.StateRefine
/-!
# C20 — backtracking restores, and atomic commit preserves, exactly the right state

The reference the property describes is `AState`: the current slot values and a stack of *whole
copies*, one per pending alternative. `abs` maps the VM's copy-on-write undo log (`State`, the
mirror of `vm::State`) to it. `C20_refines` says: for **every** sequence of operations on which the
whole-copy reference is defined (no abandon without an alternative, slots in range, commits to an
existing height, stack cap respected), the undo-log state is defined too and abstracts to the
reference state after every step. The corollaries restate the property's clauses.

The in-place `swap` compaction of `backtrack_cut` is modelled by the order-preserving filter
`cutKeep`; that the literal loop leaves exactly what `cutKeep` keeps is `C20_cutLoop_eq_cutKeep`
(Proofs/C20b.lean), and that every operation of the model is the translated `impl State` of vm.rs
is Proofs/C20c.lean. The auxiliary stack lives in ordinary slots and is covered here through
`save`; sequences with its own operations are `C20_refines_all` (Proofs/C20b.lean).
-/
namespace Fancy
open State

inductive Op where
  | push (pc ix : Nat)          -- create an alternative
  | pop                         -- abandon the current alternative
  | save (slot val : Nat)       -- write a slot (capture position, counter, saved position)
  | cut (count : Nat)           -- commit: discard the alternatives above height `count`
deriving Repr, DecidableEq

/-- one operation on the undo-log state (`none`: the Rust code would panic / report overflow) -/
def applyOp (s : State) : Op → Option State
  | .push pc ix => match s.push pc ix with | .ok s' => some s' | .overflow => none
  | .pop => (s.pop).map (·.1)
  | .save slot val => s.save slot val
  | .cut count => s.backtrackCut count

def run (s : State) : List Op → Option State
  | [] => some s
  | op :: ops => (applyOp s op).bind fun s' => run s' ops

/-- one operation on the whole-copy reference; `none` when the operation makes no sense there -/
def aApplyOp (maxStack : Nat) (a : AState) : Op → Option AState
  | .push pc ix => if a.stack.length < maxStack then some (a.push pc ix) else none
  | .pop => (a.pop).map (·.1)
  | .save slot val => if slot < a.saves.length then some (a.save slot val) else none
  | .cut count => if count ≤ a.stack.length then some (a.cut count) else none

def arun (maxStack : Nat) (a : AState) : List Op → Option AState
  | [] => some a
  | op :: ops => (aApplyOp maxStack a op).bind fun a' => arun maxStack a' ops

/-- one step of the refinement -/
theorem C20_step (s : State) (hi : Inv s) (op : Op) (a' : AState)
    (h : aApplyOp s.maxStack (abs s) op = some a') :
    ∃ s', applyOp s op = some s' ∧ abs s' = a' ∧ Inv s' ∧ s'.maxStack = s.maxStack := by
  cases op with
  | push pc ix =>
    simp only [aApplyOp, abs_stack_length_eq] at h
    split at h
    · rename_i hlt
      cases h
      have hp : s.push pc ix = .ok { s with stack := ⟨pc, ix, s.nsave⟩ :: s.stack, nsave := 0 } := by
        simp [State.push, hlt]
      exact ⟨_, by simp [applyOp, hp], abs_push _ _ _ _ hp, inv_push _ _ _ _ hi hp, rfl⟩
    · cases h
  | pop =>
    simp only [aApplyOp] at h
    cases hst : s.stack with
    | nil => simp [abs, hst, absStack, AState.pop] at h
    | cons b rest =>
      obtain ⟨s', h1, h2, h3, h4⟩ := pop_spec s hi b rest hst
      rw [h2] at h
      simp only [Option.map_some, Option.some.injEq] at h
      exact ⟨s', by simp [applyOp, h1], h, h3, h4⟩
  | save slot val =>
    simp only [aApplyOp] at h
    split at h
    · rename_i hlt
      cases h
      obtain ⟨s', h1, h2, h3, h4⟩ := save_spec s hi slot val (by simpa [abs] using hlt)
      exact ⟨s', by simp [applyOp, h1], h2, h3, h4⟩
    · cases h
  | cut count =>
    simp only [aApplyOp, abs_stack_length_eq] at h
    split at h
    · rename_i hle
      cases h
      obtain ⟨s', h1, h2, h3, h4⟩ := cut_spec s hi count hle
      exact ⟨s', by simp [applyOp, h1], h2, h3, h4⟩
    · cases h

/-- **C20, main theorem.** For every operation sequence on which the whole-copy reference is
    defined, the undo-log state is defined and abstracts to the reference state. -/
theorem C20_refines (ops : List Op) (s : State) (hi : Inv s) (a' : AState)
    (h : arun s.maxStack (abs s) ops = some a') :
    ∃ s', run s ops = some s' ∧ abs s' = a' ∧ Inv s' := by
  induction ops generalizing s with
  | nil =>
    simp only [arun, Option.some.injEq] at h
    exact ⟨s, rfl, h, hi⟩
  | cons op ops ih =>
    simp only [arun] at h
    cases h1 : aApplyOp s.maxStack (abs s) op with
    | none => simp [h1] at h
    | some a1 =>
      simp only [h1, Option.bind_some] at h
      obtain ⟨s1, hs1, habs, hinv, hmax⟩ := C20_step s hi op a1 h1
      rw [← habs, ← hmax] at h
      obtain ⟨s', hr, ha, hi'⟩ := ih s1 hinv h
      exact ⟨s', by simp [run, hs1, hr], ha, hi'⟩

/-- the initial state of a run satisfies the invariant and abstracts to "all slots unset, no
    alternatives" -/
theorem C20_init (n m : Nat) : Inv (State.new n m) ∧ abs (State.new n m) = ⟨List.replicate n UNSET, []⟩ := by
  refine ⟨⟨by simp [State.new, sumNsave], by simp [State.new]⟩, ?_⟩
  simp [abs, State.new, absStack]

/-- every state reachable from the initial one by a reference-valid sequence -/
theorem C20_reachable (n m : Nat) (ops : List Op) (a' : AState)
    (h : arun m ⟨List.replicate n UNSET, []⟩ ops = some a') :
    ∃ s', run (State.new n m) ops = some s' ∧ abs s' = a' := by
  obtain ⟨hi, ha⟩ := C20_init n m
  have h' : arun (State.new n m).maxStack (abs (State.new n m)) ops = some a' := by
    rw [ha]; exact h
  obtain ⟨s', h1, h2, _⟩ := C20_refines ops (State.new n m) hi a' h'
  exact ⟨s', h1, h2⟩

/-! ### The property's clauses, read off the reference -/

/-- abandoning an alternative restores *every* slot to the value it had when the alternative was
    created, whatever slot writes happened in between (the reference keeps a whole copy) -/
theorem C20_abandon_restores (s : State) (hi : Inv s) (pc ix : Nat) (writes : List (Nat × Nat))
    (hroom : s.stack.length < s.maxStack) (hin : ∀ w ∈ writes, w.1 < s.saves.length) :
    ∃ s', run s (.push pc ix :: (writes.map fun w => Op.save w.1 w.2) ++ [.pop]) = some s' ∧
      s'.saves = s.saves ∧ abs s' = abs s := by
  -- run the reference
  have href : ∀ (ws : List (Nat × Nat)) (a : AState), (∀ w ∈ ws, w.1 < a.saves.length) →
      ∃ sv, sv.length = a.saves.length ∧
        arun s.maxStack a (ws.map fun w => Op.save w.1 w.2) = some ⟨sv, a.stack⟩ := by
    intro ws
    induction ws with
    | nil => intro a _; exact ⟨a.saves, rfl, by simp [arun]⟩
    | cons w ws ih =>
      intro a hw
      have h1 : w.1 < a.saves.length := hw w (by simp)
      obtain ⟨sv, hl, hr⟩ := ih (a.save w.1 w.2) (by
        intro w' hw'; simpa [AState.save] using hw w' (by simp [hw']))
      refine ⟨sv, by simpa [AState.save] using hl, ?_⟩
      simp only [List.map_cons, arun, aApplyOp, h1, ↓reduceIte, Option.bind_some]
      simpa [AState.save] using hr
  obtain ⟨sv, _, hr⟩ := href writes ((abs s).push pc ix) (by simpa [AState.push, abs] using hin)
  have hall : arun s.maxStack (abs s) (.push pc ix :: (writes.map fun w => Op.save w.1 w.2) ++ [.pop])
      = some (abs s) := by
    have hroom' : (abs s).stack.length < s.maxStack := by rw [abs_stack_length_eq]; exact hroom
    simp only [List.cons_append, arun, aApplyOp, hroom', ↓reduceIte, Option.bind_some]
    have happ : ∀ (l1 l2 : List Op) (a a1 : AState), arun s.maxStack a l1 = some a1 →
        arun s.maxStack a (l1 ++ l2) = arun s.maxStack a1 l2 := by
      intro l1
      induction l1 with
      | nil => intro l2 a a1 h; simp only [arun, Option.some.injEq] at h; subst h; rfl
      | cons o os ih =>
        intro l2 a a1 h
        simp only [arun] at h
        cases ho : aApplyOp s.maxStack a o with
        | none => simp [ho] at h
        | some a2 =>
          simp only [ho, Option.bind_some] at h
          simp only [List.cons_append, arun, ho, Option.bind_some]
          exact ih l2 a2 a1 h
    rw [happ _ _ _ _ hr]
    simp [arun, aApplyOp, AState.pop, AState.push]
  obtain ⟨s', h1, h2, _⟩ := C20_refines _ s hi (abs s) hall
  refine ⟨s', h1, ?_, h2⟩
  have := congrArg AState.saves h2
  simpa [abs] using this

/-- committing keeps the current values, discards exactly the alternatives created above the
    recorded height and none older (their saved copies are untouched, so a later abandon still
    restores the pre-group values) -/
theorem C20_commit_keeps (s : State) (hi : Inv s) (count : Nat) (hc : count ≤ s.stack.length) :
    ∃ s', s.backtrackCut count = some s' ∧ s'.saves = s.saves ∧
      (abs s').stack = (abs s).stack.drop (s.stack.length - count) ∧ s'.stack.length = count := by
  obtain ⟨s', h1, h2, _, _⟩ := cut_spec s hi count hc
  refine ⟨s', h1, ?_, ?_, ?_⟩
  · have := congrArg AState.saves h2; simpa [abs, AState.cut] using this
  · have := congrArg AState.stack h2
    simpa [AState.cut, abs_stack_length_eq] using this
  · have := congrArg (fun a => a.stack.length) h2
    simp only [abs_stack_length_eq, AState.cut, List.length_drop] at this
    omega

/-! ### Non-vacuity: the sequence of the crate's own `state_backtrack_cut_complex` unit test -/

example :
    (run (State.new 2 10) [.save 0 1, .save 1 2, .push 0 0, .save 0 3, .push 1 1, .save 0 4, .push 2 2,
        .save 1 5, .cut 1, .pop]).map (·.saves) = some [1, 2] := by
  decide

example : arun 10 ⟨List.replicate 2 UNSET, []⟩
    [.save 0 1, .save 1 2, .push 0 0, .save 0 3, .push 1 1, .save 0 4, .push 2 2, .save 1 5, .cut 1, .pop]
    = some ⟨[1, 2], []⟩ := by
  decide

end Fancy
