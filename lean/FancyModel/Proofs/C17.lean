import FancyModel.Model.ToStr
import FancyModel.Spec.Sem
import FancyModel.Generated
/-!
# C17 — escape(text) is a pattern that matches exactly text

`escape` / `push_quoted` are modelled over an arbitrary "special" predicate; the facts that the
parse of an escaped string relies on are then proved about `Generated.isSpecial`, the table
**re-extracted from src/lib.rs on every run** — so a change to `is_special` re-checks (and possibly
breaks) these theorems.

Proved here: what "`parse (escape s)` is the literal tree of `s`" needs from the table, the
unescape round trip, the requote identity for the string handed to the automata engine, and the
reference semantics of the literal tree. The statement about the parser itself is
`C17_parse_escaped` (Proofs/C17b.lean, on the parser model `Model/Parse.lean`); that `escape` and
`push_quoted` of the model are those of lib.rs is Proofs/C17c.lean.
-/
namespace Fancy

theorem natDigits_toDigits (n : Nat) : natDigits n = Nat.toDigits 10 n := by simp [natDigits]

variable (sp : Char → Bool)

/-- **borrow**: `escape` borrows its input iff nothing needed escaping -/
theorem C17_borrow (s : List Char) : escape sp s = none ↔ s.any sp = false := by
  unfold escape; split <;> simp_all

/-- reading an escaped string back: a backslash makes the next character literal -/
def unquote : List Char → List Char
  | [] => []
  | '\\' :: c :: cs => c :: unquote cs
  | c :: cs => c :: unquote cs

theorem unquote_cons_ne (c : Char) (l : List Char) (h : c ≠ '\\') : unquote (c :: l) = c :: unquote l := by
  cases l with
  | nil => simp [unquote]
  | cons d ds => simp [unquote, h]

/-- **unescape round trip**: provided the backslash itself is special, dropping the escaping
    backslashes gives back the original string -/
theorem C17_unquote (hb : sp '\\' = true) (s : List Char) : unquote (pushQuoted sp s) = s := by
  induction s with
  | nil => rfl
  | cons c cs ih =>
    simp only [pushQuoted]
    split
    · simp [unquote, ih]
    · rename_i hc
      have hne : c ≠ '\\' := by intro h; rw [h] at hc; exact hc hb
      rw [unquote_cons_ne c _ hne, ih]

/-- in the escaped text every special character is preceded by an escaping backslash:
    scanning left to right, a special character only occurs in escaped position -/
def wellQuoted (sp : Char → Bool) : List Char → Bool
  | [] => true
  | '\\' :: _ :: cs => wellQuoted sp cs
  | c :: cs => !sp c && wellQuoted sp cs

theorem wellQuoted_cons_ne (c : Char) (l : List Char) (h : c ≠ '\\') :
    wellQuoted sp (c :: l) = (!sp c && wellQuoted sp l) := by
  cases l with
  | nil => simp [wellQuoted]
  | cons d ds => simp [wellQuoted, h]

theorem C17_well_quoted (hb : sp '\\' = true) (s : List Char) : wellQuoted sp (pushQuoted sp s) = true := by
  induction s with
  | nil => rfl
  | cons c cs ih =>
    simp only [pushQuoted]
    split
    · simp [wellQuoted, ih]
    · rename_i hc
      have hne : c ≠ '\\' := by intro h; rw [h] at hc; exact hc hb
      rw [wellQuoted_cons_ne sp c _ hne, ih]
      simpa using hc

/-- the literal tree of a string: one single-character literal per character -/
def litTree (s : List Char) : Expr :=
  match s with
  | [] => .empty
  | [c] => .literal [c] false
  | cs => .concat (cs.map fun c => .literal [c] false)

theorem toStrConcat_lits (s : List Char) :
    toStrConcat sp (s.map fun c => Expr.literal [c] false) = some (pushQuoted sp s) := by
  induction s with
  | nil => rfl
  | cons c cs ih =>
    simp only [List.map_cons, toStrConcat, toStr, ih, pushQuoted, Bool.false_eq_true, ↓reduceIte]
    split <;> simp

/-- **requote**: `to_str` of the literal tree — the string handed to the automata engine — is the
    escaped string again -/
theorem C17_requote (s : List Char) : toStr sp (litTree s) 0 = some (escapeStr sp s) ∨
    toStr sp (litTree s) 0 = some (pushQuoted sp s) := by
  right
  unfold litTree
  split
  · rfl
  · simp [toStr, pushQuoted]
  · simp only [toStr, toStrConcat_lits]
    simp

theorem escapeStr_eq_pushQuoted (s : List Char) : escapeStr sp s = pushQuoted sp s := by
  unfold escapeStr escape
  split
  · rfl
  · rename_i h
    simp only [Option.getD_none]
    induction s with
    | nil => rfl
    | cons c cs ih =>
      simp only [List.any_cons, Bool.or_eq_true, not_or] at h
      simp only [pushQuoted, h.1, Bool.false_eq_true, ↓reduceIte, List.cons.injEq, true_and]
      exact ih (by simpa using h.2)

/-- the reference semantics of a sequence of single-character literals: it matches exactly the
    string, at exactly that position -/
theorem semConcat_lits (c : Ctx) (hceq : ∀ a b, c.ceq false a b = (a == b)) (s : List Char) (st : St) :
    semConcat c (s.map fun ch => Expr.literal [ch] false) st =
      if c.litAt false s st.ix then [{ st with ix := st.ix + s.length }] else [] := by
  induction s generalizing st with
  | nil => simp [semConcat, Ctx.litAt]
  | cons a as ih =>
    cases hat : c.at? st.ix with
    | none => simp [semConcat, sem, Ctx.litAt, hat]
    | some b =>
      by_cases hab : (a == b) = true
      · simp only [List.map_cons, semConcat, sem, Ctx.litAt, hat, hceq, hab, Bool.true_and, ↓reduceIte,
          List.length_cons, List.length_nil, List.flatMap_cons, List.flatMap_nil, List.append_nil, Nat.zero_add]
        rw [ih]
        simp only
        split
        · simp; omega
        · rfl
      · simp [semConcat, sem, Ctx.litAt, hat, hceq, hab]

/-- **find**: the literal tree has a result at position `ix` iff the string occurs there, and the
    match then ends after exactly the string — so the leftmost-scanning reference search finds the
    first literal occurrence (what `str::find` returns) -/
theorem C17_literal_sem (c : Ctx) (hceq : ∀ a b, c.ceq false a b = (a == b)) (s : List Char) (st : St) :
    sem c (litTree s) st = if c.litAt false s st.ix then [{ st with ix := st.ix + s.length }] else [] := by
  unfold litTree
  split
  · simp [sem, Ctx.litAt]
  · rename_i ch
    simp only [sem, List.length_cons, List.length_nil, Nat.zero_add]
  · simp only [sem]
    exact semConcat_lits c hceq _ st

/-! ### Facts about the table extracted from the source (re-checked on every run) -/

/-- the backslash is special (needed by `C17_unquote` / `C17_well_quoted`) -/
theorem C17_backslash_special : Generated.isSpecial '\\' = true := by decide

/-- every character that starts a quantifier, group, class, anchor, alternation, free-spacing
    comment or escape in the pattern syntax is special: an escaped string can contain none of them
    unescaped (with `C17_well_quoted`) -/
theorem C17_meta_special :
    ∀ c ∈ ['\\', '.', '+', '*', '?', '(', ')', '|', '[', ']', '{', '}', '^', '$', '#'],
      Generated.isSpecial c = true := by decide

/-- no letter, digit or whitespace is special (an escaped letter could become a class or an
    assertion such as `\d`, `\b`, `\A`) -/
theorem C17_alnum_not_special :
    ∀ c ∈ ("abcdefghijklmnopqrstuvwxyzABCDEFGHIJKLMNOPQRSTUVWXYZ0123456789_ \n\t<>='!:,-&~".toList),
      Generated.isSpecial c = false := by
  -- the literal is `String.ofList` of its characters: no UTF-8 decoding of the string, only the table is evaluated
  rw [String.toList_ofList]
  decide +kernel

theorem C17_unquote_generated (s : List Char) : unquote (pushQuoted Generated.isSpecial s) = s :=
  C17_unquote _ C17_backslash_special s

/-! ### Non-vacuity -/
example : escape Generated.isSpecial "fo*o".toList = some "fo\\*o".toList := by decide
example : escape Generated.isSpecial "@foo".toList = none := by decide

end Fancy
