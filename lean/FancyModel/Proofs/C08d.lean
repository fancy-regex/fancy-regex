import FancyModel.GeneratedApi
/-!
# C08 (fourth part) — the API-layer model is the API layer of lib.rs

`GeneratedApi.lean` is `codepoint_len`, `next_utf8`, `Matches::next`, `CaptureMatches::next`, `Split::next`,
`SplitN::next`, the constructors `find_iter` / `captures_iter` / `split` / `splitn` and `Regex::try_replacen`
(src/lib.rs) translated statement by statement by `tools/rs2lean_api.py` on every run of the check. This file proves
every translated definition equal to the hand-written model (Model/Api.lean, which C08 – C11 are proved about), for
EVERY search oracle, text, iterator state, fuel, limit and replacer - no hypotheses:

* `C08_codepoint_len_translated_eq`, `C08_next_utf8_translated_eq`;
* `C08_matches_next_translated_eq`: `genMatchesNext f text fuel it = Iter.next f id text fuel it`;
  `C09_capture_matches_next_translated_eq`: the same with `span`;
* `C10_split_next_translated_eq`, `C10_splitn_next_translated_eq`;
* the initial states (`C08_find_iter_translated_init`, …) and the collected forms `C08_find_iter_translated_eq`,
  `C09_captures_iter_translated_eq`, `C10_split_translated_eq`, `C10_splitn_translated_eq`: draining the translated `next`
  from the translated constructor, with the model's bounds, is `findIter` / `capturesIter` / `split` / `splitn`;
* `C11_replacen_translated_eq`: the translated `try_replacen` is `replacen` over the items of the translated iterator, on
  the fast path (`no_expansion()`) and on the `captures_iter` path.

The option-flag arithmetic (`OPTION_SKIPPED_EMPTY_MATCH` or `0`, tested by the engine with `&`) is translated and proved
equal to `Iter.flag` (`flag_bit`, `flag_zero`). A change of meaning in these functions changes the generated definitions
and breaks these proofs (notes/translator-api.md lists the mutations that were tried).
-/
set_option linter.unusedSimpArgs false
namespace Fancy
open Fancy.Api Fancy.Utf8 Fancy.GenApi

/-! ## the byte helpers -/

theorem C08_codepoint_len_translated_eq (b : Nat) : genCodepointLen b = codepointLen b := by
  unfold genCodepointLen codepointLen
  by_cases h1 : b < 128 <;> by_cases h2 : b < 224 <;> by_cases h3 : b < 240 <;> simp [h1, h2, h3] <;> omega

theorem C08_next_utf8_translated_eq (text : Bytes) (i : Nat) : genNextUtf8 text i = nextUtf8 text i := by
  unfold genNextUtf8 nextUtf8
  cases text[i]? <;> simp [C08_codepoint_len_translated_eq]

/-! ## the flag -/

theorem flag_bit (b : Bool) : ((if b then OPTION_SKIPPED_EMPTY_MATCH else 0) &&& OPTION_SKIPPED_EMPTY_MATCH != 0) = b := by
  cases b <;> decide

theorem flag_zero : ((0 : Nat) &&& OPTION_SKIPPED_EMPTY_MATCH != 0) = false := by decide

/-! ## `Matches::next`, `CaptureMatches::next` -/

theorem C09_capture_matches_next_translated_eq {α : Type} (f : Oracle α) (span : α → Nat × Nat) (text : Bytes)
    (fuel : Nat) (it : Iter) :
    genCaptureMatchesNext f span text fuel it = Iter.next f span text fuel it := by
  induction fuel generalizing it with
  | zero => simp [genCaptureMatchesNext, Iter.next]
  | succ fuel ih =>
    simp only [genCaptureMatchesNext, Iter.next]
    by_cases hg : it.lastEnd > text.length
    · simp [hg]
    · simp only [hg, decide_false, Bool.false_eq_true, if_false]
      generalize hX : engineSearch f OPTION_SKIPPED_EMPTY_MATCH text it.lastEnd _ = X
      have hXe : X = f it.lastEnd it.flag := by
        rw [← hX]
        unfold engineSearch Iter.flag
        cases it.lastMatch with
        | none => simp only [flag_zero]
        | some lm => simp only [flag_bit]
      rw [hXe]
      cases f it.lastEnd it.flag with
      | error e => rfl
      | ok r =>
        cases r with
        | none => rfl
        | some a =>
          simp only [C08_next_utf8_translated_eq]
          cases hsp : span a with
          | mk s e =>
            simp only
            by_cases hse : s = e
            · subst hse
              simp only [beq_self_eq_true, if_true]
              by_cases hl : some s = it.lastMatch
              · simp only [hl, beq_self_eq_true, if_true]
                exact ih _
              · have : (some s == it.lastMatch) = false := by simpa using hl
                simp [this]
            · have : (s == e) = false := by simpa using hse
              simp [this]

/-- `Matches::next` is `CaptureMatches::next` with the match as its own span -/
theorem C08_matches_next_translated_eq (f : Oracle (Nat × Nat)) (text : Bytes) (fuel : Nat) (it : Iter) :
    genMatchesNext f text fuel it = Iter.next f id text fuel it := by
  rw [← C09_capture_matches_next_translated_eq]
  induction fuel generalizing it with
  | zero => rfl
  | succ fuel ih =>
    simp only [genMatchesNext, genCaptureMatchesNext, ih, id]
    -- the two sides differ only in which declaration their `match`es belong to
    obtain ⟨le, lm⟩ := it
    cases lm
    all_goals
      dsimp only
      generalize engineSearch f _ text le _ = r
      rcases r with e | _ | m <;> rfl

/-! ## `Split::next`, `SplitN::next` -/

theorem C10_split_next_translated_eq (f : Oracle (Nat × Nat)) (text : Bytes) (s : Split) :
    genSplitNext f text s = Split.next f text s := by
  unfold genSplitNext Split.next
  rw [C08_matches_next_translated_eq]
  rcases Iter.next f id text (text.length + 2) s.it with ⟨r, it', b⟩
  cases r with
  | none =>
    simp only
    by_cases h : s.nextStart > text.length <;> simp [h]
  | some x =>
    cases x with
    | error e => rfl
    | ok m => obtain ⟨ms, me⟩ := m; rfl

theorem C10_splitn_next_translated_eq (f : Oracle (Nat × Nat)) (text : Bytes) (s : SplitN) :
    genSplitNNext f text s = SplitN.next f text s := by
  unfold genSplitNNext SplitN.next
  by_cases h0 : s.limit = 0
  · simp [h0]
  · have hb : (s.limit == 0) = false := by simpa using h0
    simp only [hb, Bool.false_eq_true, if_false, C10_split_next_translated_eq]
    by_cases h1 : s.limit - 1 > 0
    · simp only [h1, decide_true, if_true]
    · simp only [h1, decide_false, Bool.false_eq_true, if_false]
      by_cases h2 : s.sp.nextStart > text.length <;> simp [h2]

/-! ## the constructors and the collected forms -/

theorem C08_find_iter_translated_init : genFindIter = Iter.start := rfl
theorem C09_captures_iter_translated_init : genCapturesIter = Iter.start := rfl
theorem C10_split_translated_init : genSplit = Split.start := rfl
theorem C10_splitn_translated_init (limit : Nat) : genSplitn limit = ⟨Split.start, limit⟩ := rfl

theorem iterItems_eq_collect {α : Type} (f : Oracle α) (span : α → Nat × Nat) (text : Bytes)
    (next : Nat → Iter → Option (Except SearchErr α) × Iter × Bool)
    (hnext : ∀ fuel it, next fuel it = Iter.next f span text fuel it) (n : Nat) (it : Iter) :
    iterItems next text n it = Iter.collect f span text n it := by
  induction n generalizing it with
  | zero => rfl
  | succ n ih =>
    simp only [iterItems, Iter.collect, hnext]
    rcases Iter.next f span text (text.length + 2) it with ⟨r, it', b⟩
    cases r with
    | none => rfl
    | some x => simp only [ih]

/-- `find_iter(text)` drained through the TRANSLATED `next`, from the TRANSLATED initial state, is `findIter` -/
theorem C08_find_iter_translated_eq (f : Oracle (Nat × Nat)) (text : Bytes) :
    iterItems (genMatchesNext f text) text (text.length + 3) genFindIter = findIter f text :=
  iterItems_eq_collect f id text _ (C08_matches_next_translated_eq f text) _ _

theorem C09_captures_iter_translated_eq {α : Type} (f : Oracle α) (span : α → Nat × Nat) (text : Bytes) :
    iterItems (genCaptureMatchesNext f span text) text (text.length + 3) genCapturesIter = capturesIter f span text :=
  iterItems_eq_collect f span text _ (C09_capture_matches_next_translated_eq f span text) _ _

/-- the items of a `Split` / `SplitN`, by repeated calls of the translated `next` -/
def drain {σ : Type} (next : σ → Option Item × σ) : Nat → σ → List Item
  | 0, _ => []
  | n + 1, s =>
    match next s with
    | (none, _) => []
    | (some item, s') => item :: drain next n s'

/-- `drain` of the translated `next` is the model's `collect`, for any state machine whose `collect` calls a `next`
    that the translated one equals -/
theorem drain_eq_collect {σ : Type} (gen next : σ → Option Item × σ) (collect : Nat → σ → List Item)
    (hnext : ∀ s, gen s = next s) (h0 : ∀ s, collect 0 s = [])
    (hnone : ∀ n s s', next s = (none, s') → collect (n + 1) s = [])
    (hsome : ∀ n s x s', next s = (some x, s') → collect (n + 1) s = x :: collect n s') (n : Nat) (s : σ) :
    drain gen n s = collect n s := by
  induction n generalizing s with
  | zero => exact (h0 s).symm
  | succ n ih =>
    rw [drain, hnext]
    rcases hs : next s with ⟨_ | x, s'⟩
    · exact (hnone n s s' hs).symm
    · rw [hsome n s x s' hs, ← ih]

theorem C10_split_translated_eq (f : Oracle (Nat × Nat)) (text : Bytes) :
    drain (genSplitNext f text) (text.length + 4) genSplit = split f text :=
  drain_eq_collect _ _ (Split.collect f text) (C10_split_next_translated_eq f text) (fun _ => rfl)
    (fun n s s' h => by rw [Split.collect, h]) (fun n s x s' h => by rw [Split.collect, h]) _ _

theorem C10_splitn_translated_eq (f : Oracle (Nat × Nat)) (text : Bytes) (limit : Nat) :
    drain (genSplitNNext f text) (text.length + 4) (genSplitn limit) = splitn f text limit :=
  drain_eq_collect _ _ (SplitN.collect f text) (C10_splitn_next_translated_eq f text) (fun _ => rfl)
    (fun n s s' h => by rw [SplitN.collect, h]) (fun n s x s' h => by rw [SplitN.collect, h]) _ _

/-! ## `try_replacen` -/

/-- what follows a `for` loop of `try_replacen`: the tail of the text is appended -/
def afterLoop (text : Bytes) : LoopRes (Nat × Bytes) Replaced → Replaced
  | .ret r => r
  | .next (last, acc) =>
    match slice text last text.length with
    | none => .panic
    | some tail => .owned (acc ++ tail)

theorem loopTryReplacen_eq {α : Type} (find : Oracle (Nat × Nat)) (caps : Oracle α) (span : α → Nat × Nat) (text : Bytes)
    (limit : Nat) (ne : Option Bytes) (ra : α → Bytes) (rep : Bytes) (items : List (Except SearchErr (Nat × Nat)))
    (i last : Nat) (acc : Bytes) :
    afterLoop text (loopTryReplacen find caps span text limit ne ra rep (enumFrom i items) (last, acc)) =
      replaceLoop id (fun _ => rep) text limit items i last acc := by
  induction items generalizing i last acc with
  | nil => simp only [enumFrom, loopTryReplacen, afterLoop, replaceLoop]; cases slice text last text.length <;> rfl
  | cons x xs ih =>
    cases x with
    | error e => simp [enumFrom, loopTryReplacen, afterLoop, replaceLoop]
    | ok m =>
      obtain ⟨s, e⟩ := m
      simp only [enumFrom, loopTryReplacen, replaceLoop, id]
      by_cases hl : (decide (limit > 0) && decide (i ≥ limit)) = true
      · simp only [hl, if_true, afterLoop]; cases slice text last text.length <;> rfl
      · simp only [hl, Bool.false_eq_true, if_false]
        cases slice text last s with
        | none => rfl
        | some pre => simp only; exact ih (i + 1) e _

theorem loopTryReplacen2_eq {α : Type} (find : Oracle (Nat × Nat)) (caps : Oracle α) (span : α → Nat × Nat) (text : Bytes)
    (limit : Nat) (ne : Option Bytes) (ra : α → Bytes) (items : List (Except SearchErr α))
    (i last : Nat) (acc : Bytes) :
    afterLoop text (loopTryReplacen2 find caps span text limit ne ra (enumFrom i items) (last, acc)) =
      replaceLoop span ra text limit items i last acc := by
  induction items generalizing i last acc with
  | nil => simp only [enumFrom, loopTryReplacen2, afterLoop, replaceLoop]; cases slice text last text.length <;> rfl
  | cons x xs ih =>
    cases x with
    | error e => simp [enumFrom, loopTryReplacen2, afterLoop, replaceLoop]
    | ok a =>
      simp only [enumFrom, loopTryReplacen2, replaceLoop]
      by_cases hl : (decide (limit > 0) && decide (i ≥ limit)) = true
      · simp only [hl, if_true, afterLoop]; cases slice text last text.length <;> rfl
      · simp only [hl, Bool.false_eq_true, if_false]
        cases hsp : span a with
        | mk s e =>
          simp only
          cases slice text last s with
          | none => rfl
          | some pre => simp only; exact ih (i + 1) e _

theorem enumFrom_isEmpty {α : Type} (n : Nat) (l : List α) : (enumFrom n l).isEmpty = l.isEmpty := by
  cases l <;> rfl

/-- **`try_replacen` as translated is `replacen`** over the items of the translated iterator: the fast path
    (`no_expansion() = Some(rep)`) over `find_iter` with the constant replacement, the other path over `captures_iter`
    with `replace_append` -/
theorem C11_replacen_translated_eq {α : Type} (find : Oracle (Nat × Nat)) (caps : Oracle α) (span : α → Nat × Nat)
    (text : Bytes) (limit : Nat) (ne : Option Bytes) (ra : α → Bytes) :
    genTryReplacen find caps span text limit ne ra =
      match ne with
      | some rep => replacen (findIter find text) id (fun _ => rep) text limit
      | none => replacen (capturesIter caps span text) span ra text limit := by
  unfold genTryReplacen
  cases ne with
  | some rep =>
    simp only [C08_find_iter_translated_eq, enumFrom_isEmpty]
    cases hi : findIter find text with
    | nil => simp [replacen]
    | cons x xs =>
      have := loopTryReplacen_eq find caps span text limit (some rep) ra rep (x :: xs) 0 0 []
      simp only [List.isEmpty_cons, Bool.false_eq_true, if_false, replacen, ← this, afterLoop]
      cases loopTryReplacen find caps span text limit (some rep) ra rep (enumFrom 0 (x :: xs)) (0, []) with
      | ret r => rfl
      | next acc => obtain ⟨l, a⟩ := acc; simp only; cases slice text l text.length <;> rfl
  | none =>
    simp only [C09_captures_iter_translated_eq, enumFrom_isEmpty]
    cases hi : capturesIter caps span text with
    | nil => simp [replacen]
    | cons x xs =>
      have := loopTryReplacen2_eq find caps span text limit none ra (x :: xs) 0 0 []
      simp only [List.isEmpty_cons, Bool.false_eq_true, if_false, replacen, ← this, afterLoop]
      cases loopTryReplacen2 find caps span text limit none ra (enumFrom 0 (x :: xs)) (0, []) with
      | ret r => rfl
      | next acc => obtain ⟨l, a⟩ := acc; simp only; cases slice text l text.length <;> rfl

end Fancy
