import FancyModel.GeneratedState
import FancyModel.Proofs.C20b
/-!
# C20 (third part) — the model of the backtracking state is `impl State` of vm.rs

`GeneratedState.lean` is `impl State` (src/vm.rs: `new push pop save get stack_push stack_pop backtrack_count
backtrack_cut`) translated statement by statement by `tools/rs2lean_state.py` on every run of the check. The
generated functions work on the record in the RUST orientation (`stack`, `oldsave` oldest entry first: `Vec::push`
appends); `flip` converts (it is an involution, so the theorems below speak about every Rust-side state).
This file proves, for every method, that the translation is the hand-written operation of Model/State.lean:

* `C20_state_translated_new`, `_push`, `_get`, `_backtrack_count`: equal on every state (exact results);
* `C20_state_translated_pop`: on every state, the same result and a panic exactly where the model says `none`;
* `C20_state_translated_save` (exact, panic site included), `_stack_push`, `_stack_pop`: on every state with
  `nsave ≤ oldsave.length` — part of the invariant `Inv` of reachable states (Lemmas/StateRefine.lean;
  `Inv.nsave_le` below). The hypothesis is needed: off it the Rust loop of `save` may find the slot before it would index
  out of range, while the model says `none` at once (`example` below);
* `C20_state_translated_backtrack_cut`: on every state and count, through the literal loop `cutLoop` of Proofs/C20b
  (`genBacktrackCut_lit`: the generated loops are `csub`-fold, `setInsert`-fold and `cutLoopBody`-fold) and
  `C20_backtrackCut_literal`;
* `C20_state_translated_all`: the bundle — with `C05_vm_translated_eq` (Proofs/C05f.lean), whose `genStep` calls exactly
  these model operations, the chain "text of `run` + text of `impl State` → `stepB`" has no hand-written middle
  except the documented adaptors.

A change of meaning in `impl State` changes the generated definitions and breaks these proofs
(notes/translator-state.md lists the mutations that were tried).
-/
set_option linter.unusedSimpArgs false
namespace Fancy
open State GenState

/-- the model's state in the Rust orientation: `stack` and `oldsave` oldest entry first -/
def flip (s : State) : RState := { s with stack := s.stack.reverse, oldsave := s.oldsave.reverse }

@[simp] theorem flip_flip (s : State) : flip (flip s) = s := by simp [flip]

theorem C20_state_translated_new (n m : Nat) : genNew n m = flip (State.new n m) := by
  simp [genNew, flip, State.new]

theorem C20_state_translated_push (s : State) (pc ix : Nat) :
    genPush (flip s) pc ix =
      match s.push pc ix with
      | .ok s' => .ok (flip s') .okUnit
      | .overflow => .ok (flip s) .errStackOverflow := by
  simp only [genPush, State.push, flip, List.length_reverse]
  by_cases h : s.stack.length < s.maxStack <;> simp [h]

theorem C20_state_translated_get (s : State) (slot : Nat) :
    genGet (flip s) slot =
      match s.get slot with
      | some v => .ok (flip s) v
      | none => .panic "get: index" := by
  simp only [genGet, State.get, flip]
  cases s.saves[slot]? <;> rfl

theorem C20_state_translated_backtrack_count (s : State) :
    genBacktrackCount (flip s) = .ok (flip s) s.backtrackCount := by
  simp [genBacktrackCount, State.backtrackCount, flip]

/-! ## `pop` -/

theorem vecPop_reverse {α : Type} (l : List α) :
    vecPop l.reverse = match l with | [] => none | x :: r => some (r.reverse, x) := by
  cases l <;> simp [vecPop]

theorem loopPop_eq (n i : Nat) (r : RState) (log : List (Nat × Nat)) (h : r.oldsave = log.reverse) :
    match restore n log r.saves with
    | none => ∃ m, loopPop n i r = .panic m
    | some (log', saves') => loopPop n i r = .next { r with oldsave := log'.reverse, saves := saves' } := by
  induction n generalizing i r log with
  | zero => simp [restore, loopPop, ← h]
  | succ n ih =>
    cases log with
    | nil => simp [restore, loopPop, h, vecPop]
    | cons e log =>
      obtain ⟨slot, value⟩ := e
      simp only [restore, loopPop, h, vecPop_reverse, vecSet]
      by_cases hs : slot < r.saves.length
      · simp only [hs, if_true]
        exact ih (i + 1) { r with oldsave := log.reverse, saves := r.saves.set slot value } log rfl
      · simp [hs]

theorem C20_state_translated_pop (s : State) :
    (genPop (flip s)).toOption = s.pop.map fun r => (flip r.1, (r.2.1, r.2.2)) := by
  have hl := loopPop_eq s.nsave 0 (flip s) s.oldsave rfl
  simp only [genPop, State.pop, Nat.sub_zero]
  cases hr : restore s.nsave s.oldsave s.saves with
  | none =>
    simp only [flip, hr] at hl
    obtain ⟨m, hm⟩ := hl
    simp [flip, hm, Res.toOption]
  | some p =>
    obtain ⟨log', saves'⟩ := p
    simp only [flip, hr] at hl
    simp only [flip, hl, vecPop_reverse]
    cases s.stack with
    | nil => simp [Res.toOption]
    | cons b rest => simp [Res.toOption, flip]

/-! ## `save` -/

theorem loopSave_eq (slot val n i : Nat) (r : RState) (log : List (Nat × Nat)) (h : r.oldsave = log.reverse)
    (hn : i + n ≤ log.length) :
    loopSave slot val n i r =
      if ((log.drop i).take n).any (fun e => e.1 == slot) then
        match vecSet r.saves slot val with
        | none => .panic "save: index"
        | some t => .ret { r with saves := t } ()
      else .next r := by
  induction n generalizing i with
  | zero => simp [loopSave]
  | succ n ih =>
    have hi : i < log.length := by omega
    have h1 : checkedSub r.oldsave.length i = some (log.length - i) := by
      simp [checkedSub, h]; omega
    have h2 : checkedSub (log.length - i) 1 = some (log.length - i - 1) := by
      simp [checkedSub]; omega
    have h3 : r.oldsave[log.length - i - 1]? = some log[i] := by
      rw [h, List.getElem?_reverse (by omega)]
      have : log.length - 1 - (log.length - i - 1) = i := by omega
      rw [this]; simp [hi]
    have hd : (log.drop i).take (n + 1) = log[i] :: (log.drop (i + 1)).take n := by
      rw [List.drop_eq_getElem_cons hi, List.take_succ_cons]
    simp only [loopSave, h1, h2, h3, hd, List.any_cons]
    by_cases he : log[i].1 = slot
    · simp [he] <;> rfl
    · have : (log[i].1 == slot) = false := by simpa using he
      simp only [this, Bool.false_eq_true, if_false, Bool.false_or]
      exact ih (i + 1) (by omega)

/-- `save`, exactly (the only panic sites left under the precondition are the two accesses `saves[slot]`) -/
theorem C20_state_translated_save (s : State) (slot val : Nat) (h : s.nsave ≤ s.oldsave.length) :
    genSave (flip s) slot val =
      match s.save slot val with
      | some s' => .ok (flip s') ()
      | none => .panic "save: index" := by
  have hl := loopSave_eq slot val (flip s).nsave 0 (flip s) s.oldsave rfl (by simp [flip]; omega)
  have hng : ¬ s.nsave > s.oldsave.length := by omega
  unfold genSave
  rw [Nat.sub_zero, hl]
  simp only [State.save, hng, if_false, List.drop_zero]
  by_cases hs : slot < s.saves.length
  · have hge : ¬ slot ≥ s.saves.length := by omega
    simp only [hge, if_false]
    by_cases ha : (s.oldsave.take s.nsave).any (fun e => e.1 == slot) = true
    · simp [ha, flip, vecSet, hs]
    · simp [ha, flip, vecSet, hs, List.getD_eq_getElem?_getD]
  · have hge : slot ≥ s.saves.length := by omega
    simp only [hge, if_true]
    by_cases ha : (s.oldsave.take s.nsave).any (fun e => e.1 == slot) = true
    · simp [ha, flip, vecSet, hs]
    · simp [ha, flip, vecSet, hs, List.getElem?_eq_none hge]

theorem save_nsave_le {s s' : State} {slot val : Nat} (h : s.save slot val = some s')
    (hle : s.nsave ≤ s.oldsave.length) : s'.nsave ≤ s'.oldsave.length := by
  unfold State.save at h
  split at h
  · cases h
  · split at h
    · cases h
    · split at h <;> (injection h with h; subst h; simp; try omega)

/-! ## the explicit stack -/

theorem genGet_eq (r : RState) (slot : Nat) :
    genGet r slot = match (flip r).get slot with | some v => .ok r v | none => .panic "get: index" := by
  have := C20_state_translated_get (flip r) slot
  rwa [flip_flip] at this

theorem genSave_eq (r : RState) (slot val : Nat) (h : r.nsave ≤ r.oldsave.length) :
    genSave r slot val =
      match (flip r).save slot val with | some s' => .ok (flip s') () | none => .panic "save: index" := by
  have := C20_state_translated_save (flip r) slot val (by simpa [flip] using h)
  rwa [flip_flip] at this

/-- the part of `stack_push` after the first `if`, on both sides -/
theorem stack_push_tail (s1 : State) (val : Nat) (h : s1.nsave ≤ s1.oldsave.length) (X : Res Unit)
    (hX : X = match genGet (flip s1) s1.explicitSp with
      | .panic m => .panic m
      | .ok _ sp =>
        if (flip s1).saves.length == sp then
          match genSave { flip s1 with saves := (flip s1).saves ++ [val] } s1.explicitSp (sp + 1) with
          | .panic m => .panic m
          | .ok self _ => .ok self ()
        else
          match genSave (flip s1) sp val with
          | .panic m => .panic m
          | .ok self _ =>
            match genSave self s1.explicitSp (sp + 1) with
            | .panic m => .panic m
            | .ok self _ => .ok self ()) :
    X.toOption = Option.map (fun s' => (flip s', ()))
      (match s1.get s1.explicitSp with
      | none => none
      | some sp =>
        match (if s1.saves.length == sp then some { s1 with saves := s1.saves ++ [val] } else s1.save sp val) with
        | none => none
        | some s' => s'.save s1.explicitSp (sp + 1)) := by
  subst hX
  rw [C20_state_translated_get]
  cases s1.get s1.explicitSp with
  | none => simp [Res.toOption]
  | some sp =>
    simp only
    have e1 : (flip s1).saves = s1.saves := rfl
    rw [e1]
    by_cases hc : s1.saves.length = sp
    · simp only [hc, beq_self_eq_true, if_true]
      rw [show ({ flip s1 with saves := s1.saves ++ [val] } : RState) = flip { s1 with saves := s1.saves ++ [val] } from rfl,
        C20_state_translated_save _ _ _ (by simpa using h)]
      cases State.save { s1 with saves := s1.saves ++ [val] } s1.explicitSp (sp + 1) <;> simp [Res.toOption]
    · have hb : (s1.saves.length == sp) = false := by simpa using hc
      simp only [hb, Bool.false_eq_true, if_false]
      rw [C20_state_translated_save _ _ _ h]
      cases hs : s1.save sp val with
      | none => simp [Res.toOption]
      | some s2 =>
        simp only
        rw [C20_state_translated_save _ _ _ (save_nsave_le hs h)]
        cases s2.save s1.explicitSp (sp + 1) <;> simp [Res.toOption]

theorem C20_state_translated_stack_push (s : State) (val : Nat) (h : s.nsave ≤ s.oldsave.length) :
    (genStackPush (flip s) val).toOption = (s.stackPush val).map fun s' => (flip s', ()) := by
  unfold State.stackPush
  by_cases hc : s.saves.length = s.explicitSp
  · have hb : (s.saves.length == s.explicitSp) = true := by simpa using hc
    simp only [hb, if_true]
    exact stack_push_tail { s with saves := s.saves ++ [s.explicitSp + 1] } val h _
      (by unfold genStackPush; simp only [show (flip s).saves = s.saves from rfl,
            show (flip s).explicitSp = s.explicitSp from rfl, hb, if_true]; rfl)
  · have hb : (s.saves.length == s.explicitSp) = false := by simpa using hc
    simp only [hb, Bool.false_eq_true, if_false]
    exact stack_push_tail s val h _
      (by unfold genStackPush; simp only [show (flip s).saves = s.saves from rfl,
            show (flip s).explicitSp = s.explicitSp from rfl, hb, Bool.false_eq_true, if_false]; rfl)

theorem C20_state_translated_stack_pop (s : State) (h : s.nsave ≤ s.oldsave.length) :
    (genStackPop (flip s)).toOption = s.stackPop.map fun r => (flip r.1, r.2) := by
  unfold genStackPop State.stackPop
  simp only [show (flip s).explicitSp = s.explicitSp from rfl, C20_state_translated_get]
  cases s.get s.explicitSp with
  | none => simp [Res.toOption]
  | some sp1 =>
    cases sp1 with
    | zero => simp [Res.toOption, checkedSub]
    | succ sp =>
      simp only [checkedSub, Nat.le_add_left, if_true, Nat.add_sub_cancel]
      cases s.get sp with
      | none => simp [Res.toOption]
      | some result =>
        simp only [C20_state_translated_save _ _ _ h]
        cases s.save s.explicitSp sp <;> simp [Res.toOption]

/-! ## `backtrack_cut` -/

theorem loopBacktrackCut_eq (l : List Branch) (e : Nat) :
    loopBacktrackCut l e =
      match l.foldlM (fun e b => csub e b.nsave) e with
      | some e' => .next e'
      | none => .panic "backtrack_cut: sub" := by
  induction l generalizing e with
  | nil => simp [loopBacktrackCut]
  | cons b l ih =>
    simp only [loopBacktrackCut, List.foldlM_cons, checkedSub, csub]
    by_cases h : b.nsave ≤ e
    · simp only [h, if_true, Option.bind_eq_bind, Option.bind_some]; exact ih _
    · simp [h]

theorem loopBacktrackCut2_eq (l : List (Nat × Nat)) (saved : List Nat) :
    loopBacktrackCut2 l saved = .next (l.foldl (fun sv e => (setInsert sv e.1).2) saved) := by
  induction l generalizing saved with
  | nil => simp [loopBacktrackCut2]
  | cons e l ih =>
    simp only [loopBacktrackCut2, List.foldl_cons]
    exact ih _

theorem loopBacktrackCut3_eq (n ix w : Nat) (r : RState) (saved : List Nat) :
    match (List.range' ix n).foldlM cutLoopBody (w, saved, r.oldsave) with
    | some st => loopBacktrackCut3 n ix (r, w, saved) = .next ({ r with oldsave := st.2.2 }, st.1, st.2.1)
    | none => ∃ m, loopBacktrackCut3 n ix (r, w, saved) = .panic m := by
  induction n generalizing ix w r saved with
  | zero => simp [loopBacktrackCut3]
  | succ n ih =>
    simp only [List.range'_succ, List.foldlM_cons, loopBacktrackCut3, cutLoopBody]
    cases hget : r.oldsave[ix]? with
    | none => simp
    | some e =>
      simp only [Option.bind_eq_bind]
      have hins : btreeInsert saved e.1 = setInsert saved e.1 := rfl
      rw [hins]
      cases hnew : (setInsert saved e.1).1 with
      | false =>
        simp only [Bool.false_eq_true, if_false, Option.bind_some]
        exact ih (ix + 1) w r _
      | true =>
        simp only [if_true]
        have hsw : vecSwap r.oldsave w ix = swapAt r.oldsave w ix := rfl
        rw [hsw]
        cases swapAt r.oldsave w ix with
        | none => simp
        | some v' =>
          simp only [Option.map_some, Option.bind_some]
          exact ih (ix + 1) (w + 1) { r with oldsave := v' } _

theorem genBacktrackCut_lit (s : State) (count : Nat) :
    (genBacktrackCut (flip s) count).toOption = (backtrackCutLit s count).map fun s' => (flip s', ()) := by
  unfold genBacktrackCut backtrackCutLit
  simp only [show (flip s).stack = s.stack.reverse from rfl, show (flip s).oldsave = s.oldsave.reverse from rfl,
    show (flip s).nsave = s.nsave from rfl, List.length_reverse]
  by_cases hc : s.stack.length = count
  · simp [hc, Res.toOption]
  · have hb : (s.stack.length == count) = false := by simpa using hc
    simp only [hb, Bool.false_eq_true, if_false]
    have hcs : ∀ a b, checkedSub a b = csub a b := fun _ _ => rfl
    simp only [hcs]
    cases he0 : csub s.oldsave.length s.nsave with
    | none => by_cases hlt : s.stack.length < count + 1 <;> simp [hlt, Res.toOption]
    | some e0 =>
      simp only [Option.bind_some]
      by_cases hlt : s.stack.length < count + 1
      · have hsf : sliceFrom s.stack.reverse (count + 1) = none := by simp [sliceFrom]; omega
        simp [hlt, hsf, Res.toOption]
      · have hsf : sliceFrom s.stack.reverse (count + 1) = some (s.stack.reverse.drop (count + 1)) := by
          simp [sliceFrom]; omega
        simp only [hlt, hsf, if_false, loopBacktrackCut_eq]
        cases hend : (s.stack.reverse.drop (count + 1)).foldlM (fun e b => csub e b.nsave) e0 with
        | none => simp [Res.toOption]
        | some end_ =>
          simp only [Option.bind_some]
          cases hbr : s.stack.reverse[count]? with
          | none => simp [Res.toOption]
          | some b =>
            simp only [Option.bind_some]
            cases hstart : csub end_ b.nsave with
            | none => simp [Res.toOption]
            | some start =>
              simp only [Option.bind_some]
              by_cases hcond : start ≤ end_ ∧ end_ ≤ s.oldsave.length
              · have hsr : sliceRange s.oldsave.reverse start end_ =
                    some ((s.oldsave.reverse.drop start).take (end_ - start)) := by simp [sliceRange, hcond]
                have hk := C20_cutLoop_eq_cutKeep s.oldsave.reverse start end_
                have hcl : cutLoop s.oldsave.reverse start end_ =
                    ((List.range' end_ (s.oldsave.length - end_)).foldlM cutLoopBody
                      (end_, ((s.oldsave.reverse.drop start).take (end_ - start)).foldl
                        (fun sv e => (setInsert sv e.1).2) [], s.oldsave.reverse)).map
                      fun st => (st.2.2.take st.1, st.1) := by
                  simp [cutLoop, hcond]
                have hcond' : start ≤ end_ ∧ end_ ≤ s.oldsave.reverse.length := by simpa using hcond
                rw [if_pos hcond'] at hk
                simp only [hsr, loopBacktrackCut2_eq, hcl]
                rw [hcl] at hk
                have h3 := loopBacktrackCut3_eq (s.oldsave.length - end_) end_ end_ (flip s)
                  (((s.oldsave.reverse.drop start).take (end_ - start)).foldl (fun sv e => (setInsert sv e.1).2) [])
                simp only [show (flip s).oldsave = s.oldsave.reverse from rfl] at h3
                cases hfold : (List.range' end_ (s.oldsave.length - end_)).foldlM cutLoopBody
                    (end_, ((s.oldsave.reverse.drop start).take (end_ - start)).foldl
                      (fun sv e => (setInsert sv e.1).2) [], s.oldsave.reverse) with
                | none =>
                  rw [hfold] at h3
                  obtain ⟨m, hm⟩ := h3
                  simp [hm, Res.toOption]
                | some st =>
                  rw [hfold] at h3 hk
                  simp only [Option.map_some, Option.some.injEq, Prod.mk.injEq] at hk
                  have hge : start ≤ st.1 := by omega
                  simp only [h3, csub, hge, ↓reduceIte, Option.map_some, Option.bind_some, Res.toOption]
                  simp [flip]
              · have hsr : sliceRange s.oldsave.reverse start end_ = none := by simp [sliceRange, hcond]
                have hcl : cutLoop s.oldsave.reverse start end_ = none := by simp [cutLoop, hcond]
                simp [hsr, hcl, Res.toOption]

/-- **`backtrack_cut` as translated is the model's `backtrackCut`**, on every state and count (through the literal
    loop `cutLoop` of Proofs/C20b and `C20_backtrackCut_literal`) -/
theorem C20_state_translated_backtrack_cut (s : State) (count : Nat) :
    (genBacktrackCut (flip s) count).toOption = (s.backtrackCut count).map fun s' => (flip s', ()) := by
  rw [genBacktrackCut_lit, C20_backtrackCut_literal]

/-! ## the bundle -/

theorem Inv.nsave_le {s : State} (h : Inv s) : s.nsave ≤ s.oldsave.length := by
  have := h.len; omega

/-- every operation of the VM's vocabulary, as translated from `impl State`, is the model's operation (on the states
    the interpreter reaches: `Inv`) -/
theorem C20_state_translated_all (s : State) (hi : Inv s) :
    (∀ pc ix, genPush (flip s) pc ix = match s.push pc ix with
        | .ok s' => .ok (flip s') .okUnit | .overflow => .ok (flip s) .errStackOverflow) ∧
    (genPop (flip s)).toOption = (s.pop.map fun r => (flip r.1, (r.2.1, r.2.2))) ∧
    (∀ slot val, (genSave (flip s) slot val).toOption = (s.save slot val).map fun s' => (flip s', ())) ∧
    (∀ slot, (genGet (flip s) slot).toOption = (s.get slot).map fun v => (flip s, v)) ∧
    (∀ val, (genStackPush (flip s) val).toOption = (s.stackPush val).map fun s' => (flip s', ())) ∧
    (genStackPop (flip s)).toOption = (s.stackPop.map fun r => (flip r.1, r.2)) ∧
    (genBacktrackCount (flip s)).toOption = some (flip s, s.backtrackCount) ∧
    (∀ count, (genBacktrackCut (flip s) count).toOption = (s.backtrackCut count).map fun s' => (flip s', ())) := by
  have hle := hi.nsave_le
  refine ⟨C20_state_translated_push s, C20_state_translated_pop s, ?_, ?_, fun v => C20_state_translated_stack_push s v hle,
    C20_state_translated_stack_pop s hle, ?_, C20_state_translated_backtrack_cut s⟩
  · intro slot val
    rw [C20_state_translated_save s slot val hle]
    cases s.save slot val <;> rfl
  · intro slot
    rw [C20_state_translated_get]
    cases s.get slot <;> rfl
  · rw [C20_state_translated_backtrack_count]; rfl

/-! ## non-vacuity, and why `save` needs its hypothesis -/

/-- the log of Proofs/C20b (`exCut`) through the TRANSLATED `backtrack_cut`: the swaps really happen -/
example : (genBacktrackCut (flip exCut) 1).toOption =
    some (flip ⟨[5, 6, 7], [⟨0, 0, 0⟩], [(2, 14), (1, 12), (0, 10)], 3, 3, 10⟩, ()) := by decide

example : (genSave (flip exCut) 1 9).toOption = (exCut.save 1 9).map fun s' => (flip s', ()) := by decide
example : (genPop (flip exCut)).toOption = exCut.pop.map fun r => (flip r.1, (r.2.1, r.2.2)) := by decide

/-- off the invariant (`nsave = 5` with one log entry): the Rust loop finds slot 0 at `i = 0` and returns; the model
    checks `nsave > oldsave.len()` first -/
example : (genSave (flip ⟨[7], [], [(0, 1)], 5, 1, 10⟩) 0 9).toOption = some (flip ⟨[9], [], [(0, 1)], 5, 1, 10⟩, ()) ∧
    State.save ⟨[7], [], [(0, 1)], 5, 1, 10⟩ 0 9 = none := by decide

end Fancy
