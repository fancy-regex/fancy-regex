import FancyModel.Model.Basic
import FancyModel.Model.Utf8
import FancyModel.Generated
/-!
# The parser (src/parse.rs, lines 1–968), mirrored function by function

The pattern is its UTF-8 **bytes** (`Array Nat`, every element `< 256`), indices are byte indices,
exactly as in the Rust code.  A `&str` is valid UTF-8 by its type invariant; the model is *defined*
on every byte array (so that the leaf scanners can be proved on arbitrary bytes), but only valid
UTF-8 is the image of a Rust input (`parseStr`).

* `Res α = ok a | err kind pos | cerr | panic site | outOfFuel`.  Every Rust operation that can
  panic is an explicit `panic "site"`: `self.re[a..]`, `self.re[a..b]` (range or char boundary),
  `bytes[i]`, `unwrap`/`expect`, `remove(0)`, `next - 1`, the two `debug_assert`s.  Arithmetic on
  indices cannot overflow a `usize` (every index is at most `len + 4`); numbers read from the
  pattern are bounded by `usize::MAX`/`isize` range through the failure of `from_str_radix` /
  `parse::<isize>`, which is modelled.
* `&mut self` is the explicit `PState` threaded through the functions (fields of `Parser`).
* `char::is_alphanumeric` (used by `is_id_char`) is the parameter `isAlnum`; the theorems assume of it
  at most that a closing delimiter (`'`, `>`, `)`, `}`) is not alphanumeric (`AlnumOK`, Proofs/C06b.lean;
  `DelimOK`, Proofs/C12d.lean).
* Loops are structural recursion on a fuel; the mutual descent shares one fuel (`descentFuel`).
  `outOfFuel` is never the result for the fuel chosen by `parse` (`C06_parse_total`, Proofs/C06b.lean).
* `Expr.group` carries number 0 (the parser assigns none); `hi = usize::MAX` is `none`.
* Decoding bytes to `Char`s (`String::from(&self.re[a..b])`, `chars()`) is total (lossy on
  malformed input, which no `&str` contains); the preceding slice check is the panic site.
-/
namespace Fancy.Parse
open Fancy.Utf8 (codepointLen isLead)

abbrev Bytes := Array Nat

/-- byte value of an ASCII character -/
@[reducible] def ch (c : Char) : Nat := c.toNat

/-- `usize::MAX`, `isize::MAX` (64-bit targets) -/
def usizeMax : Nat := 18446744073709551615
def isizeMax : Nat := 9223372036854775807

/-- the three `GeneralParseError` messages -/
inductive GenMsg where
  | endNotReached | expectedCloseParen | expectedConditional
deriving DecidableEq, Repr

/-- `ParseError` (src/error.rs); string payloads are byte lists -/
inductive PErr where
  | general (m : GenMsg)
  | unclosedOpenParen
  | invalidRepeat
  | recursionExceeded
  | trailingBackslash
  | invalidEscape (s : List Nat)
  | unclosedUnicodeName
  | invalidHex
  | invalidCodepointValue
  | invalidClass
  | unknownFlag (s : List Nat)
  | nonUnicodeUnsupported
  | invalidBackref
  | targetNotRepeatable
  | invalidGroupName
  | invalidGroupNameBackref (s : List Nat)
deriving DecidableEq, Repr

/-- outcome of a parser function; `cerr` is `CompileError::NamedBackrefOnly` (the only compile
    error the parser produces) -/
inductive Res (α : Type) where
  | ok (a : α)
  | err (k : PErr) (pos : Nat)
  | cerr
  | panic (site : String)
  | outOfFuel
deriving Repr

@[inline] def Res.bind {α β : Type} (x : Res α) (f : α → Res β) : Res β :=
  match x with
  | .ok a => f a
  | .err k p => .err k p
  | .cerr => .cerr
  | .panic s => .panic s
  | .outOfFuel => .outOfFuel

instance : Monad Res where
  pure := Res.ok
  bind := Res.bind

/-! ## Flags and parser state -/

structure Flags where
  casei : Bool := false
  multi : Bool := false
  dotnl : Bool := false
  swapGreed : Bool := false
  ignoreSpace : Bool := false
  unicode : Bool := true
deriving DecidableEq, Repr

/-- the fields of `Parser` other than `re` -/
structure PState where
  /-- `backrefs: BitSet` as the list of members (no duplicates) -/
  backrefs : List Nat := []
  flags : Flags := {}
  /-- `named_groups: HashMap<String, usize>` as an association list with unique keys -/
  namedGroups : List (List Nat × Nat) := []
  numericBackrefs : Bool := false
  currGroup : Nat := 0
  lastReHadAlt : Bool := false
deriving Repr

def bitsetInsert (s : List Nat) (g : Nat) : List Nat := if s.contains g then s else g :: s

def namedInsert (m : List (List Nat × Nat)) (k : List Nat) (v : Nat) : List (List Nat × Nat) :=
  (k, v) :: m.filter (fun e => e.1 != k)

def namedGet (m : List (List Nat × Nat)) (k : List Nat) : Option Nat :=
  (m.find? (fun e => e.1 == k)).map (·.2)

/-! ## Bytes, slices, characters -/

/-- `str::is_char_boundary` -/
def isBoundary (re : Bytes) (i : Nat) : Bool :=
  i == 0 || i == re.size || (match re[i]? with | some b => isLead b | none => false)

/-- does `&self.re[a..]` succeed -/
def sliceFromOk (re : Bytes) (a : Nat) : Bool := isBoundary re a

/-- does `&self.re[a..b]` succeed -/
def sliceOk (re : Bytes) (a b : Nat) : Bool :=
  a ≤ b && b ≤ re.size && isBoundary re a && isBoundary re b

/-- `&self.re[a..]` as a check: the panic site -/
def sliceFrom (re : Bytes) (a : Nat) (site : String) : Res Unit :=
  if sliceFromOk re a then .ok () else .panic site

/-- `&self.re[a..b]`: the bytes, or the panic -/
def slice (re : Bytes) (a b : Nat) (site : String) : Res (List Nat) :=
  if sliceOk re a b then .ok (re.extract a b).toList else .panic site

/-- `self.re.as_bytes()[i]` -/
def byteAt (re : Bytes) (i : Nat) (site : String) : Res Nat :=
  match re[i]? with
  | some b => .ok b
  | none => .panic site

/-- `self.re[ix..].starts_with(p)` / `bytes[ix..].starts_with(p)` once the slice exists -/
def startsWithAt (re : Bytes) : Nat → List Nat → Bool
  | _, [] => true
  | ix, c :: cs => re[ix]? == some c && startsWithAt re (ix + 1) cs

def isDigit (b : Nat) : Bool := 48 ≤ b && b ≤ 57
def isHexDigit (b : Nat) : Bool := isDigit b || (97 ≤ (b ||| 32) && (b ||| 32) ≤ 102)
def isAsciiAlphabetic (b : Nat) : Bool := (65 ≤ b && b ≤ 90) || (97 ≤ b && b ≤ 122)

/-- scalar value → `Char` (U+FFFD for a non-scalar: only on malformed input) -/
def mkChar (n : Nat) : Char :=
  if h : n.isValidChar then Char.ofNatAux n h else Char.ofNat 0xFFFD

/-- lossy, total UTF-8 decoder (exact on valid UTF-8) -/
def decodeList : List Nat → List Char
  | [] => []
  | b :: rest =>
    if b < 0x80 then mkChar b :: decodeList rest
    else if b < 0xe0 then
      match rest with
      | c1 :: r => mkChar ((b % 32) * 64 + c1 % 64) :: decodeList r
      | [] => [mkChar 0xFFFD]
    else if b < 0xf0 then
      match rest with
      | c1 :: c2 :: r => mkChar ((b % 16) * 4096 + (c1 % 64) * 64 + c2 % 64) :: decodeList r
      | _ => [mkChar 0xFFFD]
    else
      match rest with
      | c1 :: c2 :: c3 :: r =>
        mkChar ((b % 8) * 262144 + (c1 % 64) * 4096 + (c2 % 64) * 64 + c3 % 64) :: decodeList r
      | _ => [mkChar 0xFFFD]

/-- the character starting at byte `ix < len` (whose first byte is `b`) and its length in bytes
    (`chars().next()`) -/
def decodeAt (re : Bytes) (ix : Nat) (b : Nat) : Char × Nat :=
  let n := codepointLen b
  match decodeList (re.extract ix (ix + n)).toList with
  | c :: _ => (c, n)
  | [] => (mkChar 0xFFFD, n)

/-- UTF-8 encoding of a character, as bytes -/
def encodeChar (c : Char) : List Nat := Utf8.encodeChar c.toNat

/-! ## Leaf scanners -/

/-- `is_id_char` -/
def isIdChar (isAlnum : Char → Bool) (c : Char) : Bool := isAlnum c || c == '_'

def isAsciiDigitChar (c : Char) : Bool := '0' ≤ c && c ≤ '9'

/-- value of a list of ASCII digits -/
def digitsVal (ds : List Nat) : Nat := ds.foldl (fun a d => a * 10 + (d - 48)) 0

/-- `parse_decimal(s, ix)`: `while end < len && is_digit(bytes[end])`, then
    `usize::from_str_radix(&s[ix..end], 10).ok()` -/
def parseDecimal (re : Bytes) (ix : Nat) : Res (Option (Nat × Nat)) :=
  let ds := (re.toList.drop ix).takeWhile isDigit
  let end_ := ix + ds.length
  if !sliceOk re ix end_ then .panic "parse_decimal: s[ix..end]"
  else if ds.isEmpty then .ok none
  else
    let v := digitsVal ds
    if v ≤ usizeMax then .ok (some (end_, v)) else .ok none

/-- the inner loop of `optional_whitespace` after `(?#`: index after the closing `)` -/
def skipComment : Nat → Bytes → Nat → Res Nat
  | 0, _, _ => .outOfFuel
  | f + 1, re, ix =>
    if ix ≥ re.size then .err .unclosedOpenParen re.size
    else
      match re[ix]? with
      | none => .panic "optional_whitespace: bytes[ix] (comment)"
      | some b =>
        if b == ch ')' then .ok (ix + 1)
        else if b == ch '\\' then skipComment f re (ix + 2)
        else skipComment f re (ix + 1)

/-- `optional_whitespace` (fuel = iterations of the outer loop) -/
def optionalWhitespace : Nat → Bytes → Flags → Nat → Res Nat
  | 0, _, _, _ => .outOfFuel
  | f + 1, re, fl, ix =>
    if ix == re.size then .ok ix
    else
      match re[ix]? with
      | none => .panic "optional_whitespace: bytes[ix]"
      | some b =>
        if b == ch '#' && fl.ignoreSpace then
          match (re.toList.drop ix).findIdx? (· == 10) with
          | some x => optionalWhitespace f re fl (ix + x + 1)
          | none => .ok re.size
        else if (b == ch ' ' || b == ch '\r' || b == ch '\n' || b == ch '\t') && fl.ignoreSpace then
          optionalWhitespace f re fl (ix + 1)
        else if b == ch '(' && startsWithAt re ix [ch '(', ch '?', ch '#'] then
          match skipComment (re.size + 1) re (ix + 3) with
          | .ok ix' => optionalWhitespace f re fl ix'
          | .err k p => .err k p
          | .cerr => .cerr
          | .panic s => .panic s
          | .outOfFuel => .outOfFuel
        else .ok ix

/-- `self.optional_whitespace(ix)` with the fuel that always suffices -/
def optWs (re : Bytes) (fl : Flags) (ix : Nat) : Res Nat :=
  optionalWhitespace (re.size + 2) re fl ix

/-- `parse_repeat(ix)`: `(next, lo, hi)` with `hi` still a `usize` -/
def parseRepeat (re : Bytes) (fl : Flags) (ix : Nat) : Res (Nat × Nat × Nat) := do
  let ix ← optWs re fl (ix + 1)
  if ix == re.size then .err .invalidRepeat ix
  else
    let b ← byteAt re ix "parse_repeat: bytes[ix] (lo)"
    let lo_end : Nat × Nat ←
      (if b == ch ',' then (pure (0, ix) : Res (Nat × Nat))
       else do
         match ← parseDecimal re ix with
         | some (next, lo) => pure (lo, next)
         | none => .err .invalidRepeat ix)
    let lo := lo_end.1
    let ix ← optWs re fl lo_end.2
    if ix == re.size then .err .invalidRepeat ix
    else
      let b ← byteAt re ix "parse_repeat: bytes[ix] (hi)"
      let hi_end : Nat × Nat ←
        (if b == ch '}' then (pure (lo, ix) : Res (Nat × Nat))
         else if b == ch ',' then do
           let e ← optWs re fl (ix + 1)
           match ← parseDecimal re e with
           | some (next, hi) => pure (hi, next)
           | none => pure (usizeMax, e)
         else .err .invalidRepeat ix)
      let ix ← optWs re fl hi_end.2
      if ix == re.size then .err .invalidRepeat ix
      else
        let b ← byteAt re ix "parse_repeat: bytes[ix] (close)"
        if b != ch '}' then .err .invalidRepeat ix
        else .ok (ix + 1, lo, hi_end.1)

/-- `iter.find(|(_, ch)| !pred(ch))` over `char_indices()` from byte `ix`: the index of the first
    character failing `pred`, `none` at the end of the string -/
def findNot (pred : Char → Bool) : Nat → Bytes → Nat → Res (Option Nat)
  | 0, _, _ => .outOfFuel
  | f + 1, re, ix =>
    match re[ix]? with
    | none => .ok none
    | some b =>
      let (c, n) := decodeAt re ix b
      if pred c then findNot pred f re (ix + n) else .ok (some ix)

/-- `parse_id(&self.re[base..], open, close, allow_relative)`; the caller has made the slice
    `self.re[base..]`.  Result: absolute `(id_start, id_end, skip)`; `skip` is relative to `base`
    as in the Rust code. -/
def parseId (isAlnum : Char → Bool) (re : Bytes) (base : Nat) (open_ close : List Nat)
    (allowRelative : Bool) : Res (Option (Nat × Nat × Nat)) := do
  -- debug_assert!(!close.starts_with(is_id_char))
  if (match close with | c :: _ => isIdChar isAlnum (mkChar c) | [] => false) then
    .panic "parse_id: debug_assert close"
  else if !startsWithAt re base open_ then .ok none
  else
    let idStart := base + open_.length
    sliceFrom re idStart "parse_id: s[id_start..]"
    let afterId ←
      (if allowRelative && re[idStart]? == some (ch '-') then
        findNot isAsciiDigitChar (re.size + 1) re (idStart + 1)
      else findNot (isIdChar isAlnum) (re.size + 1) re idStart)
    let idLen : Option Nat ←
      (match afterId with
      | some p => do
        sliceFrom re p "parse_id: s[id_start + id_len..]"
        if startsWithAt re p close then pure (some (p - idStart)) else pure none
      | none => if close.isEmpty then pure (some (re.size - base)) else pure none)
    match idLen with
    | none => .ok none
    | some 0 => .ok none
    | some l =>
      let idEnd := idStart + l
      if !sliceOk re idStart idEnd then .panic "parse_id: s[id_start..id_end]"
      else .ok (some (idStart, idEnd, (idEnd - base) + close.length))

/-- `id.parse::<isize>()` on the bytes of `id` -/
def parseIsize (id : List Nat) : Option Int :=
  match id with
  | [] => none
  | 45 :: ds =>
    if ds.isEmpty || !ds.all isDigit then none
    else if digitsVal ds ≤ isizeMax + 1 then some (-(digitsVal ds : Int)) else none
  | 43 :: ds =>
    if ds.isEmpty || !ds.all isDigit then none
    else if digitsVal ds ≤ isizeMax then some (digitsVal ds : Int) else none
  | ds =>
    if !ds.all isDigit then none
    else if digitsVal ds ≤ isizeMax then some (digitsVal ds : Int) else none

/-- which expression a reference creates (`create_expr`) -/
inductive RefKind where
  | backref | subroutine
deriving DecidableEq, Repr

def RefKind.mk : RefKind → Nat → Expr
  | .backref, g => .backref g
  | .subroutine, g => .subroutine g

/-- `parse_named_backref(ix, open, close, allow_relative, create_expr)` -/
def parseNamedBackref (isAlnum : Char → Bool) (re : Bytes) (st : PState) (ix : Nat)
    (open_ close : List Nat) (allowRelative : Bool) (k : RefKind) : Res (Nat × Expr × PState) := do
  sliceFrom re ix "parse_named_backref: self.re[ix..]"
  match ← parseId isAlnum re ix open_ close allowRelative with
  | some (idStart, idEnd, skip) =>
    let id := (re.extract idStart idEnd).toList
    let group : Option Nat :=
      match namedGet st.namedGroups id with
      | some g => some g
      | none =>
        match parseIsize id with
        | some g =>
          if g ≥ 0 then some g.toNat
          else
            -- self.curr_group.checked_add_signed(group + 1)
            let r : Int := (st.currGroup : Int) + (g + 1)
            if r ≥ 0 then some r.toNat else none
        | none => none
    match group.filter (fun g => g < re.size / 2) with
    | some g =>
      .ok (ix + skip, k.mk g, { st with backrefs := bitsetInsert st.backrefs g })
    | none => .err (.invalidGroupNameBackref id) ix
  | none => .err .invalidGroupName ix

/-- `parse_numbered_backref(ix, create_expr)` -/
def parseNumberedBackref (re : Bytes) (st : PState) (ix : Nat) (k : RefKind) :
    Res (Nat × Expr × PState) := do
  match ← parseDecimal re ix with
  | some (end_, g) =>
    if g < re.size / 2 then
      .ok (end_, k.mk g, { st with numericBackrefs := true, backrefs := bitsetInsert st.backrefs g })
    else .err .invalidBackref ix
  | none => .err .invalidBackref ix

/-- the `{…}` loop of `parse_hex`: index of the closing `}` -/
def hexBraceLoop : Nat → Bytes → Nat → Nat → Nat → Res Nat
  | 0, _, _, _, _ => .outOfFuel
  | f + 1, re, ix, starthex, endhex =>
    if endhex == re.size then .err .invalidHex ix
    else
      match re[endhex]? with
      | none => .panic "parse_hex: bytes[endhex]"
      | some b =>
        if endhex > starthex && b == ch '}' then .ok endhex
        else if isHexDigit b && endhex < starthex + 8 then hexBraceLoop f re ix starthex (endhex + 1)
        else .err .invalidHex ix

def hexVal (b : Nat) : Nat :=
  if isDigit b then b - 48 else (b ||| 32) - 87

/-- `u32::from_str_radix(s, 16)` for `s` made of hex digits: `none` = `Err` (empty or overflow) -/
def parseHexU32 (s : List Nat) : Option Nat :=
  if s.isEmpty then none
  else
    let v := s.foldl (fun a d => a * 16 + hexVal d) 0
    if v ≤ 4294967295 then some v else none

/-- `parse_hex(ix, digits)` -/
def parseHex (re : Bytes) (fl : Flags) (ix digits : Nat) : Res (Nat × Expr) := do
  if ix ≥ re.size then .err .invalidHex ix
  else
    let b ← byteAt re ix "parse_hex: bytes[ix]"
    let end_s : Nat × List Nat ←
      (if ix + digits ≤ re.size && (re.extract ix (ix + digits)).toList.all isHexDigit then do
        let s ← slice re ix (ix + digits) "parse_hex: self.re[ix..end]"
        pure (ix + digits, s)
      else if b == ch '{' then do
        let starthex := ix + 1
        let endhex ← hexBraceLoop 16 re ix starthex starthex
        let s ← slice re starthex endhex "parse_hex: self.re[starthex..endhex]"
        pure (endhex + 1, s)
      else .err .invalidHex ix)
    match parseHexU32 end_s.2 with
    | none => .panic "parse_hex: from_str_radix(..).unwrap()"
    | some cp =>
      if cp.isValidChar then
        .ok (end_s.1, .literal [mkChar cp] fl.casei)
      else .err .invalidCodepointValue ix

/-- the `\p{…}` loop of `parse_escape`: index after the closing `}` -/
def uniNameLoop : Nat → Bytes → Nat → Nat → Res Nat
  | 0, _, _, _ => .outOfFuel
  | f + 1, re, ix, end_ =>
    if end_ == re.size then .err .unclosedUnicodeName ix
    else
      match re[end_]? with
      | none => .panic "parse_escape: bytes[end] (\\p{)"
      | some b =>
        if b == ch '}' then .ok (end_ + 1)
        else uniNameLoop f re ix (end_ + codepointLen b)

/-- `make_literal` -/
def makeLiteral (s : List Char) : Expr := .literal s false

/-- `parse_escape(ix, in_class)`; `ix` points to the backslash -/
def parseEscape (isAlnum : Char → Bool) (re : Bytes) (st : PState) (ix : Nat) (inClass : Bool) :
    Res (Nat × Expr × PState) :=
  match re[ix + 1]? with
  | none => .err .trailingBackslash ix
  | some b =>
    let end_ := ix + 1 + codepointLen b
    if isDigit b then parseNumberedBackref re st (ix + 1) .backref
    else if b == ch 'k' && !inClass then
      if re[end_]? == some (ch '\'') then
        parseNamedBackref isAlnum re st end_ [ch '\''] [ch '\''] true .backref
      else parseNamedBackref isAlnum re st end_ [ch '<'] [ch '>'] true .backref
    else if b == ch 'A' && !inClass then .ok (end_, .assertion .startText, st)
    else if b == ch 'z' && !inClass then .ok (end_, .assertion .endText, st)
    else if b == ch 'Z' && !inClass then
      .ok (end_, .look (.delegate ['\n', '*', '$'] 0 false) .ahead, st)
    else if b == ch 'b' && !inClass then
      if re[end_]? == some (ch '{') then do
        let s ← slice re (ix + 1) end_ "parse_escape: self.re[ix + 1..end] (\\b{)"
        .err (.invalidEscape (ch '\\' :: s)) ix
      else .ok (end_, .assertion .wordB, st)
    else if b == ch 'B' && !inClass then
      if re[end_]? == some (ch '{') then do
        let s ← slice re (ix + 1) end_ "parse_escape: self.re[ix + 1..end] (\\B{)"
        .err (.invalidEscape (ch '\\' :: s)) ix
      else .ok (end_, .assertion .notWordB, st)
    else if b == ch '<' && !inClass then .ok (end_, .assertion .leftWord, st)
    else if b == ch '>' && !inClass then .ok (end_, .assertion .rightWord, st)
    else if (b ||| 32) == ch 'd' || (b ||| 32) == ch 's' || (b ||| 32) == ch 'w' then do
      let s ← slice re ix end_ "parse_escape: self.re[ix..end] (\\d\\s\\w)"
      .ok (end_, .delegate (decodeList s) 1 st.flags.casei, st)
    else if (b ||| 32) == ch 'h' then
      let s := if b == ch 'h' then "[0-9A-Fa-f]" else "[^0-9A-Fa-f]"
      .ok (end_, .delegate s.toList 1 false, st)
    else if b == ch 'x' then do
      let (e, x) ← parseHex re st.flags end_ 2
      .ok (e, x, st)
    else if b == ch 'u' then do
      let (e, x) ← parseHex re st.flags end_ 4
      .ok (e, x, st)
    else if b == ch 'U' then do
      let (e, x) ← parseHex re st.flags end_ 8
      .ok (e, x, st)
    else if (b ||| 32) == ch 'p' && end_ != re.size then do
      let b2 ← byteAt re end_ "parse_escape: bytes[end] (\\p)"
      let end1 := end_ + codepointLen b2
      let end2 ← (if b2 == ch '{' then uniNameLoop (re.size + 1) re ix end1 else pure end1)
      let s ← slice re ix end2 "parse_escape: self.re[ix..end] (\\p)"
      .ok (end2, .delegate (decodeList s) 1 st.flags.casei, st)
    else if b == ch 'K' && !inClass then .ok (end_, .keepOut, st)
    else if b == ch 'G' && !inClass then .ok (end_, .contPrev, st)
    else if b == ch 'g' && !inClass then
      if end_ == re.size then .err (.invalidEscape [ch '\\', ch 'g']) ix
      else do
        let b2 ← byteAt re end_ "parse_escape: bytes[end] (\\g)"
        if isDigit b2 then parseNumberedBackref re st end_ .subroutine
        else if b2 == ch '\'' then
          parseNamedBackref isAlnum re st end_ [ch '\''] [ch '\''] true .subroutine
        else parseNamedBackref isAlnum re st end_ [ch '<'] [ch '>'] true .subroutine
    else
      if b == ch 'a' then .ok (end_, makeLiteral ['\x07'], st)
      else if b == ch 'b' then .ok (end_, makeLiteral ['\x08'], st)
      else if b == ch 'f' then .ok (end_, makeLiteral ['\x0c'], st)
      else if b == ch 'n' then .ok (end_, makeLiteral ['\n'], st)
      else if b == ch 'r' then .ok (end_, makeLiteral ['\r'], st)
      else if b == ch 't' then .ok (end_, makeLiteral ['\t'], st)
      else if b == ch 'v' then .ok (end_, makeLiteral ['\x0b'], st)
      else if b == ch 'e' then .ok (end_, makeLiteral ['\x1b'], st)
      else if b == ch ' ' then .ok (end_, makeLiteral [' '], st)
      else do
        let s ← slice re (ix + 1) end_ "parse_escape: self.re[ix + 1..end]"
        if isAsciiAlphabetic b &&
            !(b == ch 'k' || b == ch 'A' || b == ch 'z' || b == ch 'b' || b == ch 'B' ||
              b == ch '<' || b == ch '>' || b == ch 'K' || b == ch 'G') then
          .err (.invalidEscape (ch '\\' :: s)) ix
        else .ok (end_, makeLiteral (decodeList s), st)

/-- `regex_syntax::is_meta_character` -/
def isMetaCharacter (c : Char) : Bool :=
  c == '\\' || c == '.' || c == '+' || c == '*' || c == '?' || c == '(' || c == ')' || c == '|' ||
  c == '[' || c == ']' || c == '{' || c == '}' || c == '^' || c == '$' || c == '#' || c == '&' ||
  c == '-' || c == '~'

/-- `regex_syntax::escape_into` (the appended characters) -/
def escapeInto (s : List Char) : List Char :=
  s.flatMap fun c => if isMetaCharacter c then ['\\', c] else [c]

/-- the loop of `parse_class`; `rcls` is the class text so far, reversed.  Result: index of the
    closing `]`, the class text (reversed), the state. -/
def classLoop (isAlnum : Char → Bool) : Nat → Bytes → PState → Nat → Int → List Char →
    Res (Nat × List Char × PState)
  | 0, _, _, _, _, _ => .outOfFuel
  | f + 1, re, st, ix, nest, rcls =>
    if ix == re.size then .err .invalidClass ix
    else
      match re[ix]? with
      | none => .panic "parse_class: bytes[ix]"
      | some b =>
        if b == ch '\\' then
          match parseEscape isAlnum re st ix true with
          | .ok (end_, e, st') =>
            match e with
            | .literal val _ =>
              if val.length != 1 then .panic "parse_class: debug_assert_eq!(val.chars().count(), 1)"
              else classLoop isAlnum f re st' end_ nest ((escapeInto val).reverse ++ rcls)
            | .delegate inner _ _ => classLoop isAlnum f re st' end_ nest (inner.reverse ++ rcls)
            | _ => .err .invalidClass ix
          | .err k p => .err k p
          | .cerr => .cerr
          | .panic s => .panic s
          | .outOfFuel => .outOfFuel
        else if b == ch '[' then classLoop isAlnum f re st (ix + 1) (nest + 1) ('[' :: rcls)
        else if b == ch ']' then
          if nest - 1 == 0 then .ok (ix, ']' :: rcls, st)
          else classLoop isAlnum f re st (ix + 1) (nest - 1) (']' :: rcls)
        else
          let end_ := ix + codepointLen b
          match slice re ix end_ "parse_class: self.re[ix..end]" with
          | .ok s => classLoop isAlnum f re st end_ nest ((decodeList s).reverse ++ rcls)
          | .err k p => .err k p
          | .cerr => .cerr
          | .panic s => .panic s
          | .outOfFuel => .outOfFuel

/-- `parse_class(ix)`; `ix` points to the opening `[` -/
def parseClass (isAlnum : Char → Bool) (re : Bytes) (st : PState) (ix : Nat) :
    Res (Nat × Expr × PState) := do
  let ix := ix + 1
  let rcls : List Char := ['[']
  let (ix, rcls) := if re[ix]? == some (ch '^') then (ix + 1, '^' :: rcls) else (ix, rcls)
  let (ix, rcls) := if re[ix]? == some (ch ']') then (ix + 1, ']' :: rcls) else (ix, rcls)
  let (ix, rcls, st) ← classLoop isAlnum (re.size + 2) re st ix 1 rcls
  .ok (ix + 1, .delegate rcls.reverse 1 st.flags.casei, st)

/-- `check_for_close_paren(ix)` -/
def checkForCloseParen (re : Bytes) (fl : Flags) (ix : Nat) : Res Nat := do
  let ix ← optWs re fl ix
  if ix == re.size then .err .unclosedOpenParen ix
  else
    let b ← byteAt re ix "check_for_close_paren: bytes[ix]"
    if b != ch ')' then .err (.general .expectedCloseParen) ix
    else .ok (ix + 1)

/-- `unknown_flag(re, start, end)` -/
def unknownFlag (re : Bytes) (start end_ : Nat) : Res PErr := do
  let b ← byteAt re end_ "unknown_flag: bytes[end]"
  let afterEnd := end_ + codepointLen b
  let s ← slice re start afterEnd "unknown_flag: re[start..after_end]"
  .ok (.unknownFlag (ch '(' :: ch '?' :: s))

/-- `update_flag(flag, neg)` for the five letters -/
def updateFlag (fl : Flags) (b : Nat) (neg : Bool) : Flags :=
  if b == ch 'i' then { fl with casei := !neg }
  else if b == ch 'm' then { fl with multi := !neg }
  else if b == ch 's' then { fl with dotnl := !neg }
  else if b == ch 'U' then { fl with swapGreed := !neg }
  else if b == ch 'x' then { fl with ignoreSpace := !neg }
  else fl

/-- how the letter loop of `parse_flags` ends (when it does not fail) -/
inductive FlagsEnd where
  /-- `)` at `ix`: `Ok((ix + 1, Expr::Empty))` -/
  | close (ix : Nat)
  /-- `:` at `ix`: go on with `parse_re(ix + 1, depth)` -/
  | colon (ix : Nat)

/-- the loop of `parse_flags` up to `)` or `:`; the flags are updated in place (`self.flags`) -/
def flagsLoop : Nat → Bytes → Flags → Nat → Nat → Bool → Res (FlagsEnd × Flags)
  | 0, _, _, _, _, _ => .outOfFuel
  | f + 1, re, fl, start, ix, neg =>
    match optWs re fl ix with
    | .ok ix =>
      if ix == re.size then .err .unclosedOpenParen ix
      else
        match re[ix]? with
        | none => .panic "parse_flags: bytes[ix]"
        | some b =>
          if b == ch 'i' || b == ch 'm' || b == ch 's' || b == ch 'U' || b == ch 'x' then
            flagsLoop f re (updateFlag fl b neg) start (ix + 1) neg
          else if b == ch 'u' then
            if neg then .err .nonUnicodeUnsupported ix
            else flagsLoop f re fl start (ix + 1) neg
          else if b == ch '-' then
            if neg then
              match unknownFlag re start ix with
              | .ok e => .err e start
              | .err k p => .err k p | .cerr => .cerr | .panic s => .panic s | .outOfFuel => .outOfFuel
            else flagsLoop f re fl start (ix + 1) true
          else if b == ch ')' then
            if ix == start || (neg && ix == start + 1) then
              match unknownFlag re start ix with
              | .ok e => .err e start
              | .err k p => .err k p | .cerr => .cerr | .panic s => .panic s | .outOfFuel => .outOfFuel
            else .ok (.close ix, fl)
          else if b == ch ':' then
            if neg && ix == start + 1 then
              match unknownFlag re start ix with
              | .ok e => .err e start
              | .err k p => .err k p | .cerr => .cerr | .panic s => .panic s | .outOfFuel => .outOfFuel
            else .ok (.colon ix, fl)
          else
            match unknownFlag re start ix with
            | .ok e => .err e start
            | .err k p => .err k p | .cerr => .cerr | .panic s => .panic s | .outOfFuel => .outOfFuel
    | .err k p => .err k p
    | .cerr => .cerr
    | .panic s => .panic s
    | .outOfFuel => .outOfFuel

/-- `is_repeatable` -/
def isRepeatable : Expr → Bool
  | .look _ _ => false
  | .empty => false
  | .assertion _ => false
  | _ => true

/-- `hi` of the Rust tree → `hi` of the model tree -/
def hiOf (h : Nat) : Option Nat := if h == usizeMax then none else some h

/-- which opening a group has, as decided by the `starts_with` chain of `parse_group` -/
def lookOf (re : Bytes) (ix : Nat) : Option (Look × Nat) :=
  if startsWithAt re ix [ch '?', ch '='] then some (.ahead, 2)
  else if startsWithAt re ix [ch '?', ch '!'] then some (.aheadNeg, 2)
  else if startsWithAt re ix [ch '?', ch '<', ch '='] then some (.behind, 3)
  else if startsWithAt re ix [ch '?', ch '<', ch '!'] then some (.behindNeg, 3)
  else none

/-! ## The recursive descent -/

mutual

/-- `parse_re(ix, depth)` -/
def parseRe (isAlnum : Char → Bool) : Nat → Bytes → PState → Nat → Nat → Res (Nat × Expr × PState)
  | 0, _, _, _, _ => .outOfFuel
  | f + 1, re, st, ix, depth => do
    let (ix, child, st) ← parseBranch isAlnum f re st ix depth
    let ix ← optWs re st.flags ix
    sliceFrom re ix "parse_re: self.re[ix..]"
    if re[ix]? == some (ch '|') then
      let (ix, rest, st) ← reAltLoop isAlnum f re st ix depth
      .ok (ix, .alt (child :: rest), { st with lastReHadAlt := true })
    else
      let st := { st with lastReHadAlt := false }
      if st.numericBackrefs && !st.namedGroups.isEmpty then .cerr
      else .ok (ix, child, st)

/-- `while self.re[ix..].starts_with('|') { … }` of `parse_re`: the further children -/
def reAltLoop (isAlnum : Char → Bool) : Nat → Bytes → PState → Nat → Nat →
    Res (Nat × List Expr × PState)
  | 0, _, _, _, _ => .outOfFuel
  | f + 1, re, st, ix, depth => do
    sliceFrom re ix "parse_re: self.re[ix..] (loop)"
    if re[ix]? == some (ch '|') then
      let (next, child, st) ← parseBranch isAlnum f re st (ix + 1) depth
      let ix ← optWs re st.flags next
      let (ix, rest, st) ← reAltLoop isAlnum f re st ix depth
      .ok (ix, child :: rest, st)
    else .ok (ix, [], st)

/-- `parse_branch(ix, depth)` -/
def parseBranch (isAlnum : Char → Bool) : Nat → Bytes → PState → Nat → Nat →
    Res (Nat × Expr × PState)
  | 0, _, _, _, _ => .outOfFuel
  | f + 1, re, st, ix, depth => do
    let (ix, children, st) ← branchLoop isAlnum f re st ix depth
    match children with
    | [] => .ok (ix, .empty, st)
    | [c] => .ok (ix, c, st)
    | cs => .ok (ix, .concat cs, st)

/-- `while ix < self.re.len() { … }` of `parse_branch`: the children -/
def branchLoop (isAlnum : Char → Bool) : Nat → Bytes → PState → Nat → Nat →
    Res (Nat × List Expr × PState)
  | 0, _, _, _, _ => .outOfFuel
  | f + 1, re, st, ix, depth =>
    if ix < re.size then do
      let (next, child, st) ← parsePiece isAlnum f re st ix depth
      if next == ix then .ok (ix, [], st)
      else
        let (ix', rest, st) ← branchLoop isAlnum f re st next depth
        .ok (ix', if child.isEmpty then rest else child :: rest, st)
    else .ok (ix, [], st)

/-- `parse_piece(ix, depth)` -/
def parsePiece (isAlnum : Char → Bool) : Nat → Bytes → PState → Nat → Nat →
    Res (Nat × Expr × PState)
  | 0, _, _, _, _ => .outOfFuel
  | f + 1, re, st, ix, depth => do
    let (ix, child, st) ← parseAtom isAlnum f re st ix depth
    let ix ← optWs re st.flags ix
    if ix < re.size then
      let b ← byteAt re ix "parse_piece: bytes[ix]"
      -- `(lo, hi)` and the index of the last byte of the quantifier, or no quantifier
      let q : Option (Nat × Nat × Nat) ←
        (if b == ch '?' then (pure (some (0, 1, ix)) : Res _)
         else if b == ch '*' then pure (some (0, usizeMax, ix))
         else if b == ch '+' then pure (some (1, usizeMax, ix))
         else if b == ch '{' then
           match parseRepeat re st.flags ix with
           | .ok (next, lo, hi) =>
             if next == 0 then .panic "parse_piece: next - 1" else pure (some (lo, hi, next - 1))
           | .err _ _ => pure none
           | .cerr => pure none
           | .panic s => .panic s
           | .outOfFuel => .outOfFuel
         else pure none)
      match q with
      | none => .ok (ix, child, st)
      | some (lo, hi, ix) =>
        if !isRepeatable child then .err .targetNotRepeatable ix
        else
          let ix ← optWs re st.flags (ix + 1)
          let lazy_ := ix < re.size && re[ix]? == some (ch '?')
          let ix := if lazy_ then ix + 1 else ix
          let greedy := (!lazy_) ^^ st.flags.swapGreed
          let node : Expr := .repeat child lo (hiOf hi) greedy
          if ix < re.size && re[ix]? == some (ch '+') then .ok (ix + 1, .atomic node, st)
          else .ok (ix, node, st)
    else .ok (ix, child, st)

/-- `parse_atom(ix, depth)` -/
def parseAtom (isAlnum : Char → Bool) : Nat → Bytes → PState → Nat → Nat →
    Res (Nat × Expr × PState)
  | 0, _, _, _, _ => .outOfFuel
  | f + 1, re, st, ix, depth => do
    let ix ← optWs re st.flags ix
    if ix == re.size then .ok (ix, .empty, st)
    else
      let b ← byteAt re ix "parse_atom: bytes[ix]"
      if b == ch '.' then .ok (ix + 1, .any st.flags.dotnl, st)
      else if b == ch '^' then
        .ok (ix + 1, .assertion (if st.flags.multi then .startLine false else .startText), st)
      else if b == ch '$' then
        .ok (ix + 1, .assertion (if st.flags.multi then .endLine false else .endText), st)
      else if b == ch '(' then parseGroup isAlnum f re st ix depth
      else if b == ch '\\' then parseEscape isAlnum re st ix false
      else if b == ch '+' || b == ch '*' || b == ch '?' || b == ch '|' || b == ch ')' then
        .ok (ix, .empty, st)
      else if b == ch '[' then parseClass isAlnum re st ix
      else
        let next := ix + codepointLen b
        let s ← slice re ix next "parse_atom: self.re[ix..next]"
        .ok (next, .literal (decodeList s) st.flags.casei, st)

/-- `parse_group(ix, depth)`; `ix` points to the `(` -/
def parseGroup (isAlnum : Char → Bool) : Nat → Bytes → PState → Nat → Nat →
    Res (Nat × Expr × PState)
  | 0, _, _, _, _ => .outOfFuel
  | f + 1, re, st, ix, depth => do
    let depth := depth + 1
    if depth ≥ Generated.maxRecursion then .err .recursionExceeded ix
    else
      let ix ← optWs re st.flags (ix + 1)
      sliceFrom re ix "parse_group: self.re[ix..]"
      -- `(la, skip)` and the state, or an early return
      let body (la : Option Look) (skip : Nat) (st : PState) : Res (Nat × Expr × PState) := do
        let ix := ix + skip
        let (ix, child, st) ← parseRe isAlnum f re st ix depth
        let ix ← checkForCloseParen re st.flags ix
        match la with
        | some la => .ok (ix, .look child la, st)
        | none => if skip == 2 then .ok (ix, .atomic child, st) else .ok (ix, .group 0 child, st)
      match lookOf re ix with
      | some (la, skip) => body (some la) skip st
      | none =>
        if startsWithAt re ix [ch '?', ch '<'] then
          let st := { st with currGroup := st.currGroup + 1 }
          sliceFrom re (ix + 1) "parse_group: self.re[ix + 1..]"
          match ← parseId isAlnum re (ix + 1) [ch '<'] [ch '>'] false with
          | some (a, b, skip) =>
            let st := { st with namedGroups := namedInsert st.namedGroups (re.extract a b).toList st.currGroup }
            body none (skip + 1) st
          | none => .err .invalidGroupName ix
        else if startsWithAt re ix [ch '?', ch 'P', ch '<'] then
          let st := { st with currGroup := st.currGroup + 1 }
          sliceFrom re (ix + 2) "parse_group: self.re[ix + 2..]"
          match ← parseId isAlnum re (ix + 2) [ch '<'] [ch '>'] false with
          | some (a, b, skip) =>
            let st := { st with namedGroups := namedInsert st.namedGroups (re.extract a b).toList st.currGroup }
            body none (skip + 2) st
          | none => .err .invalidGroupName ix
        else if startsWithAt re ix [ch '?', ch 'P', ch '='] then
          parseNamedBackref isAlnum re st (ix + 3) [] [ch ')'] false .backref
        else if startsWithAt re ix [ch '?', ch '>'] then body none 2 st
        else if startsWithAt re ix [ch '?', ch '('] then
          parseConditional isAlnum f re st (ix + 2) depth
        else if startsWithAt re ix [ch '?', ch 'P', ch '>'] then
          parseNamedBackref isAlnum re st (ix + 3) [] [ch ')'] false .subroutine
        else if startsWithAt re ix [ch '?'] then parseFlags isAlnum f re st ix depth
        else body none 0 { st with currGroup := st.currGroup + 1 }

/-- `parse_flags(ix, depth)`; `ix` points to the `?` of `(?` -/
def parseFlags (isAlnum : Char → Bool) : Nat → Bytes → PState → Nat → Nat →
    Res (Nat × Expr × PState)
  | 0, _, _, _, _ => .outOfFuel
  | f + 1, re, st, ix, depth => do
    let start := ix + 1
    let oldflags := st.flags
    let (e, fl) ← flagsLoop (re.size + 2) re st.flags start start false
    let st := { st with flags := fl }
    match e with
    | .close ix => .ok (ix + 1, .empty, st)
    | .colon ix =>
      let (ix, child, st) ← parseRe isAlnum f re st (ix + 1) depth
      if ix == re.size then .err .unclosedOpenParen ix
      else
        let b ← byteAt re ix "parse_flags: bytes[ix] (close)"
        if b != ch ')' then .err (.general .expectedCloseParen) ix
        else .ok (ix + 1, child, { st with flags := oldflags })

/-- `parse_conditional(ix, depth)`; `ix` points after `(?(` -/
def parseConditional (isAlnum : Char → Bool) : Nat → Bytes → PState → Nat → Nat →
    Res (Nat × Expr × PState)
  | 0, _, _, _, _ => .outOfFuel
  | f + 1, re, st, ix, depth => do
    if ix ≥ re.size then .err .unclosedOpenParen ix
    else
      let b ← byteAt re ix "parse_conditional: bytes[ix]"
      -- `(?(1)..)`, `(?('name')..)`, `(?(<name>)..)` test whether the group has matched; any other
      -- condition is an expression to be matched (also when that expression is a back-reference)
      let isGroupTest := isDigit b || b == ch '\'' || b == ch '<'
      let (next, condition, st) ←
        (if isDigit b then parseNumberedBackref re st ix .backref
         else if b == ch '\'' then
           parseNamedBackref isAlnum re st ix [ch '\''] [ch '\''] true .backref
         else if b == ch '<' then
           parseNamedBackref isAlnum re st ix [ch '<'] [ch '>'] true .backref
         else parseRe isAlnum f re st ix depth)
      let next ← checkForCloseParen re st.flags next
      let (end_, child, st) ← parseRe isAlnum f re st next depth
      let hasElse := st.lastReHadAlt
      if end_ == next then
        match isGroupTest, condition with
        | true, .backref g =>
          let after ← checkForCloseParen re st.flags end_
          .ok (after, .backrefExists g, st)
        | _, _ => .err (.general .expectedConditional) end_
      else
        -- (if_true, if_false)
        let branches : Expr × Expr ←
          (match child, hasElse with
          | .alt alternatives, true =>
            match alternatives with
            | [] => (.panic "parse_conditional: alternatives.remove(0)" : Res (Expr × Expr))
            | t :: rest =>
              match rest with
              | [e] => pure (t, e)
              | _ => pure (t, .alt rest)
          | c, _ => pure (c, .empty))
        let innerCondition : Expr :=
          match isGroupTest, condition with
          | true, .backref g => .backrefExists g
          | _, c => c
        let after ← checkForCloseParen re st.flags end_
        if !hasElse && branches.1.isEmpty then .ok (after, innerCondition, st)
        else .ok (after, .cond innerCondition branches.1 branches.2, st)

end

/-- fuel of the mutual descent: every frame of a call chain is either one of at most 8 frames per
    nesting level (`depth < MAX_RECURSION`) or a loop iteration that has consumed a byte -/
def descentFuel (len : Nat) : Nat := 4 * len + 16 * Generated.maxRecursion + 64

/-- what `ExprTree` holds -/
structure Tree where
  expr : Expr
  backrefs : List Nat
  namedGroups : List (List Nat × Nat)
deriving Repr

/-- `Parser::parse_with_case_insensitive(re, casei)` on the bytes of `re` -/
def parseBytes (isAlnum : Char → Bool) (re : Bytes) (casei : Bool) : Res Tree :=
  let st : PState := { flags := { casei := casei } }
  match parseRe isAlnum (descentFuel re.size) re st 0 0 with
  | .ok (ix, e, st) =>
    if ix < re.size then .err (.general .endNotReached) ix
    else .ok { expr := e, backrefs := st.backrefs, namedGroups := st.namedGroups }
  | .err k p => .err k p
  | .cerr => .cerr
  | .panic s => .panic s
  | .outOfFuel => .outOfFuel

/-- the bytes of a string given as scalar values -/
def bytesOf (cs : List Char) : Bytes := (Utf8.encode (cs.map Char.toNat)).toArray

/-- the parser on a `&str` -/
def parseStr (isAlnum : Char → Bool) (cs : List Char) (casei : Bool) : Res Tree :=
  parseBytes isAlnum (bytesOf cs) casei

end Fancy.Parse
