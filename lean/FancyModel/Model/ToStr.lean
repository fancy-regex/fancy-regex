import FancyModel.Model.Basic
/-!
# `Expr::to_str`, `push_quoted`, `is_special`, `escape` (src/lib.rs)

`Generated.isSpecial` (membership in `Generated.specialChars`) is *generated* from the source on every
run (`Generated.lean`); this file takes the predicate as the parameter `special`, so that the theorems
about `escape` and `to_str`, which put `Generated.isSpecial` in, are re-checked against what the code says now.
-/
namespace Fancy

def pushQuoted (special : Char → Bool) : List Char → List Char
  | [] => []
  | c :: cs => if special c then '\\' :: c :: pushQuoted special cs else c :: pushQuoted special cs

/-- `escape`: `none` = `Cow::Borrowed` (nothing needed escaping), `some s` = `Cow::Owned s` -/
def escape (special : Char → Bool) (s : List Char) : Option (List Char) :=
  if s.any special then some (pushQuoted special s) else none

def escapeStr (special : Char → Bool) (s : List Char) : List Char :=
  (escape special s).getD s

def natDigits (n : Nat) : List Char := (toString n).toList

mutual
/-- `Expr::to_str`; `none` = the Rust code panics ("attempting to format hard expr") -/
def toStr (sp : Char → Bool) : Expr → Nat → Option (List Char)
  | .empty, _ => some []
  | .any nl, _ => some (if nl then "(?s:.)".toList else ['.'])
  | .literal val casei, _ =>
    some (if casei then "(?i:".toList ++ pushQuoted sp val ++ [')'] else pushQuoted sp val)
  | .assertion .startText, _ => some ['^']
  | .assertion .endText, _ => some ['$']
  | .assertion (.startLine false), _ => some "(?m:^)".toList
  | .assertion (.endLine false), _ => some "(?m:$)".toList
  | .assertion (.startLine true), _ => some "(?Rm:^)".toList
  | .assertion (.endLine true), _ => some "(?Rm:$)".toList
  | .concat es, prec =>
    (toStrConcat sp es).map fun s => if prec > 1 then "(?:".toList ++ s ++ [')'] else s
  | .alt es, prec =>
    (toStrAlt sp es true).map fun s => if prec > 0 then "(?:".toList ++ s ++ [')'] else s
  | .group _ e, _ => (toStr sp e 0).map fun s => '(' :: s ++ [')']
  | .repeat e lo hi greedy, prec =>
    (toStr sp e 3).map fun s =>
      let q : List Char := match lo, hi with
        | 0, some 1 => ['?']
        | 0, none => ['*']
        | 1, none => ['+']
        | lo, hi =>
          '{' :: natDigits lo ++
            (if hi == some lo || (hi.isNone && lo == UNSET) then []
             else ',' :: (match hi with | some h => natDigits h | none => []))
            ++ ['}']
      let body := s ++ q ++ (if greedy then [] else ['?'])
      if prec > 2 then "(?:".toList ++ body ++ [')'] else body
  | .delegate inner _ casei, _ =>
    some (if casei then "(?i:".toList ++ inner ++ [')'] else inner)
  | _, _ => none
def toStrConcat (sp : Char → Bool) : List Expr → Option (List Char)
  | [] => some []
  | e :: es => match toStr sp e 2, toStrConcat sp es with
    | some a, some b => some (a ++ b)
    | _, _ => none
def toStrAlt (sp : Char → Bool) : List Expr → Bool → Option (List Char)
  | [], _ => some []
  | e :: es, first => match toStr sp e 1, toStrAlt sp es false with
    | some a, some b => some ((if first then a else '|' :: a) ++ b)
    | _, _ => none
end

end Fancy
