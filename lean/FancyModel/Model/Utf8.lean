/-!
# Byte-level helpers (src/lib.rs `codepoint_len`, `next_utf8`, `prev_codepoint_ix`)

Bytes are `Nat`s `< 256`. The thresholds of `codepointLen` are written out here; tools/extract.py
also extracts them from the source on every run (`Generated.codepointLenTable`, `codepointLenDefault`),
for reference only: nothing compares the two.
-/
namespace Fancy.Utf8

abbrev Bytes := List Nat

/-- `codepoint_len(b)` -/
def codepointLen (b : Nat) : Nat :=
  if b < 0x80 then 1 else if b < 0xe0 then 2 else if b < 0xf0 then 3 else 4

/-- `next_utf8(text, i)` -/
def nextUtf8 (text : Bytes) (i : Nat) : Nat :=
  match text[i]? with
  | none => i + 1
  | some b => i + codepointLen b

/-- a byte that is not a continuation byte (`(b as i8) >= -0x40`) -/
def isLead (b : Nat) : Bool := b < 0x80 || b ≥ 0xc0

/-- `str::is_char_boundary` -/
def isBoundary (text : Bytes) (i : Nat) : Bool :=
  i == 0 || i == text.length || (match text[i]? with | some b => isLead b | none => false)

/-- `prev_codepoint_ix(s, ix)`; precondition `ix > 0` (`none` = index underflow panic) -/
def prevCodepointIx (text : Bytes) : Nat → Option Nat
  | 0 => none
  | ix + 1 => match text[ix]? with
    | none => none
    | some b => if isLead b then some ix else prevCodepointIx text ix

/-- UTF-8 encoding of a scalar value -/
def encodeChar (c : Nat) : Bytes :=
  if c < 0x80 then [c]
  else if c < 0x800 then [0xc0 + c / 64, 0x80 + c % 64]
  else if c < 0x10000 then [0xe0 + c / 4096, 0x80 + (c / 64) % 64, 0x80 + c % 64]
  else [0xf0 + c / 262144, 0x80 + (c / 4096) % 64, 0x80 + (c / 64) % 64, 0x80 + c % 64]

def encode (cs : List Nat) : Bytes := cs.flatMap encodeChar

/-- `&text[a..b]`: `none` = the slice panics (out of range, `a > b`, or off a boundary) -/
def slice (text : Bytes) (a b : Nat) : Option Bytes :=
  if a ≤ b && b ≤ text.length && isBoundary text a && isBoundary text b then
    some ((text.drop a).take (b - a))
  else none

end Fancy.Utf8
